import PyPhysim.Proofs.C19Hex
import PyPhysim.Proofs.C19Cluster
import PyPhysim.Proofs.C19Place

/-! C19 — hexagon clusters: the ring layout of `Cluster._calc_cell_positions_hexagon` in exact lattice
coordinates; distances and separating lines from those. -/
namespace PyPhysim.C19

/-- hexagonal lattice coordinates of the nineteen normalised cell centres, in units of
    (half a radius, one apothem) -/
def lat (i : ℕ) : ℤ × ℤ :=
  ([(0, 0),
    (3, 1), (0, 2), (-3, 1), (-3, -1), (0, -2), (3, -1),
    (6, 0), (6, 2), (3, 3), (0, 4), (-3, 3), (-6, 2), (-6, 0), (-6, -2), (-3, -3), (0, -4), (3, -3), (6, -2)] :
    List (ℤ × ℤ)).getD i (0, 0)

noncomputable def latPt (p : ℤ × ℤ) : Pt ℝ := ((p.1 : ℝ) / 2, (p.2 : ℝ) * (Real.sqrt 3 / 2))

theorem latPt_eq_emb (p : ℤ × ℤ) : latPt p = emb ((p.1, 0), (0, p.2)) := by
  simp [latPt, emb]

theorem emb_zero : emb ((0, 0), (0, 0)) = (((0 : ℕ) : ℝ), ((0 : ℕ) : ℝ)) := by
  simp [emb]

/-- `(p + q√3)·v` in the coordinates of `emb` -/
def mulZ3 (p q : ℤ) (v : (ℤ × ℤ) × (ℤ × ℤ)) : (ℤ × ℤ) × (ℤ × ℤ) :=
  ((p * v.1.1 + 3 * (q * v.1.2), p * v.1.2 + q * v.1.1), (p * v.2.1 + 3 * (q * v.2.2), p * v.2.2 + q * v.2.1))

theorem mul_emb (p q x y : ℝ) : (p + q * Real.sqrt 3) * (x / 2 + y * (Real.sqrt 3 / 2)) =
    (p * x + 3 * (q * y)) / 2 + (p * y + q * x) * (Real.sqrt 3 / 2) := by
  linear_combination (q * y / 2) * sqrt3_mul_self

theorem rectDeg_emb (p q : ℤ) (k : ℕ) {d : ℝ} (hd : d = p + q * Real.sqrt 3) :
    rectDeg d (30 * k) = emb (mulZ3 p q (e30 k)) := by
  simp only [hd, rectDeg, cisDeg_mul30, E_eq, smul, emb, mulZ3, mul_emb, Int.cast_add, Int.cast_mul,
    Int.cast_ofNat]

/-- the rows of `hexNorm` in the coordinates of `emb`: first ring `√3·exp(j30°(1 + 2(i-1)))`, second
    ring `3·exp(j30°m)` for even `m = i - 7` and `2√3·exp(j30°m)` for odd `m` -/
theorem lat_rows : ∀ i < 19, (((lat i).1, (0 : ℤ)), ((0 : ℤ), (lat i).2)) =
    if i = 0 then ((0, 0), (0, 0)) else if i < 7 then mulZ3 0 1 (e30 (1 + 2 * (i - 1)))
    else if (i - 7) % 2 = 0 then mulZ3 3 0 (e30 (i - 7)) else mulZ3 0 2 (e30 (i - 7)) := by decide +kernel

theorem hexHeight_eq (R : ℝ) : hexHeight R = R * (Real.sqrt 3 / 2) := by
  simp only [hexHeight, Circ.sqrt, Nat.cast_ofNat, mul_div_assoc]

theorem hexNorm_eq (i : ℕ) : hexNorm (α := ℝ) i = latPt (lat i) := by
  rw [latPt_eq_emb, hexNorm, hexHeight_eq]
  by_cases h19 : i < 19
  · rw [lat_rows i h19]
    by_cases h0 : i = 0
    · simp only [if_pos h0, emb_zero]
    by_cases h7 : i < 7
    · simp only [if_neg h0, if_pos h7, show 30 + 60 * (i - 1) = 30 * (1 + 2 * (i - 1)) by ring]
      exact rectDeg_emb 0 1 _ (by push_cast; ring)
    by_cases hp : (i - 7) % 2 = 0
    · simp only [if_neg h0, if_neg h7, if_pos h19, if_pos hp]
      exact rectDeg_emb 3 0 _ (by push_cast; ring)
    · simp only [if_neg h0, if_neg h7, if_pos h19, if_neg hp]
      exact rectDeg_emb 0 2 _ (by push_cast; ring)
  · rw [if_neg (fun h => h19 (h.trans_lt (by decide))), if_neg (fun h => h19 (h.trans (by decide))),
      if_neg h19, lat, List.getD_eq_getElem?_getD, List.getElem?_eq_none (not_lt.mp h19), Option.getD_none,
      emb_zero]

/-- squared lattice distance in units of `radius²/4` -/
def latD (p q : ℤ × ℤ) : ℤ := (p.1 - q.1) * (p.1 - q.1) + 3 * ((p.2 - q.2) * (p.2 - q.2))

theorem latPt_sub (p q : ℤ × ℤ) : psub (latPt p) (latPt q) = latPt (p.1 - q.1, p.2 - q.2) := by
  simp only [psub, latPt, Int.cast_sub, sub_div, sub_mul]

theorem dist2_lat (R : ℝ) (p q : ℤ × ℤ) :
    dist2 (smul R (latPt p)) (smul R (latPt q)) = R * R / 4 * (latD p q : ℝ) := by
  simp only [dist2, norm2, psub, smul, latPt, latD, Int.cast_add, Int.cast_mul, Int.cast_sub, Int.cast_ofNat]
  linear_combination (R * R * ((p.2 : ℝ) - q.2) * ((p.2 : ℝ) - q.2) / 4) * sqrt3_mul_self

/-! The facts about the table `lat` are finite: they are checked by evaluation. -/

theorem lat_min : ∀ i < 19, ∀ j < 19, i ≠ j → 12 ≤ latD (lat i) (lat j) := by decide +kernel

theorem lat_touch : ∀ i < 19, 1 ≤ i → ∃ j < i, latD (lat i) (lat j) = 12 := by decide +kernel

theorem lat_ring1 : ∀ i < 19, 1 ≤ i → i ≤ 6 →
    latD (lat 0) (lat i) = 12 ∧ latD (lat i) (lat (i % 6 + 1)) = 12 := by decide +kernel

theorem lat_ring2 : ∀ i < 19, 7 ≤ i →
    latD (lat 0) (lat i) = if (i - 7) % 2 = 0 then 36 else 48 := by decide +kernel

/-- `4/√3` times the component of a lattice vector along the edge normal `exp(j(30°+60°k))`, whose
    coordinates in units of `(√3/2, 1/2)` are in the table `e30` -/
def latDot (k : ℕ) (p : ℤ × ℤ) : ℤ := (e30 (2 * k + 1)).1.2 * p.1 + (e30 (2 * k + 1)).2.1 * p.2

theorem lat_sep : ∀ i < 19, ∀ j < 19, i ≠ j →
    ∃ k < 3, 4 ≤ |latDot k ((lat j).1 - (lat i).1, (lat j).2 - (lat i).2)| := by decide +kernel

theorem dot_E_lat (k : ℕ) (hk : k < 3) (p : ℤ × ℤ) :
    dot (E (2 * k + 1)) (latPt p) = Real.sqrt 3 / 4 * (latDot k p : ℝ) := by
  have h : ∀ k < 3, (e30 (2 * k + 1)).1.1 = 0 ∧ (e30 (2 * k + 1)).2.2 = 0 := by decide
  rw [E_eq]
  simp only [emb, (h k hk).1, (h k hk).2, dot, latPt, latDot, Int.cast_add, Int.cast_mul, Int.cast_zero]
  ring

theorem latD_apothems (R : ℝ) :
    R * R / 4 * ((12 : ℤ) : ℝ) = (2 * hexHeight R) * (2 * hexHeight R) ∧
    R * R / 4 * ((36 : ℤ) : ℝ) = (3 * R) * (3 * R) ∧
    R * R / 4 * ((48 : ℤ) : ℝ) = (4 * hexHeight R) * (4 * hexHeight R) := by
  rw [hexHeight_eq]
  push_cast
  exact ⟨by linear_combination (-(R * R)) * sqrt3_mul_self, by ring,
    by linear_combination (-4 * (R * R)) * sqrt3_mul_self⟩

theorem fin19 (i : ℕ) (h : i < 19) : ((⟨i, h⟩ : Fin 19) : ℕ) = i := rfl

theorem hex_centres_dist {n : ℕ} {R : ℝ} {u pos : Pt ℝ} (hu : norm2 u = 1) {i j : ℕ} {ci cj : Pt ℝ}
    (hi : (clusterCentres (hexRaw R n) u pos)[i]? = some ci)
    (hj : (clusterCentres (hexRaw R n) u pos)[j]? = some cj) :
    i < n ∧ j < n ∧ dist2 ci cj = R * R / 4 * (latD (lat i) (lat j) : ℝ) ∧
      psub cj ci = rot u (psub (smul R (latPt (lat j))) (smul R (latPt (lat i)))) := by
  obtain ⟨hin, hjn, hd, hsub⟩ := range_centres (f := fun i => smul R (hexNorm i)) hu hi hj
  simp only [hexNorm_eq] at hd hsub
  exact ⟨hin, hjn, hd.trans (dist2_lat R _ _), hsub⟩

theorem hex_sep (R : ℝ) (hR : 0 ≤ R) {u : Pt ℝ} (hu : norm2 u = 1) {ci cj δ : Pt ℝ} (k : ℕ)
    (hsub : psub cj ci = rot u δ) (h : 2 * (R * Real.sqrt 3 / 2) ≤ |dot (E (2 * k + 1)) δ|) :
    Separated (cellVerts (hexVerts R) u ci) (cellVerts (hexVerts R) u cj) :=
  place_separated _ _ hu (by rw [E_norm2]; exact one_pos) (hex_support R hR k) hsub h

end PyPhysim.C19
