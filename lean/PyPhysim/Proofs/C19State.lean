import PyPhysim.Proofs.C19Rect
import PyPhysim.Model.C19State

set_option linter.unusedSectionVars false

/-! C19 — no stale derived state: every setter maps a freshly constructed cell to the freshly
constructed cell with the new attribute, so a history of setter calls leaves the freshly constructed
cell of the attributes `params` computes. -/
namespace PyPhysim.C19

section scalar
variable {α : Type} [Add α] [Sub α] [Mul α] [Div α] [Neg α] [NatCast α] [Circ α]

theorem stepPos_fields (st : CellState α) (p : Pt α) :
    ((stepPos st p).pos, (stepPos st p).radius, (stepPos st p).rot) = (p, st.radius, st.rot) := by
  unfold stepPos
  cases st.kind <;> rfl

theorem step_fields (st : CellState α) (op : CellOp α) :
    ((step st op).pos, (step st op).radius, (step st op).rot) = params st.pos st.radius st.rot [op] := by
  cases op with
  | setPos p => exact stepPos_fields st p
  | moveBy d => exact stepPos_fields st _
  | movePolar r a => exact stepPos_fields st _
  | setRadius r => unfold step; cases st.kind <;> rfl
  | setRot t => unfold step; cases st.kind <;> rfl

theorem params_eq_of_step_eq {st : CellState α} {op op' : CellOp α} (h : step st op = step st op') :
    params st.pos st.radius st.rot [op] = params st.pos st.radius st.rot [op'] := by
  rw [← step_fields st op, ← step_fields st op', h]

variable [LT α] [DecidableLT α]

theorem fresh_pos (k : CellKind) (p : Pt α) (R θ : α) : (fresh k p R θ).pos = p := by cases k <;> rfl
theorem fresh_radius (k : CellKind) (p : Pt α) (R θ : α) : (fresh k p R θ).radius = R := by cases k <;> rfl
theorem fresh_rot (k : CellKind) (p : Pt α) (R θ : α) : (fresh k p R θ).rot = θ := by cases k <;> rfl

end scalar

section field
variable {α : Type} [Field α] [LinearOrder α] [IsStrictOrderedRing α] [Circ α]

def sqState (p : Pt α) (R θ h : α) : CellState α :=
  { kind := .square, pos := p, radius := R, rot := θ, lower := (p.1 - h, p.2 - h),
    upper := (p.1 + h, p.2 + h), secs := [] }

theorem fresh_square (p : Pt α) (R θ : α) (hs : 0 < Circ.sqrt ((2 : ℕ) : α)) (hR : 0 ≤ R) :
    fresh .square p R θ = sqState p R θ (R / Circ.sqrt ((2 : ℕ) : α)) := by
  have e : sideOfRadius R / 2 = R / Circ.sqrt ((2 : ℕ) : α) := by
    rw [sideOfRadius, Nat.cast_ofNat, mul_div_assoc, mul_div_cancel_left₀ _ two_ne_zero]
  obtain ⟨hl, hu⟩ := squareCell_corners e (div_nonneg hR hs.le) p
  simp only [fresh, sqState, hl, hu]

theorem stepPos_sqState (p p' : Pt α) (R θ h : α) : stepPos (sqState p R θ h) p' = sqState p' R θ h := by
  simp only [stepPos, sqState, padd, psub, sub_add_sub_cancel', add_right_comm _ h, add_sub_cancel]

theorem setRadius_sqState (p : Pt α) (R R' θ h : α) :
    step (sqState p R θ h) (.setRadius R') = sqState p R' θ (R' / R * h) := by
  simp only [step, sqState, padd, psub, smul, sub_sub_cancel_left, add_sub_cancel_left, mul_neg,
    ← sub_eq_add_neg]

theorem step_fresh (k : CellKind) (p : Pt α) (R θ : α) (hs : 0 < Circ.sqrt ((2 : ℕ) : α)) (hR : 0 < R) :
    (∀ p', stepPos (fresh k p R θ) p' = fresh k p' R θ) ∧
    (∀ R', 0 ≤ R' → step (fresh k p R θ) (.setRadius R') = fresh k p R' θ) ∧
    ∀ θ', step (fresh k p R θ) (.setRot θ') = fresh k p R θ' := by
  cases k
  · exact ⟨fun _ => rfl, fun _ _ => rfl, fun _ => rfl⟩
  · exact ⟨fun _ => rfl, fun _ _ => rfl, fun _ => rfl⟩
  · refine ⟨fun p' => ?_, fun R' hR' => ?_, fun _ => rfl⟩
    · rw [fresh_square p R θ hs hR.le, fresh_square p' R θ hs hR.le, stepPos_sqState]
    · rw [fresh_square p R θ hs hR.le, fresh_square p R' θ hs hR', setRadius_sqState, div_mul_div_cancel₀ hR.ne']

/-- every radius the history writes is positive (the setter accepts any number) -/
def OpsOk : List (CellOp α) → Prop
  | [] => True
  | .setRadius r :: ops => 0 < r ∧ OpsOk ops
  | _ :: ops => OpsOk ops

theorem run_fresh_params (k : CellKind) (hs : 0 < Circ.sqrt ((2 : ℕ) : α)) :
    ∀ (ops : List (CellOp α)) (p : Pt α) (R θ : α), 0 < R → OpsOk ops →
      run (fresh k p R θ) ops = fresh k (params p R θ ops).1 (params p R θ ops).2.1 (params p R θ ops).2.2 ∧
        0 < (params p R θ ops).2.1 := by
  intro ops
  induction ops with
  | nil => exact fun p R θ hR _ => ⟨rfl, hR⟩
  | cons op ops ih =>
    intro p R θ hR hok
    obtain ⟨hp, hr, ht⟩ := step_fresh k p R θ hs hR
    cases op with
    | setPos p' =>
      simp only [run, step, params, hp]
      exact ih p' R θ hR hok
    | setRadius r =>
      simp only [run, params, hr r hok.1.le]
      exact ih p r θ hok.1 hok.2
    | setRot t =>
      simp only [run, params, ht]
      exact ih p R t hR hok
    | moveBy d =>
      simp only [run, step, params, hp, fresh_pos]
      exact ih _ R θ hR hok
    | movePolar r a =>
      simp only [run, step, params, hp, fresh_pos]
      exact ih _ R θ hR hok

end field

end PyPhysim.C19
