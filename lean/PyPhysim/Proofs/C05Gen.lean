import PyPhysim.Generated.C05Loop
import PyPhysim.Generated.C05Grid

/-!
Two bridges from regenerated source to the hand model.  First, the automaton regenerated
from `SimulationRunner._simulate_for_current_params_common` (`Generated/C05Loop.lean`) against
`runVariation` (`Model/C05.lean`).  Second, at the end of the file, the parameter-grid functions
of `Generated/C05Grid.lean` (`unpackedValues`, `variation`, `numVariations`) against `combos`
and `prod`.

The proofs mention the generated constructors only by position (`ask0 k` = waiting for the
FIRST repetition after `k` skips, `ask1 acc skipped rep` = inside the `while` loop with the
guard just found true, `ret`): a source change that alters the shape of the automaton, a
test, an update or the order of the live values makes this file fail to compile.
-/
namespace PyPhysim.C05
open PyPhysim.Generated.C05Loop

variable {R : Type}

/-- reading of a stopped automaton (`Generated.C05Loop.run`) as the model's result of one
    variation: `ret` = normal end, `ask1` with the stream used up = `exhausted`, `ask0` with
    the stream used up = `starved` -/
def genResult : Ctl R × Nat × List (Outcome R) → VarResult R
  | (.ret rep acc skipped _, n, rest) => .done ⟨⟨acc, rep, skipped, n⟩, rest, false⟩
  | (.ask1 acc skipped rep, n, rest) => .done ⟨⟨acc, rep, skipped, n⟩, rest, true⟩
  | (.ask0 k, _, _) => .starved k

/-- the automaton state that corresponds to the head of the model's `while` loop in state `s` -/
def headCtl (repMax : Nat) (keep : Keep R) (s : VarState R) : Ctl R :=
  if guard repMax keep s then .ask1 s.acc s.skipped s.rep
  else .ret s.rep s.acc s.skipped ⟨s.acc, s.skipped, s.rep⟩

/-- the two tests in the order of the source: `_keep_going` first, then the limit -/
theorem headCtl_eq (repMax : Nat) (keep : Keep R) (s : VarState R) :
    headCtl repMax keep s =
      if keep s.acc s.skipped s.rep then
        if decide (s.rep < repMax) then .ask1 s.acc s.skipped s.rep
        else .ret s.rep s.acc s.skipped ⟨s.acc, s.skipped, s.rep⟩
      else .ret s.rep s.acc s.skipped ⟨s.acc, s.skipped, s.rep⟩ := by
  unfold headCtl guard
  cases keep s.acc s.skipped s.rep <;> rfl

/-- `headCtl` does not read the `calls` field, so the equation holds with any `c` there (the same in
    `gen_onOk_first`); the users put the count that `run` carries -/
theorem gen_entry_loaded (repMax : Nat) (keep : Keep R) (a : R) (n c : Nat) :
    entry repMax keep (some (a, n)) = headCtl repMax keep ⟨a, n, 0, c⟩ :=
  (headCtl_eq repMax keep ⟨a, n, 0, c⟩).symm

theorem gen_entry_fresh (repMax : Nat) (keep : Keep R) :
    entry repMax keep none = .ask0 0 := rfl

theorem gen_onOk_first (merge : R → R → R) (repMax : Nat) (keep : Keep R) (k c : Nat) (r : R) :
    onOk merge repMax keep (.ask0 k) r = headCtl repMax keep ⟨r, 1, k, c⟩ :=
  (headCtl_eq repMax keep ⟨r, 1, k, c⟩).symm

theorem gen_onSkip_first (merge : R → R → R) (repMax : Nat) (keep : Keep R) (k : Nat) :
    onSkip merge repMax keep (.ask0 k) = .ask0 (k + 1) := rfl

theorem gen_onOk_loop (merge : R → R → R) (repMax : Nat) (keep : Keep R) (s : VarState R) (r : R) :
    onOk merge repMax keep (.ask1 s.acc s.skipped s.rep) r = headCtl repMax keep (stepOk merge s r) :=
  (headCtl_eq repMax keep (stepOk merge s r)).symm

theorem gen_onSkip_loop (merge : R → R → R) (repMax : Nat) (keep : Keep R) (s : VarState R) :
    onSkip merge repMax keep (.ask1 s.acc s.skipped s.rep) = headCtl repMax keep (stepSkip s) :=
  (headCtl_eq repMax keep (stepSkip s)).symm

theorem gen_run_loop (merge : R → R → R) (repMax : Nat) (keep : Keep R) (outs : List (Outcome R)) :
    ∀ s : VarState R,
      genResult (run merge repMax keep (headCtl repMax keep s) s.calls outs)
        = .done (loop merge repMax keep s outs) := by
  induction outs with
  | nil =>
    intro s
    unfold loop headCtl
    cases guard repMax keep s <;> rfl
  | cons o os ih =>
    intro s
    unfold loop headCtl
    cases guard repMax keep s
    · rfl
    · -- one step of `run` from `ask1` is `onOk` / `onSkip`: the head of the loop in the next state
      cases o with
      | ok r => exact (gen_onOk_loop merge repMax keep s r ▸ ih (stepOk merge s r) :)
      | skip => exact (gen_onSkip_loop merge repMax keep s ▸ ih (stepSkip s) :)

theorem gen_run_first (merge : R → R → R) (repMax : Nat) (keep : Keep R) (outs : List (Outcome R)) :
    ∀ k : Nat,
      genResult (run merge repMax keep (.ask0 k) k outs) = firstRun merge repMax keep k outs := by
  induction outs with
  | nil => exact fun k => rfl
  | cons o os ih =>
    intro k
    cases o with
    | ok r => exact (gen_onOk_first merge repMax keep k (k + 1) r ▸ gen_run_loop merge repMax keep os ⟨r, 1, k, k + 1⟩ :)
    | skip => exact ih (k + 1)

/-- at `ret`, the final save got exactly what is returned -/
def SavedIsReturned : Ctl R → Prop
  | .ret rep acc skipped saved => saved = ⟨acc, skipped, rep⟩
  | _ => True

theorem savedIsReturned_head (repMax : Nat) (keep : Keep R) (s : VarState R) :
    SavedIsReturned (headCtl repMax keep s) := by
  unfold headCtl
  cases guard repMax keep s
  · exact rfl
  · exact trivial

theorem savedIsReturned_entry (repMax : Nat) (keep : Keep R) (start : Option (R × Nat)) :
    SavedIsReturned (entry repMax keep start) := by
  cases start with
  | none => exact trivial
  | some p => exact gen_entry_loaded repMax keep p.1 p.2 0 ▸ savedIsReturned_head ..

theorem savedIsReturned_onOk (merge : R → R → R) (repMax : Nat) (keep : Keep R) (c : Ctl R) (r : R)
    (h : SavedIsReturned c) : SavedIsReturned (onOk merge repMax keep c r) := by
  cases c with
  | ask0 k => exact gen_onOk_first merge repMax keep k 0 r ▸ savedIsReturned_head ..
  | ask1 a s n => exact gen_onOk_loop merge repMax keep ⟨a, n, s, 0⟩ r ▸ savedIsReturned_head ..
  | ret => exact h

theorem savedIsReturned_onSkip (merge : R → R → R) (repMax : Nat) (keep : Keep R) (c : Ctl R)
    (h : SavedIsReturned c) : SavedIsReturned (onSkip merge repMax keep c) := by
  cases c with
  | ask0 k => exact trivial
  | ask1 a s n => exact gen_onSkip_loop merge repMax keep ⟨a, n, s, 0⟩ ▸ savedIsReturned_head ..
  | ret => exact h

theorem savedIsReturned_run (merge : R → R → R) (repMax : Nat) (keep : Keep R) (outs : List (Outcome R)) :
    ∀ (c : Ctl R) (n : Nat), SavedIsReturned c → SavedIsReturned (run merge repMax keep c n outs).1 := by
  induction outs with
  | nil => exact fun _ _ h => h
  | cons o os ih =>
    intro c n h
    unfold run
    split
    · exact h
    · cases o with
      | ok r => exact ih _ _ (savedIsReturned_onOk merge repMax keep c r h)
      | skip => exact ih _ _ (savedIsReturned_onSkip merge repMax keep c h)

end PyPhysim.C05

namespace PyPhysim.C05
open PyPhysim.Generated.C05Grid

variable {V : Type}

theorem gen_unpackedValues (ps : List (Param V)) : unpackedValues ps = combos ps := by
  cases ps with
  | nil => unfold combos sortParams; rw [List.mergeSort_nil]; rfl
  | cons p ps => rfl

theorem gen_variation (ps : List (Param V)) (i : Nat) :
    variation ps i = ((combos ps)[i]?).map (fun c => (((sortParams ps).map (·.1)).zip c, i)) :=
  gen_unpackedValues ps ▸ rfl

theorem foldl_mul_eq (ls : List Nat) : ∀ a : Nat, ls.foldl (· * ·) a = a * prod ls := by
  induction ls with
  | nil => intro a; simp [prod]
  | cons l ls ih => intro a; simp [prod, ih, Nat.mul_assoc]

theorem prod_perm {l₁ l₂ : List Nat} (p : l₁.Perm l₂) : prod l₁ = prod l₂ := by
  simpa only [foldl_mul_eq, Nat.one_mul] using
    p.foldl_eq' (f := (· * ·)) (fun x _ y _ z => Nat.mul_right_comm z x y) 1

theorem gen_numVariations (lens : List Nat) : numVariations lens = prod lens := by
  cases lens with
  | nil => rfl
  | cons l ls => exact foldl_mul_eq ls l

end PyPhysim.C05
