import PyPhysim.Model.C11
import PyPhysim.Proofs.Common

/-!
Aggregation (the double loop of `calc_SINR`, `calc_SINR_in_dB`, `calc_sum_capacity`), long-lived objects and the
caller's buffers: the parts of the model that are about lists and histories, not about matrices or real numbers
(core Lean only).  `mapM_error` / `mapM_finRange_error` are the failure counterparts of `mapM_ok` of
`Proofs/Common.lean`, at the error type `PyErr`: in a list sorted by `r`, `mapM` stops at an element that fails
once everything `r`-before it succeeds.  The reports along a history are `report` mapped over the running inputs
`scanl stepOrKeep`, so their length, prefixes and last element are those core gives for `scanl`.
-/
namespace PyPhysim.Sinr.Pf
open PyPhysim.Proto PyPhysim.Sinr

theorem mapM_error {α β : Type} {r : α → α → Prop} {l : List α} (hl : l.Pairwise r) {a : α} (ha : a ∈ l)
    (f : α → Except PyErr β) (err : PyErr) (hbefore : ∀ b, r b a → ∃ y, f b = .ok y) (hfail : f a = .error err) :
    l.mapM f = .error err := by
  induction hl with
  | nil => exact absurd ha List.not_mem_nil
  | @cons x xs hx _ ih =>
    rw [List.mapM_cons]
    obtain rfl | hxs := List.mem_cons.mp ha
    · rw [hfail]; rfl
    · obtain ⟨y, hy⟩ := hbefore x (hx a hxs)
      rw [hy, ih hxs]; rfl

theorem mapM_finRange_error {m : Nat} {β : Type} (f : Fin m → Except PyErr β) (i : Fin m) (err : PyErr)
    (hbefore : ∀ j : Fin m, j.val < i.val → ∃ y, f j = .ok y) (hi : f i = .error err) :
    (List.finRange m).mapM f = .error err :=
  mapM_error (List.pairwise_lt_finRange m) (List.mem_finRange i) f err hbefore hi

theorem allStreams_ok {K : Nat} {ρ : Type} (S : Fin K → Nat) (f : (k : Fin K) → Fin (S k) → Except PyErr ρ)
    (g : (k : Fin K) → Fin (S k) → ρ) (h : ∀ k l, f k l = .ok (g k l)) :
    allStreams S f = .ok ((List.finRange K).map (fun k => (List.finRange (S k)).map (g k))) := by
  unfold allStreams
  exact mapM_ok _ _ _ (fun k _ => mapM_ok _ _ _ (fun l _ => h k l))

theorem eachStream_getElem? {K : Nat} {ρ : Type} (S : Fin K → Nat) (f : (k : Fin K) → Fin (S k) → Except PyErr ρ)
    (k : Fin K) : (eachStream S f)[k.val]? = some ((List.finRange (S k)).map (f k)) := by
  have hk : k.val < (List.finRange K).length := by rw [List.length_finRange]; exact k.isLt
  rw [eachStream, List.getElem?_map, List.getElem?_eq_getElem hk, List.getElem_finRange]
  rfl

theorem afterCalls_append {ι : Type} (i0 : ι) (h1 h2 : List (ι → Except PyErr ι)) :
    afterCalls i0 (h1 ++ h2) = afterCalls (afterCalls i0 h1) h2 :=
  List.foldl_append

theorem afterCalls_skip {ι : Type} (i0 : ι) (h1 h2 : List (ι → Except PyErr ι)) (call : ι → Except PyErr ι)
    (h : stepOrKeep (afterCalls i0 h1) call = afterCalls i0 h1) :
    afterCalls i0 (h1 ++ call :: h2) = afterCalls i0 (h1 ++ h2) := by
  rw [afterCalls_append, afterCalls_append]
  exact congrArg (afterCalls · h2) h

theorem reportsAlong_eq_map_scanl {ι β : Type} (report : ι → β) (i : ι) (h : List (ι → Except PyErr ι)) :
    reportsAlong report i h = (h.scanl stepOrKeep i).map report := by
  induction h generalizing i with
  | nil => rfl
  | cons c cs ih => rw [List.scanl_cons]; exact congrArg (report i :: ·) (ih _)

theorem reportsAlong_length {ι β : Type} (report : ι → β) (i : ι) (h : List (ι → Except PyErr ι)) :
    (reportsAlong report i h).length = h.length + 1 := by
  rw [reportsAlong_eq_map_scanl, List.length_map, List.length_scanl]

theorem reportsAlong_take {ι β : Type} (report : ι → β) (i : ι) (h1 h2 : List (ι → Except PyErr ι)) :
    (reportsAlong report i (h1 ++ h2)).take (h1.length + 1) = reportsAlong report i h1 := by
  rw [reportsAlong_eq_map_scanl, reportsAlong_eq_map_scanl, ← List.map_take, List.take_scanl, List.take_left' rfl]

theorem reportsAlong_getLast {ι β : Type} (report : ι → β) (i : ι) (h : List (ι → Except PyErr ι)) :
    (reportsAlong report i h).getLast? = some (report (afterCalls i h)) := by
  rw [reportsAlong_eq_map_scanl, List.getLast?_map, List.getLast?_scanl]
  rfl

theorem refill_self {ι : Type} (h : Heap ι) (a : Nat) (v : ι) : refill h a v a = v := if_pos rfl

theorem refill_other {ι : Type} (h : Heap ι) (a b : Nat) (v : ι) (hb : b ≠ a) : refill h a v b = h b := if_neg hb

theorem refillLoop_eq_map {ι β : Type} (report : ι → β) (a : Nat) (h : Heap ι) (vs : List ι) :
    refillLoop report a h vs = vs.map report := by
  induction vs generalizing h with
  | nil => rfl
  | cons v vs ih => rw [refillLoop, callOn, refill_self, ih, List.map_cons]

end PyPhysim.Sinr.Pf
