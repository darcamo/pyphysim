import PyPhysim.Model.C17Classes
import PyPhysim.Generated.C17Fields
/-!
Bridge between the hand model of C17 and `Generated/C17Fields.lean` (re-emitted from
the Python source on every run): the attributes of the model records under their
Python names, dictionaries built from a (key, attribute) table, and an interpreter
of the generated encoder ladder.
-/
namespace PyPhysim.C17
open PyPhysim.Proto
open PyPhysim.Generated

/-! ### attributes under their Python names -/

/-- attribute of a `Result` as the value `_to_dict` stores -/
def Result.attr (r : Result) (a : String) : Option PyVal :=
  if a == "name" then some (.str r.name)
  else if a == "_update_type_code" then some (.int r.typeCode)
  else if a == "_value" then some r.value
  else if a == "_total" then some r.total
  else if a == "_result_sum" then some r.resultSum
  else if a == "_result_squared_sum" then some r.resultSqSum
  else if a == "num_updates" then some r.numUpdates
  else if a == "_accumulate_values_bool" then some (.bool r.acc)
  else if a == "_value_list" then some (.list r.valueList)
  else if a == "_total_list" then some (.list r.totalList)
  else .none

/-- attribute of a `SimulationParameters` object (`n` with its chain of originals `rest`) -/
def chainAttr (n : Node) (rest : Chain) (a : String) : Option PyVal :=
  if a == "parameters" then some (.dict n.parameters)
  else if a == "_unpacked_parameters_set" then some (.set (strVals n.unpacked))
  else if a == "_unpack_index" then some (.int n.unpackIndex)
  else if a == "_original_sim_params" then some (paramsToDict rest)
  else .none

/-- attribute of a `SimulationResults` (nested objects in their dictionary form) -/
def SimResults.attr (s : SimResults) (a : String) : Option PyVal :=
  if a == "_params" then some (paramsToDict s.params)
  else if a == "runned_reps" then some s.runnedReps
  else if a == "original_filename" then some s.originalFilename
  else if a == "current_rep" then some s.currentRep
  else if a == "_results" then some (.dict (resultsToKVs s.results))
  else .none

/-- the dictionary a (key, attribute) table describes -/
def dictOf (get : String → Option PyVal) : List (String × String) → Option (List (String × PyVal))
  | [] => some []
  | (k, a) :: rest =>
    match get a, dictOf get rest with
    | some v, some kvs => some ((k, v) :: kvs)
    | _, _ => .none

def lookupV (k : String) : PyVal → Option PyVal
  | .dict d => lookup k d
  | _ => .none

/-- targets of the replay path that are not attributes -/
def isSpecial (a : String) : Bool := a == "@choice_num" || a == "@update"

/-! ### consistency of a writer table with a reader table -/

/-- every pair written is read back into the same attribute, every pair read was written -/
def tablesAgree (w r : List (String × String)) : Bool :=
  w.all (fun p => r.contains p) && r.all (fun p => w.contains p)
    && (w.map Prod.fst).all (fun k => (w.filter (fun q => q.1 == k)).length == 1)
    && (w.map Prod.snd).all (fun a => (w.filter (fun q => q.2 == a)).length == 1)
    && (r.map Prod.fst).all (fun k => (r.filter (fun q => q.1 == k)).length == 1)

/-- replay path: what it stores directly is what was written under that key; what it
    replays comes from a written key; the attributes it does not store are `rebuilt` -/
def choiceAgree (w r : List (String × String)) (rebuilt : List String) : Bool :=
  r.all (fun p => if isSpecial p.2 then (w.map Prod.fst).contains p.1 else w.contains p)
    && w.all (fun p => r.contains p || rebuilt.contains p.2)

/-! ### the encoder ladder -/

def classOf : PyVal → Option String
  | .ndarray _ _ _ => some "ndarray"
  | .npbool _ => some "npbool"
  | .npint _ _ _ => some "npint"
  | .npfloat _ _ => some "npfloat"
  | .set _ => some "set"
  | _ => .none

/-- one field of an object form -/
def fieldJson (v : PyVal) (tag : String) : Option Json :=
  if tag == "true" then some (.bool true)
  else match v with
    | .ndarray dt sh data =>
      if tag == "tolist" then some (enc data)
      else if tag == "dtype" then some (.str dt)
      else if tag == "shape" then some (.arr (sh.map (fun (n : Nat) => Json.int (n : Int))))
      else .none
    | .set xs => if tag == "list" then some (.arr (encList xs)) else .none
    | _ => .none

def fieldsJson (v : PyVal) : List (String × String) → Option (List (String × Json))
  | [] => some []
  | (k, t) :: rest =>
    match fieldJson v t, fieldsJson v rest with
    | some j, some js => some ((k, j) :: js)
    | _, _ => .none

/-- the JSON a form yields for a value (what `json.dumps` makes of the object
    `default` returned); a conversion applied to another class than its own
    (`int(obj)` of a numpy float, …) is not something the model's `enc` does: `none` -/
def applyForm (v : PyVal) : C17Fields.Form → Option Json
  | .toBool => match v with | .npbool b => some (.bool b) | _ => .none
  | .toInt => match v with | .npint _ _ i => some (.int i) | _ => .none
  | .toFloat => match v with | .npfloat _ f => some (.float f) | _ => .none
  | .item => match v with
    | .npbool b => some (.bool b) | .npint _ _ i => some (.int i) | .npfloat _ f => some (.float f)
    | _ => .none
  | .obj fs => (fieldsJson v fs).map Json.obj

/-- first test that accepts the value decides -/
def runLadder : List (String × C17Fields.Form) → PyVal → Option Json
  | [], _ => .none
  | (c, f) :: rest, v => if classOf v == some c then applyForm v f else runLadder rest v

/-! ### the decoder hook -/

/-- what the model rebuilds for a form tag, from the values under the keys -/
def rebuild (form : String) (val : String → PyVal) : R PyVal :=
  if form == "ndarray" then mkArray (val "data") (val "dtype") (val "shape")
  else if form == "set" then mkSet (val "data")
  else .error .unmodelled

/-- encoder and hook agree: each object form carries exactly one mark (a field set to
    `True`), the hook has an entry for that mark rebuilding that class, and reads
    exactly the other keys of the form -/
def encHookAgree (enc : List (String × C17Fields.Form)) (hook : List (String × String × List String)) : Bool :=
  enc.all (fun e =>
    match e.2 with
    | .obj fs =>
      let marks := (fs.filter (fun f => f.2 == "true")).map Prod.fst
      let others := (fs.filter (fun f => f.2 != "true")).map Prod.fst
      match marks with
      | [m] => hook.any (fun h => h.1 == m && h.2.1 == e.1
                  && others.all (fun k => h.2.2.contains k) && h.2.2.all (fun k => others.contains k))
      | _ => false
    | _ => true)
  && hook.all (fun h => enc.any (fun e => e.1 == h.2.1))

end PyPhysim.C17
