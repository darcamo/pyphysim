import PyPhysim.Model.C09

/-!
The index arithmetic of the user blocks, core Lean only: `join` is inverse to `(userOf, within)`; with it
the row bookkeeping of `_get_sub_channel` / `_get_tilde_channel` (robustness classes R9 / R14): which rows
`subIdx` / `tildeIdx` select and how many.
-/
namespace PyPhysim.BD

section index
variable {K N : Nat}

theorem userOf_join (k : Fin K) (i : Fin N) : userOf (join k i) = k := by
  apply Fin.ext
  have hN : 0 < N := Nat.lt_of_le_of_lt (Nat.zero_le _) i.isLt
  show (k.val * N + i.val) / N = k.val
  rw [Nat.mul_comm, Nat.mul_add_div hN, Nat.div_eq_of_lt i.isLt, Nat.add_zero]

theorem within_join (k : Fin K) (i : Fin N) : within (join k i) = i := by
  apply Fin.ext
  show (k.val * N + i.val) % N = i.val
  rw [Nat.mul_comm, Nat.mul_add_mod, Nat.mod_eq_of_lt i.isLt]

theorem join_userOf_within (x : Fin (K * N)) : join (userOf x) (within x) = x := by
  apply Fin.ext
  show x.val / N * N + x.val % N = x.val
  exact Nat.div_add_mod' _ _

end index

namespace Pf

section rows
variable {K N : Nat}

theorem tildeIdx_eq_subIdx (k : Fin K) : tildeIdx (N := N) k = subIdx (otherUsers k) := rfl

theorem mem_subIdx (users : List (Fin K)) (x : Fin (K * N)) : x ∈ subIdx users ↔ userOf x ∈ users := by
  unfold subIdx
  rw [List.mem_flatMap]
  constructor
  · rintro ⟨u, hu, hx⟩
    rw [List.mem_map] at hx
    obtain ⟨i, _, rfl⟩ := hx
    rw [userOf_join]; exact hu
  · intro h
    refine ⟨userOf x, h, ?_⟩
    rw [List.mem_map]
    exact ⟨within x, List.mem_finRange _, join_userOf_within x⟩

theorem mem_otherUsers (k u : Fin K) : u ∈ otherUsers k ↔ u ≠ k := by
  rw [otherUsers, List.mem_filter, decide_eq_true_iff, and_iff_right (List.mem_finRange u)]

theorem mem_tildeIdx (k : Fin K) (x : Fin (K * N)) : x ∈ tildeIdx (N := N) k ↔ userOf x ≠ k := by
  rw [tildeIdx_eq_subIdx, mem_subIdx, mem_otherUsers]

theorem length_subIdx (users : List (Fin K)) : (subIdx (N := N) users).length = users.length * N := by
  induction users with
  | nil => exact (Nat.zero_mul N).symm
  | cons u us ih =>
    have : subIdx (N := N) (u :: us) = (List.finRange N).map (join u) ++ subIdx us := List.flatMap_cons
    rw [this, List.length_append, ih, List.length_map, List.length_finRange, List.length_cons, Nat.succ_mul,
      Nat.add_comm]

theorem length_tildeIdx (k : Fin K) : (tildeIdx (N := N) k).length = (K - 1) * N := by
  rw [tildeIdx_eq_subIdx, length_subIdx]
  congr 1
  have : (List.finRange K).filter (fun u => decide (u ≠ k)) = (List.finRange K).erase k := by
    rw [(List.nodup_finRange K).erase_eq_filter]
    apply List.filter_congr
    intro u _
    simp only [ne_eq, decide_not, bne, Bool.beq_eq_decide_eq]
  rw [otherUsers, this, List.length_erase_of_mem (List.mem_finRange k), List.length_finRange]

theorem tildeIdx_room (k : Fin K) : (tildeIdx (N := N) k).length + N ≤ K * N := by
  rw [length_tildeIdx, ← Nat.succ_mul, Nat.succ_eq_add_one, Nat.sub_add_cancel k.pos]
  exact Nat.le_refl _

theorem subIdx_single (k : Fin K) : subIdx (N := N) [k] = (List.finRange N).map (join k) :=
  List.flatMap_singleton _ _

end rows

end Pf
end PyPhysim.BD
