import Mathlib.LinearAlgebra.Matrix.Block
import PyPhysim.Proofs.C20Alg

/-!
Why orthonormalising the eigenvector matrix of a Hermitian matrix with a QR
step keeps it an eigenvector matrix (`calc_whitening_matrix` calls `eig`, then `np.linalg.qr`; finding
`C20:calc_whitening_matrix:repeated-eigenvalue`):
`C V = V diag(L)`, `V = Q R` (`Q` unitary, `R` upper triangular, invertible),
`Cᴴ = C`  ⟹  `C Q = Q diag(L)`.
-/
namespace PyPhysim.LinAlg.Pf
open Matrix

variable {K : Type} [CommRing K] {n : Nat}

theorem diag_mul_upper (A B : Matrix (Fin n) (Fin n) K) (hA : A.BlockTriangular id)
    (hB : B.BlockTriangular id) (i : Fin n) : (A * B) i i = A i i * B i i := by
  rw [mul_apply, Finset.sum_eq_single i]
  · intro l _ hl
    rcases lt_or_gt_of_ne hl with h | h
    · rw [hA (show id l < id i from h), zero_mul]
    · rw [hB (show id i < id l from h), mul_zero]
  · intro h; exact absurd (Finset.mem_univ i) h

variable [StarRing K]

theorem diagonal_of_upper_herm {T : Matrix (Fin n) (Fin n) K} (ht : T.BlockTriangular id) (hh : Tᴴ = T) :
    T = diagonal fun i => T i i := by
  ext i j
  rcases lt_trichotomy i j with h | rfl | h
  · rw [diagonal_apply_ne _ h.ne, ← hh, conjTranspose_apply, ht (show id i < id j from h), star_zero]
  · rw [diagonal_apply_eq]
  · rw [diagonal_apply_ne _ h.ne']
    exact ht (show id j < id i from h)

/-- a Hermitian `T` with `T R = R diag(L)`, `R` upper triangular and invertible, is `diag(L)`: `T = R diag(L) R⁻¹` is upper
    triangular, hence diagonal, and `Tᵢᵢ Rᵢᵢ = Rᵢᵢ Lᵢ` with `Rᵢᵢ` a unit -/
theorem eq_diagM_of_herm_of_upper {T R Ri : Mat K n n} {L : Fin n → K} (hTh : cT T = T)
    (hTR : matMul T R = matMul R (diagM L)) (hR : ∀ i j : Fin n, j < i → R i j = 0) (hRi : matMul R Ri = eye) :
    T = diagM L := by
  have hRt : (toM R).BlockTriangular id := fun i j h => hR i j h
  have hRRi := mul_eq_one_toM hRi
  have hRit : (toM Ri).BlockTriangular id := by
    let _ := invertibleOfRightInverse _ _ hRRi
    have := blockTriangular_inv_of_blockTriangular hRt
    rwa [inv_eq_right_inv hRRi] at this
  have hTt : (toM T).BlockTriangular id := by
    rw [← matMul_eye T, ← hRi, ← matMul_assoc, hTR, toM_matMul, toM_matMul, toM_diagM]
    exact (hRt.mul (blockTriangular_diagonal L)).mul hRit
  have hTd := diagonal_of_upper_herm hTt (congrArg toM hTh)
  refine toM_inj (hTd.trans <| (congrArg diagonal (funext fun i => ?_)).trans (toM_diagM L).symm)
  have h1 := diag_mul_upper _ _ hRt hRit i
  rw [hRRi, one_apply_eq] at h1
  have h2 := congrFun (congrFun (congrArg toM hTR) i) i
  rw [toM_matMul, toM_matMul, toM_diagM, hTd, diagonal_mul, mul_diagonal] at h2
  -- `Tᵢᵢ = Tᵢᵢ (Rᵢᵢ Riᵢᵢ) = (Rᵢᵢ Lᵢ) Riᵢᵢ = Lᵢ`
  rw [← mul_one (toM T i i), h1, ← mul_assoc, h2, mul_right_comm, ← h1, one_mul]

theorem eig_qr_contract {C V Q R Ri : Mat K n n} {L : Fin n → K}
    (hCh : cT C = C) (hCV : matMul C V = matMul V (diagM L)) (hV : V = matMul Q R)
    (hQ : matMul (cT Q) Q = eye) (hR : ∀ i j : Fin n, j < i → R i j = 0) (hRi : matMul R Ri = eye) :
    matMul C Q = matMul Q (diagM L) := by
  rw [← eye_matMul (matMul C Q), ← matMul_eq_eye_comm hQ, matMul_assoc, ← matMul_assoc (cT Q)]
  refine congrArg (matMul Q) (eq_diagM_of_herm_of_upper ?_ ?_ hR hRi)
  · rw [cT_matMul, cT_matMul, cT_cT, hCh, matMul_assoc]
  · rw [matMul_assoc _ Q, ← hV, matMul_assoc, hCV, hV, matMul_assoc, ← matMul_assoc, hQ, eye_matMul]

end PyPhysim.LinAlg.Pf
