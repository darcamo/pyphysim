import Mathlib.Probability.Distributions.Gaussian.Real
import PyPhysim.Proofs.C16

/-!
# C16 — the Gaussian tail function itself, Gaussian noise in one and two dimensions

`Proofs/C16.lean` treats `Q` abstractly (`IsQ`).  Here `Q` is the real thing:
`Qg x = P(N > x)` for a standard normal `N` (Mathlib's `gaussianReal 0 1`), and

* `isQ_gaussian : IsQ Qg` — the abstract hypotheses are satisfied by the actual
  Gaussian tail, so every `IsQ` theorem of `Properties/C16.lean` applies to it; `Qg_strictAnti` — it is
  strictly decreasing as well (the hypothesis of the R15 theorems of `Properties/C16Robust.lean`);
* `gauss_Ioi`, `gauss_Ici`, `gauss_Iio`, `gauss_Iic`, `Qg_neg` — the probability of every half-line under
  centred Gaussian noise of standard deviation `σ`, in terms of `Qg`;
* `linear_law` — a linear functional of independent noise on the two real dimensions is 1-D noise again,
  so every half-plane has the probability of a half-line (`linear_preimage`).
-/
namespace PyPhysim.C16
open MeasureTheory ProbabilityTheory Filter Topology Set
open scoped NNReal ENNReal

/-- the Gaussian tail function `Q(x) = P(N > x)`, `N ~ 𝒩(0,1)` -/
noncomputable def Qg (x : ℝ) : ℝ := (gaussianReal 0 1).real (Ioi x)

/-- `σ²` as the `ℝ≥0` variance `gaussianReal` takes -/
noncomputable def var (σ : ℝ) : ℝ≥0 := ⟨σ ^ 2, sq_nonneg σ⟩

/-- centred Gaussian noise of standard deviation `σ` -/
noncomputable def noise (σ : ℝ) : Measure ℝ := gaussianReal 0 (var σ)

instance (σ : ℝ) : IsProbabilityMeasure (noise σ) := by unfold noise; infer_instance

theorem noise_one : noise 1 = gaussianReal 0 1 := by
  have : var 1 = 1 := NNReal.eq (one_pow 2)
  rw [noise, this]

theorem noise_map_mul (a σ : ℝ) : (noise σ).map (a * ·) = noise (a * σ) := by
  have : NNReal.mk (a ^ 2) (sq_nonneg a) * var σ = var (a * σ) := NNReal.eq (mul_pow a σ 2).symm
  rw [noise, gaussianReal_map_const_mul, mul_zero, this, noise]

/-- the noise is symmetric: a set and its mirror image have the same probability (any set: `x ↦ −x` is a measurable
    bijection) -/
theorem noise_neg (σ : ℝ) (T : Set ℝ) : (noise σ).real ((fun x => -x) ⁻¹' T) = (noise σ).real T := by
  have h : (noise σ).map (fun x => -x) = noise σ := by rw [noise, gaussianReal_map_neg, neg_zero]
  exact congrArg ENNReal.toReal (((MeasurableEquiv.neg ℝ).map_apply T).symm.trans (congrArg (· T) h))

theorem gauss_Ioi {σ : ℝ} (hσ : 0 < σ) (t : ℝ) : (noise σ).real (Ioi t) = Qg (t / σ) := by
  rw [← mul_one σ, ← noise_map_mul, noise_one, map_measureReal_apply (measurable_const_mul _) measurableSet_Ioi,
    mul_one, preimage_const_mul_Ioi₀ t hσ, Qg]

/-- by symmetry of the noise -/
theorem gauss_Iio {σ : ℝ} (hσ : 0 < σ) (t : ℝ) : (noise σ).real (Iio t) = Qg (-t / σ) := by
  rw [← gauss_Ioi hσ, ← noise_neg σ (Ioi (-t))]
  exact congrArg _ (Set.ext fun x => (neg_lt_neg_iff (a := t) (b := x)).symm)

theorem noise_singleton {σ : ℝ} (hσ : σ ≠ 0) (a : ℝ) : (noise σ) {a} = 0 :=
  gaussianReal_absolutelyContinuous 0
    (fun h => hσ (pow_eq_zero_iff two_ne_zero |>.mp (congrArg NNReal.toReal h)) : var σ ≠ 0) Real.volume_singleton

/-- no atoms: closed and open half-lines have the same probability -/
theorem gauss_Ici {σ : ℝ} (hσ : 0 < σ) (t : ℝ) : (noise σ).real (Ici t) = Qg (t / σ) := by
  rw [← measureReal_congr (Ioi_ae_eq_Ici' (noise_singleton hσ.ne' t)), gauss_Ioi hσ]

/-- the half-lines `(-∞, t]` and `(t, ∞)` are complementary -/
theorem gauss_Iic {σ : ℝ} (hσ : 0 < σ) (t : ℝ) : (noise σ).real (Iic t) = 1 - Qg (t / σ) := by
  rw [← compl_Ioi, probReal_compl_eq_one_sub measurableSet_Ioi, gauss_Ioi hσ]

/-- `(-∞, x)` by symmetry, `(-∞, x]` as a complement, and the two have the same probability -/
theorem Qg_neg (x : ℝ) : Qg (-x) = 1 - Qg x := by
  rw [← div_one (-x), ← gauss_Iio one_pos, measureReal_congr (Iio_ae_eq_Iic' (noise_singleton one_ne_zero x)),
    gauss_Iic one_pos, div_one]

/-- the normal law has a positive density, so an interval Lebesgue measure does not neglect has positive mass -/
theorem gaussian_Ioc_pos {x y : ℝ} (h : x < y) : 0 < (gaussianReal 0 1).real (Ioc x y) := by
  refine ENNReal.toReal_pos (fun h0 => ?_) (measure_ne_top _ _)
  have hvol := gaussianReal_absolutelyContinuous' 0 one_ne_zero h0
  rw [Real.volume_Ioc, ENNReal.ofReal_eq_zero, sub_nonpos] at hvol
  exact hvol.not_gt h

theorem Qg_strictAnti : StrictAnti Qg := fun x y h => by
  rw [Qg, Qg, ← Ioc_union_Ioi_eq_Ioi h.le,
    measureReal_union Ioc_disjoint_Ioi_same measurableSet_Ioi (measure_ne_top _ _) (measure_ne_top _ _)]
  exact lt_add_of_pos_left _ (gaussian_Ioc_pos h)

theorem Qg_nonneg (x : ℝ) : 0 ≤ Qg x := measureReal_nonneg

theorem Qg_le_one (x : ℝ) : Qg x ≤ 1 := measureReal_le_one

theorem Qg_zero : Qg 0 = 1 / 2 := by
  have h := Qg_neg 0
  rw [neg_zero, eq_sub_iff_add_eq, ← two_mul] at h
  exact eq_one_div_of_mul_eq_one_right h

theorem Qg_tendsto : Tendsto Qg atTop (𝓝 0) := by
  have h := tendsto_measure_iInter_atTop (μ := gaussianReal 0 1) (s := fun x : ℝ => Ioi x)
    (fun _ => measurableSet_Ioi.nullMeasurableSet) (fun _ _ h => Ioi_subset_Ioi h) ⟨0, measure_ne_top _ _⟩
  have h0 : (⋂ x : ℝ, Ioi x) = ∅ :=
    eq_empty_of_forall_notMem fun y hy => lt_irrefl y (mem_iInter.mp hy y)
  rw [h0, measure_empty] at h
  exact (ENNReal.tendsto_toReal ENNReal.zero_ne_top).comp h

theorem isQ_gaussian : IsQ Qg := ⟨Qg_strictAnti.antitone, Qg_zero, Qg_nonneg, Qg_tendsto⟩

/-- independent Gaussian noise on the two real dimensions -/
noncomputable def noise2 (σ : ℝ) : Measure (ℝ × ℝ) := (noise σ).prod (noise σ)

instance (σ : ℝ) : IsProbabilityMeasure (noise2 σ) := by unfold noise2; infer_instance

theorem noise_conv {σ τ ρ : ℝ} (h : σ ^ 2 + τ ^ 2 = ρ ^ 2) : noise σ ∗ noise τ = noise ρ := by
  have : var σ + var τ = var ρ := NNReal.eq h
  rw [noise, noise, gaussianReal_conv_gaussianReal, add_zero, this, noise]

theorem linear_law (σ : ℝ) {a b d : ℝ} (h : a * a + b * b = d * d) :
    (noise2 σ).map (fun n : ℝ × ℝ => a * n.1 + b * n.2) = noise (d * σ) := by
  have hc : (noise2 σ).map (fun n : ℝ × ℝ => a * n.1 + b * n.2) =
      (noise σ).map (a * ·) ∗ (noise σ).map (b * ·) := by
    rw [Measure.conv, Measure.map_prod_map _ _ (by fun_prop) (by fun_prop),
      Measure.map_map (by fun_prop) (by fun_prop)]
    rfl
  rw [hc, noise_map_mul, noise_map_mul]
  exact noise_conv (by rw [mul_pow, mul_pow, mul_pow, ← add_mul, sq a, sq b, sq d, h])

theorem linear_preimage (σ : ℝ) {a b d : ℝ} (h : a * a + b * b = d * d) {S : Set ℝ} (hS : MeasurableSet S) :
    (noise2 σ).real ((fun n : ℝ × ℝ => a * n.1 + b * n.2) ⁻¹' S) = (noise (d * σ)).real S := by
  rw [← linear_law σ h, map_measureReal_apply (by fun_prop) hS]

theorem proj_law (σ u1 u2 : ℝ) (hu : u1 ^ 2 + u2 ^ 2 = 1) :
    (noise2 σ).map (fun n : ℝ × ℝ => u1 * n.1 + u2 * n.2) = noise σ := by
  have := linear_law σ (a := u1) (b := u2) (d := 1) (by rw [← sq, ← sq, hu, mul_one])
  rwa [one_mul] at this

end PyPhysim.C16
