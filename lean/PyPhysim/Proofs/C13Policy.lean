import PyPhysim.Proofs.C13Real
import PyPhysim.Proofs.Common

/-! # C13 — the negative-loss policy, scalar / array dispatch (α = ℝ)

Everything here is about an arbitrary deterministic loss `f : ℝ → ℝ`; the
three object kinds enter in `C13Models`.  `clamp` is the policy's floor at 0 dB; then what the scalar and the
array query return and raise, their monotonicity, the range of the linear form (`lin_range`), and recovery of
the distance from an answer when `f` has a left inverse (`which_of_*`). -/
namespace PyPhysim.C13
open PyPhysim.Proto

noncomputable def clamp (x : ℝ) : ℝ := if x < 0 then 0 else x

theorem clamp_eq_max (x : ℝ) : clamp x = max 0 x := by
  unfold clamp
  split_ifs with h
  · exact (max_eq_left h.le).symm
  · exact (max_eq_right (not_lt.1 h)).symm

theorem clamp_nonneg (x : ℝ) : 0 ≤ clamp x := clamp_eq_max x ▸ le_max_left 0 x

theorem clamp_mono {x y : ℝ} (h : x ≤ y) : clamp x ≤ clamp y := by
  rw [clamp_eq_max, clamp_eq_max]
  exact max_le_max_left 0 h

theorem clamp_of_nonneg {x : ℝ} (h : 0 ≤ x) : clamp x = x := if_neg (not_lt.2 h)

theorem map_clamp_of_nonneg {pl : List ℝ} (h : ∀ x ∈ pl, 0 ≤ x) : pl.map clamp = pl :=
  (List.map_congr_left fun x hx => clamp_of_nonneg (h x hx)).trans (List.map_id' pl)

theorem policyScalar_eq (small : Bool) (pl : ℝ) :
    policyScalar small pl
      = if small = false ∧ pl < 0 then .error .RuntimeError else .ok (clamp pl) := by
  unfold policyScalar clamp
  rw [zero_real]
  by_cases h : pl < 0
  · rw [if_pos h, if_pos h]
    cases small
    · exact (if_pos ⟨rfl, h⟩).symm
    · exact (if_neg fun q => Bool.noConfusion q.1).symm
  · rw [if_neg h, if_neg h, if_neg fun q => h q.2]

theorem policyArray_eq (small : Bool) (pl : List ℝ) :
    policyArray small pl
      = if small = false ∧ ∃ x ∈ pl, x < 0 then .error .RuntimeError else .ok (pl.map clamp) := by
  unfold policyArray
  simp only [zero_real, List.any_eq_true, decide_eq_true_eq]
  by_cases h : ∃ x ∈ pl, x < 0
  · rw [if_pos h]
    cases small
    · exact (if_pos ⟨rfl, h⟩).symm
    · exact (if_neg fun q => Bool.noConfusion q.1).symm
  · rw [if_neg h, if_neg fun q => h q.2, map_clamp_of_nonneg fun x hx => not_lt.1 fun q => h ⟨x, hx, q⟩]

theorem scalarDb_of_pos (small : Bool) (f : ℝ → ℝ) {d : ℝ} (hd : 0 < d) :
    scalarDb small f d = policyScalar small (f d) := by
  rw [scalarDb, zero_real, if_pos hd]

theorem scalarDb_of_nonneg (small : Bool) {f : ℝ → ℝ} {d : ℝ} (hd : 0 < d) (hp : 0 ≤ f d) :
    scalarDb small f d = .ok (f d) := by
  rw [scalarDb_of_pos small f hd, policyScalar_eq, if_neg fun q => not_lt.2 hp q.2, clamp_of_nonneg hp]

theorem scalarDb_ok {small : Bool} {f : ℝ → ℝ} {d x : ℝ} (h : scalarDb small f d = .ok x) :
    0 < d ∧ x = clamp (f d) := by
  rw [scalarDb, zero_real] at h
  split_ifs at h with hd
  rw [policyScalar_eq] at h
  split_ifs at h
  exact ⟨hd, (Except.ok.inj h).symm⟩

theorem arrayDb_raises {f : ℝ → ℝ} {ds : List ℝ} (h : ∃ d ∈ ds, f d < 0) :
    arrayDb false f ds = .error .RuntimeError := by
  obtain ⟨d, hd, hneg⟩ := h
  rw [arrayDb, policyArray_eq, if_pos ⟨rfl, f d, List.mem_map_of_mem hd, hneg⟩]

theorem arrayDb_clamps (f : ℝ → ℝ) (ds : List ℝ) :
    arrayDb true f ds = .ok (ds.map fun d => clamp (f d)) := by
  rw [arrayDb, policyArray_eq, if_neg fun q => Bool.noConfusion q.1, List.map_map]
  rfl

theorem arrayDb_ok {small : Bool} {f : ℝ → ℝ} {ds xs : List ℝ} (h : arrayDb small f ds = .ok xs) :
    xs = ds.map fun d => clamp (f d) := by
  rw [arrayDb, policyArray_eq] at h
  split_ifs at h
  exact (Except.ok.inj h).symm.trans (List.map_map ..)

theorem scalarDb_mono {small : Bool} {f : ℝ → ℝ} (hf : MonotoneOn f (Set.Ioi 0)) (d₁ d₂ x₁ x₂ : ℝ)
    (h₁ : scalarDb small f d₁ = .ok x₁) (h₂ : scalarDb small f d₂ = .ok x₂) (h : d₁ ≤ d₂) :
    x₁ ≤ x₂ := by
  obtain ⟨p₁, rfl⟩ := scalarDb_ok h₁
  obtain ⟨p₂, rfl⟩ := scalarDb_ok h₂
  exact clamp_mono (hf p₁ p₂ h)

theorem arrayDb_mono {small : Bool} {f : ℝ → ℝ} (hf : MonotoneOn f (Set.Ioi 0)) (ds xs : List ℝ)
    (hpos : ∀ d ∈ ds, 0 < d) (hs : ds.Pairwise (· ≤ ·))
    (h : arrayDb small f ds = .ok xs) : xs.Pairwise (· ≤ ·) := by
  rw [arrayDb_ok h, List.pairwise_map]
  exact hs.imp_of_mem fun ha hb hab => clamp_mono (hf (hpos _ ha) (hpos _ hb) hab)

theorem lin_unit_interval {x : ℝ} (h : 0 ≤ x) :
    0 < (10 : ℝ) ^ (-x / 10) ∧ (10 : ℝ) ^ (-x / 10) ≤ 1 :=
  ⟨pow10_pos _, dB2Linear_real (-x) ▸ dB2Linear_neg_le_one h⟩

theorem lin_range {small : Bool} {f : ℝ → ℝ} {d y : ℝ} (h : toLin (scalarDb small f d) = .ok y) :
    ∃ x, scalarDb small f d = .ok x ∧ 0 ≤ x ∧ y = (10 : ℝ) ^ (-x / 10) ∧ 0 < y ∧ y ≤ 1 := by
  obtain ⟨x, hx, rfl⟩ := exceptMap_eq_ok h
  have hx0 : 0 ≤ x := (scalarDb_ok hx).2 ▸ clamp_nonneg _
  rw [dB2Linear_real]
  exact ⟨x, hx, hx0, rfl, lin_unit_interval hx0⟩

section
variable {f g : ℝ → ℝ} (hgf : ∀ d, 0 < d → g (f d) = d)
include hgf

theorem which_of_scalarDb {small : Bool} {d x : ℝ} (h : scalarDb small f d = .ok x)
    (hx : 0 ≤ f d) : g x = d := by
  obtain ⟨hd, rfl⟩ := scalarDb_ok h
  rw [clamp_of_nonneg hx, hgf d hd]

theorem which_of_lin {small : Bool} {d y : ℝ} (h : toLin (scalarDb small f d) = .ok y)
    (hx : 0 ≤ f d) : g (-(Gen.linear2dB y)) = d := by
  obtain ⟨x, hx', rfl⟩ := exceptMap_eq_ok h
  rw [linear2dB_dB2Linear, neg_neg]
  exact which_of_scalarDb hgf hx' hx

theorem which_of_arrayDb {small : Bool} {ds xs : List ℝ} (hpos : ∀ d ∈ ds, 0 < d)
    (hnn : ∀ d ∈ ds, 0 ≤ f d) (h : arrayDb small f ds = .ok xs) : xs.map g = ds := by
  rw [arrayDb_ok h, List.map_map]
  refine (List.map_congr_left fun d hd => ?_).trans (List.map_id' ds)
  rw [Function.comp, clamp_of_nonneg (hnn d hd), hgf d (hpos d hd)]

end

end PyPhysim.C13
