import Mathlib.Data.List.Perm.Basic
import Mathlib.Data.List.Range
import Mathlib.Order.Basic
import PyPhysim.Proofs.C20Bridge

/-!
The selectors of eigen / singular components.  Index-level facts about `peig` / `leig` /
`least_right_singular_vectors`, and the eigenpair property of the columns they select (`mulVec_col_of_eig`,
`selectPairs_eigenpairs`).  `get_principal_component_matrix` against the first `k` columns of the truncated
SVD `U Σ_k Vᴴ`: the inner sums of the two collapse to the same single term (`gpcm_inner_eq_trunc`).
-/
namespace PyPhysim.LinAlg

/-- contract of `np.argsort(values)` on an array of length `c`: a permutation of
    `0 … c-1` along which the values are non-decreasing -/
def ArgsortContract {β : Type} [Preorder β] (val : Nat → β) (c : Nat) (perm : List Nat) : Prop :=
  perm.Perm (List.range c) ∧ perm.Pairwise (fun a b => val a ≤ val b)

namespace Pf
variable {β : Type} [Preorder β]

/-- along a list ordered by `R`, every kept element is `R`-related to every dropped one -/
theorem rel_take_drop {R : Nat → Nat → Prop} {l : List Nat} (hR : l.Pairwise R) (n : Nat) :
    ∀ i ∈ l.take n, ∀ j ∈ l.drop n, R i j :=
  (List.pairwise_append.mp ((List.take_append_drop n l).symm ▸ hR)).2.2

/-- the first `n` of the indices `0 … c − 1` listed in `R`-order: `n` distinct indices below `c`, in order,
    each `R`-related to every index left out -/
theorem take_spec {R : Nat → Nat → Prop} {c n : Nat} {l : List Nat} (hl : l.Perm (List.range c))
    (hR : l.Pairwise R) (hn : n ≤ c) :
    (l.take n).length = n ∧ (l.take n).Nodup ∧ (∀ i ∈ l.take n, i < c) ∧ (l.take n).Pairwise R ∧
    (∀ i ∈ l.take n, ∀ j, j < c → j ∉ l.take n → R i j) := by
  refine ⟨by rw [List.length_take, hl.length_eq, List.length_range]; exact Nat.min_eq_left hn,
    (hl.nodup_iff.mpr List.nodup_range).sublist (List.take_sublist n l),
    fun i hi => List.mem_range.mp (hl.mem_iff.mp (List.mem_of_mem_take hi)), hR.sublist (List.take_sublist n l),
    fun i hi j hj hjn => rel_take_drop hR n i hi j ?_⟩
  have hjl : j ∈ l.take n ++ l.drop n := (List.take_append_drop n l).symm ▸ hl.mem_iff.mpr (List.mem_range.mpr hj)
  exact (List.mem_append.mp hjl).resolve_left hjn

theorem selectPairs_spec {α : Type} {r c : Nat} (V : Mat α r c) (D : Fin c → α) :
    ∀ (idx : List Nat), (∀ j ∈ idx, j < c) → ∃ out, selectPairs V D idx = .ok out ∧
      List.Forall₂ (fun p j => ∃ h : j < c, p = ((fun i => V i ⟨j, h⟩), D ⟨j, h⟩)) out idx := by
  intro idx h
  induction idx with
  | nil => exact ⟨[], rfl, List.Forall₂.nil⟩
  | cons j js ih =>
    obtain ⟨hj, hjs⟩ := List.forall_mem_cons.mp h
    obtain ⟨rest, hrest, hf⟩ := ih hjs
    exact ⟨((fun i => V i ⟨j, hj⟩), D ⟨j, hj⟩) :: rest,
      by rw [selectPairs, getCol, getEntry, dif_pos hj, dif_pos hj, hrest], List.Forall₂.cons ⟨hj, rfl⟩ hf⟩

theorem mulVec_col_of_eig {K : Type} [CommRing K] {c : Nat} (A V : Mat K c c) (D : Fin c → K)
    (hAV : matMul A V = matMul V (diagM D)) (j : Fin c) :
    mulVec A (fun i => V i j) = fun i => D j * V i j := by
  funext i
  -- entry `i j` of `A V = V diag(D)`
  have e : toM (matMul V (diagM D)) i j = V i j * D j := by
    rw [toM_matMul, toM_diagM]
    exact Matrix.mul_diagonal D (toM V) i j
  exact (congrFun (congrFun hAV i) j).trans (e.trans (mul_comm _ _))

theorem selectPairs_eigenpairs {K : Type} [CommRing K] {c : Nat} (A V : Mat K c c) (D : Fin c → K)
    (hAV : matMul A V = matMul V (diagM D)) (idx : List Nat) (hlt : ∀ j ∈ idx, j < c) :
    ∃ pairs, selectPairs V D idx = .ok pairs ∧
      List.Forall₂ (fun pr j => ∃ hj : j < c, pr = ((fun i => V i ⟨j, hj⟩), D ⟨j, hj⟩)) pairs idx ∧
      ∀ pr ∈ pairs, mulVec A pr.1 = fun i => pr.2 * pr.1 i := by
  obtain ⟨pairs, hpairs, hf⟩ := selectPairs_spec V D idx hlt
  refine ⟨pairs, hpairs, hf, ?_⟩
  clear hpairs hlt
  induction hf with
  | nil => exact fun _ h => absurd h List.not_mem_nil
  | cons hab _ ih =>
    obtain ⟨hj, rfl⟩ := hab
    exact List.forall_mem_cons.mpr ⟨mulVec_col_of_eig A V D hAV ⟨_, hj⟩, ih⟩

theorem lrsvIdx_append (c n : Nat) : (lrsvIdx c n).1 ++ (lrsvIdx c n).2 = (List.range c).reverse :=
  List.take_append_drop n _

theorem lrsvIdx_length (c n : Nat) : (lrsvIdx c n).1.length = min n c := by
  rw [lrsvIdx, List.length_take, lrsvOrder, List.length_reverse, List.length_range]

theorem mem_lrsvIdx_lt {c n j : Nat} (hj : j ∈ (lrsvIdx c n).1 ∨ j ∈ (lrsvIdx c n).2) : j < c :=
  List.mem_range.mp (List.mem_reverse.mp (lrsvIdx_append c n ▸ List.mem_append.mpr hj))

theorem lrsvIdx_least (sig : Nat → β) (c n : Nat)
    (hs : ∀ a b, a ≤ b → b < c → sig b ≤ sig a) :
    ∀ a ∈ (lrsvIdx c n).1, ∀ b ∈ (lrsvIdx c n).2, sig a ≤ sig b := fun a ha b hb =>
  hs b a (rel_take_drop (List.pairwise_reverse.mpr List.pairwise_lt_range) n a ha b hb).le (mem_lrsvIdx_lt (.inl ha))

theorem pick_eq_map {α : Type} (S : List α) (f : Nat → α) :
    ∀ idx : List Nat, (∀ j ∈ idx, S[j]? = some (f j)) → pick S idx = .ok (idx.map f) := by
  intro idx h
  induction idx with
  | nil => rfl
  | cons j js ih =>
    obtain ⟨hj, hjs⟩ := List.forall_mem_cons.mp h
    rw [pick, hj, ih hjs]
    rfl

theorem padS_getElem? {α : Type} [Zero α] (S : List α) (c j : Nat) (hj : j < c) :
    (padS S c)[j]? = some (if h : j < S.length then S[j] else 0) := by
  by_cases h : j < S.length
  · rw [padS, List.getElem?_append_left h, dif_pos h, List.getElem?_eq_getElem h]
  · rw [padS, List.getElem?_append_right (Nat.le_of_not_lt h), dif_neg h, List.getElem?_replicate,
      if_pos (Nat.sub_lt_sub_right (Nat.le_of_not_lt h) hj)]

section Gpcm
variable {K : Type} [CommRing K] {m c : Nat}

theorem sum_eq_dite_of_ne {N : Nat} (a : Nat) (f : Fin N → K) (hf : ∀ b : Fin N, a ≠ b.val → f b = 0) :
    ∑ b, f b = if h : a < N then f ⟨a, h⟩ else 0 := by
  split_ifs with h
  · exact Finset.sum_eq_single_of_mem _ (Finset.mem_univ _) fun b _ hb => hf b fun e => hb (Fin.ext e.symm)
  · exact Finset.sum_eq_zero fun b _ => hf b fun e => h (e ▸ b.isLt)

/-- entry `(a, j)` of the inner product `newS · V_H[:p, :k]` of the model and of `Σ_k Vᴴ`: both sums have their
    only term at `b = a`, present when `a < min m c` -/
theorem gpcm_inner_eq_trunc (S : Fin (min m c) → K) (VH : Mat K c c) (k : Nat) (hk : k ≤ c)
    (a : Fin m) (j : Fin k) :
    (∑ b : Fin (min m c), (if a.val = b.val ∧ a.val < k then S b else 0) *
        VH ⟨b.val, Nat.lt_of_lt_of_le b.isLt (Nat.min_le_right m c)⟩ ⟨j.val, Nat.lt_of_lt_of_le j.isLt hk⟩)
      = ∑ b : Fin c, sigmaMat (m := m) (fun b => if b.val < k then S b else 0) a b *
          VH b ⟨j.val, Nat.lt_of_lt_of_le j.isLt hk⟩ := by
  rw [sum_eq_dite_of_ne a.val _ fun b hb => by rw [if_neg fun h => hb h.1, zero_mul],
    sum_eq_dite_of_ne a.val _ fun b hb => by rw [sigmaMat, dif_neg hb, zero_mul]]
  by_cases h : a.val < c
  · rw [dif_pos h, dif_pos (Nat.lt_min.mpr ⟨a.isLt, h⟩), sigmaMat, dif_pos rfl]
    simp only [true_and]
  · rw [dif_neg h, dif_neg fun h' => h (Nat.lt_of_lt_of_le h' (Nat.min_le_right m c))]

end Gpcm

end Pf
end PyPhysim.LinAlg
