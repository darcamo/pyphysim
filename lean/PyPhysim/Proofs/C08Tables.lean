import PyPhysim.Proofs.C08Gen
/-!
C08 — the regenerated effect tables against the model, by evaluation.  Kept apart from
`Proofs/C08Gen`, which must still compile when the tables have changed (the harness then uses its
checkers to say which comparison fails).
-/
namespace PyPhysim.C08
open PyPhysim.CacheEffects

/-- All comparisons of the regenerated tables with the model, as one kernel evaluation: the attribute
    names are decoded once instead of once per comparison.  `norm` sorts with `<` on strings, which is
    dear in the kernel, so it is removed first: comparing normal forms is mutual inclusion. -/
theorem generated_tables_check :
    ((Generated.C08Effects.rows.all rowMatches && entryPointsPresent Generated.C08Effects.rows)
      && (initMatches Generated.C08Effects.initAttrs
          && mentionsOnlyInit Generated.C08Effects.initAttrs Generated.C08Effects.rows)
      && fillsMatch Generated.C08Effects.fillReads
      && sufficient (depsOf Generated.C08Effects.fillReads) Generated.C08Effects.rows) = true := by
  unfold rowMatches initMatches expectedInit fillsMatch lazyAttrs attrsOf
  simp only [List.map_map, List.all_map, Function.comp_def, List.map_id', norm_beq_norm, all_norm,
    contains_norm]
  decide +kernel

end PyPhysim.C08
