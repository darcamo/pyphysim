import Mathlib.LinearAlgebra.Matrix.PosDef
import Mathlib.Analysis.Complex.Order
import PyPhysim.Proofs.C11Sinr

/-!
What the theorems about the interference covariance matrices `calc_Q` / `calc_JP_Q` report are put together from:
the loop of `_calc_Q_impl` as the sum of the interfering links' covariances (`toM_qImpl`; external interference and
noise are added to it in `Q_is_sum_of_link_covariances` of `Properties/C11.lean`), that sum positive semidefinite,
real multiples of Hermitian / positive semidefinite matrices, and noise variances told apart by `chQ`.
-/
namespace PyPhysim.Sinr.Pf
open Matrix PyPhysim.Sinr PyPhysim.Sinr.Spec
open scoped ComplexOrder

variable {K n : Nat} {T S : Fin K → Nat}

theorem real_smul_herm (c : ℝ) {M : Matrix (Fin n) (Fin n) ℂ} (hM : M.IsHermitian) : ((c : ℂ) • M).IsHermitian :=
  hM.smul (Complex.conj_ofReal c)

theorem real_smul_psd {c : ℝ} (hc : 0 ≤ c) {M : Matrix (Fin n) (Fin n) ℂ} (hM : M.PosSemidef) :
    ((c : ℂ) • M).PosSemidef :=
  hM.smul (Complex.zero_le_real.mpr hc)

theorem cT_eq_of_herm {Q : Mat ℂ n n} {M : Matrix (Fin n) (Fin n) ℂ} (hQ : toM Q = M) (hM : M.IsHermitian) :
    cT Q = Q :=
  toM_inj (by rw [toM_cT, hQ, hM.eq])

section receiver
variable (G : (j : Fin K) → Mat ℂ n (T j)) (V : (j : Fin K) → Mat ℂ (T j) (S j)) (k : Fin K)

theorem toM_qImpl : toM (qImpl G V k) = ∑ j ∈ Finset.univ.erase k, linkCov (G j) (V j) := by
  -- the skipped user contributes the zero matrix
  rw [qImpl, toM_sumMat, ← Finset.sum_erase Finset.univ (a := k) (by rw [if_pos rfl, toM_zeroM])]
  refine Finset.sum_congr rfl (fun j hj => ?_)
  rw [if_neg (Finset.ne_of_mem_erase hj), toM_covTermS]

theorem sumLinks_psd : (∑ j ∈ Finset.univ.erase k, linkCov (G j) (V j)).PosSemidef :=
  posSemidef_sum _ (fun _ _ => posSemidef_self_mul_conjTranspose _)

theorem chQ_noise_injective (σ σ' : ℝ) (hn : 0 < n) (hne : σ ≠ σ') :
    (chQ G V k (some σ) : Mat ℂ n n) ≠ chQ G V k (some σ') := by
  intro h
  have h1 := congrFun (congrFun h ⟨0, hn⟩) ⟨0, hn⟩
  simp only [chQ, madd, noiseCov, smul, eye, RC.ofReal, if_true, mul_one, add_right_inj] at h1
  exact hne (Complex.ofReal_injective h1)

end receiver

end PyPhysim.Sinr.Pf
