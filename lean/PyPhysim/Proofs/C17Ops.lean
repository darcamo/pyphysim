import PyPhysim.Proofs.C17Classes
/-!
Helper lemmas for C17: how `lookup` and `setKV` act on one another, and that the mutators of parameter objects
(`add` / `[]=` / `remove` / `set_unpack_parameter`) applied to a child or to its original after unpacking
keep the chain inside what the round trip covers (`wfChain_applyOps`).
-/
namespace PyPhysim.C17

theorem lookup_setKV_self (k : String) (v : PyVal) (kvs : List (String × PyVal)) :
    lookup k (setKV k v kvs) = some v := by
  fun_induction setKV k v kvs with
  | case1 => exact if_pos (beq_self_eq_true k)
  | case2 k' v' r h => exact if_pos h
  | case3 k' v' r h ih => exact (if_neg h).trans ih

theorem lookup_setKV_other (k k2 : String) (v : PyVal) (hne : (k == k2) = false)
    (kvs : List (String × PyVal)) : lookup k2 (setKV k v kvs) = lookup k2 kvs := by
  fun_induction setKV k v kvs with
  | case1 => exact if_neg (ne_true_of_eq_false hne)
  | case2 k' v' r h =>
    have hk : ¬ (k' == k2) = true := ne_true_of_eq_false (eq_of_beq h ▸ hne)
    exact (if_neg hk).trans (if_neg hk).symm
  | case3 k' v' r h ih => rw [lookup, lookup, ih]

theorem setKV_setKV (k : String) (v1 v2 : PyVal) (kvs : List (String × PyVal)) :
    setKV k v2 (setKV k v1 kvs) = setKV k v2 kvs := by
  fun_induction setKV k v1 kvs with
  | case1 => exact if_pos (beq_self_eq_true k)
  | case2 k' v' r h => exact (if_pos h).trans (if_pos h).symm
  | case3 k' v' r h ih => rw [setKV, if_neg h, ih, setKV, if_neg h]

theorem foldl_setKV_last (k : String) (v : PyVal) :
    ∀ (vs : List PyVal) (kvs : List (String × PyVal)),
      (vs ++ [v]).foldl (fun acc x => setKV k x acc) kvs = setKV k v kvs := by
  intro vs
  induction vs with
  | nil => exact fun _ => rfl
  | cons v0 vs ih => exact fun kvs => (ih (setKV k v0 kvs)).trans (setKV_setKV k v0 v kvs)

theorem wfKVs_setKV (k : String) (v : PyVal) (hk : reserved k = false) (hv : wf v = true)
    (kvs : List (String × PyVal)) (h : wfKVs kvs = true) : wfKVs (setKV k v kvs) = true := by
  fun_induction setKV k v kvs with
  | case1 => rw [wfKVs, hk, hv]; rfl
  | case2 k' v' r _ =>
    rw [wfKVs, Bool.and_eq_true, Bool.and_eq_true] at h ⊢
    exact ⟨⟨h.1.1, hv⟩, h.2⟩
  | case3 k' v' r _ ih =>
    rw [wfKVs, Bool.and_eq_true] at h ⊢
    exact ⟨h.1, ih h.2⟩

theorem wfKVs_removeKV (k : String) (kvs : List (String × PyVal)) (h : wfKVs kvs = true) :
    wfKVs (removeKV k kvs) = true := by
  fun_induction removeKV k kvs with
  | case1 => rfl
  | case2 k' v' r _ ih =>
    rw [wfKVs, Bool.and_eq_true] at h
    exact ih h.2
  | case3 k' v' r _ ih =>
    rw [wfKVs, Bool.and_eq_true] at h ⊢
    exact ⟨h.1, ih h.2⟩

theorem pairwiseDistinct_strVals (xs : List String) : pairwiseDistinct (strVals xs) = true ↔ xs.Nodup := by
  rw [pairwiseDistinct_iff, strVals, List.pairwise_map]
  -- `pyEq (.str a) (.str b)` computes to `a == b`
  exact List.Pairwise.iff fun _ _ => beq_eq_false_iff_ne

/-- the operations whose arguments are supported values under non-reserved names -/
def opOk : POp → Prop
  | .set k v => reserved k = false ∧ wf v = true
  | _ => True

theorem wfNode_apply {n n' : Node} {op : POp} (hn : wfNode n = true) (hop : opOk op)
    (h : n.apply op = .ok n') : wfNode n' = true := by
  rw [wfNode, Bool.and_eq_true, pairwiseDistinct_strVals] at hn ⊢
  obtain ⟨hp, hu⟩ := hn
  revert h
  -- of the ten branches of `Node.apply`, the four that end in `.ok` remain
  fun_cases Node.apply n op <;> intro h <;> cases h
  · exact ⟨wfKVs_setKV _ _ hop.1 hop.2 _ hp, hu⟩
  · exact ⟨wfKVs_removeKV _ _ hp, hu.filter _⟩
  · -- `mark k`: `k` joins the unpacked names unless it is one already
    refine ⟨hp, ?_⟩
    split
    · exact hu
    · next hc =>
      exact List.nodup_append.2 ⟨hu, List.pairwise_singleton _ _,
        fun a ha b hb e => hc (List.contains_iff_mem.2 (List.mem_singleton.1 hb ▸ e ▸ ha))⟩
  · exact ⟨hp, hu.filter _⟩

theorem wfChain_applyAt : ∀ (c c' : Chain) (l : Nat) (op : POp), wfChain c = true → opOk op →
    applyAt c l op = .ok c' → wfChain c' = true ∧ c'.length = c.length := by
  intro c c' l op hw ho h
  fun_induction applyAt c l op generalizing c' with
  | case1 => cases h
  | case2 n rest op =>
    obtain ⟨n', hn, h⟩ := bind_eq_ok.1 h
    cases h
    rw [wfChain_cons] at hw ⊢
    exact ⟨⟨wfNode_apply hw.1 ho hn, hw.2⟩, rfl⟩
  | case3 n rest l op ih =>
    obtain ⟨rest', hr, h⟩ := bind_eq_ok.1 h
    cases h
    rw [wfChain_cons] at hw ⊢
    obtain ⟨h1, h2⟩ := ih rest' hw.2 ho hr
    exact ⟨⟨hw.1, h1⟩, congrArg (· + 1) h2⟩

theorem wfChain_applyOps : ∀ (ops : List (Nat × POp)) (c c' : Chain), wfChain c = true →
    (∀ p ∈ ops, opOk p.2) → applyOps c ops = .ok c' → wfChain c' = true ∧ c'.length = c.length := by
  intro ops c c' hw ho h
  induction ops generalizing c with
  | nil => cases h; exact ⟨hw, rfl⟩
  | cons p ops ih =>
    obtain ⟨c1, h1, h⟩ := bind_eq_ok.1 h
    obtain ⟨hw1, hl1⟩ := wfChain_applyAt c c1 p.1 p.2 hw (ho p List.mem_cons_self) h1
    obtain ⟨hw2, hl2⟩ := ih c1 hw1 (fun q hq => ho q (List.mem_cons_of_mem p hq)) h
    exact ⟨hw2, hl2.trans hl1⟩

end PyPhysim.C17
