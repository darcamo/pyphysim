import Mathlib.LinearAlgebra.Matrix.Rank
import Mathlib.LinearAlgebra.Matrix.Hermitian
import Mathlib.Analysis.Matrix.Spectrum
import Mathlib.Analysis.Matrix.PosDef
import Mathlib.Order.Interval.Finset.Fin
import PyPhysim.Proofs.C09Power

/-!
The rank-counting argument behind "enough streams are sacrificed".

`R = pe·E Eᴴ + σ²·1` is the covariance of external interference plus noise at a receiver with `N`
antennas, `E` the `N × r` interference channel.  Only this is used of it: `R = B + c·1` with `B` positive
semidefinite of rank at most `rank E`, and `B P = 0 ↔ Eᴴ P = 0`.  For a positive semidefinite matrix ANY
factorisation `U·diag(S)·V_H` with unitary factors and `S ≥ 0` is an eigendecomposition: the right singular
vectors are eigenvectors, the singular values their eigenvalues (`IsSVD.mul_right_vector`).  So the right singular
vectors are eigenvectors of `B = R − c·1` for `S − c` (`IsSVD.floor_mul_apply`: `B` annihilates those whose
singular value is `c`), and `V_H` diagonalises `B` to `S − c` (`IsSVD.floor_spectrum`): that matrix is positive
semidefinite (no `S i` is below `c`) and has the rank of `B` (exactly `rank B` of the `S i` differ from `c`, so the
last `N − rank B` of a decreasing `S` equal `c`: `IsSVD.least_eq_floor`).

Around it: `n` orthonormal columns that `Eᴴ` annihilates exist exactly when `n + rank E ≤ N`
(`rank_room_of_orthonormal_ker`; `exists_orthonormal_ker` through `exists_sorted_svd`, which also shows the SVD contract
satisfiable), the instance `B = pe·E Eᴴ` on the model's `covExtInt` (`isSVD_toM_iff`, `posSemidef_extInt`,
`rank_extInt_le`, `covExtInt_single`), and the test vectors of namespace `Ex3`.
-/
namespace PyPhysim.BD
namespace Pf
open Matrix
open scoped ComplexOrder

section rank
variable {N n r : Nat}

theorem finrank_ker_conjTranspose (E : Matrix (Fin N) (Fin r) ℂ) :
    Module.finrank ℂ (LinearMap.ker Eᴴ.mulVecLin) + E.rank = N := by
  rw [← rank_conjTranspose E, add_comm]
  exact (LinearMap.finrank_range_add_finrank_ker Eᴴ.mulVecLin).trans (Module.finrank_fin_fun ℂ)

theorem rank_room_of_orthonormal_ker (E : Mat ℂ N r) (P : Mat ℂ N n)
    (h1 : matMul (cT P) P = eye) (h2 : matMul (cT E) P = fun _ _ => 0) : n + (toM E).rank ≤ N := by
  rw [matMul_eq_eye_iff, toM_cT] at h1
  rw [matMul_eq_zero_iff, toM_cT] at h2
  have hrank : (toM P).rank = n := by
    rw [← rank_conjTranspose_mul_self, h1, rank_one, Fintype.card_fin]
  have h := rank_add_rank_le_card_of_mul_eq_zero h2
  rwa [rank_conjTranspose, hrank, Fintype.card_fin, add_comm] at h

section floor

/-- what `np.linalg.svd` promises for a square matrix: `R = U·diag(S)·V_H`, `Uᴴ U = 1`, `V_H V_Hᴴ = 1` -/
structure IsSVD (R U : Matrix (Fin N) (Fin N) ℂ) (S : Fin N → ℝ) (VH : Matrix (Fin N) (Fin N) ℂ) : Prop where
  eq : R = U * diagonal (fun i => (S i : ℂ)) * VH
  left : Uᴴ * U = 1
  right : VH * VHᴴ = 1

variable {R B U VH : Matrix (Fin N) (Fin N) ℂ} {S : Fin N → ℝ} {c : ℝ}

theorem posSemidef_ofReal_smul (hB : B.PosSemidef) (hc : 0 ≤ c) : ((c : ℂ) • B).PosSemidef :=
  hB.smul (Complex.zero_le_real.mpr hc)

theorem posSemidef_add_smul_one (hB : B.PosSemidef) (hc : 0 ≤ c) : (B + (c : ℂ) • 1).PosSemidef :=
  hB.add (posSemidef_ofReal_smul .one hc)

theorem IsSVD.mul_right_vector (h : IsSVD R U S VH) (hR : R.PosSemidef) {i : Fin N} (hi : 0 ≤ S i) (j : Fin N) :
    (R * VHᴴ) j i = VHᴴ j i * (S i : ℂ) := by
  have hD : (diagonal fun i => (S i : ℂ))ᴴ = diagonal fun i => (S i : ℂ) := by
    rw [diagonal_conjTranspose]; exact congrArg diagonal (funext fun i => Complex.conj_ofReal _)
  have hRV : R * VHᴴ = U * diagonal (fun i => (S i : ℂ)) := by
    rw [h.eq, Matrix.mul_assoc, h.right, Matrix.mul_one]
  have hRU : R * U = VHᴴ * diagonal (fun i => (S i : ℂ)) := by
    rw [← hR.1.eq, h.eq, conjTranspose_mul, conjTranspose_mul, hD, Matrix.mul_assoc, Matrix.mul_assoc, h.left,
      Matrix.mul_one]
  -- with `W = U − V`: `R W = −W Σ`, so `wᵢᴴ R wᵢ = −sᵢ ‖wᵢ‖²`; the left side is `≥ 0`, hence `sᵢ wᵢ = 0`:
  -- column `i` of `U Σ` is column `i` of `V Σ`
  have hW : R * (U - VHᴴ) = -((U - VHᴴ) * diagonal (fun i => (S i : ℂ))) := by
    rw [Matrix.mul_sub, hRU, hRV, Matrix.sub_mul, neg_sub]
  have hdiag : ((U - VHᴴ)ᴴ * (U - VHᴴ)) i i * (S i : ℂ) = 0 := by
    have h1 := (hR.conjTranspose_mul_mul_same (U - VHᴴ)).diag_nonneg (i := i)
    have h2 := (posSemidef_conjTranspose_mul_self (U - VHᴴ)).diag_nonneg (i := i)
    rw [Matrix.mul_assoc, hW, Matrix.mul_neg, ← Matrix.mul_assoc, neg_apply, mul_diagonal] at h1
    exact le_antisymm (neg_nonneg.mp h1) (mul_nonneg h2 (Complex.zero_le_real.mpr hi))
  rw [hRV, mul_diagonal, ← sub_eq_zero, ← sub_mul]
  rcases mul_eq_zero.mp hdiag with h0 | h0
  · have hcol : (fun j => (U - VHᴴ) j i) = 0 := dotProduct_star_self_eq_zero.mp h0
    exact mul_eq_zero_of_left (congrFun hcol j) _
  · rw [h0, mul_zero]

theorem IsSVD.floor_mul_apply (h : IsSVD (B + (c : ℂ) • 1) U S VH) (hB : B.PosSemidef) (hc : 0 ≤ c)
    {i : Fin N} (hi : 0 ≤ S i) (j : Fin N) : (B * VHᴴ) j i = VHᴴ j i * ((S i : ℂ) - c) := by
  have := h.mul_right_vector (posSemidef_add_smul_one hB hc) hi j
  rw [Matrix.add_mul, Matrix.smul_mul, Matrix.one_mul, Matrix.add_apply, Matrix.smul_apply, smul_eq_mul] at this
  rw [mul_sub, ← this, mul_comm, add_sub_cancel_right]

/-- `V_H` diagonalises `B` to `S − c`.  That matrix is positive semidefinite, so no singular value of `B + c·1`
    is below `c`; it has the rank of `B`, so exactly `rank B` of them differ from `c`. -/
theorem IsSVD.floor_spectrum (h : IsSVD (B + (c : ℂ) • 1) U S VH) (hB : B.PosSemidef) (hc : 0 ≤ c)
    (hS : ∀ i, 0 ≤ S i) : (∀ i, c ≤ S i) ∧ (Finset.univ.filter (fun i => S i ≠ c)).card = B.rank := by
  have hBV : B * VHᴴ = VHᴴ * diagonal (fun i => (S i : ℂ) - c) := by
    ext j i
    rw [mul_diagonal]
    exact h.floor_mul_apply hB hc (hS i) j
  have hD : VH * B * VHᴴ = diagonal (fun i => (S i : ℂ) - c) := by
    rw [Matrix.mul_assoc, hBV, ← Matrix.mul_assoc, h.right, Matrix.one_mul]
  refine ⟨fun i => ?_, ?_⟩
  · have := (hB.mul_mul_conjTranspose_same VH).diag_nonneg (i := i)
    rwa [hD, diagonal_apply_eq, sub_nonneg, Complex.real_le_real] at this
  · rw [← rank_mul_eq_right_of_isUnit_det _ _ (isUnit_det_of_right_inverse h.right),
      ← rank_mul_eq_left_of_isUnit_det _ _ (isUnit_det_of_left_inverse h.right), hD, rank_diagonal,
      Fintype.card_subtype]
    simp only [ne_eq, sub_eq_zero, Complex.ofReal_inj]

/-- the rank-counting step: were the `j`-th smallest singular value above `c`, so would be the
    `N − j > rank B` values before it -/
theorem IsSVD.least_eq_floor (h : IsSVD (B + (c : ℂ) • 1) U S VH) (hB : B.PosSemidef) (hc : 0 ≤ c)
    (hS : ∀ i, 0 ≤ S i) (hsort : ∀ i j : Fin N, i ≤ j → S j ≤ S i) (hn : n ≤ N) (hrank : n + B.rank ≤ N)
    (j : Fin n) : S (revIdx hn j) = c := by
  obtain ⟨hle, hrk⟩ := h.floor_spectrum hB hc hS
  by_contra hne
  have hsub : Finset.Iic (revIdx hn j) ⊆ Finset.univ.filter (fun i => S i ≠ c) := fun i hi => by
    rw [Finset.mem_Iic] at hi
    rw [Finset.mem_filter]
    exact ⟨Finset.mem_univ i, fun hi' => hne (le_antisymm (hi' ▸ hsort i _ hi) (hle _))⟩
  have hcard := Finset.card_le_card hsub
  rw [hrk, Fin.card_Iic] at hcard
  have hval : (revIdx hn j).val = N - 1 - j.val := rfl
  have hj := j.isLt
  omega

/-- the whole SVD contract is satisfiable: the spectral decomposition, eigenvalues in decreasing order -/
theorem exists_sorted_svd (hR : R.PosSemidef) :
    ∃ (U : Matrix (Fin N) (Fin N) ℂ) (S : Fin N → ℝ), IsSVD R U S Uᴴ ∧ (∀ i, 0 ≤ S i) ∧
      ∀ i j : Fin N, i ≤ j → S j ≤ S i := by
  classical
  have hA := hR.1
  -- `eigenvalues` is `eigenvalues₀` (sorted) read through `e`; `σ` undoes that
  let e : Fin (Fintype.card (Fin N)) ≃ Fin N := Fintype.equivOfCardEq (Fintype.card_fin _)
  let σ : Fin N ≃ Fin N := (finCongr (Fintype.card_fin N).symm).trans e
  have hUσ := submatrix_orthonormal (Unitary.coe_star_mul_self hA.eigenvectorUnitary) σ.injective
  refine ⟨(hA.eigenvectorUnitary : Matrix (Fin N) (Fin N) ℂ).submatrix id σ, fun i => hA.eigenvalues (σ i),
    ⟨?_, hUσ, by rwa [conjTranspose_conjTranspose]⟩, fun i => hR.eigenvalues_nonneg _, fun i j hij => ?_⟩
  · have hd : diagonal (fun i => ((hA.eigenvalues (σ i) : ℝ) : ℂ))
        = (diagonal (RCLike.ofReal ∘ hA.eigenvalues)).submatrix σ σ :=
      (submatrix_diagonal_equiv (RCLike.ofReal ∘ hA.eigenvalues) σ).symm
    rw [conjTranspose_submatrix, hd, submatrix_mul_equiv, submatrix_mul_equiv, submatrix_id_id]
    exact hA.spectral_theorem
  · show hA.eigenvalues₀ (e.symm (σ j)) ≤ hA.eigenvalues₀ (e.symm (σ i))
    simp only [σ, Equiv.trans_apply, Equiv.symm_apply_apply]
    exact hA.eigenvalues₀_antitone hij

end floor

/-- `P`: the `n` least right singular vectors of `E Eᴴ + 1` -/
theorem exists_orthonormal_ker (E : Mat ℂ N r) (hn : n + (toM E).rank ≤ N) :
    ∃ P : Mat ℂ N n, matMul (cT P) P = eye ∧ matMul (cT E) P = fun _ _ => 0 := by
  have hB := posSemidef_self_mul_conjTranspose (toM E)
  obtain ⟨U, S, h, hS0, hsort⟩ := exists_sorted_svd (posSemidef_add_smul_one hB zero_le_one)
  have hnN : n ≤ N := le_trans (Nat.le_add_right _ _) hn
  have hS := h.least_eq_floor hB zero_le_one hS0 hsort hnN (by rwa [rank_self_mul_conjTranspose])
  refine ⟨_, matMul_eq_eye_iff.mpr (submatrix_orthonormal h.left (revIdx_injective hnN)),
    matMul_eq_zero_iff.mpr ((self_mul_conjTranspose_mul_eq_zero _ _).mp ?_)⟩
  -- `E Eᴴ` annihilates the right singular vectors whose singular value is the floor `1`
  ext j k
  have := h.floor_mul_apply hB zero_le_one (hS0 (revIdx hnN k)) j
  rw [hS k, sub_self, mul_zero, conjTranspose_conjTranspose] at this
  exact this

theorem posSemidef_extInt (pe : ℝ) (hpe : 0 ≤ pe) (E : Matrix (Fin N) (Fin r) ℂ) :
    PosSemidef ((pe : ℂ) • (E * Eᴴ)) :=
  posSemidef_ofReal_smul (posSemidef_self_mul_conjTranspose E) hpe

theorem rank_extInt_le (pe : ℂ) (E : Matrix (Fin N) (Fin r) ℂ) : rank (pe • (E * Eᴴ)) ≤ rank E := by
  rw [← Matrix.mul_smul]
  exact rank_mul_le_left _ _

theorem le_sub_rank_iff (E : Mat ℂ N r) : n ≤ N - (toM E).rank ↔ n + (toM E).rank ≤ N :=
  Nat.le_sub_iff_add_le ((rank_le_card_height (toM E)).trans_eq (Fintype.card_fin N))

theorem isSVD_toM_iff {pe nv : ℝ} {E : Mat ℂ N r} {U VH : Mat ℂ N N} {S : Fin N → ℝ} :
    IsSVD ((pe : ℂ) • (toM E * (toM E)ᴴ) + (nv : ℂ) • 1) (toM U) S (toM VH) ↔
      covExtInt pe nv E = matMul (matMul U (diagM (fun i => Cx.ofReal (S i)))) VH ∧
      matMul (cT U) U = eye ∧ matMul VH (cT VH) = eye := by
  rw [matMul_eq_eye_iff, matMul_eq_eye_iff, ← toM_eq_iff, toM_covExtInt, toM_matMul, toM_matMul, toM_diagM]
  exact ⟨fun h => ⟨h.eq, h.left, h.right⟩, fun h => ⟨h.1, h.2.1, h.2.2⟩⟩

theorem covExtInt_single (pe nv : ℝ) (a : Fin N) (z : ℂ) :
    covExtInt pe nv (fun (i : Fin N) (_ : Fin 1) => if i.val = a.val then z else 0) =
      diagM (fun i : Fin N => Cx.ofReal (if i.val = a.val then Complex.normSq z * pe + nv else nv)) := by
  funext i j
  simp only [covExtInt, matMul_apply, Fin.sum_univ_one, cT, eye, diagM, Fin.val_inj]
  show (pe : ℂ) * ((if i = a then z else 0) * star (if j = a then z else 0)) + (if i = j then 1 else 0) * (nv : ℂ) =
    if i = j then ((if i = a then Complex.normSq z * pe + nv else nv : ℝ) : ℂ) else 0
  by_cases hij : i = j
  · subst hij
    by_cases hi : i = a
    · rw [if_pos hi, if_pos rfl, if_pos hi, if_pos rfl, Complex.star_def, Complex.mul_conj]
      push_cast
      ring
    · rw [if_neg hi, if_pos rfl, if_neg hi, if_pos rfl, zero_mul, mul_zero, zero_add, one_mul]
  · rw [if_neg hij, if_neg hij, zero_mul, add_zero]
    by_cases hi : i = a
    · rw [if_neg (show ¬j = a from fun hj => hij (hi.trans hj.symm)), star_zero, mul_zero, mul_zero]
    · rw [if_neg hi, zero_mul, mul_zero]

namespace Ex3

theorem ite_floor_nonneg {pe nv : ℝ} (p : Prop) [Decidable p] (hpe : 0 ≤ pe) (hnv : 0 ≤ nv) :
    0 ≤ if p then 4 * pe + nv else nv := by
  split
  exacts [add_nonneg (mul_nonneg (by norm_num) hpe) hnv, hnv]

noncomputable def E : Mat ℂ 3 1 := fun i _ => if i.val = 0 then ⟨0, 2⟩ else 0
/-- singular values of `Re = diag(4·pe + σ², σ², σ²)` -/
def S (pe nv : ℝ) : Fin 3 → ℝ := fun i => if i.val = 0 then 4 * pe + nv else nv

theorem two_le_three_sub_rank_col (E : Mat ℂ 3 1) : 2 ≤ 3 - (toM E).rank := by have := rank_le_width (toM E); omega

theorem two_streams : 2 ≤ 3 - (toM E).rank := two_le_three_sub_rank_col E

theorem svd_single (pe nv : ℝ) (a : Fin 3) :
    covExtInt pe nv (fun (i : Fin 3) (_ : Fin 1) => if i.val = a.val then (⟨0, 2⟩ : ℂ) else 0) =
      matMul (matMul (eye : Mat ℂ 3 3)
        (diagM (fun i => Cx.ofReal (if i.val = a.val then 4 * pe + nv else nv)))) eye := by
  rw [matMul_eye, eye_matMul]
  refine (covExtInt_single pe nv a ⟨0, 2⟩).trans ?_
  norm_num [Complex.normSq_mk]

theorem svd (pe nv : ℝ) :
    covExtInt pe nv E = matMul (matMul (eye : Mat ℂ 3 3) (diagM (fun i => Cx.ofReal (S pe nv i)))) eye :=
  svd_single pe nv 0

theorem unitary : matMul (cT (eye : Mat ℂ 3 3)) eye = eye ∧ matMul (eye : Mat ℂ 3 3) (cT eye) = eye := by
  rw [cT_eye, matMul_eye]
  exact ⟨rfl, rfl⟩

theorem S_nonneg (pe nv : ℝ) (hpe : 0 ≤ pe) (hnv : 0 ≤ nv) (i : Fin 3) : 0 ≤ S pe nv i :=
  ite_floor_nonneg _ hpe hnv

theorem S_sorted (pe nv : ℝ) (hpe : 0 ≤ pe) (i j : Fin 3) (hij : i ≤ j) : S pe nv j ≤ S pe nv i := by
  have : i.val ≤ j.val := hij
  unfold S
  by_cases hi : i.val = 0
  · rw [if_pos hi]
    split
    exacts [le_refl _, le_add_of_nonneg_left (mul_nonneg (by norm_num) hpe)]
  · rw [if_neg hi, if_neg (by omega)]

/-! the same receiver with the interferer on the LAST antenna and the singular values listed in
    increasing order: everything but the ordering clause of the SVD contract holds -/
noncomputable def E' : Mat ℂ 3 1 := fun i _ => if i.val = 2 then ⟨0, 2⟩ else 0
def S' (pe nv : ℝ) : Fin 3 → ℝ := fun i => if i.val = 2 then 4 * pe + nv else nv

theorem S'_last (pe nv : ℝ) (hpe : 0 < pe) : S' pe nv (revIdx (by norm_num : 2 ≤ 3) (0 : Fin 2)) ≠ nv := by
  show (if (3 - 1 - 0 : ℕ) = 2 then 4 * pe + nv else nv) ≠ nv
  rw [if_pos rfl]
  exact (lt_add_of_pos_left nv (mul_pos four_pos hpe)).ne'

end Ex3

end rank
end Pf
end PyPhysim.BD
