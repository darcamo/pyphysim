import PyPhysim.Model.CallsC16

/-!
# C16 — the call machine of `Model/CallsC16.lean` (robustness class R16: argument identity / buffer reuse)

A run is a fold of `step`; a step never touches the results already handed out, so a run only appends.
-/
namespace PyPhysim.C16

variable {α : Type} [Sub α] [Mul α] [NatCast α]

theorem run_cons (m : Curves α) (st : St α) (o : Op α) (os : List (Op α)) :
    run m st (o :: os) = run m (step m st o) os :=
  rfl

theorem run_append (m : Curves α) (st : St α) (o₁ o₂ : List (Op α)) :
    run m st (o₁ ++ o₂) = run m (run m st o₁) o₂ :=
  List.foldl_append

theorem step_results_extend (m : Curves α) (st : St α) (o : Op α) : ∃ more, (step m st o).2 = st.2 ++ more := by
  obtain ⟨buf, outs⟩ := st
  cases o with
  | refill v => exact ⟨[], (List.append_nil outs).symm⟩
  | call c => exact ⟨[evalCall m c buf], rfl⟩

theorem run_results_extend (m : Curves α) (ops : List (Op α)) :
    ∀ st : St α, ∃ more, (run m st ops).2 = st.2 ++ more := by
  induction ops with
  | nil => exact fun st => ⟨[], (List.append_nil st.2).symm⟩
  | cons o os ih =>
    intro st
    obtain ⟨a, ha⟩ := step_results_extend m st o
    obtain ⟨b, hb⟩ := ih (step m st o)
    exact ⟨a ++ b, by rw [run_cons, hb, ha, List.append_assoc]⟩

end PyPhysim.C16
