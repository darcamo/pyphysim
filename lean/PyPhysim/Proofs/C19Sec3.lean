import PyPhysim.Proofs.C19Hex

/-! C19 — the twelve outer vertices of the 3-sector cell (`Cell3Sec._get_vertex_positions`). -/
namespace PyPhysim.C19

/-- radii `R, R/√3, R, 2R/√3` repeating, at angles `-120° + 30°k` (`E (8+k)`) -/
noncomputable def sec3Explicit (R : ℝ) : List (Pt ℝ) :=
  [smul R (E 8), smul (R / Real.sqrt 3) (E 9), smul R (E 10), smul (2 * R / Real.sqrt 3) (E 11),
   smul R (E 12), smul (R / Real.sqrt 3) (E 13), smul R (E 14), smul (2 * R / Real.sqrt 3) (E 15),
   smul R (E 16), smul (R / Real.sqrt 3) (E 17), smul R (E 18), smul (2 * R / Real.sqrt 3) (E 19)]

/-- `z + z·w² = 2·Re(w)·z·w` for a unit vector `w`: with `q = z·w` it reads `q·conj w + q·w = 2·Re(w)·q` -/
theorem E_add_E (a d : ℕ) : padd (E a) (E (a + d + d)) = smul (2 * (E d).1) (E (a + d)) := by
  have h : rot (conj (E d)) (E (a + d)) = E a := by
    rw [E_add, ← rot, rot_conj_rot, E_norm2, smul, one_mul, one_mul]
  rw [E_add (a + d) d, ← h]
  simp only [rot, conj, padd, smul, cmul]
  congr 1 <;> ring

theorem secRadius_mul_sqrt3 (R : ℝ) : secRadius R * Real.sqrt 3 = R := by
  simp only [secRadius, Circ.sqrt, Nat.cast_ofNat]
  linear_combination (R / 3) * sqrt3_mul_self

/-- a sector vertex is the sector radius `R/√3` times the sum of two directions (sector centre,
    hexagon vertex): 60° apart give distance `R`, 120° apart `R/√3`, equal directions `2R/√3` -/
theorem sec_outer (R : ℝ) (a : ℕ) :
    smul (secRadius R) (padd (E a) (E (a + 2))) = smul R (E (a + 1)) := by
  rw [E_add_E a 1, E_one, smul_comp, show secRadius R * (2 * (Real.sqrt 3 / 2)) = secRadius R * Real.sqrt 3 by ring,
    secRadius_mul_sqrt3]

theorem sec_inner (R : ℝ) (a : ℕ) :
    smul (secRadius R) (padd (E a) (E (a + 4))) = smul (R / Real.sqrt 3) (E (a + 2)) := by
  rw [E_add_E a 2, E_two, smul_comp, eq_div_of_mul_eq sqrt3_pos.ne' (secRadius_mul_sqrt3 R)]
  norm_num

theorem sec_far (R : ℝ) (a : ℕ) :
    smul (secRadius R) (padd (E a) (E a)) = smul (2 * R / Real.sqrt 3) (E a) := by
  rw [eq_div_of_mul_eq sqrt3_pos.ne' (secRadius_mul_sqrt3 R)]
  simp only [smul, padd]
  congr 1 <;> ring

theorem sec3Verts_eq (R : ℝ) : sec3Verts R = sec3Explicit R := by
  have hc : secCentres R = [smul (secRadius R) (E 7), smul (secRadius R) (E 11), smul (secRadius R) (E 3)] := by
    simp only [secCentres, E_eq, e30, emb, smul, Circ.sqrt, List.cons.injEq, Prod.mk.injEq, and_true]
    push_cast
    refine ⟨⟨?_, ?_⟩, ⟨?_, ?_⟩, ?_, ?_⟩ <;> ring
  have hv : ∀ b : ℕ, rot (E 1) (smul (secRadius R) (E b)) = smul (secRadius R) (E (b + 1)) := fun b => by
    rw [rot_smul, rot, ← E_add]
  simp only [sec3Verts, hc, secHex, hexVerts_eq, place, pick,
    show ((30 : ℕ) : ℝ) = ((30 * 1 : ℕ) : ℝ) by norm_num, cisDeg_mul30, List.map_cons, List.map_nil,
    List.filterMap_cons, List.filterMap_nil, List.getElem?_cons_zero, List.getElem?_cons_succ, List.cons_append,
    List.nil_append, hv, padd_smul, Nat.reduceAdd, sec3Explicit, List.cons.injEq, and_true]
  -- where a sum runs past direction `11`, the directions `1, 3, 5, 7` are written `13, 15, 17, 19`
  rw [← E_period 1, ← E_period 3, ← E_period 5]
  refine ⟨sec_outer R 7, sec_inner R 7, ?_, sec_far R 11, sec_outer R 11, sec_inner R 11, ?_, sec_far R 15,
    sec_outer R 15, ?_, ?_, ?_⟩
  · rw [padd_comm]; exact sec_outer R 9
  · rw [padd_comm]; exact sec_outer R 13
  · rw [← E_period 7]; exact sec_inner R 15
  · rw [← E_period 7, padd_comm]; exact sec_outer R 17
  · rw [← E_period 7]; exact sec_far R 19

/-- adjacent vertices `r·E m`, `r'·E (m + 1)` are 30° apart: their cross product is `r·r'/2 > 0` -/
theorem cross_smul_E_succ {r r' : ℝ} (m : ℕ) (hr : 0 < r) (hr' : 0 < r') :
    0 < cross (smul r (E m)) (smul r' (E (m + 1))) := by
  rw [cross_smul, cross_E_add, E_one]
  exact mul_pos (mul_pos hr hr') one_half_pos

theorem sec3_star (R : ℝ) (hR : 0 < R) : StarCCW (sec3Verts R) := by
  have h1 : 0 < R / Real.sqrt 3 := div_pos hR sqrt3_pos
  have h2 : 0 < 2 * R / Real.sqrt 3 := div_pos (mul_pos two_pos hR) sqrt3_pos
  -- the closing pair is `E 19`, `E 8 = E 20`
  have wrap := cross_smul_E_succ 19 h2 hR
  rw [E_period 8] at wrap
  rw [sec3Verts_eq, StarCCW, sec3Explicit]
  simp only [cyc, adjPairs, List.cons_append, List.nil_append, List.forall_mem_cons, Nat.cast_zero,
    cross_smul_E_succ, hR, h1, h2, wrap, true_and]
  exact List.forall_mem_nil _

theorem sec3_radii (R : ℝ) : (sec3Explicit R).map norm2 =
    [R * R, R * R / 3, R * R, 4 * (R * R) / 3, R * R, R * R / 3, R * R, 4 * (R * R) / 3,
     R * R, R * R / 3, R * R, 4 * (R * R) / 3] := by
  have h1 : R / Real.sqrt 3 * (R / Real.sqrt 3) = R * R / 3 := by rw [div_mul_div_comm, sqrt3_mul_self]
  have h2 : 2 * R / Real.sqrt 3 * (2 * R / Real.sqrt 3) = 4 * (R * R) / 3 := by
    rw [div_mul_div_comm, sqrt3_mul_self]
    ring
  simp only [sec3Explicit, List.map_cons, List.map_nil, norm2_smul, E_norm2, mul_one, h1, h2]

end PyPhysim.C19
