import PyPhysim.Model.C07

/-! Slots, file-system steps, the disk as a fold of events. -/
namespace PyPhysim.C07

variable {R T C : Type}

/-- every step except `trunc` and `write`: these never touch the file itself except by `rename`
    (the steps of the `atomic` discipline are among them) -/
def SlotOp.isAtomic : SlotOp C → Bool
  | .trunc | .write _ => false
  | _ => true

def contents : List (SlotOp C) → List C
  | [] => []
  | .write c :: ops => c :: contents ops
  | .rename c :: ops => c :: contents ops
  | _ :: ops => contents ops

theorem contents_append (a b : List (SlotOp C)) : contents (a ++ b) = contents a ++ contents b := by
  fun_induction contents a with
  | case1 => rfl
  | case2 c a ih => exact congrArg (c :: ·) ih
  | case3 c a ih => exact congrArg (c :: ·) ih
  -- the catch-all equation of `contents` asks that `op` is neither a `write` nor a `rename`
  | case4 op a h1 h2 ih => exact (contents.eq_4 op (a ++ b) h1 h2).trans ih

theorem contents_saveOps (m : Mode) (c : C) : contents (saveOps m c) = [c] := by
  cases m <;> rfl

theorem Slot.applyAll_nil (s : Slot C) : s.applyAll [] = s := rfl

theorem Slot.applyAll_cons (s : Slot C) (op : SlotOp C) (ops : List (SlotOp C)) :
    s.applyAll (op :: ops) = (s.apply op).applyAll ops := rfl

theorem Slot.applyAll_append (s : Slot C) (a b : List (SlotOp C)) :
    s.applyAll (a ++ b) = (s.applyAll a).applyAll b := by
  exact List.foldl_append ..

theorem Slot.applyAll_saveOps_main (s : Slot C) (m : Mode) (c : C) :
    (s.applyAll (saveOps m c)).main = .valid c := by
  cases m <;> rfl

theorem Slot.applyAll_saveOps_atomic (s : Slot C) (c : C) :
    s.applyAll (saveOps .atomic c) = ⟨.valid c, false⟩ := rfl

theorem saveOps_atomic_isAtomic (c : C) : ∀ op ∈ saveOps .atomic c, op.isAtomic = true := by
  intro op h
  simp only [saveOps, List.mem_cons, List.not_mem_nil, or_false] at h
  rcases h with rfl | rfl | rfl | rfl | rfl | rfl <;> rfl

theorem Slot.apply_main (s : Slot C) (op : SlotOp C) :
    (s.apply op).main = s.main ∨ (op.isAtomic = false ∧ (s.apply op).main = .torn) ∨
      ∃ c, c ∈ contents [op] ∧ (s.apply op).main = .valid c := by
  cases op with
  | trunc => exact .inr (.inl ⟨rfl, rfl⟩)
  | write c => exact .inr (.inr ⟨c, List.mem_cons_self, rfl⟩)
  | rename c => exact .inr (.inr ⟨c, List.mem_cons_self, rfl⟩)
  | _ => exact .inl rfl

theorem Slot.main_cases (s : Slot C) (ops : List (SlotOp C)) :
    (s.applyAll ops).main = s.main ∨
      ((∃ op ∈ ops, op.isAtomic = false) ∧ (s.applyAll ops).main = .torn) ∨
      ∃ c, c ∈ contents ops ∧ (s.applyAll ops).main = .valid c := by
  induction ops generalizing s with
  | nil => exact .inl rfl
  | cons op ops ih =>
    have hc : contents (op :: ops) = contents [op] ++ contents ops := contents_append [op] ops
    rw [Slot.applyAll_cons, hc]
    rcases ih (s.apply op) with h | ⟨⟨o, ho, hna⟩, h⟩ | ⟨c, hc, h⟩
    · rcases s.apply_main op with h1 | ⟨hna, h1⟩ | ⟨c, hc, h1⟩
      · exact .inl (h.trans h1)
      · exact .inr (.inl ⟨⟨op, List.mem_cons_self, hna⟩, h.trans h1⟩)
      · exact .inr (.inr ⟨c, List.mem_append_left _ hc, h.trans h1⟩)
    · exact .inr (.inl ⟨⟨o, List.mem_cons_of_mem _ ho, hna⟩, h⟩)
    · exact .inr (.inr ⟨c, List.mem_append_right _ hc, h⟩)

theorem Slot.atomic_main (s : Slot C) (ops : List (SlotOp C)) (h : ∀ op ∈ ops, op.isAtomic = true) :
    (s.applyAll ops).main = s.main ∨ ∃ c, c ∈ contents ops ∧ (s.applyAll ops).main = .valid c := by
  rcases s.main_cases ops with h1 | ⟨⟨op, hop, hna⟩, _⟩ | h1
  · exact .inl h1
  · exact absurd (hna.symm.trans (h op hop)) Bool.false_ne_true
  · exact .inr h1

def partOps (i : Nat) : List (Ev R T) → List (SlotOp (Part R T))
  | [] => []
  | .part j op :: t => if j = i then op :: partOps i t else partOps i t
  | _ :: t => partOps i t

def finOps : List (Ev R T) → List (SlotOp (Full R))
  | [] => []
  | .fin op :: t => op :: finOps t
  | _ :: t => finOps t

theorem partOps_append (i : Nat) (a b : List (Ev R T)) :
    partOps i (a ++ b) = partOps i a ++ partOps i b := by
  fun_induction partOps i a with
  | case1 => rfl
  | case2 op a ih => exact (if_pos rfl).trans (congrArg (op :: ·) ih)
  | case3 j op a hj ih => exact (if_neg hj).trans ih
  | case4 ev a hev ih => exact (partOps.eq_3 i ev (a ++ b) hev).trans ih

theorem finOps_append (a b : List (Ev R T)) : finOps (a ++ b) = finOps a ++ finOps b := by
  induction a with
  | nil => rfl
  | cons ev a ih =>
    cases ev with
    | fin op => exact congrArg (op :: ·) ih
    | _ => exact ih

theorem mem_partOps {i : Nat} {op : SlotOp (Part R T)} {t : List (Ev R T)} (h : op ∈ partOps i t) :
    Ev.part i op ∈ t := by
  fun_induction partOps i t with
  | case1 => exact absurd h List.not_mem_nil
  | case2 o t ih =>
    rcases List.mem_cons.mp h with rfl | h
    · exact List.mem_cons_self
    · exact List.mem_cons_of_mem _ (ih h)
  | case3 j o t _ ih => exact List.mem_cons_of_mem _ (ih h)
  | case4 ev t _ ih => exact List.mem_cons_of_mem _ (ih h)

theorem mem_finOps {op : SlotOp (Full R)} {t : List (Ev R T)} (h : op ∈ finOps t) : Ev.fin op ∈ t := by
  fun_induction finOps t with
  | case1 => exact absurd h List.not_mem_nil
  | case2 o t ih =>
    rcases List.mem_cons.mp h with rfl | h
    · exact List.mem_cons_self
    · exact List.mem_cons_of_mem _ (ih h)
  | case3 ev t _ ih => exact List.mem_cons_of_mem _ (ih h)

theorem partOps_eq_nil {j : Nat} {t : List (Ev R T)} (h : ∀ op, Ev.part j op ∉ t) : partOps j t = [] :=
  List.eq_nil_iff_forall_not_mem.mpr fun op hop => h op (mem_partOps hop)

theorem finOps_eq_nil {t : List (Ev R T)} (h : ∀ op, Ev.fin op ∉ t) : finOps t = [] :=
  List.eq_nil_iff_forall_not_mem.mpr fun op hop => h op (mem_finOps hop)

theorem Disk.applyAll_nil (d : Disk R T) : d.applyAll [] = d := rfl

theorem Disk.applyAll_cons (d : Disk R T) (ev : Ev R T) (t : List (Ev R T)) :
    d.applyAll (ev :: t) = (d.apply ev).applyAll t := rfl

theorem Disk.applyAll_append (d : Disk R T) (a b : List (Ev R T)) :
    d.applyAll (a ++ b) = (d.applyAll a).applyAll b := by
  exact List.foldl_append ..

theorem Disk.applyAll_part (d : Disk R T) (t : List (Ev R T)) (i : Nat) :
    (d.applyAll t).part i = (d.part i).applyAll (partOps i t) := by
  -- `Disk.apply` writes slot `i` under `if i = j`, `partOps` keeps the step under `if j = i`
  fun_induction partOps i t generalizing d with
  | case1 => rfl
  | case2 op t ih => exact (ih _).trans (congrArg (Slot.applyAll · _) (if_pos rfl))
  | case3 j op t hj ih => exact (ih _).trans (congrArg (Slot.applyAll · _) (if_neg fun e => hj e.symm))
  | case4 ev t hev ih =>
    cases ev with
    | part j op => exact absurd rfl (hev j op)
    | _ => exact ih _

theorem Disk.applyAll_fin (d : Disk R T) (t : List (Ev R T)) :
    (d.applyAll t).fin = d.fin.applyAll (finOps t) := by
  induction t generalizing d with
  | nil => rfl
  | cons ev t ih => cases ev <;> exact ih _

def OnlyVar (i : Nat) (t : List (Ev R T)) : Prop :=
  ∀ ev ∈ t, ev = .call i ∨ ∃ op, ev = .part i op

theorem OnlyVar.append {i : Nat} {a b : List (Ev R T)} (ha : OnlyVar i a) (hb : OnlyVar i b) :
    OnlyVar i (a ++ b) :=
  List.forall_mem_append.mpr ⟨ha, hb⟩

theorem OnlyVar.prefix {i : Nat} {a b : List (Ev R T)} (h : OnlyVar i b) (hp : a <+: b) : OnlyVar i a :=
  fun ev hev => h ev (hp.subset hev)

theorem onlyVar_map_part (i : Nat) (ops : List (SlotOp (Part R T))) :
    OnlyVar i (ops.map (Ev.part i) : List (Ev R T)) :=
  List.forall_mem_map.mpr fun op _ => .inr ⟨op, rfl⟩

theorem partOps_map_part (i : Nat) (ops : List (SlotOp (Part R T))) :
    partOps i (ops.map (Ev.part i) : List (Ev R T)) = ops := by
  induction ops with
  | nil => rfl
  | cons op ops ih => exact (if_pos rfl).trans (congrArg (op :: ·) ih)

theorem partOps_map_fin (i : Nat) (ops : List (SlotOp (Full R))) :
    partOps i (ops.map Ev.fin : List (Ev R T)) = [] := by
  induction ops with
  | nil => rfl
  | cons op ops ih => exact ih

theorem finOps_map_fin (ops : List (SlotOp (Full R))) :
    finOps (ops.map Ev.fin : List (Ev R T)) = ops := by
  induction ops with
  | nil => rfl
  | cons op ops ih => exact congrArg (op :: ·) ih

theorem OnlyVar.partOps_ne {i j : Nat} {t : List (Ev R T)} (h : OnlyVar i t) (hji : j ≠ i) :
    partOps j t = [] :=
  partOps_eq_nil fun op hop => by
    rcases h _ hop with e | ⟨_, e⟩
    · cases e
    · cases e; exact hji rfl

theorem OnlyVar.finOps {i : Nat} {t : List (Ev R T)} (h : OnlyVar i t) : finOps t = [] :=
  finOps_eq_nil fun op hop => by rcases h _ hop with e | ⟨_, e⟩ <;> cases e

theorem OnlyVar.part_ne {i j : Nat} {t : List (Ev R T)} (h : OnlyVar i t) (hji : j ≠ i) (d : Disk R T) :
    (d.applyAll t).part j = d.part j := by
  rw [Disk.applyAll_part, h.partOps_ne hji]; rfl

theorem OnlyVar.fin_eq {i : Nat} {t : List (Ev R T)} (h : OnlyVar i t) (d : Disk R T) :
    (d.applyAll t).fin = d.fin := by
  rw [Disk.applyAll_fin, h.finOps]; rfl

theorem OnlyVar.part_append_ne {i j : Nat} {a : List (Ev R T)} (h : OnlyVar i a) (hji : j ≠ i) (d : Disk R T)
    (b : List (Ev R T)) : (d.applyAll (a ++ b)).part j = (d.applyAll b).part j := by
  rw [Disk.applyAll_part, partOps_append, h.partOps_ne hji, List.nil_append, ← Disk.applyAll_part]

theorem OnlyVar.not_call {i j : Nat} {t : List (Ev R T)} (h : OnlyVar i t) (hji : j ≠ i) : Ev.call j ∉ t :=
  fun hmem => by
    rcases h _ hmem with e | ⟨_, e⟩
    · cases e; exact hji rfl
    · cases e

def AllAtomic (t : List (Ev R T)) : Prop :=
  ∀ ev ∈ t, match ev with
    | .call _ => True
    | .part _ op => op.isAtomic = true
    | .fin op => op.isAtomic = true

theorem AllAtomic.append {a b : List (Ev R T)} (ha : AllAtomic a) (hb : AllAtomic b) :
    AllAtomic (a ++ b) :=
  List.forall_mem_append.mpr ⟨ha, hb⟩

theorem AllAtomic.prefix {a b : List (Ev R T)} (h : AllAtomic b) (hp : a <+: b) : AllAtomic a :=
  fun ev hev => h ev (hp.subset hev)

theorem AllAtomic.partOps {t : List (Ev R T)} (h : AllAtomic t) (i : Nat) :
    ∀ op ∈ partOps i t, op.isAtomic = true :=
  fun op hop => h (.part i op) (mem_partOps hop)

theorem AllAtomic.finOps {t : List (Ev R T)} (h : AllAtomic t) :
    ∀ op ∈ finOps t, op.isAtomic = true :=
  fun op hop => h (.fin op) (mem_finOps hop)

theorem allAtomic_map_part (i : Nat) (c : Part R T) :
    AllAtomic ((saveOps .atomic c).map (Ev.part i) : List (Ev R T)) :=
  List.forall_mem_map.mpr (saveOps_atomic_isAtomic c)

theorem allAtomic_map_fin (c : Full R) :
    AllAtomic ((saveOps .atomic c).map Ev.fin : List (Ev R T)) :=
  List.forall_mem_map.mpr (saveOps_atomic_isAtomic c)

theorem callLog_append (a b : List (Ev R T)) : callLog (a ++ b) = callLog a ++ callLog b := by
  induction a with
  | nil => rfl
  | cons ev a ih =>
    cases ev with
    | call i => exact congrArg (i :: ·) ih
    | _ => exact ih

theorem callLog_map_part (i : Nat) (ops : List (SlotOp (Part R T))) :
    callLog (ops.map (Ev.part i) : List (Ev R T)) = [] := by
  induction ops with
  | nil => rfl
  | cons op ops ih => exact ih

theorem callLog_map_fin (ops : List (SlotOp (Full R))) :
    callLog (ops.map Ev.fin : List (Ev R T)) = [] := by
  induction ops with
  | nil => rfl
  | cons op ops ih => exact ih

theorem mem_callLog (t : List (Ev R T)) (i : Nat) : i ∈ callLog t ↔ Ev.call i ∈ t := by
  fun_induction callLog t with
  | case1 => exact iff_of_false List.not_mem_nil List.not_mem_nil
  | case2 j t ih => rw [List.mem_cons, List.mem_cons, ih, Ev.call.injEq]
  | case3 ev t hev ih => rw [ih, List.mem_cons, or_iff_right fun e => hev i e.symm]

theorem prefix_append_cases {α : Type} {p a b : List α} (h : p <+: a ++ b) :
    p <+: a ∨ ∃ q, p = a ++ q ∧ q <+: b := by
  obtain ⟨r, hr⟩ := h
  rcases List.append_eq_append_iff.mp hr with ⟨a', h1, h2⟩ | ⟨c', h1, h2⟩
  · left; exact ⟨a', h1.symm⟩
  · right; exact ⟨c', h1, ⟨r, h2.symm⟩⟩

theorem partOps_prefix (i : Nat) {a b : List (Ev R T)} (h : a <+: b) : partOps i a <+: partOps i b := by
  obtain ⟨r, rfl⟩ := h
  rw [partOps_append]; exact List.prefix_append _ _

theorem finOps_prefix {a b : List (Ev R T)} (h : a <+: b) : finOps a <+: finOps b := by
  obtain ⟨r, rfl⟩ := h
  rw [finOps_append]; exact List.prefix_append _ _

/-- two disks that hold the same partial-results files (temp files and the final
    results file aside: no load ever reads those) -/
def MainEq (d d' : Disk R T) : Prop :=
  ∀ i, (d.part i).main = (d'.part i).main

theorem Slot.applyAll_main_congr {s s' : Slot C} (h : s.main = s'.main) (ops : List (SlotOp C)) :
    (s.applyAll ops).main = (s'.applyAll ops).main := by
  induction ops generalizing s s' with
  | nil => exact h
  | cons op ops ih =>
    refine ih ?_
    cases op with
    | trunc | write _ | rename _ => rfl
    | _ => exact h

theorem MainEq.refl (d : Disk R T) : MainEq d d := fun _ => rfl

theorem MainEq.sweep (d : Disk R T) : MainEq d.sweep d := fun _ => rfl

end PyPhysim.C07
