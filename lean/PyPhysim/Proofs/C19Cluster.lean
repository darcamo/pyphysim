import PyPhysim.Proofs.C19Geom
import PyPhysim.Model.C19Cluster

/-! C19 — cluster layout, the part that holds for every list of raw positions: the sum behind the
centroid; pairwise distances and differences of the centres are those of the raw positions (rotated),
in particular when the raw positions are listed by index. -/
namespace PyPhysim.C19

theorem getElem?_map_range {β : Type} {f : ℕ → β} {n i : ℕ} {p : β}
    (h : ((List.range n).map f)[i]? = some p) : i < n ∧ p = f i := by
  obtain ⟨hlt, he⟩ := List.getElem?_eq_some_iff.mp h
  rw [List.length_map, List.length_range] at hlt
  exact ⟨hlt, by rw [← he, List.getElem_map, List.getElem_range]⟩

section ring
variable {α : Type} [CommRing α]

theorem sumPts_map_shift (l : List (Pt α)) (c q : Pt α) :
    sumPts (l.map (fun p => padd (psub p c) q)) =
      padd (psub (sumPts l) (smul (l.length : α) c)) (smul (l.length : α) q) := by
  induction l with
  | nil => simp [sumPts, padd, psub, smul]
  | cons x xs ih =>
    simp only [List.map_cons, sumPts, ih, List.length_cons]
    simp only [padd, psub, smul]
    push_cast
    congr 1 <;> ring

end ring

section field
variable {α : Type} [Field α]

theorem clusterCentres_getElem (raw : List (Pt α)) (u pos : Pt α) (i : ℕ) :
    (clusterCentres raw u pos)[i]? =
      raw[i]?.map (fun p => padd (psub (rot u p) (meanPt (raw.map (rot u)))) pos) := by
  simp only [clusterCentres, List.getElem?_map, Option.map_map]
  rfl

theorem clusterCentres_length [LinearOrder α] [IsStrictOrderedRing α] (raw : List (Pt α)) (u pos : Pt α) :
    (clusterCentres raw u pos).length = raw.length := by
  simp [clusterCentres]

theorem clusterCentres_pair {raw : List (Pt α)} {u pos : Pt α} {i j : ℕ} {ci cj : Pt α}
    (hi : (clusterCentres raw u pos)[i]? = some ci) (hj : (clusterCentres raw u pos)[j]? = some cj) :
    ∃ pi pj, raw[i]? = some pi ∧ raw[j]? = some pj ∧ dist2 ci cj = norm2 u * dist2 pi pj ∧
      psub cj ci = rot u (psub pj pi) := by
  rw [clusterCentres_getElem, Option.map_eq_some_iff] at hi hj
  obtain ⟨pi, hpi, rfl⟩ := hi
  obtain ⟨pj, hpj, rfl⟩ := hj
  refine ⟨pi, pj, hpi, hpj, ?_, ?_⟩
  · rw [dist2_padd_right, dist2_psub_right, dist2_rot]
  · simp only [psub, padd, rot, cmul]
    congr 1 <;> ring

theorem clusterCentres_exists (raw : List (Pt α)) (u pos : Pt α) (i : ℕ) (hi : i < raw.length) :
    ∃ ci, (clusterCentres raw u pos)[i]? = some ci :=
  ⟨_, (clusterCentres_getElem raw u pos i).trans (congrArg _ (List.getElem?_eq_getElem hi))⟩

/-- both layouts list their raw positions by index, `f 0, …, f (n-1)` -/
theorem range_centres {f : ℕ → Pt α} {n : ℕ} {u pos : Pt α} (hu : norm2 u = 1) {i j : ℕ} {ci cj : Pt α}
    (hi : (clusterCentres ((List.range n).map f) u pos)[i]? = some ci)
    (hj : (clusterCentres ((List.range n).map f) u pos)[j]? = some cj) :
    i < n ∧ j < n ∧ dist2 ci cj = dist2 (f i) (f j) ∧ psub cj ci = rot u (psub (f j) (f i)) := by
  obtain ⟨pi, pj, hpi, hpj, hd, hsub⟩ := clusterCentres_pair hi hj
  obtain ⟨hin, rfl⟩ := getElem?_map_range hpi
  obtain ⟨hjn, rfl⟩ := getElem?_map_range hpj
  exact ⟨hin, hjn, by rw [hd, hu, one_mul], hsub⟩
end field

end PyPhysim.C19
