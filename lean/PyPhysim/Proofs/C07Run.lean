import PyPhysim.Proofs.C07Loop

/-! `simulate()` over the list of variations.  A run over a duplicate-free
list is characterised once, by the relation `Ran` (`simVarsC_ran`); the complete run against the C05
specification (`Ran.spec`), the disk after any prefix of the trace (`Ran.crash`), refusal of
unusable files, exhaustion, completion and "a variation loaded at its limit gets no call" are read off it. -/
namespace PyPhysim.C07

open PyPhysim.C05 (Outcome VarState Keep guard after stateOf freshState IsVarRun RunsSpec logOf oks oks_used_le
  startRep_add_oks_lt)

variable {R T : Type}

section
variable [DecidableEq T]

theorem loadPart_congr {cfg cfg' : Cfg R T} {d d' : Disk R T} {i : Nat} (htag : cfg'.tag i = cfg.tag i)
    (h : (d'.part i).main = (d.part i).main) : loadPart cfg' d' i = loadPart cfg d i := by
  unfold loadPart; rw [htag, h]

theorem startOf_congr {cfg cfg' : Cfg R T} {d d' : Disk R T} {i : Nat} (htag : cfg'.tag i = cfg.tag i)
    (h : (d'.part i).main = (d.part i).main) : startOf cfg' d' i = startOf cfg d i := by
  unfold startOf; rw [loadPart_congr htag h]

theorem loadPart_valid (cfg : Cfg R T) (d : Disk R T) (i : Nat) (s : VarState R)
    (h : (d.part i).main = .valid (partOf cfg i s)) : loadPart cfg d i = .resume s.acc s.rep := by
  unfold loadPart; rw [h]; simp [partOf]

theorem startOf_valid (cfg : Cfg R T) (d : Disk R T) (i : Nat) (s : VarState R)
    (h : (d.part i).main = .valid (partOf cfg i s)) : startOf cfg d i = some (s.acc, s.rep) := by
  unfold startOf; rw [loadPart_valid cfg d i s h]

theorem LoadsOk.of_valid {cfg : Cfg R T} {d : Disk R T} {i : Nat} (s : VarState R)
    (h : (d.part i).main = .valid (partOf cfg i s)) : LoadsOk cfg d i := by
  intro e; rw [loadPart_valid cfg d i s h]; simp

theorem loadPart_ne_exhausted (cfg : Cfg R T) (d : Disk R T) (i : Nat) :
    loadPart cfg d i ≠ .error .Exhausted := by
  unfold loadPart
  split
  · nofun
  · nofun
  · split <;> nofun

theorem runVarC_congr (cfg : Cfg R T) (i : Nat) (d d' : Disk R T) (c : Clock) (outs : List (Outcome R))
    (h : (d.part i).main = (d'.part i).main) : runVarC cfg i d c outs = runVarC cfg i d' c outs := by
  unfold runVarC; rw [loadPart_congr rfl h]

theorem simVarsC_nil (cfg : Cfg R T) (d : Disk R T) (c : Clock) (outs : List (Outcome R)) :
    simVarsC cfg [] d c outs = ⟨[], [], [], outs, c, none⟩ := rfl

theorem simVarsC_cons_error (cfg : Cfg R T) (i : Nat) (is : List Nat) (d : Disk R T) (c : Clock)
    (outs : List (Outcome R)) (e : Err) (h : (runVarC cfg i d c outs).res = .error e) :
    simVarsC cfg (i :: is) d c outs =
      ⟨(runVarC cfg i d c outs).trace, [], [], (runVarC cfg i d c outs).rest,
        (runVarC cfg i d c outs).clock, some e⟩ := by
  rw [simVarsC]; simp only [h]

end

def OnlyVars (is : List Nat) (t : List (Ev R T)) : Prop :=
  ∀ ev ∈ t, ∃ j ∈ is, ev = .call j ∨ ∃ op, ev = .part j op

theorem OnlyVars.append {is : List Nat} {a b : List (Ev R T)} (ha : OnlyVars is a) (hb : OnlyVars is b) :
    OnlyVars is (a ++ b) :=
  List.forall_mem_append.mpr ⟨ha, hb⟩

theorem onlyVars_traceProp (cfg : Cfg R T) (is : List Nat) : TraceProp cfg is (OnlyVars is) where
  nil := fun _ h => nomatch h
  append := OnlyVars.append
  call i hi := fun _ h => ⟨i, hi, .inl (List.mem_singleton.mp h)⟩
  save i hi _ := fun ev h => ⟨i, hi, onlyVar_map_part i _ ev h⟩

theorem OnlyVars.prefix {is : List Nat} {a b : List (Ev R T)} (h : OnlyVars is b) (hp : a <+: b) :
    OnlyVars is a :=
  fun ev hev => h ev (hp.subset hev)

theorem OnlyVars.partOps_notMem {is : List Nat} {t : List (Ev R T)} (h : OnlyVars is t) {j : Nat}
    (hj : j ∉ is) : partOps j t = [] :=
  partOps_eq_nil fun op hop => by
    obtain ⟨k, hk, e | ⟨_, e⟩⟩ := h _ hop
    · cases e
    · cases e; exact hj hk

theorem OnlyVars.finOps {is : List Nat} {t : List (Ev R T)} (h : OnlyVars is t) : finOps t = [] :=
  finOps_eq_nil fun op hop => by obtain ⟨_, _, e | ⟨_, e⟩⟩ := h _ hop <;> cases e

theorem OnlyVars.part_notMem {is : List Nat} {t : List (Ev R T)} (h : OnlyVars is t) {j : Nat}
    (hj : j ∉ is) (d : Disk R T) : (d.applyAll t).part j = d.part j := by
  rw [Disk.applyAll_part, h.partOps_notMem hj]; rfl

theorem OnlyVars.fin_eq {is : List Nat} {t : List (Ev R T)} (h : OnlyVars is t) (d : Disk R T) :
    (d.applyAll t).fin = d.fin := by
  rw [Disk.applyAll_fin, h.finOps]; rfl

theorem OnlyVars.call_mem {is : List Nat} {t : List (Ev R T)} (h : OnlyVars is t) {j : Nat}
    (hj : Ev.call j ∈ t) : j ∈ is := by
  obtain ⟨k, hk, hev⟩ := h _ hj
  rcases hev with hev | ⟨op, hev⟩
  · cases hev; exact hk
  · cases hev

section
variable [DecidableEq T]

theorem TraceProp.of_simVarsC {cfg : Cfg R T} {js : List Nat} {P : List (Ev R T) → Prop}
    (h : TraceProp cfg js P) :
    ∀ (is : List Nat), (∀ i ∈ is, i ∈ js) → ∀ (d : Disk R T) (c : Clock) (outs : List (Outcome R)),
      P (simVarsC cfg is d c outs).trace := by
  intro is hsub d c outs
  fun_induction simVarsC cfg is d c outs with
  | case1 => exact h.nil
  | case2 i is d c outs v e hres => exact h.of_runVarC (hsub i List.mem_cons_self) d c outs
  | case3 i is d c outs v st hres t ih =>
    exact h.append (h.of_runVarC (hsub i List.mem_cons_self) d c outs)
      (ih fun j hj => hsub j (List.mem_cons_of_mem _ hj))

theorem simVarsC_onlyVars (cfg : Cfg R T) (is : List Nat) (d : Disk R T) (c : Clock) (outs : List (Outcome R)) :
    OnlyVars is (simVarsC cfg is d c outs).trace :=
  (onlyVars_traceProp cfg is).of_simVarsC is (fun _ h => h) d c outs

theorem simVarsC_congr (cfg : Cfg R T) (is : List Nat) :
    ∀ (d d' : Disk R T) (c : Clock) (outs : List (Outcome R)),
      (∀ j ∈ is, (d.part j).main = (d'.part j).main) →
      simVarsC cfg is d c outs = simVarsC cfg is d' c outs := by
  induction is with
  | nil => exact fun _ _ _ _ _ => rfl
  | cons i is ih =>
    intro d d' c outs h
    rw [simVarsC, simVarsC, runVarC_congr cfg i d d' c outs (h i List.mem_cons_self)]
    cases (runVarC cfg i d' c outs).res with
    | error e => rfl
    | ok st =>
      rw [ih (d.applyAll _) (d'.applyAll _) _ _ fun j hj => by
        rw [Disk.applyAll_part, Disk.applyAll_part]
        exact Slot.applyAll_main_congr (h j (List.mem_cons_of_mem _ hj)) _]

/-- What the partial-results files `m` look like after a run over the variations
    `is` was killed, relative to the files `old` it started from and the segments
    `segs` of the outcome stream the variations consumed: a variation either
    completed (its file holds its final state, and the crash came later), or the
    crash came while it was running (its file is the old one or holds the state after
    a prefix of its segment — or is torn, with the in-place discipline only — and
    no later variation was touched). -/
def CrashSpec (cfg : Cfg R T) (start : Nat → Option (R × Nat)) (old m : Nat → File (Part R T)) :
    List Nat → List (List (Outcome R)) → Prop
  | [], [] => True
  | i :: is, seg :: segs =>
    (∃ st, IsVarRun cfg.merge cfg.repMax (cfg.keep i) (start i) seg st ∧ m i = .valid (partOf cfg i st) ∧
        CrashSpec cfg start old m is segs) ∨
    ((m i = old i ∨ (cfg.mode = .inPlace ∧ m i = .torn) ∨
        ∃ p s, p <+: seg ∧ stateOf cfg.merge (start i) p = some s ∧ m i = .valid (partOf cfg i s) ∧
          ∀ q, q <+: p → q ≠ p → ∀ s', stateOf cfg.merge (start i) q = some s' →
            guard cfg.repMax (cfg.keep i) s' = true) ∧
      (∀ j ∈ is, m j = old j) ∧ segs.length = is.length)
  | _, _ => False

omit [DecidableEq T] in
theorem CrashSpec.untouched (cfg : Cfg R T) (start : Nat → Option (R × Nat)) (old : Nat → File (Part R T)) :
    ∀ (is : List Nat), CrashSpec cfg start old old is (List.replicate is.length [])
  | [] => trivial
  | _ :: _ => .inr ⟨.inl rfl, fun _ _ => rfl, List.length_replicate⟩

omit [DecidableEq T] in
theorem VarSpec.crash_during {cfg : Cfg R T} {i : Nat} {start : Nat → Option (R × Nat)} {outs : List (Outcome R)}
    {v : VarRun R T} {used : List (Outcome R)} (hs : VarSpec cfg i (stateOf cfg.merge (start i)) outs v used)
    {is : List Nat} (hi : i ∉ is) (d : Disk R T) (pre : List (Ev R T)) (hp : pre <+: v.trace)
    (m : Nat → File (Part R T)) (hm : ∀ j ∈ i :: is, m j = ((d.applyAll pre).part j).main) :
    ∃ segs, segs.flatten <+: outs ∧ CrashSpec cfg start (fun j => (d.part j).main) m (i :: is) segs := by
  refine ⟨used :: List.replicate is.length [], ?_, .inr ⟨?_, fun j hj => ?_, List.length_replicate⟩⟩
  · rw [List.flatten_cons, List.flatten_replicate_nil, List.append_nil, hs.split]
    exact List.prefix_append _ _
  · rw [hm i List.mem_cons_self, Disk.applyAll_part]
    rcases Slot.main_cases (d.part i) (partOps i pre) with h | ⟨⟨op, hop, hna⟩, h⟩ | ⟨x, hx, h⟩
    · exact .inl h
    · -- a torn file needs a step that is not atomic: the discipline is the in-place one
      cases hmode : cfg.mode with
      | inPlace => exact .inr (.inl ⟨rfl, h⟩)
      | atomic =>
        exact absurd (((hs.atomic hmode).prefix hp).partOps i op hop) (by rw [hna]; exact Bool.false_ne_true)
    · obtain ⟨r, hr⟩ := hp
      obtain ⟨p, s, hp1, hp2, rfl⟩ := hs.saved x (by
        rw [← hr, partOps_append, contents_append]; exact List.mem_append_left _ hx)
      -- a proper prefix `q` of `p` is one of `used` as well: `q = used` would leave no room for `p` in between
      exact .inr (.inr ⟨p, s, hp1, hp2, h, fun q hq hne => hs.running q (hq.trans hp1) fun hqu =>
        hne (hq.eq_of_length (Nat.le_antisymm hq.length_le (hqu ▸ hp1.length_le)))⟩)
  · rw [hm j (List.mem_cons_of_mem _ hj)]
    exact congrArg Slot.main ((hs.only.prefix hp).part_ne (fun h => hi (h ▸ hj)) d)

end

section
variable [DecidableEq T]

/-- **What a run over a duplicate-free list of variations is.**  Every variation is described
    relative to the disk `d` the whole run started on: a variation writes its own file only and a
    run reads the files of its own variations only (`simVarsC_congr`), so the later variations
    find their files as they were.  The first load raises; or the first variation, described by
    `VarSpec`, runs out of outcomes; or it completes and the run over the others follows. -/
inductive Ran (cfg : Cfg R T) (d : Disk R T) : List Nat → List (Outcome R) → RunEnd R T → Prop
  | nil (c : Clock) (outs : List (Outcome R)) : Ran cfg d [] outs ⟨[], [], [], outs, c, none⟩
  | loadError (i : Nat) (is : List Nat) (c : Clock) (outs : List (Outcome R)) {e : Err} :
      loadPart cfg d i = .error e → Ran cfg d (i :: is) outs ⟨[], [], [], outs, c, some e⟩
  | ranOut (i : Nat) (is : List Nat) {outs used : List (Outcome R)} {v : VarRun R T} {e : Err} :
      LoadsOk cfg d i → VarSpec cfg i (stateOf cfg.merge (startOf cfg d i)) outs v used →
      v.res = .error e → i ∉ is → Ran cfg d (i :: is) outs ⟨v.trace, [], [], [], v.clock, some .Exhausted⟩
  | next (i : Nat) {is : List Nat} {outs used : List (Outcome R)} {v : VarRun R T} {st : VarState R}
      {t : RunEnd R T} :
      LoadsOk cfg d i → VarSpec cfg i (stateOf cfg.merge (startOf cfg d i)) outs v used →
      callLog v.trace = List.replicate used.length i → v.res = .ok st → i ∉ is →
      OnlyVars is t.trace → Ran cfg d is v.rest t →
      Ran cfg d (i :: is) outs ⟨v.trace ++ t.trace, ⟨st.acc, st.skipped⟩ :: t.results, st.rep :: t.reps,
        t.rest, t.clock, t.status⟩

theorem simVarsC_ran (cfg : Cfg R T) :
    ∀ (is : List Nat) (d : Disk R T) (c : Clock) (outs : List (Outcome R)), is.Nodup →
      Ran cfg d is outs (simVarsC cfg is d c outs) := by
  intro is
  induction is with
  | nil => exact fun _ c outs _ => .nil c outs
  | cons i is ih =>
    intro d c outs hnd
    obtain ⟨hi, hnd'⟩ := List.nodup_cons.mp hnd
    by_cases hl : LoadsOk cfg d i
    · obtain ⟨used, hs, hc⟩ := runVarC_spec cfg i d c outs hl
      rw [simVarsC]
      cases hres : (runVarC cfg i d c outs).res with
      | error e =>
        rw [(hs.failed e hres).1, (hs.failed e hres).2]
        exact .ranOut i is hl hs hres hi
      | ok st =>
        rw [simVarsC_congr cfg is _ d _ _ fun j hj =>
          congrArg Slot.main (hs.only.part_ne (fun h => hi (h ▸ hj)) d)]
        exact .next i hl hs hc hres hi (simVarsC_onlyVars cfg is d _ _) (ih d _ _ hnd')
    · obtain ⟨e, hld⟩ := Classical.not_forall_not.mp hl
      have hrun := runVarC_error cfg i d c outs e hld
      rw [simVarsC_cons_error cfg i is d c outs e (by rw [hrun]), hrun]
      exact .loadError i is c outs hld

variable {cfg : Cfg R T} {d : Disk R T} {is : List Nat} {outs : List (Outcome R)} {r : RunEnd R T}

theorem Ran.spec (h : Ran cfg d is outs r) :
    ((∀ i ∈ is, LoadsOk cfg d i) → r.status = none ∨ r.status = some .Exhausted) ∧
    (r.status = none →
      ∃ segs sts, RunsSpec cfg.base (startOf cfg d) is segs sts ∧ outs = segs.flatten ++ r.rest ∧
        r.results = sts.map VarState.stored ∧ r.reps = sts.map (·.rep) ∧
        callLog r.trace = logOf is segs ∧
        ∀ j st, (j, st) ∈ is.zip sts → ((d.applyAll r.trace).part j).main = .valid (partOf cfg j st)) := by
  induction h with
  | nil c outs => exact ⟨fun _ => .inl rfl, fun _ => ⟨[], [], trivial, rfl, rfl, rfl, rfl, fun _ _ h => nomatch h⟩⟩
  | loadError i is c outs hld => exact ⟨fun hall => absurd hld (hall i List.mem_cons_self _), nofun⟩
  | ranOut => exact ⟨fun _ => .inr rfl, nofun⟩
  | @next i is outs used v st t hl hs hc hres hi ho ht ih =>
    refine ⟨fun hall => ih.1 fun j hj => hall j (List.mem_cons_of_mem _ hj), fun hst => ?_⟩
    obtain ⟨segs, sts, r1, r2, r3, r4, r5, r6⟩ := ih.2 hst
    refine ⟨used :: segs, st :: sts, ⟨hs.isVarRun st hres, r1⟩, ?_, congrArg (_ :: ·) r3,
      congrArg (_ :: ·) r4, ?_, fun j st' hmem => ?_⟩
    · rw [List.flatten_cons, List.append_assoc, ← r2, ← hs.split]
    · show callLog (_ ++ _) = _
      rw [callLog_append, hc, r5]; rfl
    · show ((d.applyAll (_ ++ _)).part j).main = _
      rcases List.mem_cons.mp hmem with heq' | hmem
      · cases heq'
        rw [Disk.applyAll_append, ho.part_notMem hi]; exact hs.final_main st hres d
      · rw [hs.only.part_append_ne (fun h => hi (h ▸ (List.of_mem_zip hmem).1))]; exact r6 j st' hmem

theorem Ran.crash (h : Ran cfg d is outs r) : ∀ pre, pre <+: r.trace → ∀ m : Nat → File (Part R T),
    (∀ j ∈ is, m j = ((d.applyAll pre).part j).main) →
    ∃ segs, segs.flatten <+: outs ∧ CrashSpec cfg (startOf cfg d) (fun j => (d.part j).main) m is segs := by
  induction h with
  | nil c outs => exact fun _ _ _ _ => ⟨[], List.nil_prefix, trivial⟩
  | loadError i is c outs hld =>
    intro pre hp m hm
    obtain rfl : pre = [] := List.prefix_nil.mp hp
    exact ⟨[] :: List.replicate is.length [], by rw [List.flatten_cons, List.flatten_replicate_nil]; exact List.nil_prefix,
      .inr ⟨.inl (hm i List.mem_cons_self), fun j hj => hm j (List.mem_cons_of_mem _ hj), List.length_replicate⟩⟩
  | ranOut i is hl hs hres hi => exact hs.crash_during hi d
  | @next i is outs used v st t hl hs hc hres hi ho ht ih =>
    intro pre hp m hm
    rcases prefix_append_cases hp with hp | ⟨q, rfl, hq⟩
    · exact hs.crash_during hi d pre hp m hm
    · obtain ⟨segs, ⟨r, hr⟩, g2⟩ := ih q hq m fun j hj =>
        (hm j (List.mem_cons_of_mem _ hj)).trans
          (congrArg Slot.main (hs.only.part_append_ne (fun h => hi (h ▸ hj)) d q))
      refine ⟨used :: segs, ⟨r, by rw [List.flatten_cons, List.append_assoc, hr, ← hs.split]⟩,
        .inl ⟨st, hs.isVarRun st hres, ?_, g2⟩⟩
      rw [hm i List.mem_cons_self, Disk.applyAll_append, (ho.prefix hq).part_notMem hi]
      exact hs.final_main st hres d

theorem Ran.refused (h : Ran cfg d is outs r) {j : Nat} {e0 : Err} (hj : j ∈ is)
    (hbad : loadPart cfg d j = .error e0) :
    r.status ≠ none ∧ partOps j r.trace = [] ∧ Ev.call j ∉ r.trace ∧
      ∀ e, r.status = some e → e = .Exhausted ∨ ∃ k ∈ is, loadPart cfg d k = .error e := by
  induction h with
  | nil => nomatch hj
  | loadError i is c outs hld =>
    exact ⟨nofun, rfl, nofun, fun _ he => .inr ⟨_, List.mem_cons_self, Option.some.inj he ▸ hld⟩⟩
  | ranOut i is hl hs hres _ =>
    have hji : j ≠ i := fun h => hl e0 (h ▸ hbad)
    exact ⟨nofun, hs.only.partOps_ne hji, hs.only.not_call hji, fun _ he => .inl (Option.some.inj he).symm⟩
  | next i hl hs _ _ _ _ _ ih =>
    have hji : j ≠ i := fun h => hl e0 (h ▸ hbad)
    obtain ⟨a1, a2, a3, a4⟩ := ih ((List.mem_cons.mp hj).resolve_left hji)
    refine ⟨a1, ?_, fun hmem => (List.mem_append.mp hmem).elim (hs.only.not_call hji) a3, fun e he => ?_⟩
    · rw [partOps_append, hs.only.partOps_ne hji, a2]; rfl
    · exact (a4 e he).imp_right fun ⟨k, hk, hk'⟩ => ⟨k, List.mem_cons_of_mem _ hk, hk'⟩

theorem Ran.exhausted (h : Ran cfg d is outs r) (hex : r.status = some .Exhausted) : r.rest = [] := by
  induction h with
  | nil => nomatch hex
  | loadError i is c outs hld => exact absurd (Option.some.inj hex ▸ hld) (loadPart_ne_exhausted cfg d i)
  | ranOut => rfl
  | next _ _ _ _ _ _ _ _ ih => exact ih hex

theorem Ran.completes (h : Ran cfg d is outs r) (hall : ∀ i ∈ is, LoadsOk cfg d i)
    (hlen : is.length * max 1 cfg.repMax ≤ (oks outs).length) : r.status = none := by
  induction h with
  | nil => rfl
  | loadError i is c outs hld => exact absurd hld (hall i List.mem_cons_self _)
  | ranOut i is hl hs hres _ =>
    rw [List.length_cons, Nat.succ_mul, hs.split, (hs.failed _ hres).2, List.append_nil] at hlen
    exact absurd (Nat.le_trans (Nat.le_add_left _ _) hlen) (Nat.not_le.mpr
      (Nat.lt_of_le_of_lt (Nat.le_add_left _ _) (startRep_add_oks_lt (hs.stuck _ hres))))
  | @next i is outs used v st t hl hs _ hres hi _ ht ih =>
    rw [List.length_cons, Nat.succ_mul] at hlen
    have hoks : (oks outs).length = (oks used).length + (oks v.rest).length := by
      rw [hs.split, C05.oks_append, List.length_append]
    have hle := oks_used_le cfg.merge cfg.repMax (cfg.keep i) _ used hs.running
    exact ih (fun j hj => hall j (List.mem_cons_of_mem _ hj)) (by omega)

theorem Ran.not_rerun (h : Ran cfg d is outs r) (hst : r.status = none) {i : Nat} {a : R} {n : Nat}
    (hs : startOf cfg d i = some (a, n)) (hn : cfg.repMax ≤ n) : Ev.call i ∉ r.trace := by
  induction h with
  | nil => nofun
  | loadError => nomatch hst
  | ranOut => nomatch hst
  | @next j is outs used v st t hl hv hc hres hi ho ht ih =>
    refine fun hmem => (List.mem_append.mp hmem).elim (fun hmem => ?_) (ih hst)
    by_cases hji : i = j
    · subst hji
      have hlog := (mem_callLog _ _).mpr hmem
      rw [hc, (C05.isVarRun_at_limit _ _ _ a n used st hn (hs ▸ hv.isVarRun st hres)).1] at hlog
      cases hlog
    · exact hv.only.not_call hji hmem

end

end PyPhysim.C07
