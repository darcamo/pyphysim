import Mathlib.Data.Matrix.Mul
import Mathlib.Algebra.BigOperators.Fin
import Mathlib.LinearAlgebra.Matrix.ConjTranspose
import Mathlib.LinearAlgebra.Matrix.Trace
import Mathlib.Data.Complex.Basic
import Mathlib.Data.Complex.BigOperators
import Mathlib.Analysis.Real.Sqrt
import Mathlib.Analysis.Complex.Norm
import Mathlib.LinearAlgebra.Matrix.NonsingularInverse
import Mathlib.Tactic.Ring
import PyPhysim.Model.C10

/-!
Bridge between the core-only matrix model of `Model/C10Base.lean` (`Fin`-indexed
functions, own `sumFin`) and Mathlib's `Matrix` over `ℂ`: the scalar classes of the
model at `ℂ` (`np.sqrt z` is `√(re z)`, `np.abs z` is `‖z‖`, both stored as complex
numbers); `Matrix.of` of every model operation is the corresponding Mathlib operation,
so the algebra of the model operations is Mathlib's; the trace and Frobenius-norm identities
the cost functions are rewritten with; the order predicates on real numbers stored in
complex ones (MMSE cost test, assertion of `calc_Q_rev`).
-/
namespace PyPhysim.C10
open Matrix

noncomputable instance instConjComplex : Conj ℂ := ⟨star⟩
/-- `np.sqrt` of a real scalar stored in a complex number -/
noncomputable instance instRSqrtComplex : RSqrt ℂ := ⟨fun z => ((Real.sqrt z.re : ℝ) : ℂ)⟩
/-- `np.abs` -/
noncomputable instance instAbsRComplex : AbsR ℂ := ⟨fun z => ((‖z‖ : ℝ) : ℂ)⟩

theorem sumFin_eq {β : Type} [AddCommMonoid β] : ∀ (n : Nat) (f : Fin n → β), sumFin n f = ∑ i, f i
  | 0, f => (Fin.sum_univ_zero f).symm
  | n+1, f => by rw [sumFin, sumFin_eq n, Fin.sum_univ_castSucc]

abbrev toM {m n : Nat} (A : Mat ℂ m n) : Matrix (Fin m) (Fin n) ℂ := Matrix.of A

theorem toM_inj {m n : Nat} {A B : Mat ℂ m n} (h : toM A = toM B) : A = B :=
  Matrix.of.injective h

section
variable {m k n : Nat}

theorem toM_matMul (A : Mat ℂ m k) (B : Mat ℂ k n) : toM (matMul A B) = toM A * toM B := by
  ext i j
  simp only [matMul, sumFin_eq, Matrix.mul_apply, Matrix.of_apply]

theorem toM_cT (A : Mat ℂ m n) : toM (cT A) = (toM A)ᴴ := rfl

theorem toM_eye : toM (eye : Mat ℂ n n) = 1 := by
  ext i j
  simp only [toM, eye, Matrix.of_apply, Matrix.one_apply]

theorem toM_mzero : toM (mzero : Mat ℂ m n) = 0 := rfl

theorem toM_msub (A B : Mat ℂ m n) : toM (msub A B) = toM A - toM B := rfl

theorem toM_madd (A B : Mat ℂ m n) : toM (madd A B) = toM A + toM B := rfl

theorem toM_smul (c : ℂ) (A : Mat ℂ m n) : toM (smul c A) = c • toM A := rfl

theorem toM_mscale (A : Mat ℂ m n) (c : ℂ) : toM (mscale A c) = c • toM A :=
  Matrix.ext fun _ _ => mul_comm _ _

theorem toM_mdiv (A : Mat ℂ m n) (c : ℂ) : toM (mdiv A c) = c⁻¹ • toM A :=
  Matrix.ext fun _ _ => div_eq_inv_mul _ _

theorem toM_outerG (A : Mat ℂ m n) : toM (outerG A) = toM A * (toM A)ᴴ :=
  toM_matMul A (cT A)

theorem toM_msum : ∀ (K : Nat) (f : Fin K → Mat ℂ m n), toM (msum K f) = ∑ i, toM (f i)
  | 0, f => (Fin.sum_univ_zero _).symm
  | K+1, f => by rw [msum, toM_madd, toM_msum K, Fin.sum_univ_castSucc]

/-- The `l ≠ k` sums of `calcQ`, `calcQrev`, `altMinFMat`. -/
theorem toM_msum_ite {K : Nat} (p : Fin K → Prop) [DecidablePred p] (f : Fin K → Mat ℂ m n) :
    toM (msum K fun l => if p l then mzero else f l) = ∑ l, if p l then 0 else toM (f l) := by
  rw [toM_msum]
  refine Finset.sum_congr rfl (fun l _ => ?_)
  split
  · exact toM_mzero
  · rfl

theorem matMul_eye (A : Mat ℂ m n) : matMul A eye = A :=
  toM_inj (by rw [toM_matMul, toM_eye, Matrix.mul_one])

theorem eye_matMul (A : Mat ℂ m n) : matMul eye A = A :=
  toM_inj (by rw [toM_matMul, toM_eye, Matrix.one_mul])

theorem mdiv_one (A : Mat ℂ m n) : mdiv A 1 = A :=
  funext fun _ => funext fun _ => div_one _

theorem matMul_assoc {p : Nat} (A : Mat ℂ m k) (B : Mat ℂ k n) (C : Mat ℂ n p) :
    matMul (matMul A B) C = matMul A (matMul B C) :=
  toM_inj (by rw [toM_matMul, toM_matMul, toM_matMul, toM_matMul, Matrix.mul_assoc])

theorem matMul_eye_comm {A B : Mat ℂ n n} (h : matMul A B = eye) : matMul B A = eye :=
  toM_inj (by rw [toM_matMul, toM_eye, mul_eq_one_comm, ← toM_matMul, h, toM_eye])

theorem matMul_left_cancel {A B C : Mat ℂ n n} (hA : IsUnit (toM A)) (h : matMul A B = matMul A C) : B = C :=
  toM_inj (hA.mul_left_cancel (by rw [← toM_matMul, ← toM_matMul, h]))

theorem mzero_matMul (B : Mat ℂ k n) : matMul (mzero : Mat ℂ m k) B = mzero :=
  toM_inj (by rw [toM_matMul, toM_mzero, toM_mzero, Matrix.zero_mul])

theorem matMul_mdiv (A : Mat ℂ m k) (B : Mat ℂ k n) (c : ℂ) : matMul A (mdiv B c) = mdiv (matMul A B) c :=
  toM_inj (by rw [toM_matMul, toM_mdiv, toM_mdiv, toM_matMul, Matrix.mul_smul])

theorem mdiv_mzero (c : ℂ) : mdiv (mzero : Mat ℂ m n) c = mzero :=
  funext fun _ => funext fun _ => zero_div c

theorem mdiv_eq_mzero {A : Mat ℂ m n} {c : ℂ} (hc : c ≠ 0) : mdiv A c = mzero ↔ A = mzero := by
  refine ⟨fun h => ?_, fun h => by rw [h, mdiv_mzero]⟩
  funext i j
  exact (div_eq_zero_iff.mp (congrFun (congrFun h i) j)).resolve_right hc

theorem proj_compl_herm (C : Matrix (Fin m) (Fin n) ℂ) : (1 - C * Cᴴ)ᴴ = 1 - C * Cᴴ := by
  rw [conjTranspose_sub, conjTranspose_one, conjTranspose_mul, conjTranspose_conjTranspose]

theorem proj_compl_idem (C : Matrix (Fin m) (Fin n) ℂ) (hC : Cᴴ * C = 1) :
    (1 - C * Cᴴ) * (1 - C * Cᴴ) = 1 - C * Cᴴ :=
  -- `C Cᴴ` is idempotent: `(C Cᴴ)(C Cᴴ) = C (Cᴴ C) Cᴴ`
  IsIdempotentElem.one_sub (by rw [IsIdempotentElem, Matrix.mul_assoc, ← Matrix.mul_assoc Cᴴ, hC, Matrix.one_mul])

theorem trace_conj_smul (c : ℂ) (X : Matrix (Fin m) (Fin n) ℂ) (Q : Matrix (Fin m) (Fin m) ℂ) :
    Matrix.trace ((c • X)ᴴ * Q * (c • X)) = (c * star c) * Matrix.trace (Xᴴ * Q * X) := by
  rw [conjTranspose_smul, Matrix.smul_mul, Matrix.smul_mul, Matrix.mul_smul, smul_smul, trace_smul, smul_eq_mul,
    mul_comm (star c)]

theorem trace_conj_gram (X : Matrix (Fin m) (Fin n) ℂ) (M : Matrix (Fin m) (Fin k) ℂ) :
    Matrix.trace (Xᴴ * (M * Mᴴ) * X) = Matrix.trace ((Xᴴ * M) * (Xᴴ * M)ᴴ) := by
  rw [conjTranspose_mul, conjTranspose_conjTranspose, Matrix.mul_assoc, Matrix.mul_assoc, Matrix.mul_assoc]

theorem trace_conj_sum_ite {ι : Type} [Fintype ι] (p : ι → Prop) [DecidablePred p]
    (X : Matrix (Fin m) (Fin n) ℂ) (f : ι → Matrix (Fin m) (Fin m) ℂ) :
    Matrix.trace (Xᴴ * (∑ l, if p l then 0 else f l) * X)
      = ∑ l, if p l then 0 else Matrix.trace (Xᴴ * f l * X) := by
  rw [Matrix.mul_sum, Matrix.sum_mul, Matrix.trace_sum]
  refine Finset.sum_congr rfl fun l _ => ?_
  split
  · rw [Matrix.mul_zero, Matrix.zero_mul, Matrix.trace_zero]
  · rfl

theorem trace_eq (A : Mat ℂ n n) : PyPhysim.C10.trace A = Matrix.trace (toM A) := by
  simp only [PyPhysim.C10.trace, sumFin_eq, Matrix.trace, Matrix.diag_apply, Matrix.of_apply]

theorem frobSq_eq (A : Mat ℂ m n) : frobSq A = Matrix.trace (toM A * (toM A)ᴴ) := by
  simp only [frobSq, sumFin_eq, Matrix.trace, Matrix.diag_apply, Matrix.mul_apply, conjTranspose_apply, Conj.conj,
    Matrix.of_apply]

theorem frobSq_real (A : Mat ℂ m n) :
    frobSq A = ((∑ i, ∑ j, Complex.normSq (A i j) : ℝ) : ℂ) := by
  simp only [frobSq, sumFin_eq, Conj.conj]
  simp only [Complex.ofReal_sum]
  refine Finset.sum_congr rfl (fun i _ => ?_)
  refine Finset.sum_congr rfl (fun j _ => ?_)
  exact Complex.mul_conj (A i j)

theorem frobSq_re_nonneg (A : Mat ℂ m n) : 0 ≤ (frobSq A).re := by
  rw [frobSq_real, Complex.ofReal_re]
  exact Finset.sum_nonneg (fun i _ => Finset.sum_nonneg (fun j _ => Complex.normSq_nonneg _))

theorem frobSq_im (A : Mat ℂ m n) : (frobSq A).im = 0 := by
  rw [frobSq_real, Complex.ofReal_im]

theorem frobSq_mscale (A : Mat ℂ m n) (c : ℂ) : frobSq (mscale A c) = (c * star c) * frobSq A := by
  simp only [frobSq, sumFin_eq, mscale, Conj.conj, Finset.mul_sum, star_mul']
  refine Finset.sum_congr rfl (fun i _ => ?_)
  refine Finset.sum_congr rfl (fun j _ => ?_)
  ring

theorem frobSq_mdiv (A : Mat ℂ m n) (c : ℂ) : frobSq (mdiv A c) = frobSq A / (c * star c) := by
  rw [show mdiv A c = mscale A c⁻¹ from funext fun i => funext fun j => div_eq_mul_inv _ _, frobSq_mscale,
    star_inv₀, ← mul_inv, mul_comm, div_eq_mul_inv]

theorem sqrt_mul_star (p : ℝ) (hp : 0 ≤ p) :
    (RSqrt.sqrt (p : ℂ) : ℂ) * star (RSqrt.sqrt (p : ℂ) : ℂ) = (p : ℂ) := by
  simp only [RSqrt.sqrt, Complex.ofReal_re]
  rw [Complex.star_def, Complex.conj_ofReal, ← Complex.ofReal_mul, Real.mul_self_sqrt hp]

theorem frobSq_orthonormal (V : Mat ℂ m n) (hV : (toM V)ᴴ * toM V = 1) : frobSq V = (n : ℂ) := by
  rw [frobSq_eq, Matrix.trace_mul_comm, hV, Matrix.trace_one, Fintype.card_fin]

/-- `cost <= 0` on a real number stored in a complex one -/
def nonposRe (z : ℂ) : Prop := z.re ≤ 0

noncomputable instance : DecidablePred nonposRe := fun _ => Classical.dec _

/-- `a < b` on real numbers stored in complex ones -/
def ltRe (a b : ℂ) : Prop := a.re < b.re

theorem normAssert_ltRe (X : Mat ℂ m n) :
    normAssert ltRe X ↔ Real.sqrt (frobSq X).re - 1 < 1 / 1000000 := by
  unfold normAssert ltRe assertTol
  rw [Complex.sub_re, Complex.one_re, Complex.div_ofNat_re, Complex.one_re]
  -- the real part of `frobNorm X` is by definition `√(re ‖X‖²)`
  rfl

end

end PyPhysim.C10
