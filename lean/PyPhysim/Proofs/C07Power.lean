import PyPhysim.Model.C07Power
import PyPhysim.Proofs.C07Sim

/-! The write protocol under power loss — one save interrupted anywhere
(`PSlot.block_prefix`), any number of saves (`PSlot.blocks_prefix`), and a whole run, whose
trace writes every file by complete saves (`TraceBlocks`). -/
namespace PyPhysim.C07

open PyPhysim.C05 (Outcome)

variable {R T C : Type}

theorem PSlot.applyAll_nil (s : PSlot C) : s.applyAll [] = s := rfl

theorem PSlot.applyAll_append (s : PSlot C) (a b : List (SlotOp C)) :
    s.applyAll (a ++ b) = (s.applyAll a).applyAll b :=
  List.foldl_append ..

/-- a complete save: the results file is complete and durable, no temp file is left -/
theorem PSlot.block_complete (s : PSlot C) (c : C) :
    s.applyAll (saveOps .atomic c) = ⟨some ⟨none, some c, some c⟩, none⟩ := rfl

theorem PSlot.sound_powerLoss_view {s s' : PSlot C} (hs : s.Sound) (h : s'.main = s.main) :
    s'.powerLoss.view.main = s.view.main ∧ s'.powerLoss.Sound := by
  obtain ⟨m, t⟩ := s
  obtain ⟨m', t'⟩ := s'
  obtain rfl : m' = m := h
  rcases m' with _ | ⟨b, o, du⟩
  · exact ⟨rfl, trivial⟩
  · obtain ⟨rfl, c, rfl, rfl⟩ := hs
    exact ⟨rfl, rfl, c, rfl, rfl⟩

/-- the steps of the protocol before the rename -/
def tmpSteps (c : C) : List (SlotOp C) := [.tmpOpen, .tmpWrite c, .tmpFlush, .tmpFsync, .tmpClose]

/-- the steps before the rename leave the results file alone, in both models -/
theorem tmpSteps_main {c : C} {op : SlotOp C} (hop : op ∈ tmpSteps c) (s : PSlot C) (v : Slot C) :
    (s.apply op).main = s.main ∧ (v.apply op).main = v.main := by
  simp only [tmpSteps, List.mem_cons, List.not_mem_nil, or_false] at hop
  rcases hop with rfl | rfl | rfl | rfl | rfl <;> exact ⟨rfl, rfl⟩

theorem PSlot.applyAll_tmpSteps {c : C} {q : List (SlotOp C)} (hq : q ⊆ tmpSteps c) (s : PSlot C) (v : Slot C) :
    (s.applyAll q).main = s.main ∧ (v.applyAll q).main = v.main := by
  induction q generalizing s v with
  | nil => exact ⟨rfl, rfl⟩
  | cons op q ih =>
    obtain ⟨hop, hq⟩ := List.cons_subset.mp hq
    obtain ⟨h1, h2⟩ := ih hq (s.apply op) (v.apply op)
    obtain ⟨g1, g2⟩ := tmpSteps_main hop s v
    exact ⟨h1.trans g1, h2.trans g2⟩

/-- a power loss after the steps `q` would leave the results file that the process-level model
    has after `q`, durably -/
def PSlot.SafeAt (s : PSlot C) (q : List (SlotOp C)) : Prop :=
  (s.applyAll q).powerLoss.view.main = (s.view.applyAll q).main ∧
  (s.applyAll q).powerLoss.Sound

/-- the steps before the rename do not touch the results file; the rename installs a file that
    `fsync` made durable -/
theorem PSlot.block_prefix (s : PSlot C) (hs : s.Sound) (c : C) (q : List (SlotOp C))
    (hq : q <+: saveOps .atomic c) : s.SafeAt q := by
  rcases List.prefix_concat_iff.mp (show q <+: tmpSteps c ++ [.rename c] from hq) with rfl | hq
  · show s.SafeAt (saveOps .atomic c)
    rw [PSlot.SafeAt, PSlot.block_complete]; exact ⟨rfl, rfl, c, rfl, rfl⟩
  · obtain ⟨h1, h2⟩ := PSlot.applyAll_tmpSteps hq.subset s s.view
    obtain ⟨h4, h5⟩ := PSlot.sound_powerLoss_view hs h1
    exact ⟨h4.trans h2.symm, h5⟩

def Blocks (ops : List (SlotOp C)) : Prop :=
  ∃ cs : List C, ops = (cs.map (saveOps .atomic)).flatten

theorem Blocks.nil : Blocks ([] : List (SlotOp C)) := ⟨[], rfl⟩

theorem Blocks.one (c : C) : Blocks (saveOps .atomic c) := ⟨[c], (List.append_nil _).symm⟩

theorem Blocks.append {a b : List (SlotOp C)} (ha : Blocks a) (hb : Blocks b) : Blocks (a ++ b) := by
  obtain ⟨ca, rfl⟩ := ha
  obtain ⟨cb, rfl⟩ := hb
  exact ⟨ca ++ cb, by simp⟩

theorem PSlot.blocks_prefix {ops : List (SlotOp C)} (hb : Blocks ops) (s : PSlot C) (hs : s.Sound)
    (q : List (SlotOp C)) (hq : q <+: ops) : s.SafeAt q := by
  obtain ⟨cs, rfl⟩ := hb
  induction cs generalizing s q with
  | nil =>
    obtain rfl : q = [] := List.prefix_nil.mp hq
    exact PSlot.sound_powerLoss_view hs rfl
  | cons c cs ih =>
    rcases prefix_append_cases hq with hq | ⟨r, rfl, hr⟩
    · exact PSlot.block_prefix s hs c q hq
    · rw [PSlot.SafeAt, PSlot.applyAll_append, PSlot.block_complete, Slot.applyAll_append,
        Slot.applyAll_saveOps_atomic]
      exact ih ⟨some ⟨none, some c, some c⟩, none⟩ ⟨rfl, c, rfl, rfl⟩ r hr

/-! The disk with durability is a fold of events like the process-level one: `PDisk.applyAll_part`
and `PDisk.applyAll_fin` repeat `Disk.applyAll_part` and `Disk.applyAll_fin` of Proofs/C07Slot. -/

theorem PDisk.applyAll_cons (d : PDisk R T) (ev : Ev R T) (t : List (Ev R T)) :
    d.applyAll (ev :: t) = (d.apply ev).applyAll t := rfl

theorem PDisk.applyAll_part (d : PDisk R T) (t : List (Ev R T)) (i : Nat) :
    (d.applyAll t).part i = (d.part i).applyAll (partOps i t) := by
  fun_induction partOps i t generalizing d with
  | case1 => rfl
  | case2 op t ih => exact (ih _).trans (congrArg (PSlot.applyAll · _) (if_pos rfl))
  | case3 j op t hj ih => exact (ih _).trans (congrArg (PSlot.applyAll · _) (if_neg fun e => hj e.symm))
  | case4 ev t hev ih =>
    cases ev with
    | part j op => exact absurd rfl (hev j op)
    | _ => exact ih _

theorem PDisk.applyAll_fin (d : PDisk R T) (t : List (Ev R T)) :
    (d.applyAll t).fin = d.fin.applyAll (finOps t) := by
  induction t generalizing d with
  | nil => rfl
  | cons ev t ih => exact (ih (d.apply ev)).trans (by cases ev <;> rfl)

def TraceBlocks (t : List (Ev R T)) : Prop := (∀ i, Blocks (partOps i t)) ∧ Blocks (finOps t)

theorem TraceBlocks.nil : TraceBlocks ([] : List (Ev R T)) := ⟨fun _ => Blocks.nil, Blocks.nil⟩

theorem TraceBlocks.append {a b : List (Ev R T)} (ha : TraceBlocks a) (hb : TraceBlocks b) :
    TraceBlocks (a ++ b) :=
  ⟨fun i => by rw [partOps_append]; exact (ha.1 i).append (hb.1 i),
   by rw [finOps_append]; exact ha.2.append hb.2⟩

theorem traceBlocks_traceProp (cfg : Cfg R T) (hm : cfg.mode = .atomic) (is : List Nat) :
    TraceProp cfg is TraceBlocks where
  nil := TraceBlocks.nil
  append := TraceBlocks.append
  call _ _ := TraceBlocks.nil
  save i _ s := by
    have ho : OnlyVar i (saveEvs cfg i s) := onlyVar_map_part i _
    refine ⟨fun j => ?_, ?_⟩
    · by_cases hj : j = i
      · subst hj; rw [partOps_saveEvs, hm]; exact Blocks.one _
      · rw [ho.partOps_ne hj]; exact Blocks.nil
    · rw [ho.finOps]; exact Blocks.nil

theorem simC_blocks [DecidableEq T] (cfg : Cfg R T) (hm : cfg.mode = .atomic) (d : Disk R T) (c : Clock)
    (outs : List (Outcome R)) : TraceBlocks (simC cfg d c outs).trace :=
  (traceBlocks_traceProp cfg hm _).of_simC (fun _ _ => by
    simp only [finEvs, hm]
    exact ⟨fun i => by rw [partOps_map_fin]; exact Blocks.nil, by rw [finOps_map_fin]; exact Blocks.one _⟩)
    d c outs

end PyPhysim.C07
