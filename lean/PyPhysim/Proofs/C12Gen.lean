import PyPhysim.Proofs.C12
import PyPhysim.Generated.C12WaterFilling

/-!
# C12: the regenerated text of `doWF` equals the hand model

`Generated/C12WaterFilling.lean` (re-emitted from the AST of `waterfilling.py` on every run)
states the algorithm on the *descending* view `asc.reverse` with Python index arithmetic and
the loop counter `r`; the hand model (`Model/C12.lean`) recurses on the *ascending* list and
drops its head.  The dictionary is `asc.drop r` = "the channels still in use, worst first":
at counter `r` the descending view is `(asc.drop r).reverse ++ (asc.take r).reverse`
(`desc_view`), so the prefix of length `n - r` is the channels in use, best first, and entry
`n - r - 1` is the worst of them (`pyPrefix_append_length`, `pyGet_append_length`); what the
code computes from that prefix is read back along the channels (`sum_Ps_desc`, `pyScatter_desc`).
Both sides are brought to the closed form of `doWFWith_eq_of_dropLoop`: the loop by `loop_spec`, the tail by
`finish_end` / `finish_cons`; `generated_wf_matches_model` (`Properties/C12.lean`) puts the two together.
-/
namespace PyPhysim.C12
open PyPhysim.Proto PyPhysim.Generated.C12WaterFilling

section prim
variable {β : Type}

theorem pyGet_natCast (l : List β) (i : Nat) (h : i < l.length) :
    pyGet l (i : Int) = .ok l[i] := by
  simp only [pyGet, Int.natCast_nonneg, not_lt_of_ge, if_false, Int.toNat_natCast,
    List.getElem?_eq_getElem h]

theorem pyGet_nil (i : Int) : pyGet ([] : List β) i = .error .IndexError := by
  unfold pyGet
  by_cases h : i < 0
  · simp only [h, ↓reduceIte, List.length_nil, Nat.cast_zero, add_zero]
  · simp only [h, ↓reduceIte, List.length_nil, not_lt_zero, not_false_eq_true, getElem?_neg]

theorem pyGet_zero (l : List β) :
    pyGet l 0 = match l.head? with | some x => .ok x | none => .error .IndexError := by
  cases l <;> rfl

theorem pyGet_neg_one (l : List β) :
    pyGet l (-1) = match l.getLast? with | some x => .ok x | none => .error .IndexError := by
  rcases List.eq_nil_or_concat' l with rfl | ⟨l', x, rfl⟩
  · rfl
  · simp only [pyGet, Int.reduceNeg, Int.reduceLT, if_true, List.length_append,
      List.length_singleton, Int.natCast_add, Int.natCast_one, neg_add_cancel_comm_assoc,
      Int.natCast_nonneg, not_lt_of_ge, if_false, Int.toNat_natCast, List.getElem?_concat_length,
      List.getLast?_concat]

theorem pyPrefix_natCast (l : List β) (k : Nat) (h : k ≤ l.length) :
    pyPrefix l (k : Int) = .ok (l.take k) := by
  simp only [pyPrefix, Int.natCast_nonneg, Int.ofNat_le, h, and_self, if_true, Int.toNat_natCast]

theorem pyPrefix_zero (l : List β) : pyPrefix l 0 = .ok [] :=
  pyPrefix_natCast l 0 (Nat.zero_le _)

theorem pyPrefix_append_length (D T : List β) : pyPrefix (D ++ T) (D.length : Int) = .ok D := by
  rw [pyPrefix_natCast _ _ (List.length_append ▸ Nat.le_add_right _ _), List.take_left']
  rfl

theorem pyGet_append_length (D T : List β) (x : β) :
    pyGet (D ++ x :: T) (D.length : Int) = .ok x := by
  rw [pyGet_natCast _ _ (List.length_append ▸ Nat.lt_add_of_pos_right (Nat.succ_pos _)),
    List.getElem_append_right (Nat.le_refl _)]
  simp only [Nat.sub_self, List.getElem_cons_zero]

end prim

section view
variable {β γ : Type} {asc : List β} {r : Nat} {w : β} {rest : List β}

theorem desc_view (f : β → γ) (h : asc.drop r = w :: rest) :
    asc.reverse.map f = (w :: rest).reverse.map f ++ (asc.take r).reverse.map f := by
  rw [← h, ← List.map_append, ← List.reverse_append, List.take_append_drop]

/-- `n - r`, the number of channels in use (positive in `Nat`, so the cast commutes with `-`) -/
theorem length_sub_counter (h : asc.drop r = w :: rest) :
    (asc.length : Int) - (r : Int) = ((w :: rest).length : Int) := by
  have e : asc.length - r = rest.length + 1 := List.length_drop ▸ congrArg List.length h
  exact (Int.ofNat_sub (Nat.lt_of_sub_eq_succ e).le).symm.trans (congrArg Nat.cast e)

theorem pyPrefix_desc (f : β → γ) (h : asc.drop r = w :: rest) :
    pyPrefix (asc.reverse.map f) ((w :: rest).length : Int) = .ok ((w :: rest).reverse.map f) := by
  have := pyPrefix_append_length ((w :: rest).reverse.map f) ((asc.take r).reverse.map f)
  rwa [← desc_view f h, List.length_map, List.length_reverse] at this

theorem pyGet_desc (f : β → γ) (h : asc.drop r = w :: rest) :
    pyGet (asc.reverse.map f) (((w :: rest).length : Int) - 1) = .ok (f w) := by
  have := pyGet_append_length (rest.reverse.map f) ((asc.take r).reverse.map f) (f w)
  rwa [← List.singleton_append, ← List.append_assoc, ← List.map_singleton (f := f),
    ← List.map_append, ← List.reverse_cons, ← desc_view f h, List.length_map,
    List.length_reverse, ← Int.add_sub_cancel (rest.length : Int) 1, ← Int.natCast_succ] at this

/-- assigning values computed from the descending gains at the descending indexes, the last
    assignment winning, is looking up the first entry along the ascending list -/
theorem pyScatter_desc {α : Type} [Zero α] (n : Nat) (g : β → α) (K : List (β × Nat)) :
    pyScatter n (K.reverse.map (fun x => x.2)) ((K.reverse.map (fun x => x.1)).map g)
      = scatter n (K.map fun x => (x.2, g x.1)) := by
  unfold pyScatter scatter
  congr 1
  funext j
  unfold pyScatterAt scatterAt
  rw [List.map_map, List.zip_map', ← List.map_reverse, List.reverse_reverse]
  rfl

end view

variable {α : Type} [Field α]

/-- `Ps` summed along the descending view is the model's `excess` summed along the channels -/
theorem sum_Ps_desc (N Es : α) (w : Chan α) (K : List (Chan α)) :
    ((K.reverse.map (fun x => x.1)).map fun x => N / (Es * w.1) - N / (Es * x)).sum
      = (excess N Es w K).sum := by
  rw [List.map_map]
  exact ((List.reverse_perm K).map _).sum_eq

/-- after the loop, every channel removed: `vtOptPaux[0]` raises -/
theorem finish_end (asc : List (Chan α)) (P N Es : α) (hne : asc ≠ []) :
    finish (asc.reverse.map (fun x => x.1)) (asc.reverse.map (fun x => x.2)) P N Es
      asc.length asc.length = .error .IndexError := by
  simp only [finish, Int.sub_self, Int.zero_sub, pyGet_neg_one, List.getLast?_map,
    List.getLast?_reverse, List.head?_eq_some_head hne, Option.map_some, pyPrefix_zero, bind,
    Except.bind, List.map_nil, pyGet_nil]

variable [LinearOrder α]

/-- recomputation + loop test at counter `r`, some channel still in use -/
theorem loopTest_cons (asc : List (Chan α)) (P N Es : α) (r : Nat) (w : Chan α)
    (rest : List (Chan α)) (h : asc.drop r = w :: rest) :
    loopTest (asc.reverse.map (fun x => x.1)) (asc.reverse.map (fun x => x.2)) P N Es asc.length r
      = .ok (decide (P < (excess N Es w (w :: rest)).sum)) := by
  have hpos : (0 : Int) < ((w :: rest).length : Int) := Int.natCast_succ_pos _
  simp only [loopTest, length_sub_counter h, pyPrefix_desc _ h, pyGet_desc _ h, bind, Except.bind,
    pure, Except.pure, sum_Ps_desc, hpos, decide_true, Bool.and_true]

/-- the loop test with every channel removed (`r = n`, `n > 0`): `Ps` is empty and the bound stops the loop -/
theorem loopTest_end (asc : List (Chan α)) (P N Es : α) (hne : asc ≠ []) :
    loopTest (asc.reverse.map (fun x => x.1)) (asc.reverse.map (fun x => x.2)) P N Es
      asc.length asc.length = .ok false := by
  simp only [loopTest, Int.sub_self, Int.zero_sub, pyGet_neg_one, List.getLast?_map,
    List.getLast?_reverse, List.head?_eq_some_head hne, Option.map_some, pyPrefix_zero, bind,
    Except.bind, pure, Except.pure, Int.lt_irrefl, decide_false, Bool.and_false]

/-- the loop test with no channel at all: `vtChannelsSorted[-1]` raises -/
theorem loopTest_empty (P N Es : α) :
    loopTest ([] : List α) ([] : List Nat) P N Es 0 0 = .error .IndexError := by
  simp only [loopTest, Nat.cast_zero, Int.sub_self, Int.zero_sub, pyPrefix_zero, bind,
    Except.bind, pyGet_nil]

/-- the regenerated loop from counter `r` stops where the model's `dropLoop` stops on
    `asc.drop r`; fuel: one more than the number of channels still in use -/
theorem loop_spec (asc : List (Chan α)) (P N Es : α) (hne : asc ≠ []) :
    ∀ (L : List (Chan α)) (r fuel : Nat), asc.drop r = L → r ≤ asc.length → L.length < fuel →
      ∃ r', loop (asc.reverse.map (fun x => x.1)) (asc.reverse.map (fun x => x.2)) P N Es
              asc.length fuel r = .ok r' ∧ r' ≤ asc.length ∧ asc.drop r' = dropLoop N Es P L := by
  intro L r fuel
  induction fuel generalizing L r with
  | zero => exact fun _ _ hf => absurd hf (Nat.not_lt_zero _)
  | succ f ih =>
    intro h hr hf
    unfold Generated.C12WaterFilling.loop
    cases L with
    | nil =>
      have : r = asc.length := Nat.le_antisymm hr (List.drop_eq_nil_iff.mp h)
      subst this
      rw [loopTest_end asc P N Es hne]
      exact ⟨asc.length, rfl, hr, h⟩
    | cons w rest =>
      have hlt : r < asc.length :=
        Nat.lt_of_not_le (mt List.drop_eq_nil_iff.mpr (h ▸ List.cons_ne_nil w rest))
      have hnext : asc.drop (r + 1) = rest := by rw [← List.drop_drop, h]; rfl
      rw [loopTest_cons asc P N Es r w rest h]
      by_cases hS : P < (excess N Es w (w :: rest)).sum
      · simp only [dropLoop, hS, decide_true, if_true]
        exact ih rest (r + 1) hnext hlt (Nat.lt_of_succ_lt_succ hf)
      · simp only [dropLoop, hS, decide_false, if_false]
        exact ⟨r, rfl, hr, h⟩

/-- after the loop, channels `w :: rest = asc.drop r` in use: remainder split, scatter back
    to the original order and returned level are the model's -/
theorem finish_cons (asc : List (Chan α)) (P N Es : α) (r : Nat) (w : Chan α)
    (rest : List (Chan α)) (h : asc.drop r = w :: rest) (hK : dropLoop N Es P asc = w :: rest) :
    finish (asc.reverse.map (fun x => x.1)) (asc.reverse.map (fun x => x.2)) P N Es asc.length r
      = doWFWith asc asc.length P N Es := by
  rw [doWFWith_eq_of_dropLoop _ hK]
  -- `d[0]`, the best channel: the last of `w :: rest`
  have hbest : (asc.reverse.map (fun x => x.1)).head? = some (rest.getLast?.getD w).1 := by
    rw [desc_view _ h, List.head?_append, List.head?_map, List.head?_reverse, List.getLast?_cons]
    rfl
  simp only [finish, length_sub_counter h, pyPrefix_desc _ h, pyGet_desc _ h, bind, Except.bind,
    pure, Except.pure, sum_Ps_desc, pyGet_zero, hbest, pyScatter_desc,
    List.head?_map, List.head?_reverse, List.getLast?_cons, Option.map_some, Int.cast_natCast]
  -- the level of the best channel cancels: `aux0 + level best = dPdiff / k + minMu`
  simp only [level, add_assoc, sub_add_cancel]

end PyPhysim.C12
