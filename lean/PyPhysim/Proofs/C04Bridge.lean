import Mathlib.Data.Matrix.Mul
import Mathlib.Algebra.BigOperators.Fin
import Mathlib.LinearAlgebra.Matrix.ConjTranspose
import Mathlib.Analysis.Real.Sqrt
import Mathlib.Analysis.SpecialFunctions.Complex.Arg
import PyPhysim.Model.C04

/-!
Bridge between the core-only C04 model (`Fin`-indexed functions, own `sumFin`,
class `CScalar`) and Mathlib: the instance of `CScalar` at `ℂ`, and
`Matrix.of` of every model operation is the corresponding Mathlib operation.
Section `laws` reads the laws of matrix algebra back through `toM`, once, so that the algebra
of the schemes is done on `matMul`, `cT`, `eye`, … as the property theorems write them.
-/
namespace PyPhysim.C04
open Matrix

noncomputable instance instCScalarComplex : CScalar ℂ where
  conj := star
  sqrt z := ((Real.sqrt z.re : ℝ) : ℂ)
  abs z := ((‖z‖ : ℝ) : ℂ)
  angle z := ((Complex.arg z : ℝ) : ℂ)
  exp := Complex.exp
  I := Complex.I
  posB z := decide (0 < z.re)
  nonnegB z := decide (0 ≤ z.re)

theorem conj_def (z : ℂ) : (CScalar.conj z : ℂ) = star z := rfl
theorem sqrt_def (z : ℂ) : (CScalar.sqrt z : ℂ) = ((Real.sqrt z.re : ℝ) : ℂ) := rfl
theorem abs_def (z : ℂ) : (CScalar.abs z : ℂ) = ((‖z‖ : ℝ) : ℂ) := rfl
theorem angle_def (z : ℂ) : (CScalar.angle z : ℂ) = ((Complex.arg z : ℝ) : ℂ) := rfl
theorem exp_def (z : ℂ) : (CScalar.exp z : ℂ) = Complex.exp z := rfl
theorem I_def : (CScalar.I : ℂ) = Complex.I := rfl
theorem posB_def (z : ℂ) : (CScalar.posB z) = decide (0 < z.re) := rfl
theorem nonnegB_def (z : ℂ) : (CScalar.nonnegB z) = decide (0 ≤ z.re) := rfl

theorem sqrtNat_def (n : Nat) : (sqrtNat n : ℂ) = ((Real.sqrt (n : ℝ) : ℝ) : ℂ) := by
  rw [sqrtNat, sqrt_def, Complex.natCast_re]

theorem sqrtNat_ne_zero {n : Nat} (h : 0 < n) : (sqrtNat n : ℂ) ≠ 0 := by
  rw [sqrtNat_def, Complex.ofReal_ne_zero]
  exact (Real.sqrt_pos.mpr (Nat.cast_pos.mpr h)).ne'

theorem sqrtNat_mul_self (n : Nat) : (sqrtNat n : ℂ) * sqrtNat n = (n : ℂ) := by
  rw [sqrtNat_def, ← Complex.ofReal_mul, Real.mul_self_sqrt (Nat.cast_nonneg n),
    Complex.ofReal_natCast]

theorem star_sqrtNat (n : Nat) : star (sqrtNat n : ℂ) = sqrtNat n := by
  rw [sqrtNat_def, Complex.star_def, Complex.conj_ofReal]

theorem sumFin_eq {β : Type} [AddCommMonoid β] : ∀ (n : Nat) (f : Fin n → β), sumFin n f = ∑ i, f i
  | 0, f => (Fin.sum_univ_zero f).symm
  | n+1, f => by rw [sumFin, sumFin_eq n, Fin.sum_univ_castSucc]

abbrev toM {m n : Nat} (A : Mat ℂ m n) : Matrix (Fin m) (Fin n) ℂ := Matrix.of A

theorem toM_inj {m n : Nat} {A B : Mat ℂ m n} (h : toM A = toM B) : A = B :=
  Matrix.of.injective h

section
variable {m k n : Nat}

theorem toM_matMul (A : Mat ℂ m k) (B : Mat ℂ k n) : toM (matMul A B) = toM A * toM B := by
  ext i j
  exact (sumFin_eq _ _).trans (Matrix.mul_apply ..).symm

theorem toM_cT (A : Mat ℂ m n) : toM (cT A) = (toM A)ᴴ := by
  ext i j
  rfl

theorem toM_eye : toM (eye : Mat ℂ n n) = 1 := by
  ext i j
  exact (Matrix.one_apply ..).symm

theorem toM_msub (A B : Mat ℂ m n) : toM (msub A B) = toM A - toM B := by
  rfl

theorem toM_madd (A B : Mat ℂ m n) : toM (madd A B) = toM A + toM B := by
  rfl

theorem toM_smul (c : ℂ) (A : Mat ℂ m n) : toM (smul c A) = c • toM A := by
  rfl

theorem toM_diagM (d : Vec ℂ n) : toM (diagM d) = Matrix.diagonal d := by
  ext i j
  exact (Matrix.diagonal_apply ..).symm

theorem toM_mmseLhs (H : Mat ℂ m n) (nv : ℂ) :
    toM (mmseLhs H nv) = (toM H)ᴴ * toM H + nv • (1 : Matrix (Fin n) (Fin n) ℂ) := by
  simp only [mmseLhs, toM_madd, toM_matMul, toM_cT, toM_smul, toM_eye]

theorem toM_mmseRhs (H : Mat ℂ m n) : toM (mmseRhs H) = (toM H)ᴴ := by
  simp only [mmseRhs, toM_cT]

theorem toM_gmdChannelEq (Q : Mat ℂ m m) (R : Mat ℂ m n) :
    toM (gmdChannelEq Q R) = toM Q * toM R :=
  toM_matMul Q R

end

section laws
variable {m k l n : Nat}

theorem matMul_assoc (A : Mat ℂ m k) (B : Mat ℂ k l) (C : Mat ℂ l n) :
    matMul (matMul A B) C = matMul A (matMul B C) :=
  toM_inj (by simp only [toM_matMul, Matrix.mul_assoc])

theorem matMul_eye (A : Mat ℂ m n) : matMul A eye = A :=
  toM_inj (by rw [toM_matMul, toM_eye, Matrix.mul_one])

theorem eye_matMul (A : Mat ℂ m n) : matMul eye A = A :=
  toM_inj (by rw [toM_matMul, toM_eye, Matrix.one_mul])

theorem cT_matMul (A : Mat ℂ m k) (B : Mat ℂ k n) : cT (matMul A B) = matMul (cT B) (cT A) :=
  toM_inj (by simp only [toM_matMul, toM_cT, conjTranspose_mul])

theorem cT_cT (A : Mat ℂ m n) : cT (cT A) = A :=
  toM_inj (by rw [toM_cT, toM_cT, conjTranspose_conjTranspose])

theorem cT_eye : cT (eye : Mat ℂ n n) = eye :=
  toM_inj (by rw [toM_cT, toM_eye, conjTranspose_one])

theorem cT_smul (c : ℂ) (A : Mat ℂ m n) : cT (smul c A) = smul (star c) (cT A) :=
  toM_inj (by rw [toM_cT, toM_smul, toM_smul, toM_cT, conjTranspose_smul])

theorem madd_matMul (A B : Mat ℂ m k) (C : Mat ℂ k n) :
    matMul (madd A B) C = madd (matMul A C) (matMul B C) :=
  toM_inj (by simp only [toM_matMul, toM_madd, Matrix.add_mul])

theorem matMul_madd (A : Mat ℂ m k) (B C : Mat ℂ k n) :
    matMul A (madd B C) = madd (matMul A B) (matMul A C) :=
  toM_inj (by simp only [toM_matMul, toM_madd, Matrix.mul_add])

theorem matMul_msub (A : Mat ℂ m k) (B C : Mat ℂ k n) :
    matMul A (msub B C) = msub (matMul A B) (matMul A C) :=
  toM_inj (by simp only [toM_matMul, toM_msub, Matrix.mul_sub])

theorem msub_matMul (A B : Mat ℂ m k) (C : Mat ℂ k n) :
    matMul (msub A B) C = msub (matMul A C) (matMul B C) :=
  toM_inj (by simp only [toM_matMul, toM_msub, Matrix.sub_mul])

theorem smul_matMul (c : ℂ) (A : Mat ℂ m k) (B : Mat ℂ k n) :
    matMul (smul c A) B = smul c (matMul A B) :=
  toM_inj (by simp only [toM_matMul, toM_smul, Matrix.smul_mul])

theorem matMul_smul (c : ℂ) (A : Mat ℂ m k) (B : Mat ℂ k n) :
    matMul A (smul c B) = smul c (matMul A B) :=
  toM_inj (by simp only [toM_matMul, toM_smul, Matrix.mul_smul])

theorem matMul_zero (A : Mat ℂ m k) : matMul A (fun _ _ => 0 : Mat ℂ k n) = fun _ _ => 0 :=
  toM_inj ((toM_matMul _ _).trans (Matrix.mul_zero _))

theorem zero_matMul (A : Mat ℂ k n) : matMul (fun _ _ => 0 : Mat ℂ m k) A = fun _ _ => 0 :=
  toM_inj ((toM_matMul _ _).trans (Matrix.zero_mul _))

theorem smul_smul_inv {c : ℂ} (hc : c ≠ 0) (A : Mat ℂ m n) : smul c (smul c⁻¹ A) = A :=
  funext fun i => funext fun j => mul_inv_cancel_left₀ hc (A i j)

end laws

/-- rewrite a model-level hypothesis into Mathlib matrix vocabulary -/
macro "c04_matrix" " at " h:ident : tactic =>
  `(tactic| (replace $h := congrArg toM $h
             simp only [toM_matMul, toM_eye, toM_cT, toM_msub, toM_madd, toM_smul, toM_diagM,
               toM_mmseLhs, toM_mmseRhs, toM_gmdChannelEq] at $h:ident))

end PyPhysim.C04
