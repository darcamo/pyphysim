import PyPhysim.Proofs.C19Geom
import PyPhysim.Model.C19State

set_option linter.unusedSectionVars false

/-! C19 — robustness classes R15 (values that are merely close are still different values) and R16
(results depend on the contents of the arguments at call time, not on which object carried them)
as facts about the model.

* `_validate_ratio` compares with `1.0`, `0` and `1` exactly;
* the class-level cache of `Cluster` is keyed by the exact cell count and holds nothing that depends
  on radius, rotation or position: a cluster built after any others is the one computed from scratch;
* a user-placement call appends a point computed from the geometry alone (`callStep_placement`), so a
  history of such calls on one cell is the concatenation of what each call contributes to a user-less
  cell of the same geometry (`placement_history_depends_on_contents_only`, `Properties/C19.lean`);
  an accepted call continues on the new object;
* `cross` is homogeneous of degree two (R6: no hidden absolute scale in the border search).

What uses no law of the scalar (the cache, the calls and their histories) is stated over the operations
the model is written with. -/
namespace PyPhysim.C19
open PyPhysim.Proto

section scalar
variable {α : Type} [Add α] [Sub α] [Mul α] [Div α] [Neg α] [NatCast α] [Circ α]

/-- whatever the cache holds for a cell count is what `normPositions` computes for it -/
def CacheOk (c : NormCache α) : Prop := ∀ n l, c.lookup n = some l → l = normPositions n

theorem hexRaw_eq_norm (R : α) (n : ℕ) : hexRaw R n = (normPositions n).map (smul R) := by
  simp only [hexRaw, normPositions, List.map_map]; rfl

theorem hexRawCached_spec (c : NormCache α) (hc : CacheOk c) (R : α) (n : ℕ) :
    CacheOk (hexRawCached c R n).1 ∧ (hexRawCached c R n).2 = hexRaw R n := by
  unfold hexRawCached
  cases hl : c.lookup n with
  | some l => exact ⟨hc, by rw [hc n l hl, hexRaw_eq_norm]⟩
  | none =>
    refine ⟨fun m l hm => ?_, (hexRaw_eq_norm R n).symm⟩
    rw [List.lookup_cons] at hm
    cases hmn : m == n
    · exact hc m l (by rwa [hmn] at hm)
    · rw [hmn] at hm
      rw [← Option.some.inj hm, beq_iff_eq.mp hmn]

theorem clusterSeq_spec : ∀ (reqs : List (ℕ × α × Pt α × Pt α)) (c : NormCache α), CacheOk c →
    clusterSeq c reqs = reqs.map (fun r => clusterCentres (hexRaw r.2.1 r.1) r.2.2.1 r.2.2.2)
  | [], _, _ => rfl
  | (n, R, u, pos) :: rest, c, hc => by
    obtain ⟨h1, h2⟩ := hexRawCached_spec c hc R n
    simp only [clusterSeq, List.map_cons, h2, clusterSeq_spec rest _ h1]

variable [LT α] [DecidableLT α] [LE α] [DecidableLE α]

theorem callRun_append (inside : List (Pt α) → Pt α → Bool) (eps : α) :
    ∀ (a b : List (Call α)) (o : CellObj α), callRun inside eps o (a ++ b) = callRun inside eps (callRun inside eps o a) b
  | [], _, _ => rfl
  | c :: a, b, o => by
    simp only [List.cons_append, callRun]
    cases callStep inside eps o c with
    | ok o' => exact callRun_append inside eps a b o'
    | error _ => exact callRun_append inside eps a b o

/-- `add_user` and `add_border_user`: the calls that add a point -/
def Call.isPlacement : Call α → Bool
  | .addUser _ | .borderUser _ _ => true
  | _ => false

/-- the point a placement call adds; it is computed from the geometry alone (the value on other calls is never read) -/
def placedPoint (inside : List (Pt α) → Pt α → Bool) (eps : α) (st : CellState α) : Call α → Except PyErr (Pt α)
  | .addUser p => addUser (stInside inside st) p
  | .borderUser ang ratio => borderUser st.pos (stVerts st) (Circ.cisDeg ang) ratio eps
  | _ => .error .ValueError

theorem callStep_placement (inside : List (Pt α) → Pt α → Bool) (eps : α) (o : CellObj α) (c : Call α)
    (hc : c.isPlacement = true) :
    callStep inside eps o c = (placedPoint inside eps o.st c).map fun p => { o with users := o.users ++ [p] } := by
  cases c with
  | set op => cases hc
  | deleteUsers => cases hc
  | addUser p =>
    rw [callStep, placedPoint, addUser]
    split_ifs <;> rfl
  | borderUser ang ratio =>
    rw [callStep, placedPoint]
    cases borderUser o.st.pos (stVerts o.st) (Circ.cisDeg ang) ratio eps <;> rfl

end scalar

section field
variable {α : Type} [Field α] [LinearOrder α] [IsStrictOrderedRing α] [Circ α]

theorem cross_smul_smul (k : α) (p q : Pt α) : cross (smul k p) (smul k q) = k * k * cross p q :=
  cross_smul k k p q

omit [IsStrictOrderedRing α] [Circ α] in
theorem validateRatio_eq (ratio eps : α) :
    validateRatio ratio eps = if ratio = 1 then .ok (1 - eps)
      else if ratio < 0 ∨ 1 < ratio then .error .ValueError else .ok ratio := by
  simp only [validateRatio, Nat.cast_one, Nat.cast_zero, ← le_antisymm_iff]

theorem callRun_accepted (inside : List (Pt α) → Pt α → Bool) (eps : α) (o o' : CellObj α) (c : Call α)
    (cs : List (Call α)) (h : callStep inside eps o c = .ok o') :
    callRun inside eps o (c :: cs) = callRun inside eps o' cs := by
  simp only [callRun, h]

omit [Circ α] in
/-- a ratio below `0` or above `1` is not `1`, so it reaches the range test and fails it -/
theorem validateRatio_outside {ratio : α} (eps : α) (h : ratio < 0 ∨ 1 < ratio) :
    validateRatio ratio eps = .error .ValueError := by
  rw [validateRatio_eq, if_neg (h.elim (fun h => (h.trans_le zero_le_one).ne) ne_of_gt), if_pos h]

end field

end PyPhysim.C19
