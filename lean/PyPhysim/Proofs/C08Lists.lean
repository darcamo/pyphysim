import PyPhysim.Model.C08
import PyPhysim.Proofs.Common
/-!
C08 — lists cut at cumulative sums, and the blocks of a matrix.  `seg ns l k` is the `k`-th piece of `l`
cut at the cumulative sums of `ns`.  Two statements carry the layer: a concatenation cut at the
cumulative sums of its chunk lengths gives the chunks back (`seg_flatMap_of_lengths`), and the first `m`
pieces joined are a prefix of the list (`flatten_segs_take`).  With them: the blocks of a matrix scaled by
an expanded path loss (`block_scaled`, from `seg_zipWith_expand1`; `block_expand` says the same of the
expanded path loss alone and has no user), and the rows of `block_diag` (`seg_padded`).  Core Lean only.
-/
set_option linter.unusedSectionVars false
namespace PyPhysim.C08

section Lists
variable {β γ δ : Type}

theorem cum_zero (ns : List Nat) : cum ns 0 = 0 := by simp [cum]

theorem cum_succ {ns : List Nat} {k n : Nat} (h : ns[k]? = some n) : cum ns (k + 1) = cum ns k + n := by
  unfold cum
  rw [List.take_add_one, h, List.sum_append]
  rfl

theorem cum_take {ns : List Nat} {m k : Nat} (h : k ≤ m) : cum (ns.take m) k = cum ns k := by
  simp [cum, List.take_take, Nat.min_eq_left h]

theorem cum_mono (ns : List Nat) {i j : Nat} (h : i ≤ j) : cum ns i ≤ cum ns j := by
  unfold cum
  rw [← Nat.add_sub_cancel' h, List.take_add, List.sum_append]
  exact Nat.le_add_right ..

theorem cum_length_eq_sum (ns : List Nat) : cum ns ns.length = ns.sum := by simp [cum]

theorem cum_le_sum (ns : List Nat) (k : Nat) : cum ns k ≤ ns.sum :=
  Nat.le.intro (show cum ns k + (ns.drop k).sum = ns.sum by rw [cum, ← List.sum_append, List.take_append_drop])

/-- with the `k`-th count at hand, a piece is `n` elements from position `cum ns k` on -/
theorem seg_eq {ns : List Nat} {k n : Nat} (h : ns[k]? = some n) (l : List β) :
    seg ns l k = (l.drop (cum ns k)).take n := by
  unfold seg slice
  rw [cum_succ h, Nat.add_sub_cancel_left]

theorem seg_map (f : β → γ) (ns : List Nat) (l : List β) (k : Nat) :
    seg ns (l.map f) k = (seg ns l k).map f := by
  simp [seg, slice]

theorem seg_zipWith (f : β → γ → δ) (ns : List Nat) (a : List β) (b : List γ) (k : Nat) :
    seg ns (List.zipWith f a b) k = List.zipWith f (seg ns a k) (seg ns b k) := by
  simp [seg, slice, List.take_zipWith, List.drop_zipWith]

theorem seg_length_le {ns : List Nat} {k n : Nat} (h : ns[k]? = some n) (l : List β) :
    (seg ns l k).length ≤ n := by
  rw [seg_eq h]
  exact List.length_take_le ..

theorem slice_append_right (l₁ l₂ : List β) {x y : Nat} (h : l₁.length ≤ x) :
    slice (l₁ ++ l₂) x y = slice l₂ (x - l₁.length) (y - l₁.length) := by
  unfold slice
  rw [List.drop_append, List.drop_eq_nil_of_le h, List.nil_append, Nat.sub_sub_sub_cancel_right h]

theorem slice_append_left (l₁ l₂ : List β) {x y : Nat} (h : y ≤ l₁.length) :
    slice (l₁ ++ l₂) x y = slice l₁ x y := by
  unfold slice
  rw [List.drop_append, List.take_append_of_le_length (by rw [List.length_drop]; exact Nat.sub_le_sub_right h x)]

theorem slice_replicate (a : β) {n x y : Nat} (h : y ≤ n) :
    slice (List.replicate n a) x y = List.replicate (y - x) a := by
  unfold slice
  rw [List.drop_replicate, List.take_replicate, Nat.min_eq_left (Nat.sub_le_sub_right h x)]

theorem slice_take (l : List β) {a b c : Nat} (h : b ≤ c) : slice (l.take c) a b = slice l a b := by
  unfold slice
  rw [List.drop_take, List.take_take, Nat.min_eq_left (Nat.sub_le_sub_right h a)]

/-- the chunks before the `k`-th take up `cum ns k` places -/
theorem cum_of_lengths (L : List γ) (g : γ → List β) {ns : List Nat}
    (hns : ∀ (i : Nat) (y : γ), L[i]? = some y → ns[i]? = some (g y).length) {k : Nat} (hk : k ≤ L.length) :
    cum ns k = ((L.take k).flatMap g).length := by
  induction k with
  | zero => rw [cum_zero]; rfl
  | succ k ih =>
    have hx := List.getElem?_eq_getElem (Nat.lt_of_succ_le hk)
    rw [cum_succ (hns k _ hx), ih (Nat.le_of_succ_le hk), List.take_add_one, hx, List.flatMap_append,
      List.length_append]
    simp

theorem seg_flatMap_of_lengths (L : List γ) (g : γ → List β) {ns : List Nat}
    (hns : ∀ (i : Nat) (y : γ), L[i]? = some y → ns[i]? = some (g y).length) {k : Nat} {x : γ} (hx : L[k]? = some x) :
    seg ns (L.flatMap g) k = g x := by
  obtain ⟨hk, hxe⟩ := List.getElem?_eq_some_iff.1 hx
  have hL : L.flatMap g = (L.take k).flatMap g ++ (g x ++ (L.drop (k + 1)).flatMap g) := by
    conv => lhs; rw [← List.take_append_drop k L, List.drop_eq_getElem_cons hk, hxe]
    rw [List.flatMap_append, List.flatMap_cons]
  rw [seg_eq (hns k x hx), cum_of_lengths L g hns (Nat.le_of_lt hk), hL, List.drop_left, List.take_left]

theorem seg_flatten_blocks (xs : List (List β)) {l : Nat} {x : List β} (hx : xs[l]? = some x) :
    seg (xs.map List.length) xs.flatten l = x := by
  rw [← List.flatMap_id]
  exact seg_flatMap_of_lengths xs id (fun i y hy => by rw [List.getElem?_map, hy]; rfl) hx

theorem seg_expand1 {ps : List β} {ns : List Nat} {k n : Nat} {p : β}
    (hp : ps[k]? = some p) (hn : ns[k]? = some n) :
    seg ns (expand1 ps ns) k = List.replicate n p :=
  seg_flatMap_of_lengths (ps.zip ns) (fun pn => List.replicate pn.2 pn.1)
    (fun i y hy => by rw [(List.getElem?_zip_eq_some.1 hy).2, List.length_replicate])
    (x := (p, n)) (List.getElem?_zip_eq_some.2 ⟨hp, hn⟩)

/-- a list combined elementwise with an expanded vector and cut at the same counts: piece `k` is combined
    with the `k`-th entry alone -/
theorem seg_zipWith_expand1 (f : β → γ → δ) (l : List β) {ps : List γ} {ns : List Nat} {k n : Nat} {p : γ}
    (hp : ps[k]? = some p) (hn : ns[k]? = some n) :
    seg ns (List.zipWith f l (expand1 ps ns)) k = (seg ns l k).map fun x => f x p := by
  rw [seg_zipWith, seg_expand1 hp hn]
  exact zipWith_replicate_right _ _ _ _ (seg_length_le hn l)

theorem flatten_segs_take (ns : List Nat) (ρ : List β) (m : Nat) :
    ((List.range m).map fun l => seg ns ρ l).flatten = ρ.take (cum ns m) := by
  induction m with
  | zero => rw [cum_zero]; rfl
  | succ m ih =>
    rw [List.range_succ, List.map_append, List.map_singleton, List.flatten_concat, ih]
    unfold seg slice
    rw [← List.take_add, Nat.add_sub_cancel' (cum_mono ns (Nat.le_succ m))]

theorem flatten_segs (ns : List Nat) (ρ : List β) (h : ρ.length = ns.sum) :
    ((List.range ns.length).map fun l => seg ns ρ l).flatten = ρ := by
  rw [flatten_segs_take, cum_length_eq_sum, ← h, List.take_length]

theorem mem_expand1 {ps : List β} {ns : List Nat} {x : β} (h : x ∈ expand1 ps ns) : x ∈ ps := by
  unfold expand1 at h
  rw [List.mem_flatMap] at h
  obtain ⟨pn, hpn, hx⟩ := h
  rw [List.mem_replicate] at hx
  rw [hx.2]
  exact (List.of_mem_zip hpn).1

theorem expand1_length (ps : List β) (ns : List Nat) (h : ps.length = ns.length) :
    (expand1 ps ns).length = ns.sum := by
  unfold expand1
  simp only [List.length_flatMap, List.length_replicate]
  exact congrArg List.sum (List.map_snd_zip (Nat.le_of_eq h.symm))

theorem seg_length_eq {ns : List Nat} {k n : Nat} (h : ns[k]? = some n) (l : List β)
    (hl : ns.sum ≤ l.length) : (seg ns l k).length = n := by
  rw [seg_eq h, List.length_take, List.length_drop]
  refine Nat.min_eq_left (Nat.le_sub_of_add_le ?_)
  rw [Nat.add_comm, ← cum_succ h]
  exact Nat.le_trans (cum_le_sum ns (k + 1)) hl

theorem mem_seg {ns : List Nat} {l : List β} {k : Nat} {x : β} (h : x ∈ seg ns l k) : x ∈ l := by
  unfold seg slice at h
  exact List.mem_of_mem_drop (List.mem_of_mem_take h)

end Lists

section Blocks
variable {α : Type}

theorem block_expand {p : Mat α} {nr nt : List Nat} {k l a b : Nat} {prow : List α} {q : α}
    (hp : p[k]? = some prow) (hq : prow[l]? = some q) (ha : nr[k]? = some a) (hb : nt[l]? = some b) :
    block (expand p nr nt) nr nt k l = List.replicate a (List.replicate b q) := by
  unfold block rowBlock colBlock expand
  rw [seg_expand1 (p := expand1 prow nt) (by simp [hp]) ha]
  simp [seg_expand1 hq hb]

section
variable [Zero α]

/-- a row of `block_diag`, cut at the column counts `cs`: the row `r` of the `k`-th block between zeros -/
theorem seg_padded {cs : List Nat} {k l ck cl : Nat} (r : List α) (hk : cs[k]? = some ck)
    (hl : cs[l]? = some cl) (hr : r.length = ck) :
    seg cs (List.replicate (cum cs k) 0 ++ r ++ List.replicate (cs.sum - cum cs (k + 1)) 0) l
      = if k = l then r else List.replicate cl 0 := by
  have hk1 := cum_succ hk
  have hl1 := cum_succ hl
  have hlen : (List.replicate (cum cs k) (0 : α) ++ r).length = cum cs (k + 1) := by
    rw [List.length_append, List.length_replicate, hr, hk1]
  unfold seg
  rcases Nat.lt_trichotomy k l with h | rfl | h
  · -- `l` right of the block: the slice lies in the trailing zeros
    have h1 : cum cs (k + 1) ≤ cum cs l := cum_mono cs h
    rw [if_neg (Nat.ne_of_lt h), slice_append_right _ _ (hlen ▸ h1), hlen,
      slice_replicate _ (Nat.sub_le_sub_right (cum_le_sum cs (l + 1)) _), Nat.sub_sub_sub_cancel_right h1, hl1,
      Nat.add_sub_cancel_left]
  · -- the block itself
    rw [if_pos rfl, slice_append_left _ _ (Nat.le_of_eq hlen.symm),
      slice_append_right _ _ (Nat.le_of_eq List.length_replicate), List.length_replicate, Nat.sub_self, hk1,
      Nat.add_sub_cancel_left, ← hr]
    exact List.take_length
  · -- `l` left of the block: the slice lies in the leading zeros
    have h1 : cum cs (l + 1) ≤ cum cs k := cum_mono cs h
    rw [if_neg (Nat.ne_of_gt h), List.append_assoc, slice_append_left _ _ (by rw [List.length_replicate]; exact h1),
      slice_replicate _ h1, hl1, Nat.add_sub_cancel_left]

end

variable [Add α] [Mul α] [Zero α]

theorem block_scaled (s : α → α) (raw p : Mat α) {nr nt : List Nat} {k l a b : Nat} {prow : List α} {q : α}
    (hp : p[k]? = some prow) (hq : prow[l]? = some q) (ha : nr[k]? = some a) (hb : nt[l]? = some b) :
    block (scaleEl s raw (expand p nr nt)) nr nt k l = scaleBy s (block raw nr nt k l) q := by
  unfold block rowBlock colBlock scaleEl expand scaleBy
  -- the path loss is expanded along the rows and along the columns: `seg_zipWith_expand1` once for each
  rw [seg_zipWith_expand1 _ raw (p := expand1 prow nt) (by rw [List.getElem?_map, hp]; rfl) ha, List.map_map,
    List.map_map]
  exact List.map_congr_left fun r _ => seg_zipWith_expand1 _ r hq hb

end Blocks

end PyPhysim.C08
