import PyPhysim.Proofs.C09Rx

/-!
Assembly: facts about `calcBD` and the unscaled precoder `msBad` from the kernel contracts; both plain methods
load the columns of `msBad` (`normalizedWF_eq_diag`, `noWF_eq_diag`), so block diagonality and the receive
filter are stated once for any loading (`loaded_blockDiagonal`, `loaded_rx_mask`); a common gain on the
channel moves out of products and leaves the precoder unchanged.
-/
namespace PyPhysim.BD
namespace Pf
open Matrix

section top
variable {K N : Nat}

/-- the contracts of the kernels used by `_calc_BD_matrix_no_power_scaling` -/
structure BDContract (hK : 0 < K) (H : Mat ℂ (K * N) (K * N)) (VH1 : Fin K → Mat ℂ (K * N) (K * N))
    (VH2 : Fin K → Mat ℂ N N) (S2 : Fin K → Fin N → ℝ) : Prop where
  /-- `V_H` returned by `svd(H̃_k)` is unitary -/
  unitary1 : ∀ k, matMul (VH1 k) (cT (VH1 k)) = eye
  /-- `V_H` returned by `svd(H_k Ṽ0_k)` is unitary -/
  unitary2 : ∀ k, matMul (VH2 k) (cT (VH2 k)) = eye
  /-- the selected singular vectors span (a part of) the null space of the other users -/
  null : ∀ k, matMul (tildeChannel H k) (calcBD hK H VH1 VH2 S2 k).V0 = fun _ _ => 0

variable (hK : 0 < K) (H : Mat ℂ (K * N) (K * N)) (VH1 : Fin K → Mat ℂ (K * N) (K * N))
  (VH2 : Fin K → Mat ℂ N N) (S2 : Fin K → Fin N → ℝ)

theorem calcBD_Ms (k : Fin K) :
    (calcBD hK H VH1 VH2 S2 k).Ms = matMul (calcBD hK H VH1 VH2 S2 k).V0 (calcBD hK H VH1 VH2 S2 k).V1 := rfl

theorem calcBD_V0 (k : Fin K) :
    (calcBD hK H VH1 VH2 S2 k).V0 = leastCols (VH1 k) N (Nat.le_mul_of_pos_left N hK) := rfl

theorem calcBD_V1 (k : Fin K) :
    (calcBD hK H VH1 VH2 S2 k).V1 = leastCols (VH2 k) N (Nat.le_refl N) := rfl

theorem colBlock_msBad (k : Fin K) :
    colBlock (msBad (calcBD hK H VH1 VH2 S2)) k = (calcBD hK H VH1 VH2 S2 k).Ms :=
  colBlock_stackCols _ k

variable {hK H VH1 VH2 S2}

theorem calcBD_null (c : BDContract hK H VH1 VH2 S2) (j k : Fin K) (hjk : j ≠ k) :
    matMul (rowBlock H j) (calcBD hK H VH1 VH2 S2 k).Ms = fun _ _ => 0 := by
  rw [calcBD_Ms]
  exact null_mul _ _ _ (rowBlock_null_of_tilde H k _ (c.null k) j hjk)

theorem calcBD_orthonormal (c : BDContract hK H VH1 VH2 S2) (k : Fin K) :
    matMul (cT (calcBD hK H VH1 VH2 S2 k).Ms) (calcBD hK H VH1 VH2 S2 k).Ms = eye := by
  rw [calcBD_Ms]
  exact orthonormal_mul _ _ (by rw [calcBD_V0]; exact leastCols_orthonormal _ _ (c.unitary1 k))
    (by rw [calcBD_V1]; exact leastCols_orthonormal _ _ (c.unitary2 k))

theorem msBad_unit_cols (c : BDContract hK H VH1 VH2 S2) (y : Fin (K * N)) :
    ∑ i, Complex.normSq (msBad (calcBD hK H VH1 VH2 S2) i y) = 1 :=
  col_normSq_of_orthonormal _ (calcBD_orthonormal c (userOf y)) (within y)

theorem msBad_block_pos (c : BDContract hK H VH1 VH2 S2) (hN : 0 < N) (k : Fin K) :
    0 < frobSq (colBlock (msBad (calcBD hK H VH1 VH2 S2)) k) := by
  rw [colBlock_msBad]
  exact frobSq_pos_of_orthonormal _ (calcBD_orthonormal c k) hN

/-- the effective channel of the unscaled precoder is block diagonal, and stays so under every loading of its
    columns: water-filling, normalisation, per-transmitter normalisation -/
theorem loaded_blockDiagonal (c : BDContract hK H VH1 VH2 S2) (t : Fin (K * N) → ℂ) {Ms : Mat ℂ (K * N) (K * N)}
    (hMs : Ms = matMul (msBad (calcBD hK H VH1 VH2 S2)) (diagM t)) : IsBlockDiagonal (matMul H Ms) := by
  rw [hMs]
  exact blockDiagonal_mul_diagM H _ t (blockDiagonal_stack H _ (calcBD_null c))

theorem loaded_rx_mask (c : BDContract hK H VH1 VH2 S2) (Hinv : Mat ℂ (K * N) (K * N)) (hH : matMul Hinv H = eye)
    (d : Fin (K * N) → ℝ) {Ms : Mat ℂ (K * N) (K * N)}
    (hMs : Ms = matMul (msBad (calcBD hK H VH1 VH2 S2)) (diagM fun j => (d j : ℂ)))
    (W : Mat ℂ (K * N) (K * N)) (h1 : matMul (matMul (matMul H Ms) W) (matMul H Ms) = matMul H Ms)
    (h3 : cT (matMul W (matMul H Ms)) = matMul W (matMul H Ms)) :
    matMul W (matMul H Ms) = diagM (fun j => if d j = 0 then 0 else 1) := by
  obtain ⟨G, hG⟩ := effective_left_inverse H Hinv _ hH (calcBD_orthonormal c) (calcBD_null c)
  exact pinv_matMul_eq_mask _ _ W G d ((congrArg (matMul H) hMs).trans (matMul_assoc _ _ _).symm) hG h1 h3

end top

section scale
variable {K N : Nat}

/-- `smul_matMul` under the model's name for the scalar multiple -/
theorem scaleMat_matMul {m k n : Nat} (c : ℂ) (A : Mat ℂ m k) (B : Mat ℂ k n) :
    matMul (scaleMat c A) B = scaleMat c (matMul A B) :=
  smul_matMul c A B

theorem tildeChannel_scale {T : Nat} (c : ℂ) (H : Mat ℂ (K * N) T) (k : Fin K) :
    tildeChannel (scaleMat c H) k = scaleMat c (tildeChannel H k) := rfl

theorem scaleMat_eq_zero_iff {m n : Nat} (c : ℂ) (hc : c ≠ 0) (A : Mat ℂ m n) :
    scaleMat c A = (fun _ _ => 0) ↔ A = fun _ _ => 0 := by
  simp only [funext_iff, scaleMat, mul_eq_zero, hc, false_or]

variable (hK : 0 < K) (H : Mat ℂ (K * N) (K * N)) (VH1 : Fin K → Mat ℂ (K * N) (K * N))
  (VH2 : Fin K → Mat ℂ N N) (S2 S2' : Fin K → Fin N → ℝ)

/-- `msBad` reads only `VH1`, `VH2`, neither the channel nor `S2`: the scaled channel is one instance -/
theorem msBad_scale (c : ℂ) :
    msBad (calcBD hK (scaleMat c H) VH1 VH2 S2') = msBad (calcBD hK H VH1 VH2 S2) := rfl

end scale
end Pf
end PyPhysim.BD
