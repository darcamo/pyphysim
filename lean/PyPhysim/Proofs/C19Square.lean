import PyPhysim.Proofs.C19Rect

/-! C19 — `k × k` square clusters: seen from one cell every other cell is `side` times a non-zero integer
vector, so it is at least one side away, also along one of the axes; grid neighbours are exactly one side
apart; any two cells are separated by a line. -/
namespace PyPhysim.C19

/-- column and (flipped) row of cell `t` -/
def sqCol (k t : ℕ) : ℤ := ((t % k : ℕ) : ℤ)
def sqRow (k t : ℕ) : ℤ := ((k - 1 - t / k : ℕ) : ℤ)

theorem sq_coords_ne {k t₁ t₂ : ℕ} (h₁ : t₁ < k * k) (h₂ : t₂ < k * k) (hne : t₁ ≠ t₂) :
    sqCol k t₂ - sqCol k t₁ ≠ 0 ∨ sqRow k t₂ - sqRow k t₁ ≠ 0 := by
  by_contra hc
  simp only [not_or, not_not, sqCol, sqRow] at hc
  have q1 : t₁ / k < k := Nat.div_lt_of_lt_mul h₁
  have q2 : t₂ / k < k := Nat.div_lt_of_lt_mul h₂
  apply hne
  rw [← Nat.div_add_mod t₁ k, ← Nat.div_add_mod t₂ k, show t₂ % k = t₁ % k by omega,
    show t₂ / k = t₁ / k by omega]

section field
variable {α : Type} [Field α]

theorem squareRawPt_sub (side : α) (k t₁ t₂ : ℕ) :
    psub (squareRawPt side k t₂) (squareRawPt side k t₁) =
      (side * ((sqCol k t₂ - sqCol k t₁ : ℤ) : α), side * ((sqRow k t₂ - sqRow k t₁ : ℤ) : α)) := by
  simp only [squareRawPt, psub, sqCol, sqRow, Int.cast_sub, Int.cast_natCast, ← mul_sub, sub_sub_sub_cancel_right]

theorem squareRaw_adjacent_h (side : α) (k t : ℕ) (hrow : (t + 1) % k ≠ 0) :
    dist2 (squareRawPt side k t) (squareRawPt side k (t + 1)) = side * side := by
  have hq : (t + 1) / k = t / k := Nat.succ_div_of_mod_ne_zero hrow
  have hm : (t + 1) % k = t % k + 1 := by
    rw [Nat.mod_def, hq, Nat.mod_def t k, Nat.sub_add_comm (Nat.mul_div_le t k)]
  -- seen from the right neighbour the cell is at `side·(-1, 0)`
  rw [dist2, squareRawPt_sub, sqCol, sqCol, sqRow, sqRow, hq, hm, sub_self, Nat.cast_add, Nat.cast_one, sub_add_cancel_left]
  simp only [norm2, Int.cast_neg, Int.cast_one, Int.cast_zero, mul_neg, mul_one, neg_mul, neg_neg, mul_zero, add_zero]

theorem squareRaw_adjacent_v (side : α) (k t : ℕ) (hk : 0 < k) (h : t + k < k * k) :
    dist2 (squareRawPt side k t) (squareRawPt side k (t + k)) = side * side := by
  have hlt := Nat.div_lt_of_lt_mul h
  rw [Nat.add_div_right t hk] at hlt
  -- seen from the cell one row further the cell is at `side·(0, 1)`
  rw [dist2, squareRawPt_sub, sqCol, sqCol, sqRow, sqRow, Nat.add_div_right t hk, Nat.add_mod_right t k, sub_self,
    ← Nat.sub_sub, Nat.cast_pred (Nat.sub_pos_of_lt (Nat.lt_sub_of_add_lt hlt)), sub_sub_cancel]
  simp only [norm2, Int.cast_one, Int.cast_zero, mul_one, mul_zero, zero_add]

variable [LinearOrder α] [IsStrictOrderedRing α]

/-- a non-zero integer vector scaled by `s` is at least `|s|` long, already along one of the axes -/
theorem lattice_far (s : α) {a b : ℤ} (h : a ≠ 0 ∨ b ≠ 0) :
    s * s ≤ norm2 (s * (a : α), s * (b : α)) ∧ (0 ≤ s → s ≤ |s * (a : α)| ∨ s ≤ |s * (b : α)|) := by
  constructor
  · have e : norm2 (s * (a : α), s * (b : α)) = s * s * ((a * a + b * b : ℤ) : α) := by
      simp only [norm2, Int.cast_add, Int.cast_mul]
      ring
    rw [e]
    exact le_mul_of_one_le_right (mul_self_nonneg s) (Int.cast_one_le_of_pos
      ((add_nonneg (mul_self_nonneg a) (mul_self_nonneg b)).lt_of_ne'
        (mt mul_self_add_mul_self_eq_zero.mp (not_and_or.mpr h))))
  · intro hs
    have key : ∀ z : ℤ, z ≠ 0 → s ≤ |s * (z : α)| := fun z hz => by
      rw [abs_mul, abs_of_nonneg hs, ← Int.cast_abs]
      exact le_mul_of_one_le_right hs (Int.cast_one_le_of_pos (abs_pos.mpr hz))
    exact h.imp (key a) (key b)

theorem squareRaw_min_dist (side : α) {k t₁ t₂ : ℕ} (h₁ : t₁ < k * k) (h₂ : t₂ < k * k) (hne : t₁ ≠ t₂) :
    side * side ≤ dist2 (squareRawPt side k t₁) (squareRawPt side k t₂) := by
  rw [dist2, squareRawPt_sub]
  exact (lattice_far side (sq_coords_ne h₂ h₁ hne.symm)).1

theorem square_axis (side : α) (hs : 0 ≤ side) {k t₁ t₂ : ℕ} (h₁ : t₁ < k * k) (h₂ : t₂ < k * k)
    (hne : t₁ ≠ t₂) :
    side ≤ |(psub (squareRawPt side k t₂) (squareRawPt side k t₁)).1| ∨
      side ≤ |(psub (squareRawPt side k t₂) (squareRawPt side k t₁)).2| := by
  rw [squareRawPt_sub]
  exact (lattice_far side (sq_coords_ne h₁ h₂ hne)).2 hs

theorem square_sep (side : α) (hs : 0 ≤ side) {u : Pt α} (hu : norm2 u = 1) {ci cj δ : Pt α}
    (hsub : psub cj ci = rot u δ) (h : side ≤ |δ.1| ∨ side ≤ |δ.2|) :
    Separated (squareCellVerts side u ci) (squareCellVerts side u cj) := by
  have h0 : 0 ≤ side / 2 := div_nonneg hs zero_le_two
  have h1 : (0 : α) < 1 := one_pos
  rw [← mul_div_cancel₀ side two_ne_zero] at h
  generalize hr : side / 2 = r at h0 h
  rw [squareCellVerts, squareCellVerts, squareCell_verts hr h0, squareCell_verts hr h0]
  -- both coordinates of a corner are `±r`, the half side; the normal is the axis along which `δ` is long
  have hc : ∀ v ∈ [(-r, -r), (r, -r), (r, r), (-r, r)], |v.1| ≤ r ∧ |v.2| ≤ r := by
    simp only [List.forall_mem_cons, abs_neg, abs_of_nonneg h0, le_refl, and_self, true_and]
    exact List.forall_mem_nil _
  rcases h with h | h
  · refine place_separated (1, 0) r hu ?_ (fun v hv => ?_) hsub ?_
    · rwa [norm2, mul_one, mul_zero, add_zero]
    · rw [dot, one_mul, zero_mul, add_zero]
      exact (hc v hv).1
    · rwa [dot, one_mul, zero_mul, add_zero]
  · refine place_separated (0, 1) r hu ?_ (fun v hv => ?_) hsub ?_
    · rwa [norm2, mul_one, mul_zero, zero_add]
    · rw [dot, one_mul, zero_mul, zero_add]
      exact (hc v hv).2
    · rwa [dot, one_mul, zero_mul, zero_add]
end field

end PyPhysim.C19
