import Mathlib.Analysis.SpecialFunctions.Log.Base
import Mathlib.Analysis.SpecialFunctions.Pow.Real
import Mathlib.Analysis.SpecialFunctions.Trigonometric.Inverse
import Mathlib.Analysis.SpecialFunctions.Sqrt
import PyPhysim.Model.C20

/-!
Instantiation of the model's scalar classes at `ℝ` and `ℂ`, the conversion
lemmas over `ℝ`, and the principal-angle computations: the angle form of the squared distance is
`Σ (1 − sᵢ²) = r − Σ sᵢ²`, which vanishes only when every cosine is one.
-/
namespace PyPhysim.LinAlg

/-- `math.sqrt` on the reals -/
noncomputable instance : RSqrt ℝ := ⟨Real.sqrt⟩
/-- real square root of the real part, embedded in `ℂ` (the code only ever takes
    roots of real non-negative quantities) -/
noncomputable instance : RSqrt ℂ := ⟨fun z => ((Real.sqrt z.re : ℝ) : ℂ)⟩
noncomputable instance : Transc ℝ :=
  { log10 := Real.logb 10, pow10 := fun x => (10 : ℝ) ^ x, acos := Real.arccos, sin := Real.sin }

namespace Pf

theorem pow10_log10 (x : ℝ) (hx : 0 < x) : (10 : ℝ) ^ (Real.logb 10 x) = x :=
  Real.rpow_logb (by norm_num) (by norm_num) hx

theorem log10_pow10 (y : ℝ) : Real.logb 10 ((10 : ℝ) ^ y) = y :=
  Real.logb_rpow (by norm_num) (by norm_num)

theorem sumSinSq_ofFn : ∀ (n : Nat) (f : Fin n → ℝ),
    sumSinSq (List.ofFn f) = ∑ i, Real.sin (f i) * Real.sin (f i)
  | 0, f => by simp [sumSinSq]
  | n+1, f => by
    rw [List.ofFn_succ, sumSinSq, sumSinSq_ofFn n, Fin.sum_univ_succ]
    rfl

theorem principalAngles_ofFn (n : Nat) (s : Fin n → ℝ) :
    principalAngles (List.ofFn s) = List.ofFn (fun i => Real.arccos (if 1 < s i then 1 else s i)) := by
  simp only [principalAngles, List.map_ofFn]
  rfl

theorem sin_arccos_sq (y : ℝ) (h0 : 0 ≤ y) (h1 : y ≤ 1) :
    Real.sin (Real.arccos y) * Real.sin (Real.arccos y) = 1 - y * y := by
  rw [Real.sin_arccos, Real.mul_self_sqrt (sub_nonneg.mpr (pow_le_one₀ h0 h1)), sq]

theorem sum_one_sub {r : Nat} (f : Fin r → ℝ) : ∑ i, (1 - f i) = (r : ℝ) - ∑ i, f i := by
  rw [Finset.sum_sub_distrib, Fin.sum_const, nsmul_eq_mul, mul_one]

theorem sumSinSq_angles {r : Nat} (s : Fin r → ℝ) (h0 : ∀ i, 0 ≤ s i) (h1 : ∀ i, s i ≤ 1) :
    sumSinSq (principalAngles (List.ofFn s)) = (r : ℝ) - ∑ i, s i * s i := by
  rw [principalAngles_ofFn, sumSinSq_ofFn, ← sum_one_sub]
  exact Finset.sum_congr rfl fun i _ => by rw [if_neg (not_lt.mpr (h1 i)), sin_arccos_sq _ (h0 i) (h1 i)]

theorem sum_one_sub_sq_nonpos_iff {r : Nat} (s : Fin r → ℝ) (h0 : ∀ i, 0 ≤ s i) (h1 : ∀ i, s i ≤ 1) :
    ((r : ℝ) - ∑ i, s i * s i ≤ 0) ↔ ∀ i, s i = 1 := by
  have hnn : ∀ i ∈ (Finset.univ : Finset (Fin r)), 0 ≤ 1 - s i * s i := fun i _ =>
    sub_nonneg.mpr (mul_le_one₀ (h1 i) (h0 i) (h1 i))
  rw [← sum_one_sub, LE.le.ge_iff_eq' (Finset.sum_nonneg hnn), Finset.sum_eq_zero_iff_of_nonneg hnn]
  refine forall_congr' fun i => ?_
  rw [sub_eq_zero, eq_comm, mul_self_eq_one_iff, imp_iff_right (Finset.mem_univ i)]
  exact or_iff_left fun h => by linarith [h0 i]

end Pf
end PyPhysim.LinAlg
