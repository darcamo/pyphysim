import PyPhysim.Proofs.C20GmdInvRef
import PyPhysim.Proofs.C20GmdInvAlg
import PyPhysim.Proofs.C20GmdInvPerm

/-!
The loop invariant of `gmd` on the abstract state, its preservation, and the sweep of the array model.

Scalars: a field `K` with conjugation containing the reals through `ι : ℝ →+* K` such that on
the reals conjugation, `sqrt` and `≤` of `K` are the real ones (`RealLike`; `K = ℝ` with
`ι = id`, `K = ℂ` with the coercion and the comparison of real parts).

`Inv … k g` = `MInv` (matrix part, over `K`) ∧ `BInv` (bookkeeping part, over `ℝ`: the array `d`
holds real numbers) of the abstract state `g`.  Each iteration of the array model is
`gmdStep_refines` + `Inv.step`, and every index it reads is in range by `Inv.bounds` (`sweep_ok`); the
statements after the loop (`R[p-1, p-1] = σ̄`, `R[0:p-1, p-1] = z`) are `finishM`, and `Inv.final` reads
the decomposition off the invariant after the last iteration, column by column.
-/
set_option linter.unusedSectionVars false
namespace PyPhysim.LinAlg.GmdInv
open PyPhysim.Proto PyPhysim.LinAlg Matrix

variable {K : Type} [Field K] [StarRing K] [RSqrt K] [LE K] [DecidableLE K]

structure RealLike (ι : ℝ →+* K) : Prop where
  star_ι : ∀ x, star (ι x) = ι x
  sqrt_ι : ∀ x, RSqrt.sqrt (ι x) = ι (Real.sqrt x)
  le_ι : ∀ x y, ι x ≤ ι y ↔ x ≤ y

theorem gmdCS_ι {ι : ℝ →+* K} (hι : RealLike ι) (flag : Bool) (sb d1 d2 : ℝ) :
    gmdCS flag (ι sb) (ι d1) (ι d2) = (ι (gmdCS flag sb d1 d2).1, ι (gmdCS flag sb d1 d2).2) := by
  cases flag
  · simp only [gmdCS, Bool.false_eq_true, if_false, ← ι.map_mul, ← ι.map_sub, ← map_div₀, ← ι.map_one,
      hι.sqrt_ι]
    rfl
  · simp only [gmdCS, if_true, ι.map_one, ι.map_zero]

theorem gmdY_ι (ι : ℝ →+* K) (sb d1 d2 : ℝ) : gmdY (ι sb) (ι d1) (ι d2) = ι (gmdY sb d1 d2) := by
  simp only [gmdY, map_div₀, ι.map_mul]

structure Inv (ι : ℝ →+* K) (m n p : Nat) (A : Matrix (Fin m) (Fin n) K) (S : Nat → ℝ) (sb : ℝ) (k : Nat)
    (g : GA K) : Prop where
  mi : MInv m n p A (ι sb) k g.d g.z g.R (colv m g.Q) (colv n g.P)
  bi : ∃ dr : Nat → ℝ, (∀ q, g.d q = ι (dr q)) ∧ BInv p S sb k dr g.perm g.invperm g.large g.small

theorem pickA_ι {ι : ℝ →+* K} (hι : RealLike ι) (sb : ℝ) (k : Nat) (g : GA K) (dr : Nat → ℝ)
    (hd : ∀ q, g.d q = ι (dr q)) :
    pickA (ι sb) k g = (g.perm (pickRank sb (dr k) g.large g.small),
      if sb ≤ dr k then g.large else g.large + 1, if sb ≤ dr k then g.small - 1 else g.small,
      if sb ≤ dr k then decide (sb ≤ dr (g.perm g.small)) else decide (dr (g.perm g.large) ≤ sb)) := by
  unfold pickA pickRank
  rw [hd k, hd, hd]
  simp only [hι.le_ι]
  split <;> rfl

theorem Inv.bounds {ι : ℝ →+* K} {m n p : Nat} {A : Matrix (Fin m) (Fin n) K} {S : Nat → ℝ} {sb : ℝ}
    {k : Nat} {g : GA K} (h : Inv ι m n p A S sb k g) (hk : k + 1 < p) :
    g.small < p ∧ g.large < p ∧ g.perm g.small < p ∧ g.perm g.large < p ∧ g.invperm (k + 1) < p := by
  obtain ⟨dr, hd, bi⟩ := h.bi
  have hs := bi.sp
  -- a rank is left: `large < large + (p - 1 - k) = small + 1`
  have hls : g.large ≤ g.small := Nat.le_of_lt_succ (Nat.lt_of_lt_of_eq
    (Nat.lt_add_of_pos_right (Nat.sub_pos_of_lt (Nat.lt_sub_of_add_lt hk))) bi.cnt)
  exact ⟨hs, Nat.lt_of_le_of_lt hls hs, (bi.pm g.small hls (le_refl _)).2.1, (bi.pm g.large (le_refl _) hls).2.1,
    Nat.lt_of_le_of_lt (bi.ip (k + 1) (Nat.lt_succ_self k) hk).2.1 hs⟩

theorem Inv.step {ι : ℝ →+* K} (hι : RealLike ι) {m n p : Nat} {A : Matrix (Fin m) (Fin n) K}
    {S : Nat → ℝ} {sb : ℝ} {k : Nat} {g : GA K}
    (h : Inv ι m n p A S sb k g) (hpm : p ≤ m) (hpn : p ≤ n) (hk : k + 1 < p) (hsb : 0 < sb)
    (Spos : ∀ r, r < p → 0 < S r) (Smono : ∀ r r', r ≤ r' → r' < p → S r' ≤ S r) :
    Inv ι m n p A S sb (k + 1) (stepA (ι sb) k g) := by
  obtain ⟨dr, hd, bi⟩ := h.bi
  have hs := bi.sp
  -- the counters leave `p - k - 1` ranks
  have he : p - k = g.small + 1 - g.large + 1 := by
    rw [Nat.sub_eq_of_eq_add' bi.cnt.symm, Nat.sub_right_comm,
      Nat.sub_add_cancel (Nat.sub_pos_of_lt (Nat.lt_of_succ_lt hk))]
  have hprod := he ▸ bi.prod
  have hr0 : g.large ≤ pickRank sb (dr k) g.large g.small ∧ pickRank sb (dr k) g.large g.small ≤ g.small :=
    (pick_counters bi.cnt bi.l1 hs hk rfl rfl rfl).1
  have hls : g.large ≤ g.small := hr0.1.trans hr0.2
  obtain ⟨hik, hip, _⟩ := bi.pm _ hr0.1 hr0.2
  have SposI : ∀ r ∈ Finset.Ico g.large (g.small + 1), 0 < S r := fun r hr =>
    Spos r (Nat.lt_of_lt_of_le (Finset.mem_Ico.mp hr).2 hs)
  rw [stepA, pickA_ι hι sb k g dr hd]
  -- the `let`s of `stepA` and the projections of the picked tuple
  dsimp only
  -- `at *`: the picked rank and its position are also named in `hr0`, `hik`, `hip`
  generalize hr0' : pickRank sb (dr k) g.large g.small = r0 at *
  generalize hi : g.perm r0 = i at *
  generalize hflag : (if sb ≤ dr k then decide (sb ≤ dr (g.perm g.small))
    else decide (dr (g.perm g.large) ≤ sb)) = flag
  have hcs : (gmdCS flag sb (dr k) (dr i)).1 ^ 2 + (gmdCS flag sb (dr k) (dr i)).2 ^ 2 = 1 ∧
      (gmdCS flag sb (dr k) (dr i)).1 ^ 2 * dr k ^ 2 + (gmdCS flag sb (dr k) (dr i)).2 ^ 2 * dr i ^ 2
        = sb ^ 2 := by
    rw [← hflag, ← hi, ← hr0', pickRank]
    by_cases hge : sb ≤ dr k
    · simp only [if_pos hge]
      rw [(bi.pm g.small hls (le_refl _)).2.2.1]
      exact pick_small_cs S sb (dr k) g.large (g.small + 1) g.small hsb SposI
        (fun r hr => Smono r g.small (Nat.le_of_lt_succ (Finset.mem_Ico.mp hr).2) hs)
        (Finset.mem_Ico.mpr ⟨hls, Nat.lt_succ_self _⟩) hprod hge
    · simp only [if_neg hge]
      rw [(bi.pm g.large (le_refl _) hls).2.2.1]
      exact pick_large_cs S sb (dr k) g.large (g.small + 1) g.large hsb bi.dpos SposI
        (fun r hr => Smono g.large r (Finset.mem_Ico.mp hr).1 (Nat.lt_of_lt_of_le (Finset.mem_Ico.mp hr).2 hs))
        hprod (not_le.mp hge)
  have e_dk : (swapA g (k + 1) i).d k = ι (dr k) :=
    (congrArg g.d (sw_of_lt (k + 1) i k k (Nat.lt_succ_self k) hik (le_refl k))).trans (hd k)
  have e_dk1 : (swapA g (k + 1) i).d (k + 1) = ι (dr i) := (congrArg g.d (sw_left (k + 1) i)).trans (hd i)
  rw [e_dk, e_dk1, gmdCS_ι hι]
  obtain ⟨k1, k2⟩ := hcs
  generalize gmdCS flag sb (dr k) (dr i) = cs at k1 k2 ⊢
  constructor
  · -- the five fields that `rotA` writes, unfolded once and not at every argument of `MInv.rot` below
    dsimp only [rotA]
    have k1' := congrArg ι k1
    have k2' := congrArg ι k2
    simp only [ι.map_add, ι.map_mul, ι.map_pow, ι.map_one] at k1' k2'
    rw [← e_dk, ← e_dk1] at k2'
    have hne : ι sb ≠ 0 := (map_ne_zero ι).mpr hsb.ne'
    have ht := gmd_step_triangular (ι sb) _ _ _ _ hne k1' k2'
    -- entry by entry, as `MInv.rot` reads the two rotations
    dsimp only [gmdG1] at ht
    obtain ⟨b1, t1, t2, t3, t4⟩ := ht
    -- on the fields of `swapA`, as the goal spells them (`MInv.swap` returns their bodies, and the call below
    -- would unfold `swapA` at every argument)
    have hsw : MInv m n p A (ι sb) k (swapA g (k + 1) i).d g.z g.R (colv m (swapA g (k + 1) i).Q)
        (colv n (swapA g (k + 1) i).P) := h.mi.swap hpm hpn (k + 1) i (Nat.lt_succ_self k) hk hik hip
    -- the holes are `c s a b x y`, then `d' z' R' Fq' Fp'`: each is fixed by the equations after it (the five
    -- defining equations hold by `rfl` resp. `colv_rotF`, for `Q` once `G2` is written as a rotation)
    exact hsw.rot hpm hpn hk _ _ _ _ _ _
      (hι.star_ι _) (hι.star_ι _)
      (by simp only [star_mul', star_div₀, star_one, e_dk, hι.star_ι])
      (by simp only [star_mul', star_div₀, star_one, e_dk1, hι.star_ι])
      (by rw [← sq, ← sq]; exact k1') b1 t1 t2 t3 t4 _ _ _ _ _
      (fun _ => rfl) (fun _ => rfl) (fun _ _ => rfl)
      (fun j => (congrArg (fun G => colv m (rotF _ k (k + 1) G) j) (gmdG2_eq_gmdG1 _ _ _ _ _)).trans
        (colv_rotF _ _ _ _ _ _))
      (colv_rotF _ _ _ _ _)
  · dsimp only [rotA]
    refine ⟨fun q => if q = k + 1 then gmdY sb (dr k) (dr i) else dr (sw (k + 1) i q), fun q => ?_,
      bi.step hk hsb Spos r0 i _ _ hr0'.symm hi.symm rfl rfl _ _ _ (fun _ => rfl) (fun _ => rfl) (fun _ => rfl)⟩
    rw [e_dk, e_dk1, gmdY_ι, apply_ite ι]
    exact if_congr Iff.rfl rfl (hd _)

theorem sweep_ok {ι : ℝ →+* K} (hι : RealLike ι) (m n p : Nat) (A : Matrix (Fin m) (Fin n) K) (S : Nat → ℝ)
    (sb : ℝ) (st0 : GmdState K)
    (sh0 : Shape m n p st0) (inv0 : Inv ι m n p A S sb 0 (absSt st0)) (hpm : p ≤ m) (hpn : p ≤ n)
    (hsb : 0 < sb) (Spos : ∀ r, r < p → 0 < S r) (Smono : ∀ r r', r ≤ r' → r' < p → S r' ≤ S r) :
    ∀ j, j ≤ p - 1 → ∃ st, (List.range j).foldlM (fun st k => gmdStep (ι sb) k st) st0 = .ok st ∧
      Shape m n p st ∧ Inv ι m n p A S sb j (absSt st) := by
  intro j hj
  refine foldlM_range_ok _ (fun j st => Shape m n p st ∧ Inv ι m n p A S sb j (absSt st)) st0 ⟨sh0, inv0⟩ j ?_
  rintro k st hkj ⟨sh, inv⟩
  have hk : k + 1 < p := Nat.add_lt_of_lt_sub (Nat.lt_of_lt_of_le hkj hj)
  obtain ⟨b1, b2, b3, b4, b5⟩ := inv.bounds hk
  obtain ⟨st', hst', sh', e⟩ := gmdStep_refines (ι sb) m n p k st sh hpm hpn hk b1 b2 b3 b4 b5
  exact ⟨st', hst', sh', e ▸ inv.step hι hpm hpn hk hsb Spos Smono⟩

/-- the last loop of `gmd`: `R[0:q, q] = z` -/
def lastColM (q : Nat) (z : Array K) (R : Array (Array K)) : Except PyErr (Array (Array K)) :=
  (List.range q).foldlM (fun (R : Array (Array K)) t => do
    let zt ← idx z t
    let row ← idx R t
    let row ← upd row q zt
    upd R t row) R

theorem lastCol_ok {m n : Nat} (q : Nat) (R : Array (Array K)) (z : Array K) (hR : Rect m n R)
    (hqz : q ≤ z.size) (hqm : q ≤ m) (hqn : q < n) :
    ∃ R', lastColM q z R = .ok R' ∧ Rect m n R' ∧
      (∀ a b, entryRows R' a b = if b = q ∧ a < q then vget z a else entryRows R a b) := by
  refine foldlM_range_ok _ (fun t R' => Rect m n R' ∧
    ∀ a b, entryRows R' a b = if b = q ∧ a < t then vget z a else entryRows R a b) R ?_ q ?_
  · exact ⟨hR, fun a b => (if_neg fun h => Nat.not_lt_zero a h.2).symm⟩
  rintro t R1 ht ⟨hR1, hv1⟩
  have htm : t < m := Nat.lt_of_lt_of_le ht hqm
  refine ⟨setE R1 t q (vget z t), ?_, hR1.setE _ _ _ htm, fun a b => ?_⟩
  · show (idx z t >>= _) = _
    rw [idx_v _ _ (Nat.lt_of_lt_of_le ht hqz), ok_bind]
    exact setE_ok hR1 htm hqn _
  · rw [entryRows_setE hR1 htm hqn, hv1]
    exact ite_row_succ (vget z) _ a b q t

/-- the part of `gmd` after the sweep, as a function of the final state -/
def finishM (p : Nat) (sb : K) (st : GmdState K) :
    Except PyErr (Array (Array K) × Array (Array K) × Array (Array K) × K) := do
  let row ← idx st.R (p - 1)
  let row ← upd row (p - 1) sb
  let R ← upd st.R (p - 1) row
  let R ← lastColM (p - 1) st.z R
  pure (st.Q, R, st.P, st.margin)

theorem finish_ok (m n p : Nat) (sb : K) (st : GmdState K) (sh : Shape m n p st) (hp : 1 ≤ p)
    (hpm : p ≤ m) (hpn : p ≤ n) :
    ∃ R', finishM p sb st = .ok (st.Q, R', st.P, st.margin) ∧
      (∀ a b, entryRows R' a b = if b = p - 1 ∧ a < p - 1 then vget st.z a
        else if a = p - 1 ∧ b = p - 1 then sb else entryRows st.R a b) := by
  have hRr : Rect m n st.R := ⟨sh.R, sh.Rrow⟩
  have hqm : p - 1 < m := Nat.lt_of_lt_of_le (Nat.sub_lt hp Nat.one_pos) hpm
  have hqn : p - 1 < n := Nat.lt_of_lt_of_le (Nat.sub_lt hp Nat.one_pos) hpn
  obtain ⟨R', h1, _, hv⟩ := lastCol_ok (p - 1) (setE st.R (p - 1) (p - 1) sb) st.z
    (hRr.setE _ _ _ hqm) (by rw [sh.z]) (Nat.le_of_lt hqm) hqn
  refine ⟨R', ?_, fun a b => ?_⟩
  · rw [finishM, setE_bind hRr hqm hqn, h1]
    rfl
  · rw [hv, entryRows_setE hRr hqm hqn]

theorem Inv.final {ι : ℝ →+* K} {m n p : Nat} {A : Matrix (Fin m) (Fin n) K} {S : Nat → ℝ} {sb : ℝ}
    {g : GA K}
    (h : Inv ι m n p A S sb (p - 1) g) (hp : 1 ≤ p) (hpm : p ≤ m) (Rf : Nat → Nat → K)
    (hRf : ∀ a b, Rf a b = if b = p - 1 ∧ a < p - 1 then g.z a
      else if a = p - 1 ∧ b = p - 1 then ι sb else g.R a b) :
    (∀ b, b < n → A *ᵥ colv n g.P b = ∑ a ∈ Finset.range m, Rf a b • colv m g.Q a) ∧
    (∀ a b, b < a → Rf a b = 0) ∧ (∀ a, a < p → Rf a a = ι sb) := by
  obtain ⟨q, rfl⟩ : ∃ q, p = q + 1 := ⟨p - 1, (Nat.sub_add_cancel hp).symm⟩
  simp only [Nat.add_sub_cancel] at h hRf ⊢
  obtain ⟨dr, hd, bi⟩ := h.bi
  have hlow : ∀ a b, b < a → g.R a b = 0 := fun a b hba => by_contra fun hne =>
    (h.mi.rT a b hne).elim (fun hh => Nat.not_le_of_gt hba hh.1)
      (fun hh => Nat.ne_of_lt hba (hh.2.trans hh.1.symm))
  have hright : ∀ a b, q < b → g.R a b = 0 := fun a b hqb => by_contra fun hne =>
    (h.mi.rT a b hne).elim (fun hh => Nat.lt_asymm hqb hh.2)
      (fun hh => Nat.ne_of_gt hqb hh.2)
  -- no singular value is left: the product invariant reads `d[q] = σ̄`
  have hdk : g.d q = ι sb := by
    have h1 := bi.prod
    have e := bi.cnt
    rw [Nat.add_sub_cancel, Nat.sub_self] at e
    rw [← e, Nat.add_zero, Finset.Ico_self, Finset.prod_empty, mul_one, Nat.add_sub_cancel_left, pow_one] at h1
    rw [hd, h1]
  have hRf1 : ∀ a b, b ≠ q → Rf a b = g.R a b := fun a b hb => by
    rw [hRf, if_neg (fun h => hb h.1), if_neg (fun h => hb h.2)]
  refine ⟨fun b hb => ?_, fun a b hba => ?_, fun a ha => ?_⟩
  · rcases Nat.lt_trichotomy b q with hb1 | hb2 | hb3
    · rw [h.mi.c1 b hb1, Finset.eventually_constant_sum (N := b + 1) (n := m)
        (hn := Nat.lt_of_lt_of_le hb1 (Nat.le_of_succ_le hpm)) fun a ha => by rw [hRf1 a b (Nat.ne_of_lt hb1), hlow a b ha, zero_smul]]
      exact Finset.sum_congr rfl fun a _ => by rw [hRf1 a b (Nat.ne_of_lt hb1)]
    · rw [hb2, h.mi.c2, hdk, Finset.eventually_constant_sum (N := q + 1) (n := m) (hn := hpm) fun a ha => by
        rw [hRf, if_neg (fun hh => Nat.not_le_of_gt hh.2 (Nat.le_of_succ_le ha)),
          if_neg (fun hh => Nat.ne_of_gt ha hh.1), hlow a q ha, zero_smul],
        Finset.sum_range_succ, hRf q q, if_neg (fun hh => Nat.lt_irrefl q hh.2), if_pos ⟨rfl, rfl⟩]
      exact congrArg (· + _) (Finset.sum_congr rfl fun a ha => by
        rw [hRf, if_pos ⟨rfl, Finset.mem_range.mp ha⟩])
    · rw [h.mi.c4 b hb3 hb]
      exact (Finset.sum_eq_zero fun a _ => by
        rw [hRf1 a b (Nat.ne_of_gt hb3), hright a b hb3, zero_smul]).symm
  · rw [hRf, if_neg (fun hh : b = q ∧ a < q => Nat.lt_asymm hba (Nat.lt_of_lt_of_eq hh.2 hh.1.symm)),
      if_neg (fun hh : a = q ∧ b = q => Nat.ne_of_lt hba (hh.2.trans hh.1.symm))]
    exact hlow a b hba
  · by_cases h1 : a = q
    · rw [hRf, if_neg (fun hh => Nat.ne_of_lt hh.2 h1), if_pos ⟨h1, h1⟩]
    · rw [hRf1 a a h1]
      exact h.mi.rD a (Nat.lt_of_le_of_ne (Nat.le_of_lt_succ ha) h1)

end PyPhysim.LinAlg.GmdInv
