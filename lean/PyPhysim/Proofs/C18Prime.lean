import Mathlib.Data.Nat.Prime.Basic
import Mathlib.Data.Nat.GCD.BigOperators
import Mathlib.Data.List.Pairwise
import PyPhysim.Model.C18

/-!
C18 — prime selection.  A primality test the kernel evaluates in one `gcd` per
number, a table lookup below 37 (`isPrimeB`), its equivalence with `Nat.Prime` below `37²`, and the
specification of `primeLookup` on any table whose entries `≤ N` are exactly the
primes `≤ N`.
-/
namespace PyPhysim.C18P
open PyPhysim.Cazac PyPhysim.Proto

def smallPrimes : List Nat := [2, 3, 5, 7, 11, 13, 17, 19, 23, 29, 31]

/-- decides primality of every `n < 37²`: such an `n` is prime iff it is one of the primes below 37
    or is at least 37 and has no factor in common with their product -/
def isPrimeB (n : Nat) : Bool :=
  if n < 37 then smallPrimes.contains n else Nat.gcd n 200560490130 == 1

def primesUpTo (N : Nat) : List Nat := (List.range (N + 1)).filter isPrimeB

/-- the table lists the numbers below 37 that are their own least factor, and the constant of
    `isPrimeB` is its product -/
theorem smallPrimes_spec : smallPrimes = (List.range 37).filter (fun p => 2 ≤ p ∧ p.minFac = p) ∧
    smallPrimes.prod = 200560490130 := by
  decide +kernel

theorem mem_smallPrimes (p : Nat) : p ∈ smallPrimes ↔ p < 37 ∧ Nat.Prime p := by
  rw [smallPrimes_spec.1, List.mem_filter, List.mem_range, decide_eq_true_iff, ← Nat.prime_def_minFac]

theorem isPrimeB_iff (n : Nat) (h : n < 37 * 37) : isPrimeB n = true ↔ Nat.Prime n := by
  unfold isPrimeB
  split_ifs with h37
  · rw [List.contains_iff_mem, mem_smallPrimes]
    exact and_iff_right h37
  · rw [beq_iff_eq, ← smallPrimes_spec.2]
    refine Nat.coprime_list_prod_right_iff.trans ⟨fun hd => ?_, fun hn d hd => ?_⟩
    · -- a composite `n` has a prime factor `p` with `p² ≤ n < 37²`
      by_contra hnp
      have hp : n.minFac.Prime := Nat.minFac_prime fun h1 => h37 (h1 ▸ by decide)
      have hsq := Nat.minFac_sq_le_self (Nat.lt_of_lt_of_le (by decide) (Nat.le_of_not_lt h37)) hnp
      have hlt : n.minFac < 37 :=
        Nat.mul_self_lt_mul_self_iff.mp (Nat.lt_of_le_of_lt (sq n.minFac ▸ hsq) h)
      exact hp.one_lt.ne' ((hd _ ((mem_smallPrimes _).mpr ⟨hlt, hp⟩)).symm.eq_one_of_dvd n.minFac_dvd)
    · have hd := (mem_smallPrimes d).mp hd
      exact (Nat.coprime_primes hn hd.2).mpr fun hd' => h37 (hd' ▸ hd.1)

theorem mem_primesUpTo (N x : Nat) (hN : N < 37 * 37) :
    x ∈ primesUpTo N ↔ x ≤ N ∧ Nat.Prime x := by
  unfold primesUpTo
  rw [List.mem_filter, List.mem_range, Nat.lt_succ_iff]
  exact and_congr_right (fun h => isPrimeB_iff x (Nat.lt_of_le_of_lt h hN))

theorem pairwise_primesUpTo (N : Nat) : (primesUpTo N).Pairwise (· ≤ ·) :=
  ((List.pairwise_lt_range (n := N + 1)).imp Nat.le_of_lt).filter _

theorem lookup_spec (table : List Nat) (N : Nat) (hN : N < 37 * 37)
    (htab : table.filter (fun p => decide (p ≤ N)) = primesUpTo N)
    (s : Nat) (h2 : 2 ≤ s) (hs : s ≤ N) :
    ∃ p, primeLookup table s = .ok p ∧ Nat.Prime p ∧ p ≤ s ∧ ∀ q, Nat.Prime q → q ≤ s → q ≤ p := by
  -- the entries `≤ s` sit, in order, among the primes `≤ N`, and every prime `≤ s` is one of them
  have hsub : (table.filter (fun p => decide (p ≤ s))).Sublist (primesUpTo N) :=
    htab ▸ List.monotone_filter_right table fun a ha => decide_eq_true (Nat.le_trans (of_decide_eq_true ha) hs)
  have hin : ∀ q, Nat.Prime q → q ≤ s → q ∈ table.filter (fun p => decide (p ≤ s)) := fun q hq hqs =>
    List.mem_filter.mpr ⟨(List.mem_filter.mp
      (htab.symm ▸ (mem_primesUpTo N q hN).mpr ⟨Nat.le_trans hqs hs, hq⟩)).1, decide_eq_true hqs⟩
  have hne := List.ne_nil_of_mem (hin 2 Nat.prime_two h2)
  have hlast := List.getLast_mem hne
  refine ⟨_, ?_, ((mem_primesUpTo N _ hN).mp (hsub.subset hlast)).2,
    of_decide_eq_true (List.mem_filter.mp hlast).2,
    fun q hq hqs => ((pairwise_primesUpTo N).sublist hsub).rel_getLast (hin q hq hqs)⟩
  rw [primeLookup, List.getLast?_eq_some_getLast hne]

end PyPhysim.C18P
