import PyPhysim.Proofs.C10Leak

/-!
Alternating minimisation: the zero-forcing filter read off the block structure of
`[H_kk F_k | C_k]`; the cost `Σ_{k≠l} ‖Y_k H_kl full_F_l‖²`, `Y_k = I − C_k C_kᴴ`, written once as a
function of the precoders and once as a function of the interference bases, and the
resulting descent of one iteration.  Beyond `X − C Cᴴ X = Y X`, all that is used of `Y_k` on the way to
the first view is that it is a Hermitian idempotent (`altMinY_proj`).
-/
namespace PyPhysim.C10
open Matrix

variable {K : Nat} {d : Dims K}

section zeroForcing
variable {n a b : Nat}

theorem matMul_hstack_left {m : Nat} (G : Mat ℂ m n) (A : Mat ℂ n a) (B : Mat ℂ n b) (i : Fin m) (j : Fin a) :
    matMul G (hstack A B) i (Fin.castAdd b j) = matMul G A i j := by
  simp only [matMul, hstack, Fin.addCases_left]

theorem matMul_hstack_right {m : Nat} (G : Mat ℂ m n) (A : Mat ℂ n a) (B : Mat ℂ n b) (i : Fin m) (j : Fin b) :
    matMul G (hstack A B) i (Fin.natAdd a j) = matMul G B i j := by
  simp only [matMul, hstack, Fin.addCases_right]

theorem altMinWH_matMul {c : Nat} (G : Mat ℂ (a + b) n) (X : Mat ℂ n c) (i : Fin a) (j : Fin c) :
    matMul (altMinWH G) X i j = matMul G X (Fin.castAdd b i) j :=
  rfl

end zeroForcing

theorem toM_altMinY (C : Basis ℂ d) (k : Fin K) :
    toM (altMinY C k) = 1 - toM (C k) * (toM (C k))ᴴ := by
  simp only [altMinY, toM_msub, toM_eye, toM_matMul, toM_cT]

theorem altMinY_proj (C : Basis ℂ d) (k : Fin K) (hC : (toM (C k))ᴴ * toM (C k) = 1) :
    (toM (altMinY C k))ᴴ = toM (altMinY C k) ∧ toM (altMinY C k) * toM (altMinY C k) = toM (altMinY C k) := by
  rw [toM_altMinY]
  exact ⟨proj_compl_herm _, proj_compl_idem _ hC⟩

theorem trace_proj_gram {a b : Nat} {P : Matrix (Fin a) (Fin a) ℂ} (hP : Pᴴ = P ∧ P * P = P)
    (X : Matrix (Fin a) (Fin b) ℂ) :
    Matrix.trace (P * X * (P * X)ᴴ) = Matrix.trace (Xᴴ * P * X) := by
  rw [conjTranspose_mul, hP.1, Matrix.trace_mul_comm, Matrix.mul_assoc, ← Matrix.mul_assoc P, hP.2,
    Matrix.mul_assoc]

theorem altMinCost_eq (H : Chan ℂ d) (fF : Prec ℂ d) (C : Basis ℂ d)
    (hC : ∀ k, (toM (C k))ᴴ * toM (C k) = 1) :
    altMinCost H fF C = ∑ k, ∑ l, if k = l then 0 else
      Matrix.trace ((toM (H k l) * toM (fF l))ᴴ * toM (altMinY C k) * (toM (H k l) * toM (fF l))) := by
  unfold altMinCost
  rw [sumFin_eq]
  refine Finset.sum_congr rfl (fun k _ => ?_)
  rw [sumFin_eq]
  refine Finset.sum_congr rfl (fun l _ => ?_)
  split
  · rfl
  · -- `X − C Cᴴ X = Y X`
    rw [← trace_proj_gram (altMinY_proj C k (hC k)), frobSq_eq, toM_altMinY, Matrix.sub_mul, Matrix.one_mul,
      toM_msub, toM_matMul, toM_matMul, toM_matMul, toM_cT, toM_matMul]

/-- The cost as a function of the unit-norm precoders: `altMinFMat H C l = Σ_{k≠l} H_klᴴ Y_k H_kl` is the
    matrix whose least eigenvectors `_updateF` takes. -/
theorem altMinCost_as_F (H : Chan ℂ d) (F : Prec ℂ d) (P : Fin K → ℝ) (hP : ∀ l, 0 ≤ P l) (C : Basis ℂ d)
    (hC : ∀ k, (toM (C k))ᴴ * toM (C k) = 1) :
    altMinCost H (fullF F (fun l => (P l : ℂ))) C
      = ∑ l, (P l : ℂ) * Matrix.trace ((toM (F l))ᴴ * toM (altMinFMat H C l) * toM (F l)) := by
  rw [altMinCost_eq H _ C hC, Finset.sum_comm]
  refine Finset.sum_congr rfl (fun l _ => ?_)
  -- `full_F_l = √P_l • F_l`, and `√P_l · conj √P_l = P_l`
  rw [← sqrt_mul_star (P l) (hP l), ← trace_conj_smul, ← toM_fullF F (fun l => (P l : ℂ)) l, altMinFMat,
    toM_msum_ite, trace_conj_sum_ite]
  refine Finset.sum_congr rfl (fun k _ => ?_)
  split
  · rfl
  · simp only [toM_matMul, toM_cT, conjTranspose_mul, Matrix.mul_assoc]

/-- the cost as a function of the interference bases: `Σ_k (tr Q_k − tr(C_kᴴ Q_k C_k))` with the
    interference covariance `Q_k` whose dominant eigenvectors `_updateC` takes -/
theorem altMinCost_as_C (H : Chan ℂ d) (fF : Prec ℂ d) (C : Basis ℂ d)
    (hC : ∀ k, (toM (C k))ᴴ * toM (C k) = 1) :
    altMinCost H fF C = ∑ k, (Matrix.trace (toM (calcQ H fF k))
        - Matrix.trace ((toM (C k))ᴴ * toM (calcQ H fF k) * toM (C k))) := by
  rw [altMinCost_eq H fF C hC]
  refine Finset.sum_congr rfl (fun k _ => ?_)
  -- the right side is `tr(Q_k Y_k)`, and `Q_k` is the sum of the `X Xᴴ`
  rw [Matrix.mul_assoc, Matrix.trace_mul_comm, Matrix.mul_assoc, ← Matrix.trace_sub, ← mul_one_sub,
    ← toM_altMinY, toM_calcQ, Matrix.sum_mul, Matrix.trace_sum]
  refine Finset.sum_congr rfl (fun l _ => ?_)
  simp only [@eq_comm _ k l]
  split
  · rw [Matrix.zero_mul, Matrix.trace_zero]
  · exact Matrix.trace_mul_cycle _ _ _

/-- one iteration of alternating minimisation (`_updateF` then `_updateC`) as two families of
    per-user inequalities (what the `leig` / `peig` calls guarantee against the current iterate,
    see `least_eigenvectors_minimise` / `IsDominant.trace_ge`): the total leakage out of the interference
    subspaces does not increase — for every vector of non-negative powers. -/
theorem altmin_step_le (H : Chan ℂ d) (F F' : Prec ℂ d) (C C' : Basis ℂ d) (P : Fin K → ℝ)
    (hP : ∀ l, 0 ≤ P l)
    (hC : ∀ k, (toM (C k))ᴴ * toM (C k) = 1) (hC' : ∀ k, (toM (C' k))ᴴ * toM (C' k) = 1)
    (hF : ∀ l, (Matrix.trace ((toM (F' l))ᴴ * toM (altMinFMat H C l) * toM (F' l))).re
             ≤ (Matrix.trace ((toM (F l))ᴴ * toM (altMinFMat H C l) * toM (F l))).re)
    (hCC : ∀ k, (Matrix.trace ((toM (C k))ᴴ * toM (calcQ H (fullF F' (fun l => (P l : ℂ))) k) * toM (C k))).re
             ≤ (Matrix.trace ((toM (C' k))ᴴ * toM (calcQ H (fullF F' (fun l => (P l : ℂ))) k) * toM (C' k))).re) :
    (altMinCost H (fullF F' (fun l => (P l : ℂ))) C').re ≤ (altMinCost H (fullF F (fun l => (P l : ℂ))) C).re := by
  calc (altMinCost H (fullF F' (fun l => (P l : ℂ))) C').re
      ≤ (altMinCost H (fullF F' (fun l => (P l : ℂ))) C).re := by
        rw [altMinCost_as_C H _ C' hC', altMinCost_as_C H _ C hC, Complex.re_sum, Complex.re_sum]
        refine Finset.sum_le_sum (fun k _ => ?_)
        rw [Complex.sub_re, Complex.sub_re]
        exact sub_le_sub_left (hCC k) _
    _ ≤ (altMinCost H (fullF F (fun l => (P l : ℂ))) C).re := by
        rw [altMinCost_as_F H _ P hP C hC, altMinCost_as_F H _ P hP C hC, Complex.re_sum, Complex.re_sum]
        refine Finset.sum_le_sum (fun l _ => ?_)
        rw [Complex.re_ofReal_mul, Complex.re_ofReal_mul]
        exact mul_le_mul_of_nonneg_left (hF l) (hP l)

end PyPhysim.C10
