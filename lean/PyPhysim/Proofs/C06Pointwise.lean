import PyPhysim.Proofs.C06
import PyPhysim.Proofs.C06Heap

/-! C06: what the merge loop of `merge_all_results` computes per name (`mergeNames_pointwise`), the hypotheses on a
sequence of operands merged into one object (`SeqOK`) and what one call does under them (`SeqOK.step`). -/
namespace PyPhysim.C06M
open PyPhysim.Proto

/-- the loop when every name has its pair of last results (`A nm`, `B nm`), compatible, the receivers distinct objects
    and none of them an operand: only Result cells change, each receiver once -/
theorem mergeNames_pointwise (ds od : Dict) (A B : String → Nat) (names : List String) (m : Mach)
    (hnsr : nsr ∉ names)
    (hA : ∀ nm ∈ names, lastOf m ds nm = .ok (A nm))
    (hB : ∀ nm ∈ names, lastOf m od nm = .ok (B nm))
    (hnd : names.Pairwise (fun n1 n2 => A n1 ≠ A n2))
    (hsep : ∀ n1 ∈ names, ∀ n2 ∈ names, A n1 ≠ B n2)
    (hc : ∀ nm ∈ names, ∃ ra, m.res[A nm]? = some ra ∧ ∃ rb, m.res[B nm]? = some rb ∧ Compat ra rb) :
    ∃ res, mergeNames ds od m names = (⟨res, m.lists, m.sims⟩, none)
      ∧ (∀ nm ∈ names, ∀ ra rb, m.res[A nm]? = some ra → m.res[B nm]? = some rb →
            res[A nm]? = some (mergeCore ra rb))
      ∧ (∀ a, (∀ nm ∈ names, a ≠ A nm) → res[a]? = m.res[a]?) := by
  induction names generalizing m with
  | nil => exact ⟨m.res, rfl, fun _ h => absurd h (List.not_mem_nil), fun _ _ => rfl⟩
  | cons nm rest ih =>
    obtain ⟨hAne, hnd'⟩ := List.pairwise_cons.mp hnd
    obtain ⟨ra, hra, rb, hrb, hcab⟩ := hc nm List.mem_cons_self
    have hBne : ∀ n2 ∈ rest, B n2 ≠ A nm := fun n2 h2 e =>
      hsep nm List.mem_cons_self n2 (List.mem_cons_of_mem _ h2) e.symm
    -- `setRes` leaves the lists alone, so the receivers and operands of the remaining names are found as before
    obtain ⟨res, he, i2, i3⟩ := ih (setRes m (A nm) (mergeCore ra rb))
      (fun h => hnsr (List.mem_cons_of_mem _ h))
      (fun n h => hA n (List.mem_cons_of_mem _ h))
      (fun n h => hB n (List.mem_cons_of_mem _ h)) hnd'
      (fun n1 h1 n2 h2 => hsep n1 (List.mem_cons_of_mem _ h1) n2 (List.mem_cons_of_mem _ h2))
      (fun n h => by
        rw [setRes_get_ne (hAne n h).symm, setRes_get_ne (hBne n h)]
        exact hc n (List.mem_cons_of_mem _ h))
    refine ⟨res, ?_, List.forall_mem_cons.mpr ⟨fun xa xb hxa hxb => ?_, fun n h xa xb hxa hxb => ?_⟩,
      fun a ha => ?_⟩
    · rw [mergeNames, if_neg fun e : nm = nsr => hnsr (e ▸ List.mem_cons_self)]
      simp only [hA nm List.mem_cons_self, hB nm List.mem_cons_self, mergeR_eq hra hrb, merge_ok hcab]
      exact he
    · cases hra.symm.trans hxa
      cases hrb.symm.trans hxb
      exact (i3 (A nm) hAne).trans (setRes_get_self hra)
    · exact i2 n h xa xb (by rw [setRes_get_ne (hAne n h).symm]; exact hxa)
        (by rw [setRes_get_ne (hBne n h)]; exact hxb)
    · rw [i3 a (fun n h => ha n (List.mem_cons_of_mem _ h))]
      exact setRes_get_ne (ha nm List.mem_cons_self)

theorem checkNames_none (ds od : Dict) (A B : String → Nat) (m : Mach) (names : List String)
    (hA : ∀ nm ∈ names, lastOf m ds nm = .ok (A nm))
    (hB : ∀ nm ∈ names, lastOf m od nm = .ok (B nm))
    (hc : ∀ nm ∈ names, ∃ ra, m.res[A nm]? = some ra ∧ ∃ rb, m.res[B nm]? = some rb ∧ Compat ra rb) :
    checkNames ds od m names = none := by
  induction names with
  | nil => rfl
  | cons nm rest ih =>
    have ihr := ih (fun n h => hA n (List.mem_cons_of_mem _ h)) (fun n h => hB n (List.mem_cons_of_mem _ h))
      (fun n h => hc n (List.mem_cons_of_mem _ h))
    unfold checkNames
    split
    · exact ihr
    · obtain ⟨ra, h1, rb, h2, h3⟩ := hc nm List.mem_cons_self
      simp only [hA nm List.mem_cons_self, hB nm List.mem_cons_self, h1, h2, mergeGuard_eq_none h3.toL]
      exact ihr

/-- what `self` and the operands of a sequence of `merge_all_results` calls must satisfy (all in the
    initial machine).  `self`: allocated, not empty, distinct names, no `'num_skipped_reps'`, its last
    results (`A`) distinct objects.  The operands: allocated, without `'num_skipped_reps'`, holding every
    name of `self`, their last results (`B`) being objects other than the last results of `self` and
    compatible with them. -/
structure SeqOK (m : Mach) (s : Nat) (os : List Nat) (A : String → Nat) (B : Nat → String → Nat) : Prop where
  hs : s < m.sims.length
  hne : dictOf m s ≠ []
  hnd : ((dictOf m s).map (·.1)).Nodup
  hnsr : nsr ∉ (dictOf m s).map (·.1)
  hA : ∀ nm ∈ (dictOf m s).map (·.1), lastOf m (dictOf m s) nm = .ok (A nm)
  hinj : ∀ n1 ∈ (dictOf m s).map (·.1), ∀ n2 ∈ (dictOf m s).map (·.1), A n1 = A n2 → n1 = n2
  ho : ∀ o ∈ os, o < m.sims.length ∧ dictGet? (dictOf m o) nsr = none
  hB : ∀ o ∈ os, ∀ nm ∈ (dictOf m s).map (·.1), lastOf m (dictOf m o) nm = .ok (B o nm)
  hsep : ∀ o ∈ os, ∀ n1 ∈ (dictOf m s).map (·.1), ∀ n2 ∈ (dictOf m s).map (·.1), A n1 ≠ B o n2
  hc : ∀ nm ∈ (dictOf m s).map (·.1), ∃ ra, m.res[A nm]? = some ra
        ∧ ∀ o ∈ os, ∃ rb, m.res[B o nm]? = some rb ∧ Compat ra rb

/-- one call of the sequence: `merge_all_results` with the first operand changes Result cells only — the last results
    of `self`, each merged with the operand's — and the hypotheses hold again for the remaining operands -/
theorem SeqOK.step {m : Mach} {s o : Nat} {os : List Nat} {A : String → Nat} {B : Nat → String → Nat}
    (h : SeqOK m s (o :: os) A B) :
    ∃ res, mergeAll m s o = (⟨res, m.lists, m.sims⟩, none)
      ∧ (∀ nm ∈ (dictOf m s).map (·.1), ∀ ra rb, m.res[A nm]? = some ra → m.res[B o nm]? = some rb →
            res[A nm]? = some (mergeCore ra rb))
      ∧ (∀ a, (∀ nm ∈ (dictOf m s).map (·.1), a ≠ A nm) → res[a]? = m.res[a]?)
      ∧ SeqOK ⟨res, m.lists, m.sims⟩ s os A B := by
  have ho := h.ho o List.mem_cons_self
  have hc1 := fun n hn => (h.hc n hn).imp fun _ g => g.imp_right fun g2 => g2 o List.mem_cons_self
  obtain ⟨res, he, p2, p3⟩ := mergeNames_pointwise (dictOf m s) (dictOf m o) A (B o) _ m h.hnsr h.hA
    (h.hB o List.mem_cons_self) (h.hnd.imp_of_mem fun h1 h2 hne e => hne (h.hinj _ h1 _ h2 e))
    (h.hsep o List.mem_cons_self) hc1
  refine ⟨res, ?_, p2, p3, ?_⟩
  · rw [mergeAll, if_pos ⟨h.hs, ho.1⟩, if_neg h.hne,
      checkNames_none _ _ A (B o) m _ h.hA (h.hB o List.mem_cons_self) hc1, checkNsr_absent m s o ho.2, he]
    exact mergeNsr_absent _ s o ho.2
  · -- lists and dictionaries are as they were: every hypothesis but the last is the same statement
    refine ⟨h.hs, h.hne, h.hnd, h.hnsr, h.hA, h.hinj, fun o' ho' => h.ho o' (List.mem_cons_of_mem _ ho'),
      fun o' ho' => h.hB o' (List.mem_cons_of_mem _ ho'), fun o' ho' => h.hsep o' (List.mem_cons_of_mem _ ho'),
      fun n hn => ?_⟩
    obtain ⟨xa, g1, g2⟩ := h.hc n hn
    obtain ⟨xb, g3, g4⟩ := g2 o List.mem_cons_self
    refine ⟨mergeCore xa xb, p2 n hn xa xb g1 g3, fun o' ho' => ?_⟩
    obtain ⟨xb', g5, g6⟩ := g2 o' (List.mem_cons_of_mem _ ho')
    exact ⟨xb', (p3 _ fun n2 hn2 e => h.hsep o' (List.mem_cons_of_mem _ ho') n2 hn2 n hn e.symm).trans g5,
      (compat_mergeCore g4).symm.trans g6⟩

end PyPhysim.C06M
