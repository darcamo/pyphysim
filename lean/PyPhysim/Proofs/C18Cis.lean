import Mathlib.Algebra.Field.GeomSum
import Mathlib.Algebra.Order.Ring.Rat
import Mathlib.Data.Rat.Cast.CharZero
import PyPhysim.Model.C18

/-!
C18 — the laws of `cis` / `conj` the proofs rely on (`CisLaws`), their
consequences, and geometric sums of roots of unity.
`Proofs/C18Complex.lean` shows that `ℂ` with `cis q = exp(2πi q)` satisfies them.
-/
namespace PyPhysim.C18P
open PyPhysim.Cazac Finset

/-- What the theorems use about `cis q = exp(2πi·q)` and conjugation. -/
structure CisLaws (F : Type) [Field F] [CisOps F] : Prop where
  cis_zero : (CisOps.cis 0 : F) = 1
  cis_add : ∀ a b : ℚ, (CisOps.cis (a + b) : F) = CisOps.cis a * CisOps.cis b
  cis_eq_one : ∀ a : ℚ, (CisOps.cis a : F) = 1 ↔ ∃ z : ℤ, a = z
  conj_cis : ∀ a : ℚ, CisOps.conj (CisOps.cis a : F) = CisOps.cis (-a)
  conj_hom : ∃ σ : F →+* F, ∀ x : F, CisOps.conj x = σ x

variable {F : Type} [Field F] [CisOps F]

local notation "cis" => (CisOps.cis : ℚ → F)
local notation "conj" => (CisOps.conj : F → F)

namespace CisLaws
variable (L : CisLaws F)
include L

theorem cis_int (z : ℤ) : cis (z : ℚ) = 1 := (L.cis_eq_one _).mpr ⟨z, rfl⟩

theorem cis_nat (n : ℕ) : cis (n : ℚ) = 1 := (L.cis_eq_one _).mpr ⟨n, (Int.cast_natCast n).symm⟩

theorem cis_mul_neg (a : ℚ) : cis a * cis (-a) = 1 := by
  rw [← L.cis_add, add_neg_cancel, L.cis_zero]

theorem cis_ne_zero (a : ℚ) : cis a ≠ 0 :=
  left_ne_zero_of_mul_eq_one (L.cis_mul_neg a)

theorem cis_neg (a : ℚ) : cis (-a) = (cis a)⁻¹ :=
  eq_inv_of_mul_eq_one_right (L.cis_mul_neg a)

theorem cis_sub (a b : ℚ) : cis (a - b) = cis a / cis b := by
  rw [sub_eq_add_neg, L.cis_add, L.cis_neg, div_eq_mul_inv]

theorem cis_congr {a b : ℚ} (h : ∃ z : ℤ, a - b = z) : cis a = cis b := by
  obtain ⟨z, hz⟩ := h
  rw [← sub_add_cancel a b, hz, L.cis_add, L.cis_int, one_mul]

theorem cis_nat_mul (n : ℕ) (a : ℚ) : cis (n * a) = cis a ^ n := by
  induction n with
  | zero => rw [Nat.cast_zero, zero_mul, L.cis_zero, pow_zero]
  | succ n ih => rw [Nat.cast_succ, add_one_mul, L.cis_add, ih, pow_succ]

theorem cis_mul_conj (a : ℚ) : cis a * conj (cis a) = 1 := by
  rw [L.conj_cis, L.cis_mul_neg]

theorem conj_mul (x y : F) : conj (x * y) = conj x * conj y := by
  obtain ⟨σ, h⟩ := L.conj_hom
  simp only [h, map_mul]

theorem conj_add (x y : F) : conj (x + y) = conj x + conj y := by
  obtain ⟨σ, h⟩ := L.conj_hom
  simp only [h, map_add]

theorem conj_zero : conj 0 = 0 := by
  obtain ⟨σ, h⟩ := L.conj_hom
  simp only [h, map_zero]

theorem conj_natCast (n : ℕ) : conj (n : F) = n := by
  obtain ⟨σ, h⟩ := L.conj_hom
  simp only [h, map_natCast]

theorem conj_div (x y : F) : conj (x / y) = conj x / conj y := by
  obtain ⟨σ, h⟩ := L.conj_hom
  simp only [h, map_div₀]

theorem conj_sum {ι : Type} (s : Finset ι) (f : ι → F) :
    conj (∑ i ∈ s, f i) = ∑ i ∈ s, conj (f i) := by
  obtain ⟨σ, h⟩ := L.conj_hom
  simp only [h, map_sum]

/-- orthogonality of the characters of `ℤ/N` -/
theorem sum_cis_div (N : ℕ) (hN : 0 < N) (j : ℤ) :
    ∑ n ∈ range N, cis ((n : ℚ) * ((j : ℚ) / (N : ℚ))) = if (N : ℤ) ∣ j then (N : F) else 0 := by
  have hN' : (N : ℚ) ≠ 0 := Nat.cast_ne_zero.mpr hN.ne'
  -- a geometric sum with ratio `cis (j / N)`, an `N`-th root of unity that is `1` exactly when `N ∣ j`
  rw [Finset.sum_congr rfl fun n _ => L.cis_nat_mul n _]
  split_ifs with hd
  · obtain ⟨z, rfl⟩ := hd
    rw [Int.cast_mul, Int.cast_natCast, mul_div_cancel_left₀ _ hN', L.cis_int]
    simp only [one_pow, Finset.sum_const, Finset.card_range, nsmul_eq_mul, mul_one]
  · have h1 : cis ((j : ℚ) / (N : ℚ)) ≠ 1 := fun h => by
      obtain ⟨z, hz⟩ := (L.cis_eq_one _).mp h
      rw [div_eq_iff hN', mul_comm, ← Int.cast_natCast, ← Int.cast_mul, Int.cast_inj] at hz
      exact hd ⟨z, hz⟩
    rw [geom_sum_eq h1 N, ← L.cis_nat_mul, mul_div_cancel₀ _ hN', L.cis_int, sub_self, zero_div]

end CisLaws
end PyPhysim.C18P
