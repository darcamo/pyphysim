import Mathlib.Algebra.Field.Defs
import PyPhysim.Model.C18
import PyPhysim.Model.C18Buf

/-!
C18 — the state machines, one step at a time: what a user construction, a
read-only call and a copy do to a cell that shares one root object, and what a
history on one refilled argument buffer returns.
-/
namespace PyPhysim.C18P
open PyPhysim.Cazac PyPhysim.Proto

section cell
variable {F : Type} [Field F] [CisOps F]

def freshUser (norm : List F → F) (root : RootSeq) (sp : UeSpec F) : Option (UeSeq F) :=
  match buildUe norm root sp with
  | .ok ue => some ue
  | .error _ => none

def rejection (norm : List F → F) (root : RootSeq) (sp : UeSpec F) : Option PyErr :=
  match buildUe norm root sp with
  | .ok _ => none
  | .error e => some e

theorem addUser_eq (norm : List F → F) (c : Cell F) (sp : UeSpec F) :
    c.addUser norm sp
      = (⟨c.root, c.users ++ (freshUser norm c.root sp).toList⟩, rejection norm c.root sp) := by
  unfold Cell.addUser freshUser rejection
  cases buildUe norm c.root sp
  · exact congrArg (fun l => ((⟨c.root, l⟩ : Cell F), _)) (List.append_nil _).symm
  · rfl

theorem cell_run_eq (norm : List F → F) (c : Cell F) (sps : List (UeSpec F)) :
    Cell.run norm c sps
      = (⟨c.root, c.users ++ sps.filterMap (freshUser norm c.root)⟩, sps.map (rejection norm c.root)) := by
  induction sps generalizing c with
  | nil => exact congrArg (fun l => ((⟨c.root, l⟩ : Cell F), _)) (List.append_nil _).symm
  | cons sp rest ih =>
    simp only [Cell.run, addUser_eq, ih, List.append_assoc, List.filterMap_cons, List.map_cons]
    -- with or without a user from `sp`, both sides now list the same users
    cases freshUser norm c.root sp
    · rfl
    · rfl

def _root_.PyPhysim.Cazac.CellOp.isQuery : CellOp F → Bool
  | .query => true
  | _ => false

def notQuery (op : CellOp F) : Bool := !op.isQuery

theorem step_copy (norm : List F → F) (c : Cell F) (j : ℕ) :
    (c.step norm (.copy j)).1 = ⟨c.root, c.users ++ (c.users[j]?).toList⟩ := by
  dsimp only [Cell.step]
  cases c.users[j]?
  · exact congrArg (Cell.mk c.root) (List.append_nil _).symm
  · rfl

theorem step_query (norm : List F → F) (c : Cell F) : c.step norm .query = (c, none) := rfl

/-- no operation touches the root or the users built so far -/
theorem step_stable (norm : List F → F) (c : Cell F) (op : CellOp F) :
    ∃ l, (c.step norm op).1 = ⟨c.root, c.users ++ l⟩ := by
  cases op with
  | build sp => exact ⟨_, congrArg Prod.fst (addUser_eq norm c sp)⟩
  | query => exact ⟨[], congrArg (Cell.mk c.root) (List.append_nil _).symm⟩
  | copy j => exact ⟨_, step_copy norm c j⟩

end cell

variable {β κ ρ : Type}

theorem run_nil (f : β → κ → ρ) (s : BufState β ρ) : BufState.run f s [] = s := rfl

theorem run_cons (f : β → κ → ρ) (s : BufState β ρ) (op : BufOp β κ) (ops : List (BufOp β κ)) :
    BufState.run f s (op :: ops) = BufState.run f (s.step f op) ops := rfl

theorem run_append (f : β → κ → ρ) (s : BufState β ρ) (ops more : List (BufOp β κ)) :
    BufState.run f s (ops ++ more) = BufState.run f (BufState.run f s ops) more := by
  unfold BufState.run
  rw [List.foldl_append]

theorem run_outs (f : β → κ → ρ) (ops : List (BufOp β κ)) :
    ∀ (b : β) (o : List ρ), (BufState.run f ⟨b, o⟩ ops).outs
      = o ++ (callSnapshots b ops).map (fun p => f p.1 p.2) := by
  induction ops with
  | nil => exact fun b o => (List.append_nil o).symm
  | cons op rest ih =>
    intro b o
    cases op with
    | refill v => exact ih v o
    | call k => exact (ih _ _).trans (List.append_assoc _ _ _)

end PyPhysim.C18P
