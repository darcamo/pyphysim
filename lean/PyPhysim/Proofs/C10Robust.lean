import PyPhysim.Proofs.C10Cache
/-!
What the theorems of `Properties/C10.lean` for the robustness classes R15 (distinct values that are
merely close) and R16 (argument identity and buffer reuse) rest on, on the cache machine of
`Model/C10Cache.lean`: the power read after an accepted `P = v` (`PArg.values`, `curP_stored`) and the
caller that keeps one buffer (`Caller`, `runCaller`, `snapshots`, `finalBuffer`, `runCaller_eq_run`).
-/
namespace PyPhysim.C10
open PyPhysim.Proto

variable {μ ρ : Type}

/-- the power the `P` getter reports after an accepted `P = v` -/
def PArg.values (O : Ops μ ρ) (K : Nat) : PArg ρ → List ρ
  | .none => List.replicate K O.one
  | .scalar x => List.replicate K x
  | .vec xs => xs
  | .malformed => []

theorem curP_stored {O : Ops μ ρ} {K : Nat} {v : PArg ρ} (hv : PArg.valid O K v = true) {st : State μ ρ}
    (hp : st.p = v.stored K) : curP O K st = PArg.values O K v := by
  unfold curP
  rw [hp]
  cases v with
  | malformed => cases hv
  | _ => rfl

/-- what a caller does with its ONE preallocated buffer (contents of type `β`): overwrite it in
    place, or call the solver with an operation built from the buffer as it is at that moment
    (`mk` may use the buffer in several roles of the call) -/
inductive Caller (β μ ρ : Type) where
  | refill (contents : β)
  | call (mk : β → Op μ ρ)

/-- the history as it happens: the operations read the shared buffer -/
def runCaller (cfg : Cfg) (O : Ops μ ρ) (K : Nat) {β : Type} :
    β → State μ ρ → List (Caller β μ ρ) → State μ ρ × List (Out μ ρ)
  | _, st, [] => (st, [])
  | _, st, .refill c :: rest => runCaller cfg O K c st rest
  | b, st, .call mk :: rest =>
    let r := step cfg O K st (mk b)
    let rs := runCaller cfg O K b r.1 rest
    (rs.1, r.2 :: rs.2)

/-- the same history with a private copy of the contents made at every call -/
def snapshots {β : Type} : β → List (Caller β μ ρ) → List (Op μ ρ)
  | _, [] => []
  | _, .refill c :: rest => snapshots c rest
  | b, .call mk :: rest => mk b :: snapshots b rest

theorem runCaller_eq_run (cfg : Cfg) (O : Ops μ ρ) (K : Nat) {β : Type} :
    ∀ (cs : List (Caller β μ ρ)) (b : β) (st : State μ ρ),
      runCaller cfg O K b st cs = run cfg O K st (snapshots b cs)
  | [], _, _ => rfl
  | .refill c :: rest, _, st => runCaller_eq_run cfg O K rest c st
  | .call mk :: rest, b, st =>
    congrArg (fun rs => (rs.1, (step cfg O K st (mk b)).2 :: rs.2)) (runCaller_eq_run cfg O K rest b _)

def finalBuffer {β : Type} : β → List (Caller β μ ρ) → β
  | b, [] => b
  | _, .refill c :: rest => finalBuffer c rest
  | b, .call _ :: rest => finalBuffer b rest

theorem snapshots_append {β : Type} :
    ∀ (cs more : List (Caller β μ ρ)) (b : β),
      snapshots b (cs ++ more) = snapshots b cs ++ snapshots (finalBuffer b cs) more
  | [], _, _ => rfl
  | .refill c :: rest, more, _ => snapshots_append rest more c
  | .call mk :: rest, more, b => congrArg (mk b :: ·) (snapshots_append rest more b)

end PyPhysim.C10
