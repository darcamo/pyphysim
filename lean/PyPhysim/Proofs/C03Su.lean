import PyPhysim.Proofs.C03Freq

/-!
# C03 — `SuChannel`: the path loss is applied to the output and to the reported response
(`report_block_vals`: what it reports after a frequency-domain transmission, block by block and tap by tap);
what a successful call does to the state of the object
-/
namespace PyPhysim.C03
open PyPhysim.Proto

variable {α : Type} [CommSemiring α]

/-- the response a `SuChannel` reports: the TDL response, scaled by `√pathloss` when one is set -/
def Su.report (c : Su α) (ir : IR α) : IR α := match c.pl with | none => ir | some s => ir.scale s

theorem Su.report_n (c : Su α) (ir : IR α) : (c.report ir).n = ir.n := by
  unfold Su.report; cases c.pl <;> rfl

theorem Su.report_delays (c : Su α) (ir : IR α) : (c.report ir).delays = ir.delays := by
  unfold Su.report; cases c.pl <;> rfl

theorem report_block_vals (proc : Proc α) (c : Su α) (fft nb : Nat) (last : IR α)
    (h : IsBlockConcat proc c.tdl fft nb last) (r t b : Nat) (hb : b < nb) :
    (c.report last).vals.map (fun h => h r t b)
      = c.tdl.taps.zipIdx.map (fun ta =>
          plMul c.pl (proc c.tdl.link (c.tdl.pos + b * (if c.tdl.jakes then fft else 1)) ta.2 r t * ta.1.2)) := by
  -- the step is `stride c.tdl.jakes fft`, spelt out as in `mu_freq_mimo_spec`
  have hv := (h.vals_map r t b hb).trans (blockIR_vals_map proc c.tdl fft b r t)
  unfold Su.report plMul
  cases c.pl with
  | none => exact hv
  | some s =>
    have : (ir : IR α) → (ir.scale s).vals.map (fun h => h r t b) = (ir.vals.map (fun h => h r t b)).map (s * ·) :=
      fun ir => by rw [IR.scale, List.map_map, List.map_map]; rfl
    rw [this, hv, List.map_map]
    rfl

theorem su_lastIR (c : Su α) (ir : IR α) (h : c.tdl.lastIR = .ok ir) : c.lastIR = .ok (c.report ir) := by
  unfold Su.lastIR Su.report
  rw [h]
  cases c.pl <;> rfl

/-- a `SuChannel` transmission is the `TdlChannel` one with the path loss applied to the output; `hy` says
    that this is the output computed from the reported (scaled) response -/
theorem su_send_eq (c : Su α) {t' : Tdl α} {r : Except PyErr (Tdl α × List (List α))}
    (Y : IR α → List (List α)) (ir : IR α) (hr : r = .ok (t', Y ir))
    (hy : ∀ s, c.pl = some s → scaleRows s (Y ir) = Y (ir.scale s)) :
    (do let (t', y) ← r; pure ({ c with tdl := t' }, c.applyPl y) : Except PyErr (Su α × List (List α)))
      = .ok ({ c with tdl := t' }, Y (c.report ir)) := by
  subst hr
  unfold Su.applyPl Su.report
  cases hpl : c.pl with
  | none => rfl
  | some s => exact congrArg (fun z => Except.ok (_, z)) (hy s hpl)

theorem convSpecSiso_scale (s : α) (ir : IR α) (n mem : Nat) (xf : Nat → α) :
    scaleRows s [convSpecSiso ir n mem xf] = [convSpecSiso (ir.scale s) n mem xf] :=
  congrArg (fun z => [z]) ((tab_map _ _ _).trans (tab_congr fun m _ => (convAtSiso_scale s ir n xf m).symm))

theorem convSpec_scale (s : α) (ir : IR α) (sw : Bool) (nOut nIn n mem : Nat) (xf : Nat → Nat → α) :
    scaleRows s (convSpec ir sw nOut nIn n mem xf) = convSpec (ir.scale s) sw nOut nIn n mem xf :=
  (scaleRows_tab s _ _ _).trans (tab_congr fun j _ => tab_congr fun m _ => (convAt_scale s ir sw nIn n xf j m).symm)

theorem su_corrupt_siso (proc : Proc α) (c : Su α) (hant : c.tdl.ant = none) {mem : Nat}
    (hmem : c.tdl.mem = .ok mem) (n : Nat) (xf : Nat → α) :
    c.corrupt proc [tab n xf]
      = .ok ({ c with tdl := c.tdl.afterTx proc n },
             [convSpecSiso (c.report (genIR proc c.tdl c.tdl.pos n)) n mem xf]) :=
  su_send_eq c (fun ir => [convSpecSiso ir n mem xf]) _ (tdl_corrupt_siso proc c.tdl hant hmem n xf)
    fun s _ => convSpecSiso_scale s _ n mem xf

theorem su_corrupt_mimo (proc : Proc α) (c : Su α) (nr nt : Nat) (hant : c.tdl.ant = some (nr, nt)) {mem : Nat}
    (hmem : c.tdl.mem = .ok mem) (n : Nat) (xf : Nat → Nat → α) (hIn : 0 < (c.tdl.dims nr nt).2) :
    c.corrupt proc (tab (c.tdl.dims nr nt).2 (fun a => tab n (xf a)))
      = .ok ({ c with tdl := c.tdl.afterTx proc n },
             convSpec (c.report (genIR proc c.tdl c.tdl.pos n)) c.tdl.switched
               (c.tdl.dims nr nt).1 (c.tdl.dims nr nt).2 n mem xf) :=
  su_send_eq c (fun ir => convSpec ir c.tdl.switched (c.tdl.dims nr nt).1 (c.tdl.dims nr nt).2 n mem xf) _
    (tdl_corrupt_mimo proc c.tdl nr nt hant hmem n xf hIn) fun s _ => convSpec_scale s _ _ _ _ n mem xf

/-- contract of the FFT kernel used by the path-loss clause: scaling the input scales the output -/
def Fft.Homogeneous (fftK : Fft α) : Prop :=
  ∀ (s : α) (v : List α) (N k : Nat), fftK (v.map (s * ·)) N k = s * fftK v N k

theorem foldl_set_map {β : Type} (f : β → β) (ts : List (Nat × β)) (acc : List β) :
    (ts.map (Prod.map id f)).foldl (fun acc dv => acc.set dv.1 dv.2) (acc.map f)
      = (ts.foldl (fun acc dv => acc.set dv.1 dv.2) acc).map f := by
  induction ts generalizing acc with
  | nil => rfl
  | cons dv rest ih => rw [List.map_cons, List.foldl_cons, List.foldl_cons, ← ih, List.map_set]; rfl

theorem dense_scale (s : α) (delays : List Nat) (v : List α) :
    dense delays (v.map (s * ·)) = (dense delays v).map (s * ·) := by
  unfold dense
  cases delays.getLast? with
  | none => rfl
  | some last =>
    simp only
    rw [List.zip_map_right, ← foldl_set_map]
    congr 1
    simp only [zeros, List.map_replicate, mul_zero]

theorem denseAt_scale (s : α) (ir : IR α) (r t k : Nat) :
    (ir.scale s).denseAt r t k = (ir.denseAt r t k).map (s * ·) := by
  unfold IR.denseAt IR.scale
  simp only
  rw [← dense_scale, List.map_map, List.map_map]
  rfl

theorem fft_denseAt_scale (fftK : Fft α) (hK : Fft.Homogeneous fftK) (s : α) (ir : IR α) (sw : Bool)
    (a j b N p : Nat) :
    fftK (if sw then (ir.scale s).denseAt a j b else (ir.scale s).denseAt j a b) N p
      = s * fftK (if sw then ir.denseAt a j b else ir.denseAt j a b) N p := by
  cases sw <;> simp only [Bool.false_eq_true, if_false, if_true] <;> rw [denseAt_scale, hK]

theorem freqAtSiso_scale (fftK : Fft α) (hK : Fft.Homogeneous fftK) (s : α) (ir : IR α) (fft B : Nat)
    (xf : Nat → α) (b p q : Nat) :
    freqAtSiso fftK (ir.scale s) fft B xf b p q = freqAtSiso fftK ir fft B xf b p q * s := by
  unfold freqAtSiso
  rw [denseAt_scale, hK, mul_rotate]

theorem freqAt_scale (fftK : Fft α) (hK : Fft.Homogeneous fftK) (s : α) (ir : IR α) (sw : Bool) (fft B nIn : Nat)
    (xf : Nat → Nat → α) (j b p q : Nat) :
    freqAt fftK (ir.scale s) sw fft B nIn xf j b p q = freqAt fftK ir sw fft B nIn xf j b p q * s := by
  unfold freqAt
  rw [← List.sum_map_mul_right]
  exact congrArg List.sum (List.map_congr_left fun a _ => by
    rw [fft_denseAt_scale fftK hK, mul_rotate])

theorem freqAtFlat_scale (fftK : Fft α) (hK : Fft.Homogeneous fftK) (s : α) (ir : IR α) (sw : Bool) (fft : Nat)
    (ps : List Nat) (nIn : Nat) (xf : Nat → Nat → α) (j m : Nat) :
    freqAtFlat fftK (ir.scale s) sw fft ps nIn xf j m = s * freqAtFlat fftK ir sw fft ps nIn xf j m :=
  -- the entry at flat position `m` is the entry of block `m / B` at carrier `ps[m % B]` for the input `xf · m`
  (freqAt_scale fftK hK s ir sw fft 0 nIn (fun a _ => xf a m) j (m / ps.length) _ 0).trans (mul_comm _ s)

theorem freqSpecSiso_scale (fftK : Fft α) (hK : Fft.Homogeneous fftK) (s : α) (ir : IR α) (fft : Nat)
    (ps : List Nat) (B nb : Nat) (xf : Nat → α) :
    scaleRows s [freqSpecSiso fftK ir fft ps B nb xf] = [freqSpecSiso fftK (ir.scale s) fft ps B nb xf] := by
  simp only [scaleRows, freqSpecSiso, List.map_cons, List.map_nil, List.map_flatMap, List.map_map, Function.comp_def,
    freqAtSiso_scale fftK hK]

theorem freqSpec_scale (fftK : Fft α) (hK : Fft.Homogeneous fftK) (s : α) (ir : IR α) (sw : Bool) (fft : Nat)
    (ps : List Nat) (B nb nOut nIn : Nat) (xf : Nat → Nat → α) :
    scaleRows s (freqSpec fftK ir sw fft ps B nb nOut nIn xf) = freqSpec fftK (ir.scale s) sw fft ps B nb nOut nIn xf := by
  simp only [scaleRows, freqSpec, tab_map, List.map_flatMap, List.map_map, Function.comp_def, freqAt_scale fftK hK]

theorem homogeneous_of_pl {c : Su α} {fftK : Fft α} (hK : c.pl = none ∨ Fft.Homogeneous fftK) {s : α}
    (hs : c.pl = some s) : Fft.Homogeneous fftK :=
  hK.resolve_left (by rw [hs]; exact Option.some_ne_none s)

theorem su_corruptFreq_siso (proc : Proc α) (fftK : Fft α) (c : Su α) (hant : c.tdl.ant = none)
    (hK : c.pl = none ∨ Fft.Homogeneous fftK)
    {sel : Sel} {fft n : Nat} {ps : List Nat} {B nb : Nat} (hplan : freqPlan sel fft n = .ok (ps, B, nb))
    (xf : Nat → α) :
    c.corruptFreq proc fftK [tab n xf] fft sel
      = .ok ({ c with tdl := c.tdl.afterFx proc fft nb },
             [freqSpecSiso fftK (c.report (c.tdl.fxIR proc fft nb)) fft ps B nb xf]) :=
  su_send_eq c (fun ir => [freqSpecSiso fftK ir fft ps B nb xf]) _
    (tdl_corruptFreq_siso proc fftK c.tdl hant hplan xf)
    fun s hs => freqSpecSiso_scale fftK (homogeneous_of_pl hK hs) s _ fft ps B nb xf

theorem su_corruptFreq_mimo (proc : Proc α) (fftK : Fft α) (c : Su α) (nr nt : Nat)
    (hant : c.tdl.ant = some (nr, nt)) (hIn : 0 < (c.tdl.dims nr nt).2)
    (hK : c.pl = none ∨ Fft.Homogeneous fftK)
    {sel : Sel} {fft n : Nat} {ps : List Nat} {B nb : Nat} (hplan : freqPlan sel fft n = .ok (ps, B, nb))
    (xf : Nat → Nat → α) :
    c.corruptFreq proc fftK (tab (c.tdl.dims nr nt).2 (fun a => tab n (xf a))) fft sel
      = .ok ({ c with tdl := c.tdl.afterFx proc fft nb },
             freqSpec fftK (c.report (c.tdl.fxIR proc fft nb)) c.tdl.switched fft ps B nb
               (c.tdl.dims nr nt).1 (c.tdl.dims nr nt).2 xf) :=
  su_send_eq c (fun ir => freqSpec fftK ir c.tdl.switched fft ps B nb (c.tdl.dims nr nt).1 (c.tdl.dims nr nt).2 xf) _
    (tdl_corruptFreq_mimo proc fftK c.tdl nr nt hant hIn hplan xf)
    fun s hs => freqSpec_scale fftK (homogeneous_of_pl hK hs) s _ _ fft ps B nb _ _ xf

theorem tdl_corrupt_inv (proc : Proc α) (c c' : Tdl α) (x y : List (List α))
    (h : c.corrupt proc x = .ok (c', y)) : c' = c.afterTx proc (numSymbols x) := by
  simp only [Tdl.corrupt, guard_eq_ok, bind_eq_ok] at h
  obtain ⟨-, mem, -, h⟩ := h
  split at h
  · split at h
    · exact (Prod.mk.inj (pure_eq_ok.mp h)).1.symm
    · exact (throw_eq_ok.mp h).elim
  · split at h
    · exact (throw_eq_ok.mp h).elim
    · exact (Prod.mk.inj (pure_eq_ok.mp h)).1.symm

theorem tdl_corruptFreq_inv (proc : Proc α) (fftK : Fft α) (c c' : Tdl α) (x y : List (List α)) (fft : Nat)
    (sel : Sel) (h : c.corruptFreq proc fftK x fft sel = .ok (c', y)) :
    ∃ ps B nb, freqPlan sel fft (numSymbols x) = .ok (ps, B, nb) ∧ c' = c.afterFx proc fft nb := by
  simp only [Tdl.corruptFreq, guard_eq_ok, bind_eq_ok] at h
  obtain ⟨-, ⟨ps, B, nb⟩, hp, last, hcat, h⟩ := h
  obtain rfl : c.fxIR proc fft nb = last := by rw [Tdl.fxIR, hcat]
  refine ⟨ps, B, nb, hp, ?_⟩
  rw [blockEndPos_eq] at h
  split at h
  · split at h
    · exact (Prod.mk.inj (pure_eq_ok.mp h)).1.symm
    · exact (throw_eq_ok.mp h).elim
  · split at h
    · exact (throw_eq_ok.mp h).elim
    · exact (Prod.mk.inj (pure_eq_ok.mp h)).1.symm

theorem su_step_state (proc : Proc α) (fftK : Fft α) (c c' : Su α) (op : SuOp α) (o : SuOut α)
    (h : c.step proc fftK op = .ok (c', o)) :
    c'.tdl.taps = c.tdl.taps ∧ c'.tdl.jakes = c.tdl.jakes ∧ c'.tdl.link = c.tdl.link ∧
    c'.tdl.pos = c.tdl.pos + op.advance c.tdl.jakes := by
  cases op with
  | tx x =>
    obtain ⟨⟨c1, y1⟩, hc, h⟩ := bind_eq_ok.mp h
    obtain ⟨⟨t', y⟩, ht, hc⟩ := bind_eq_ok.mp hc
    obtain ⟨rfl, -⟩ := Prod.mk.inj (pure_eq_ok.mp hc)
    obtain ⟨rfl, -⟩ := Prod.mk.inj (pure_eq_ok.mp h)
    rw [tdl_corrupt_inv proc c.tdl t' x y ht]
    exact ⟨rfl, rfl, rfl, rfl⟩
  | fx x fft sel =>
    obtain ⟨⟨c1, y1⟩, hc, h⟩ := bind_eq_ok.mp h
    obtain ⟨⟨t', y⟩, ht, hc⟩ := bind_eq_ok.mp hc
    obtain ⟨rfl, -⟩ := Prod.mk.inj (pure_eq_ok.mp hc)
    obtain ⟨rfl, -⟩ := Prod.mk.inj (pure_eq_ok.mp h)
    obtain ⟨ps, B, nb, hp, rfl⟩ := tdl_corruptFreq_inv proc fftK c.tdl t' x y fft sel ht
    refine ⟨rfl, rfl, rfl, ?_⟩
    simp only [SuOp.advance, hp, blockEndPos_eq, Nat.zero_add]
    rfl
  | getIR =>
    obtain ⟨r, -, h⟩ := bind_eq_ok.mp h
    obtain ⟨rfl, -⟩ := Prod.mk.inj (pure_eq_ok.mp h)
    exact ⟨rfl, rfl, rfl, rfl⟩
  | rejected e => exact (throw_eq_ok.mp h).elim
  | setSwitched _ | setPathloss _ | setAnt _ | gen _ | query =>
    obtain ⟨rfl, -⟩ := Prod.mk.inj (pure_eq_ok.mp h)
    exact ⟨rfl, rfl, rfl, rfl⟩

theorem su_run_cons (proc : Proc α) (fftK : Fft α) (c0 cf : Su α) (op : SuOp α) (ops : List (SuOp α))
    (outs : List (SuOut α)) :
    Su.run proc fftK c0 (op :: ops) = .ok (cf, outs) ↔
      ∃ c1 o os, c0.step proc fftK op = .ok (c1, o) ∧ Su.run proc fftK c1 ops = .ok (cf, os) ∧ outs = o :: os := by
  constructor
  · intro h
    obtain ⟨⟨c1, o⟩, hs, h⟩ := bind_eq_ok.mp h
    obtain ⟨⟨cf', os⟩, hr, h⟩ := bind_eq_ok.mp h
    obtain ⟨rfl, rfl⟩ := Prod.mk.inj (pure_eq_ok.mp h)
    exact ⟨c1, o, os, hs, hr, rfl⟩
  · rintro ⟨c1, o, os, hs, hr, rfl⟩
    exact bind_eq_ok.mpr ⟨(c1, o), hs, bind_eq_ok.mpr ⟨(cf, os), hr, rfl⟩⟩

/-- the accepted half of `stepR`; the rejected half is `rejected_call_leaves_state` (`Properties/C03`) -/
theorem su_stepR_accepted (proc : Proc α) (fftK : Fft α) (c c' : Su α) (op : SuOp α) (o : SuOut α)
    (h : c.step proc fftK op = .ok (c', o)) : c.stepR proc fftK op = (c', .ok o) := by
  rw [Su.stepR, h]

end PyPhysim.C03
