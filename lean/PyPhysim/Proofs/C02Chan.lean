import PyPhysim.Proofs.C02Dft
import PyPhysim.Proofs.C02Index

/-!
C02 — the SISO tapped-delay-line channel as a sum of delayed copies, and
`cp_makes_circular'`: on the FFT window of every OFDM symbol the linear
convolution with a channel whose memory does not exceed the cyclic prefix is a
circular convolution of that symbol alone; hence (`channel_spectra`) the transforms
the receiver computes of the block bodies are `H` times the transforms of the
symbols sent, bin by bin, whatever those symbols are.
-/
namespace PyPhysim.C02
open PyPhysim.Proto Finset

variable {K : Type} [Field K]

theorem addAt_zero (out xs : List K) :
    addAt out 0 xs = List.zipWith (· + ·) out (xs ++ List.replicate (out.length - xs.length) 0) := by
  cases out <;> rfl

theorem addAt_length (out : List K) (d : ℕ) (xs : List K) : (addAt out d xs).length = out.length := by
  fun_induction addAt out d xs with
  | case1 out xs =>
    rw [List.length_zipWith, List.length_append, List.length_replicate,
      Nat.min_eq_left (Nat.sub_le_iff_le_add'.mp (Nat.le_refl _))]
  | case2 => rfl
  | case3 o out d xs ih => rw [List.length_cons, List.length_cons, ih]

theorem getD_append_zeros (xs : List K) (n m : ℕ) :
    (xs ++ List.replicate n 0).getD m 0 = xs.getD m 0 := by
  rw [List.getD_eq_getElem?_getD, List.getElem?_append]
  split
  · rw [List.getD_eq_getElem?_getD]
  · next h => rw [← List.getD_eq_getElem?_getD, getD_replicate_zero, List.getD_eq_default _ 0 (not_lt.mp h)]

theorem addAt_getD (out : List K) (d : ℕ) (xs : List K) (m : ℕ) (h : d + xs.length ≤ out.length) :
    (addAt out d xs).getD m 0 = out.getD m 0 + (if d ≤ m then xs.getD (m - d) 0 else 0) := by
  fun_induction addAt out d xs generalizing m with
  | case1 out xs =>
    rw [Nat.zero_add] at h
    rw [getD_zipWith_add _ _ (by
        rw [List.length_append, List.length_replicate, Nat.add_sub_cancel' h]),
      getD_append_zeros, if_pos (Nat.zero_le m), Nat.sub_zero]
  | case2 d xs => exact absurd h (by rw [Nat.succ_add]; exact Nat.not_succ_le_zero _)
  | case3 o out d xs ih =>
    cases m with
    | zero => rw [if_neg (Nat.not_succ_le_zero d), add_zero]; rfl
    | succ m =>
      rw [List.getD_cons_succ, List.getD_cons_succ, Nat.succ_sub_succ,
        ih m (by rw [Nat.succ_add] at h; exact Nat.le_of_succ_le_succ h)]
      simp only [Nat.succ_le_succ_iff]

section fold
variable {ε : Type} (dl : ε → ℕ) (xs : ε → List K)

theorem foldl_addAt_getD (ts : List ε) (out : List K)
    (h : ∀ t ∈ ts, dl t + (xs t).length ≤ out.length) (m : ℕ) :
    (ts.foldl (fun out t => addAt out (dl t) (xs t)) out).getD m 0
      = out.getD m 0 + (ts.map fun t => if dl t ≤ m then (xs t).getD (m - dl t) 0 else 0).sum := by
  induction ts generalizing out with
  | nil => rw [List.foldl_nil, List.map_nil, List.sum_nil, add_zero]
  | cons t ts ih =>
    rw [List.foldl_cons, List.map_cons, List.sum_cons,
      ih _ (fun e he => by rw [addAt_length]; exact h e (List.mem_cons_of_mem t he)),
      addAt_getD _ _ _ _ (h t List.mem_cons_self), add_assoc]

end fold

/-- a time-invariant impulse response: tap `i` has the same value `gains[i]` at every one of the
    `ns` samples -/
def staticIR (delays : List ℕ) (gains : List K) (ns : ℕ) : ImpulseResponse K :=
  ⟨delays, gains.map (List.replicate ns), ns⟩

/-- the frequency response of the taps `(d_i, g_i)` at bin `k` -/
def Hs (ω : K) (delays : List ℕ) (gains : List K) (k : ℕ) : K :=
  ((delays.zip gains).map (fun dg => dg.2 * ω ^ (dg.1 * k))).sum

theorem Hs_add (ω : K) (delays : List ℕ) (gains deltas : List K) (hl : gains.length = deltas.length)
    (k : ℕ) :
    Hs ω delays (List.zipWith (· + ·) gains deltas) k = Hs ω delays gains k + Hs ω delays deltas k := by
  unfold Hs
  induction delays generalizing gains deltas with
  | nil => simp only [List.zip_nil_left, List.map_nil, List.sum_nil, add_zero]
  | cons d ds ih =>
    cases gains with
    | nil => cases deltas with
      | nil => simp only [List.zipWith_nil_left, List.zip_nil_right, List.map_nil, List.sum_nil, add_zero]
      | cons e es => cases hl
    | cons g gs => cases deltas with
      | nil => cases hl
      | cons e es =>
        simp only [List.zipWith_cons_cons, List.zip_cons_cons, List.map_cons, List.sum_cons]
        rw [ih gs es (Nat.succ.inj hl), add_mul, add_add_add_comm]

/-- with one gain sample per input sample (`ns = x.length`) the product `tap_values_sparse[i] * signal` is
    `g_i · x`, nothing cropped: tap `(d, g)` adds the copy `g · x` at offset `d` -/
theorem corrupt_staticIR (delays : List ℕ) (gains : List K) (M : ℕ) (hM : delays.getLast? = some M)
    (x : List K) :
    corrupt (staticIR delays gains x.length) x = .ok ((delays.zip gains).foldl
      (fun out dg => addAt out dg.1 (x.map (dg.2 * ·))) (List.replicate (x.length + M) 0)) := by
  unfold corrupt ImpulseResponse.memory staticIR
  simp only [hM]
  rw [List.zip_map_right, List.foldl_map]
  simp only [Prod.map_fst, Prod.map_snd, id, zipWith_replicate_left _ x _ _ (Nat.le_refl _)]

theorem corrupt_static_getD (delays : List ℕ) (gains : List K) (x : List K) (M : ℕ)
    (hM : delays.getLast? = some M) (hd : ∀ d ∈ delays, d ≤ M) (z : List K)
    (hz : corrupt (staticIR delays gains x.length) x = .ok z) :
    z.length = x.length + M ∧ ∀ m, z.getD m 0
      = ((delays.zip gains).map (fun dg => if dg.1 ≤ m then dg.2 * x.getD (m - dg.1) 0 else 0)).sum := by
  rw [corrupt_staticIR delays gains M hM] at hz
  cases hz
  refine ⟨by rw [foldl_length _ fun _ _ => addAt_length .., List.length_replicate], fun m => ?_⟩
  rw [foldl_addAt_getD _ _ _ _ fun dg hdg => by
      rw [List.length_map, List.length_replicate, Nat.add_comm]
      exact Nat.add_le_add_left (hd dg.1 (List.of_mem_zip hdg).1) _,
    getD_replicate_zero, zero_add]
  exact congrArg List.sum (List.map_congr_left fun dg _ => by rw [getD_map_zero _ (mul_zero dg.2)])

theorem addCP_getD (C : ℕ) (t : List K) (hC : C ≤ t.length) (q : ℕ) (hq : q < t.length + C) :
    (addCP C t).getD q 0 = t.getD ((q + t.length - C) % t.length) 0 := by
  rw [List.getD_eq_getElem?_getD, getElem?_addCP _ _ hC, List.getD_eq_getElem?_getD]
  split
  · next hlt =>
    rw [Nat.mod_eq_of_lt (Nat.sub_lt_left_of_lt_add (Nat.le_trans hC (Nat.le_add_left _ _))
      (Nat.add_lt_add_right hlt _)), Nat.add_comm q, Nat.sub_add_comm hC]
  · next hge =>
    rw [Nat.sub_add_comm (Nat.not_lt.mp hge), Nat.add_mod_right,
      Nat.mod_eq_of_lt (Nat.sub_lt_right_of_lt_add (Nat.not_lt.mp hge) hq)]

theorem rx_row_getD (w C R : ℕ) (z : List K) (r n : ℕ) (hr : r < R) (hn : C + n < w) :
    ((((z.take (R * w)).drop (r * w)).take w).drop C).getD n 0 = z.getD (r * w + C + n) 0 := by
  have h1 : (r + 1) * w ≤ R * w := Nat.mul_le_mul_right w hr
  rw [Nat.succ_mul] at h1
  rw [List.getD_eq_getElem?_getD, List.getElem?_drop, List.getElem?_take, if_pos hn, List.getElem?_drop,
    List.getElem?_take, if_pos (Nat.lt_of_lt_of_le (Nat.add_lt_add_left hn _) h1), ← Nat.add_assoc,
    ← List.getD_eq_getElem?_getD]

section window
variable (N C : ℕ) (hC : C ≤ N) (ts : List (List K)) (hts : ∀ t ∈ ts, t.length = N)
include hC hts

theorem stream_getD (r q : ℕ) (hr : r < ts.length) (hq : q < N + C) :
    ((ts.map (addCP C)).flatten).getD (r * (N + C) + q) 0
      = (ts.getD r []).getD ((q + N - C) % N) 0 := by
  have htr : (ts[r]).length = N := hts _ (List.getElem_mem hr)
  rw [List.getD_eq_getElem?_getD, ← List.flatMap_def,
    getElem?_flatMap_block (addCP C) hq ts r fun t ht => by
      rw [addCP_length _ _ (by rw [hts t ht]; exact hC), hts t ht],
    List.getD_eq_getElem?_getD (l := ts), List.getElem?_eq_getElem hr, Option.bind_some, Option.getD_some,
    ← List.getD_eq_getElem?_getD, addCP_getD _ _ (by rw [htr]; exact hC) _ (by rw [htr]; exact hq), htr]

variable (delays : List ℕ) (gains : List K) (M : ℕ) (hM : delays.getLast? = some M)
  (hd : ∀ d ∈ delays, d ≤ M) (hMC : M ≤ C) (z : List K)
  (hz : corrupt (staticIR delays gains ((ts.map (addCP C)).flatten).length)
    ((ts.map (addCP C)).flatten) = .ok z)
include hM hd hMC hz

/-- only symbol `r` occurs on the right: no inter-symbol interference.  `Properties/C02.lean` states it again as
    `cp_makes_circular` -/
theorem cp_makes_circular' (r : ℕ) (hr : r < ts.length) (n : ℕ) (hn : n < N) :
    z.getD (r * (N + C) + C + n) 0
      = ((delays.zip gains).map (fun dg => dg.2 * (ts.getD r []).getD ((n + N - dg.1) % N) 0)).sum := by
  rw [(corrupt_static_getD delays gains _ M hM hd z hz).2]
  refine congrArg List.sum (List.map_congr_left fun dg hdg => ?_)
  -- tap `i` reads sample `C + n - d_i ≥ 0` of the same block: the delay never reaches back past the prefix
  have hdC : dg.1 ≤ C := (hd dg.1 (List.of_mem_zip hdg).1).trans hMC
  have hd1 : dg.1 ≤ C + n := hdC.trans (Nat.le_add_right C n)
  rw [Nat.add_assoc, if_pos (hd1.trans (Nat.le_add_left _ _)), Nat.add_sub_assoc hd1,
    stream_getD N C hC ts hts r _ hr (Nat.lt_of_le_of_lt (Nat.sub_le _ _)
      (by rw [Nat.add_comm]; exact Nat.add_lt_add_right hn C)),
    ← Nat.sub_add_comm hd1, Nat.sub_right_comm, Nat.add_assoc, Nat.add_sub_cancel_left]

/-- `z.take …`: the channel output without its tail of `M` samples, which is what the receiver cuts into blocks;
    `F` is the receiver's kernel, at size `N` the DFT -/
theorem channel_spectra (ω : K) (hω : ω ^ N = 1) (F : ℕ → List K → List K)
    (hF : ∀ a, F N a = dft (fun m => ω ^ m) N a) :
    (rows (N + C) ts.length (z.take (ts.length * (N + C)))).map (fun b => F N (b.drop C))
      = ts.map (fun t => List.zipWith (· * ·) ((List.range N).map (Hs ω delays gains)) (F N t)) := by
  apply List.ext_getElem (by rw [List.length_map, List.length_map, rows_length])
  intro r h1 h2
  have hr : r < ts.length := by rwa [List.length_map] at h2
  rw [List.getElem_map, List.getElem_map, (List.getElem_eq_iff _).mpr (getElem?_rows _ _ _ r hr),
    hF, hF, dft, dft, zipWith_map_same]
  refine List.map_congr_left fun k _ => ?_
  -- sample `n` of window `r` is a circular convolution of symbol `r` alone; `dft_circ` transforms it
  rw [list_sum_range, list_sum_range, Finset.sum_congr rfl fun n hn => by
      rw [rx_row_getD _ _ _ _ _ _ hr (by
          rw [Nat.add_comm]; exact Nat.add_lt_add_right (mem_range.mp hn) _),
        cp_makes_circular' N C hC ts hts delays gains M hM hd hMC z hz r hr n (mem_range.mp hn)],
    ← List.getD_eq_getElem _ [] hr]
  exact dft_circ ω N hω (fun m => (ts.getD r []).getD m 0) (delays.zip gains)
    (fun dv hdv => ((hd dv.1 (List.of_mem_zip hdv).1).trans hMC).trans hC) k

end window
end PyPhysim.C02
