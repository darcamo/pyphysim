import Mathlib.LinearAlgebra.Matrix.PosDef
import Mathlib.Analysis.Complex.Order
import Mathlib.Tactic.FinCases
import Mathlib.Tactic.FieldSimp
import PyPhysim.Proofs.C20Real
import PyPhysim.Proofs.C20Alg

/-!
`ℂ`-specific facts: positivity of the Frobenius form, full column rank ⇔ the
`inv` contract, whitening, and the cosines of the principal angles (the Gram matrix of the residual of a
projection has a non-negative diagonal).  Namespace `Wit`: a line
and the plane of `ℂ²`, on which the two chordal-distance functions disagree.
-/
namespace PyPhysim.LinAlg.Pf
open Matrix
open scoped ComplexOrder

variable {m n k p q r : Nat}

theorem fro_nonneg (D : Matrix (Fin m) (Fin n) ℂ) : 0 ≤ trace (D * Dᴴ) :=
  (posSemidef_self_mul_conjTranspose D).trace_nonneg

theorem re_fro_nonneg (D : Matrix (Fin m) (Fin n) ℂ) : 0 ≤ (trace (D * Dᴴ)).re :=
  (Complex.nonneg_iff.mp (fro_nonneg D)).1

theorem fro_real (D : Matrix (Fin m) (Fin n) ℂ) : (trace (D * Dᴴ)).im = 0 :=
  (Complex.nonneg_iff.mp (fro_nonneg D)).2.symm

theorem re_fro_eq_zero_iff (D : Matrix (Fin m) (Fin n) ℂ) : (trace (D * Dᴴ)).re = 0 ↔ D = 0 := by
  rw [← trace_mul_conjTranspose_self_eq_zero_iff, Complex.ext_iff, fro_real]
  exact (and_iff_left rfl).symm

theorem rsqrt_complex (z : ℂ) : RSqrt.sqrt z = ((Real.sqrt z.re : ℝ) : ℂ) := rfl

theorem chordOfProj_complex (P1 P2 : Mat ℂ m m) :
    chordOfProj P1 P2 = ((Real.sqrt ((frobSq (msub P1 P2)).re / 2) : ℝ) : ℂ) := by
  rw [chordOfProj, rsqrt_complex, rsqrt_complex, show (1 + 1 : ℂ).re = 2 by norm_num,
    ← Complex.ofReal_div, ← Real.sqrt_div' _ zero_le_two]

theorem injective_of_gram_inv {A : Mat ℂ m k} {G : Mat ℂ k k} (hG : matMul G (gram A) = eye) :
    Function.Injective (toM A).mulVec :=
  Function.LeftInverse.injective (g := (toM (matMul G (cT A))).mulVec) fun z => by
    rw [mulVec_mulVec, ← toM_matMul, matMul_assoc, ← gram_def, hG, toM_eye, one_mulVec]

theorem gram_inv_of_injective (A : Mat ℂ m k) (h : Function.Injective (toM A).mulVec) :
    ∃ G : Mat ℂ k k, matMul G (gram A) = eye :=
  let ⟨G, hG⟩ := (PosDef.conjTranspose_mul_self (toM A) h).isUnit.exists_left_inv
  ⟨fun i j => G i j, toM_inj <| by rw [toM_matMul, gram_def, toM_matMul, toM_eye]; exact hG⟩

theorem star_inv_sqrt (z : ℂ) : star (1 / RSqrt.sqrt z) = 1 / RSqrt.sqrt z := by
  rw [rsqrt_complex, star_div₀, star_one, Complex.star_def, Complex.conj_ofReal]

theorem inv_sqrt_mul_self {z : ℂ} (hz : z.im = 0 ∧ 0 < z.re) : 1 / RSqrt.sqrt z * (z * (1 / RSqrt.sqrt z)) = 1 := by
  have hs : ((Real.sqrt z.re : ℝ) : ℂ) ≠ 0 := Complex.ofReal_ne_zero.mpr (Real.sqrt_pos.mpr hz.2).ne'
  rw [rsqrt_complex, show z = ((z.re : ℝ) : ℂ) from Complex.ext rfl (by rw [Complex.ofReal_im, hz.1]), Complex.ofReal_re]
  field_simp
  rw [← Complex.ofReal_pow, Real.sq_sqrt hz.2.le]

theorem gram_diag_nonneg (Z : Mat ℂ m r) (i : Fin r) : 0 ≤ gram Z i i := by
  rw [gram_def, matMul, sumFin_eq]
  exact Finset.sum_nonneg fun j _ => star_mul_self_nonneg (Z j i)

/-- the singular values `s` of `Q1ᴴ Q2 = U diag(s) Vᴴ` are at most one in absolute value: with `Y = Q2 V` (orthonormal
    columns) `Q1ᴴ Y = U diag(s)`, and the Gram matrix `1 − diag(s)²` of the residual `Y − Q1 Q1ᴴ Y` has a
    non-negative diagonal -/
theorem cosines_sq_le_one {Q1 : Mat ℂ m p} {Q2 : Mat ℂ m q} {U : Mat ℂ p r} {V : Mat ℂ q r} {s : Fin r → ℝ}
    (hQ1 : matMul (cT Q1) Q1 = eye) (hQ2 : matMul (cT Q2) Q2 = eye)
    (hU : matMul (cT U) U = eye) (hV : matMul (cT V) V = eye)
    (hsvd : matMul (cT Q1) Q2 = matMul (matMul U (diagM fun i => ((s i : ℝ) : ℂ))) (cT V)) (i : Fin r) :
    s i * s i ≤ 1 := by
  have hN : matMul (cT Q1) (matMul Q2 V) = matMul U (diagM fun i => ((s i : ℝ) : ℂ)) := by
    rw [← matMul_assoc, hsvd, matMul_assoc, hV, matMul_eye]
  have h := gram_residual hQ1 hN ▸ gram_diag_nonneg _ i
  rw [gram_isometry V hQ2, gram_isometry _ hU, gram_def, gram_def, hV,
    cT_diagM fun i => Complex.conj_ofReal _, diagM_matMul_diagM] at h
  replace h : (0 : ℂ) ≤ (if i = i then 1 else 0) - (if i = i then ((s i : ℝ) : ℂ) * ((s i : ℝ) : ℂ) else 0) := h
  rw [if_pos rfl, if_pos rfl, ← Complex.ofReal_mul, ← Complex.ofReal_one, ← Complex.ofReal_sub, Complex.zero_le_real] at h
  exact sub_nonneg.mp h

end PyPhysim.LinAlg.Pf

namespace PyPhysim.LinAlg.Wit

def Q1 : Mat ℂ 2 1 := fun i _ => if i.val = 0 then 1 else 0
def Q2 : Mat ℂ 2 2 := eye
/-- thin SVD of `Q1ᴴ Q2 = [1 0]`: `U = [1]`, `s = [1]`, `V = e₁ = Q1` -/
def U : Mat ℂ 1 1 := eye
def s : Fin 1 → ℝ := fun _ => 1

theorem Q1_orthonormal : matMul (cT Q1) Q1 = eye := by
  funext i j; fin_cases i; fin_cases j
  simp [matMul, cT, sumFin, Q1, eye, Conj.conj]

theorem svd_contract : pangleArg Q1 Q2 = matMul (matMul U (diagM (fun i => ((s i : ℝ) : ℂ)))) (cT Q1) := by
  show matMul (cT Q1) eye = matMul (matMul eye (diagM fun _ => ((1 : ℝ) : ℂ))) (cT Q1)
  rw [matMul_eye, eye_matMul, Complex.ofReal_one]
  exact (eye_matMul _).symm

theorem angles_zero : chordalFromAngles (principalAngles ([1] : List ℝ)) = 0 := by
  simp [chordalFromAngles, principalAngles, sumSinSq, Transc.acos, Transc.sin, RSqrt.sqrt]

end PyPhysim.LinAlg.Wit
