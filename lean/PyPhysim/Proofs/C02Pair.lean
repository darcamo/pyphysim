import PyPhysim.Proofs.C02Index

/-!
C02 — the (OFDM object, long-lived equaliser) pair as a state machine: the state after a
history is the result of its `set_parameters` calls alone, and the outputs of a history are
not touched by what is called later.
-/
namespace PyPhysim.C02
open PyPhysim.Proto

variable {α : Type} [Zero α] [Add α] [Mul α] [Div α] [NatCast α]
  (F Finv : Nat → List α → List α) (sc : Params → α)

theorem stepPair_set_ok (s : Pair) {f c : Int} {u : Option Int} {p : Params}
    (h : setParameters f c u = .ok p) : stepPair F Finv sc s (.setParams f c u) = (⟨p⟩, .ok []) := by
  rw [stepPair, h]

theorem stepPair_set_error (s : Pair) {f c : Int} {u : Option Int} {e : PyErr}
    (h : setParameters f c u = .error e) : stepPair F Finv sc s (.setParams f c u) = (s, .error e) := by
  rw [stepPair, h]

/-- on the shared object, `set_parameters` called through the pair is `step` -/
theorem stepPair_set_ofdm (s : Pair) (f c : Int) (u : Option Int) :
    (stepPair F Finv sc s (.setParams f c u)).1.ofdm = (step s.ofdm (f, c, u)).1 := by
  rw [step]
  cases h : setParameters f c u with
  | ok p => rw [stepPair_set_ok F Finv sc s h]
  | error e => rw [stepPair_set_error F Finv sc s h]

theorem run_append (s : Params) (ops more : List (Int × Int × Option Int)) :
    run s (ops ++ more) = run (run s ops) more := by
  induction ops generalizing s with
  | nil => rfl
  | cons op ops ih => exact ih _

theorem runPair_ofdm (s : Pair) (ops : List (PairOp α)) :
    (runPair F Finv sc s ops).1.ofdm = run s.ofdm (setOps ops) := by
  induction ops generalizing s with
  | nil => rfl
  | cons op ops ih =>
    cases op with
    | setParams f c u =>
      exact (ih _).trans (congrArg (run · (setOps ops)) (stepPair_set_ofdm F Finv sc s f c u))
    | _ => exact ih s

theorem runPair_valid (s : Pair) (hs : s.ofdm.Valid) (ops : List (PairOp α)) :
    (runPair F Finv sc s ops).1.ofdm.Valid := by
  rw [runPair_ofdm]; exact run_valid _ hs _

theorem runPair_length (s : Pair) (ops : List (PairOp α)) :
    (runPair F Finv sc s ops).2.length = ops.length := by
  induction ops generalizing s with
  | nil => rfl
  | cons op ops ih => exact congrArg Nat.succ (ih _)

theorem runPair_append (s : Pair) (ops more : List (PairOp α)) :
    runPair F Finv sc s (ops ++ more)
      = ((runPair F Finv sc (runPair F Finv sc s ops).1 more).1,
         (runPair F Finv sc s ops).2 ++ (runPair F Finv sc (runPair F Finv sc s ops).1 more).2) := by
  induction ops generalizing s with
  | nil => rfl
  | cons op ops ih =>
    -- both sides are the head's output put in front of what the tail returns
    exact congrArg (fun r => (r.1, (stepPair F Finv sc s op).2 :: r.2)) (ih (stepPair F Finv sc s op).1)

theorem runPair_state_of_setOps (s : Pair) (ops ops' : List (PairOp α)) (h : setOps ops = setOps ops') :
    (runPair F Finv sc s ops).1 = (runPair F Finv sc s ops').1 :=
  congrArg Pair.mk ((runPair_ofdm F Finv sc s ops).trans (h ▸ (runPair_ofdm F Finv sc s ops').symm))

end PyPhysim.C02
