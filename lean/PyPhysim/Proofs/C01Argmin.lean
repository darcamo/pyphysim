import Mathlib.Order.Lattice
import PyPhysim.Model.C01

/-! `argminIdx` returns the first index of a minimal element (any linear order). -/
namespace PyPhysim.C01
variable {α : Type} [LinearOrder α]

def FirstMinAt (l : List α) (k : Nat) (v : α) : Prop :=
  l[k]? = some v ∧ ∀ j y, l[j]? = some y → v ≤ y ∧ (j < k → v < y)

theorem FirstMinAt.head {x : α} {xs : List α} (h : ∀ y ∈ xs, x ≤ y) : FirstMinAt (x :: xs) 0 x := by
  refine ⟨rfl, ?_⟩
  rintro (_ | j) y hy
  · cases hy
    exact ⟨le_rfl, fun h0 => absurd h0 (Nat.lt_irrefl 0)⟩
  · exact ⟨h y (List.mem_of_getElem? hy), fun h0 => absurd h0 (Nat.not_lt_zero _)⟩

theorem FirstMinAt.tail {x v : α} {xs : List α} {k : Nat} (hx : v < x) (h : FirstMinAt xs k v) :
    FirstMinAt (x :: xs) (k + 1) v := by
  refine ⟨h.1, ?_⟩
  rintro (_ | j) y hy
  · cases hy
    exact ⟨le_of_lt hx, fun _ => hx⟩
  · exact ⟨(h.2 j y hy).1, fun hj => (h.2 j y hy).2 (Nat.lt_of_succ_lt_succ hj)⟩

theorem argminAux_spec (xs : List α) (i : Nat) (b : α) (bi : Nat) :
    (argminAux xs i b bi = bi ∧ ∀ y ∈ xs, b ≤ y) ∨
      ∃ k v, argminAux xs i b bi = i + k ∧ v < b ∧ FirstMinAt xs k v := by
  induction xs generalizing i b bi with
  | nil => exact .inl ⟨rfl, fun _ h => nomatch h⟩
  | cons x xs ih =>
    by_cases hx : x < b
    · rw [argminAux, if_pos hx]
      rcases ih (i + 1) x i with ⟨h, hall⟩ | ⟨k, v, h, hv, hmin⟩
      · exact .inr ⟨0, x, h, hx, .head hall⟩
      · exact .inr ⟨k + 1, v, h.trans (Nat.succ_add i k), lt_trans hv hx, hmin.tail hv⟩
    · rw [argminAux, if_neg hx]
      have hbx : b ≤ x := not_lt.mp hx
      rcases ih (i + 1) b bi with ⟨h, hall⟩ | ⟨k, v, h, hv, hmin⟩
      · exact .inl ⟨h, List.forall_mem_cons.mpr ⟨hbx, hall⟩⟩
      · exact .inr ⟨k + 1, v, h.trans (Nat.succ_add i k), hv, hmin.tail (lt_of_lt_of_le hv hbx)⟩

/-- the contract of `np.argmin`: the first index of a minimum -/
theorem argminIdx_spec (l : List α) (hl : l ≠ []) : ∃ v, FirstMinAt l (argminIdx l) v := by
  cases l with
  | nil => exact absurd rfl hl
  | cons x xs =>
    rw [argminIdx]
    rcases argminAux_spec xs 1 x 0 with ⟨h, hall⟩ | ⟨k, v, h, hv, hmin⟩
    · rw [h]
      exact ⟨x, .head hall⟩
    · rw [h, Nat.add_comm]
      exact ⟨v, hmin.tail hv⟩

theorem argminIdx_lt (l : List α) (hl : l ≠ []) : argminIdx l < l.length := by
  obtain ⟨v, hv, _⟩ := argminIdx_spec l hl
  exact (List.getElem?_eq_some_iff.mp hv).1

theorem argminIdx_unique (l : List α) (i : Nat) (x : α) (hi : l[i]? = some x)
    (hmin : ∀ j y, l[j]? = some y → j ≠ i → x < y) : argminIdx l = i := by
  obtain ⟨v, hv, hall⟩ := argminIdx_spec l (List.ne_nil_of_mem (List.mem_of_getElem? hi))
  by_contra hne
  exact lt_irrefl x (lt_of_lt_of_le (hmin _ v hv hne) (hall i x hi).1)

theorem argminIdx_map_unique {β : Type} (f : β → α) (c : List β) (i : Nat) (p : β) (hi : c[i]? = some p)
    (hmin : ∀ j q, c[j]? = some q → j ≠ i → f p < f q) : argminIdx (c.map f) = i := by
  apply argminIdx_unique (c.map f) i (f p) (by rw [List.getElem?_map, hi]; rfl)
  intro j y hj
  rw [List.getElem?_map, Option.map_eq_some_iff] at hj
  obtain ⟨q, hq, rfl⟩ := hj
  exact hmin j q hq

end PyPhysim.C01
