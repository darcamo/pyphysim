import PyPhysim.Proofs.C07Sim
import PyPhysim.Proofs.C05Runner

/-! Composing a crashed run with the restart: variation by variation (`CrashSpec.resumed`, `Merged.of`),
then for two calls of the whole `simulate()`, the second on the disk the first left at any crash point
(`simC_crash_resumed`, `simC_resume`); with the default `_keep_going` the restart ends every variation
exactly at the limit (`Resumed.reps_exact`). -/
namespace PyPhysim.C07

open PyPhysim.C05 (Outcome VarState Keep guard stateOf IsVarRun RunsSpec logOf)

variable {R T : Type}

def Running (merge : R → R → R) (repMax : Nat) (keep : Keep R) (start : Option (R × Nat))
    (p : List (Outcome R)) : Prop :=
  ∀ q, q <+: p → q ≠ p → ∀ s', stateOf merge start q = some s' → guard repMax keep s' = true

/-- how the start of a restarted variation relates to the crashed run: `p` are the
    outcomes of the crashed run whose merge was durably saved -/
def ResumedFrom (merge : R → R → R) (start0 : Option (R × Nat)) (p : List (Outcome R))
    (start1 : Option (R × Nat)) : Prop :=
  (p = [] ∧ start1 = start0) ∨ ∃ s, stateOf merge start0 p = some s ∧ start1 = some (s.acc, s.rep)

section
variable [DecidableEq T]

/-- per variation: which outcomes of the crashed run survive in the start of the restart -/
def Resumed (cfg : Cfg R T) (start0 start1 : Nat → Option (R × Nat)) :
    List Nat → List (List (Outcome R)) → Prop
  | [], [] => True
  | i :: is, seg :: segs =>
    (∃ p, p <+: seg ∧ ResumedFrom cfg.merge (start0 i) p (start1 i) ∧
        Running cfg.merge cfg.repMax (cfg.keep i) (start0 i) p) ∧
      Resumed cfg start0 start1 is segs
  | _, _ => False

omit [DecidableEq T] in
theorem Resumed.untouched (cfg : Cfg R T) (start0 start1 : Nat → Option (R × Nat)) :
    ∀ (is : List Nat) (segs : List (List (Outcome R))), segs.length = is.length →
      (∀ j ∈ is, start1 j = start0 j) → Resumed cfg start0 start1 is segs := by
  intro is
  induction is with
  | nil => exact fun segs hl _ => List.length_eq_zero_iff.mp hl ▸ trivial
  | cons i is ih =>
    intro segs hl h
    cases segs with
    | nil => cases hl
    | cons seg segs =>
      exact ⟨⟨[], List.nil_prefix, .inl ⟨rfl, h i List.mem_cons_self⟩,
          fun q hq hne => absurd (List.prefix_nil.mp hq) hne⟩,
        ih segs (Nat.succ.inj hl) (fun j hj => h j (List.mem_cons_of_mem _ hj))⟩

theorem CrashSpec.resumed (cfg cfg2 : Cfg R T) (hmode : cfg.mode = .atomic)
    (htag : ∀ i, cfg2.tag i = cfg.tag i) (d0 d1 : Disk R T) :
    ∀ (is : List Nat) (segs : List (List (Outcome R))),
      (∀ i ∈ is, LoadsOk cfg d0 i) →
      CrashSpec cfg (startOf cfg d0) (fun j => (d0.part j).main) (fun j => (d1.part j).main) is segs →
      Resumed cfg (startOf cfg d0) (startOf cfg2 d1) is segs ∧ ∀ i ∈ is, LoadsOk cfg2 d1 i
  := by
  intro is segs
  fun_induction CrashSpec cfg (startOf cfg d0) (fun j => (d0.part j).main) (fun j => (d1.part j).main) is segs with
  | case1 => exact fun _ _ => ⟨trivial, fun _ hi => absurd hi List.not_mem_nil⟩
  | case3 => exact fun _ h => h.elim
  | case2 i is seg segs ih =>
    intro hclean h
    have hclean' := fun j hj => hclean j (List.mem_cons_of_mem _ hj)
    -- the restart saves a state under the same tag as the crashed run
    have hpart : ∀ s, partOf cfg2 i s = partOf cfg i s := fun s => by unfold partOf; rw [htag i]
    rcases h with ⟨st, h1, h2, h3⟩ | ⟨h1, h2, h3⟩
    · obtain ⟨r1, r2⟩ := ih hclean' h3
      rw [← hpart] at h2
      exact ⟨⟨⟨seg, List.prefix_refl _, .inr ⟨st, h1.1, startOf_valid cfg2 d1 i st h2⟩, h1.2.2⟩, r1⟩,
        List.forall_mem_cons.mpr ⟨LoadsOk.of_valid st h2, r2⟩⟩
    · -- an untouched file loads as it did for the crashed run
      have hrest := Resumed.untouched cfg (startOf cfg d0) (startOf cfg2 d1) is segs h3
        (fun j hj => startOf_congr (htag j) (h2 j hj))
      have hloads : ∀ j ∈ is, LoadsOk cfg2 d1 j := fun j hj e =>
        loadPart_congr (htag j) (h2 j hj) ▸ hclean' j hj e
      rcases h1 with h1 | ⟨hm, _⟩ | ⟨p, s, hp, hs, hmain, hrun⟩
      · exact ⟨⟨⟨[], List.nil_prefix, .inl ⟨rfl, startOf_congr (htag i) h1⟩,
            fun q hq hne => absurd (List.prefix_nil.mp hq) hne⟩, hrest⟩,
          List.forall_mem_cons.mpr
            ⟨fun e => loadPart_congr (htag i) h1 ▸ hclean i List.mem_cons_self e, hloads⟩⟩
      · rw [hmode] at hm; cases hm
      · rw [← hpart] at hmain
        exact ⟨⟨⟨p, hp, .inr ⟨s, hs, startOf_valid cfg2 d1 i s hmain⟩, hrun⟩, hrest⟩,
          List.forall_mem_cons.mpr ⟨LoadsOk.of_valid s hmain, hloads⟩⟩

theorem simC_crash_resumed (cfg cfg2 : Cfg R T) (hmode : cfg.mode = .atomic)
    (htag : ∀ i, cfg2.tag i = cfg.tag i) (d0 : Disk R T) (hclean : ∀ i, i < cfg.nvar → LoadsOk cfg d0 i)
    (c1 : Clock) (outs1 : List (Outcome R)) (pre : List (Ev R T))
    (hp : pre <+: (simC cfg d0 c1 outs1).trace) :
    ∃ segs1, segs1.flatten <+: outs1 ∧
      Resumed cfg (startOf cfg d0) (startOf cfg2 (d0.applyAll pre)) (List.range cfg.nvar) segs1 ∧
      ∀ i ∈ List.range cfg.nvar, LoadsOk cfg2 (d0.applyAll pre) i := by
  obtain ⟨⟨segs1, g1, g2⟩, _⟩ := simC_crash cfg d0 c1 outs1 pre hp
  exact ⟨segs1, g1, CrashSpec.resumed cfg cfg2 hmode htag d0 (d0.applyAll pre) (List.range cfg.nvar) segs1
    (fun i hi => hclean i (List.mem_range.mp hi)) g2⟩

theorem simC_resume (cfg cfg2 : Cfg R T) (hmode : cfg.mode = .atomic)
    (htag : ∀ i, cfg2.tag i = cfg.tag i) (hn : cfg2.nvar = cfg.nvar)
    (d0 : Disk R T) (hclean : ∀ i, i < cfg.nvar → LoadsOk cfg d0 i)
    (c1 : Clock) (outs1 : List (Outcome R)) (pre : List (Ev R T))
    (hp : pre <+: (simC cfg d0 c1 outs1).trace) (c2 : Clock) (outs2 : List (Outcome R))
    (e2 : RunEnd R T) (he : e2 = simC cfg2 (d0.applyAll pre) c2 outs2) :
    (e2.status = none ∨ e2.status = some .Exhausted) ∧
    (e2.status = none →
      ∃ segs1 segs2 sts, segs1.flatten <+: outs1 ∧ outs2 = segs2.flatten ++ e2.rest ∧
        e2.results = sts.map VarState.stored ∧ e2.reps = sts.map (·.rep) ∧
        callLog e2.trace = logOf (List.range cfg.nvar) segs2 ∧
        RunsSpec cfg2.base (startOf cfg2 (d0.applyAll pre)) (List.range cfg.nvar) segs2 sts ∧
        Resumed cfg (startOf cfg d0) (startOf cfg2 (d0.applyAll pre)) (List.range cfg.nvar) segs1) := by
  subst he
  obtain ⟨segs1, g1, r1, r2⟩ := simC_crash_resumed cfg cfg2 hmode htag d0 hclean c1 outs1 pre hp
  obtain ⟨f1, f2, f3, f4⟩ := hn ▸ simC_fields cfg2 (d0.applyAll pre) c2 outs2
  obtain ⟨s1, s2⟩ := (simVarsC_ran cfg2 (List.range cfg.nvar) (d0.applyAll pre) c2 outs2 List.nodup_range).spec
  have f5 := hn ▸ simC_callLog cfg2 (d0.applyAll pre) c2 outs2
  refine ⟨f4 ▸ s1 r2, fun hst => ?_⟩
  obtain ⟨segs2, sts, t1, t2, t3, t4, t5, _⟩ := s2 (f4 ▸ hst)
  exact ⟨segs1, segs2, sts, g1, f3 ▸ t2, f1.trans t3, f2.trans t4, f5.trans t5, t1, r1⟩

end

/-- per variation: the final state of the restart is the merge of a durably saved
    prefix `p` of the crashed run's outcomes for that variation followed by the
    outcomes `seg2` the restart consumed for it — and the restart's guard is false in
    that final state -/
def Merged (cfg cfg2 : Cfg R T) (start0 : Nat → Option (R × Nat)) :
    List Nat → List (List (Outcome R)) → List (List (Outcome R)) → List (VarState R) → Prop
  | [], [], [], [] => True
  | i :: is, seg1 :: segs1, seg2 :: segs2, st :: sts =>
    (∃ p s', p <+: seg1 ∧ Running cfg.merge cfg.repMax (cfg.keep i) (start0 i) p ∧
        stateOf cfg.merge (start0 i) (p ++ seg2) = some s' ∧ s'.acc = st.acc ∧ s'.rep = st.rep ∧
        guard cfg2.repMax (cfg2.keep i) st = false) ∧
      Merged cfg cfg2 start0 is segs1 segs2 sts
  | _, _, _, _ => False

theorem Merged.of (cfg cfg2 : Cfg R T) (hmerge : cfg2.merge = cfg.merge) (start0 start1 : Nat → Option (R × Nat))
    (is : List Nat) (segs1 segs2 : List (List (Outcome R))) (sts : List (VarState R))
    (h1 : Resumed cfg start0 start1 is segs1) (h2 : RunsSpec cfg2.base start1 is segs2 sts) :
    Merged cfg cfg2 start0 is segs1 segs2 sts := by
  induction is, segs2, sts, h2 using C05.RunsSpec.induction generalizing segs1 with
  | nil => cases segs1 with | nil => trivial | cons => exact h1.elim
  | cons i is seg2 segs2 st sts hvr _ ih =>
    cases segs1 with
    | nil => exact h1.elim
    | cons seg1 segs1 =>
      obtain ⟨⟨p, hp, hres, hrun⟩, h1'⟩ := h1
      have hst : stateOf cfg.merge (start1 i) seg2 = some st := hmerge ▸ hvr.1
      refine ⟨?_, ih segs1 h1'⟩
      rcases hres with ⟨rfl, e⟩ | ⟨s, hs, e⟩
      · exact ⟨[], st, hp, hrun, e ▸ hst, rfl, rfl, hvr.2.1⟩
      · -- the restart went on from the saved state `s`
        rw [e] at hst
        cases hst
        exact ⟨p, _, hp, hrun, C05.stateOf_append cfg.merge _ p seg2 s hs, rfl, rfl, hvr.2.1⟩

theorem isVarRun_rep_eq {merge : R → R → R} {repMax : Nat} {keep : Keep R}
    {start : Option (R × Nat)} {seg : List (Outcome R)} {st : VarState R}
    (h : IsVarRun merge repMax keep start seg st) (hkeep : ∀ a k r, keep a k r = true)
    (hstart : ∀ a n, start = some (a, n) → n ≤ repMax) (hmax : 1 ≤ repMax) : st.rep = repMax := by
  -- with `keep` constantly true the guard is the comparison with the limit
  have hg : (true && decide (st.rep < repMax)) = false := hkeep st.acc st.skipped st.rep ▸ h.2.1
  exact Nat.le_antisymm (C05.rep_le_of_running merge repMax keep start seg st h.2.2 h.1 hstart hmax)
    (Nat.not_lt.mp (of_decide_eq_false hg))

theorem Resumed.reps_exact (cfg cfg2 : Cfg R T)
    (hkeep : ∀ i a k r, cfg2.keep i a k r = true) (hmax : 1 ≤ cfg.repMax) (hle : cfg.repMax ≤ cfg2.repMax)
    (start0 start1 : Nat → Option (R × Nat)) (is : List Nat) (segs1 segs2 : List (List (Outcome R)))
    (sts : List (VarState R)) (h0 : ∀ i ∈ is, ∀ a n, start0 i = some (a, n) → n ≤ cfg.repMax)
    (h1 : Resumed cfg start0 start1 is segs1) (h2 : RunsSpec cfg2.base start1 is segs2 sts) :
    sts.map (·.rep) = is.map (fun _ => cfg2.repMax) := by
  induction is, segs2, sts, h2 using C05.RunsSpec.induction generalizing segs1 with
  | nil => rfl
  | cons i is seg2 segs2 st sts hvr _ ih =>
    cases segs1 with
    | nil => exact h1.elim
    | cons seg1 segs1 =>
      obtain ⟨⟨p, _, hres, hrun⟩, h1'⟩ := h1
      obtain ⟨h0i, h0'⟩ := List.forall_mem_cons.mp h0
      refine congr (congrArg List.cons (isVarRun_rep_eq hvr (hkeep i) ?_ (Nat.le_trans hmax hle)))
        (ih segs1 h0' h1')
      -- the restart begins at a count the crashed run had reached, so within the old limit
      intro a n h
      rcases hres with ⟨_, e⟩ | ⟨s, hs, e⟩
      · exact Nat.le_trans (h0i a n (e ▸ h)) hle
      · cases e.symm.trans h
        exact Nat.le_trans (C05.rep_le_of_running _ _ _ _ p s hrun hs h0i hmax) hle

end PyPhysim.C07
