import PyPhysim.Proofs.C06Heap
import PyPhysim.Generated.C06Sim

/-! Bridge lemmas for C06, container level: the functions re-emitted from the source of
`SimulationResults.add_result / append_result / add_new_result / merge_all_results`
(`PyPhysim.Generated.C06Sim`) compute the same function on the object-level machine as the hand
model (`Model/C06Heap.lean`).  `merge_all_results` is compared block by block: the three loops
(`loop2_eq`, `loop3_eq`, then `loop1_eq`) and the two `'num_skipped_reps'` blocks (`nsrCheck_eq`, `nsrTail_eq`). -/
namespace PyPhysim.C06M
open PyPhysim.Proto
namespace GenSim
open PyPhysim.Generated.C06Sim

theorem mem_keys_iff (d : Dict) (k : String) : k ∈ d.map (·.1) ↔ ¬ (dictGet? d k).isNone = true := by
  induction d with
  | nil => exact ⟨fun h => absurd h List.not_mem_nil, fun h => absurd rfl h⟩
  | cons e rest ih =>
    rw [List.map_cons, List.mem_cons, dictGet?]
    by_cases h : e.1 = k
    · rw [if_pos h]
      exact ⟨fun _ => Bool.false_ne_true, fun _ => .inl h.symm⟩
    · rw [if_neg h, ← ih]
      exact or_iff_right fun e' => h e'.symm

/-- `key in X._results` asks the dictionary -/
theorem names_ite {α : Type} (m : Mach) (x : Nat) (k : String) (A B : α) :
    (if k ∈ Ops.names m x then A else B) = if (dictGet? (dictOf m x) k).isNone then B else A :=
  (if_congr (mem_keys_iff _ _) rfl rfl).trans (ite_not ..)

theorem addResult_eq (m : Mach) (s a : Nat) : Generated.C06Sim.addResult m s a = C06M.addResult m s a := by
  unfold Generated.C06Sim.addResult C06M.addResult Ops.deref Ops.setEntryNewList
  cases m.res[a]? <;> rfl

theorem appendResult_eq (m : Mach) (s a : Nat) :
    Generated.C06Sim.appendResult m s a = C06M.appendResult m s a := by
  unfold Generated.C06Sim.appendResult C06M.appendResult C06M.addResult Ops.deref Ops.getList Ops.first
    Ops.listAppend
  rcases m.res[a]? with _ | r
  · rfl
  dsimp only
  rw [names_ite]
  rcases dictGet? (dictOf m s) r.name with _ | l
  · rfl
  dsimp only
  rcases listAt m l with _ | ⟨a0, rest⟩
  · rfl
  dsimp only
  rcases m.res[a0]? with _ | r0
  · rfl
  dsimp only
  by_cases ht : r0.ty = r.ty
  · rw [if_pos ht]
    rfl
  · rw [if_neg ht]
    rfl

/-- what `allocRes` stores, in the form the re-emitted `add_new_result` reads it back (`addNewResult_eq`) -/
theorem res_allocRes (m : Mach) (r : Res) : (allocRes m r).1.res[(allocRes m r).2]? = some r :=
  List.getElem?_concat_length

theorem addNewResult_eq (m : Mach) (s : Nat) (name : String) (ty : Ty) (v t : Rat) :
    Generated.C06Sim.addNewResult m s name ty v t = C06M.addNewResult m s name ty v t := by
  unfold Generated.C06Sim.addNewResult C06M.addNewResult
  cases createRes name ty v t false with
  | error e => rfl
  | ok r =>
    simp only []
    unfold C06M.addResult Ops.setEntryNewList
    simp only [res_allocRes]

theorem listAt_mergeR (m : Mach) (a b l : Nat) : listAt (mergeR m a b).1 l = listAt m l :=
  listAt_congr (mergeR_writes m a b).lists l

theorem listAt_mergeNames (ds od : Dict) (m : Mach) (names : List String) (l : Nat) :
    listAt (mergeNames ds od m names).1 l = listAt m l :=
  listAt_congr (mergeNames_writes (W := fun _ => True) ds od m m names (fun _ _ _ => trivial) (Writes.refl _ m)).lists l

/-! The translator writes every statement as a `match` on its outcome; read with the three combinators below the
re-emitted text is a short script (`mergeAll_script`, `loop2_cons`, `loop3_cons`: definitional unfolding), and
each block of the source gets an equation of its own. -/

/-- `x` raises, leaving the machine `M`, or hands its value to `k`.  One combinator per value type, and none
    over an arbitrary type: a `match` of another file is a matcher constant of its own, and Lean identifies two
    such constants only when both are monomorphic with the same signature. -/
def bindN (x : Except PyErr Nat) (M : Mach) (k : Nat → Mach × Option PyErr) : Mach × Option PyErr :=
  match x with
  | .error e => (M, some e)
  | .ok v => k v

def bindR (x : Except PyErr Res) (M : Mach) (k : Res → Mach × Option PyErr) : Mach × Option PyErr :=
  match x with
  | .error e => (M, some e)
  | .ok v => k v

def andThen (p : Mach × Option PyErr) (k : Mach → Mach × Option PyErr) : Mach × Option PyErr :=
  match p with
  | (m, some e) => (m, some e)
  | (m, none) => k m

/-- the no-op re-raise the translator puts around a statement block -/
theorem andThen_pure (p : Mach × Option PyErr) : andThen p (fun m => (m, none)) = p := by
  rcases p with ⟨m, _ | e⟩ <;> rfl

/-- `X[key][-1]` -/
theorem lookup_eq (M M' : Mach) (x : Nat) (key : String) (k : Nat → Mach × Option PyErr) :
    bindN (Ops.getList M x key) M' (fun l => bindN (Ops.last M l) M' k)
      = bindN (lastOf M (dictOf M x) key) M' k := by
  unfold Ops.getList Ops.last lastOf
  cases dictGet? (dictOf M x) key with
  | none => rfl
  | some l => cases (listAt M l).getLast? <;> rfl

/-- `self[item][-1]._assert_can_merge(other[item][-1])`: the source runs it for every name and for
    `'num_skipped_reps'` -/
def checkStmt (M : Mach) (s o : Nat) (item : String) : Mach × Option PyErr :=
  bindN (Ops.getList M s item) M fun l => bindN (Ops.last M l) M fun a =>
  bindN (Ops.getList M o item) M fun l' => bindN (Ops.last M l') M fun b =>
  bindR (Ops.deref M a) M fun ra => bindR (Ops.deref M b) M fun rb =>
  match mergeGuard ra rb with
  | some e => (M, some e)
  | none => (M, none)

/-- `self[item][-1].merge(other[item][-1])`, likewise -/
def mergeStmt (M : Mach) (s o : Nat) (item : String) : Mach × Option PyErr :=
  bindN (Ops.getList M s item) M fun l => bindN (Ops.last M l) M fun a =>
  bindN (Ops.getList M o item) M fun l' => bindN (Ops.last M l') M fun b =>
  andThen (mergeR M a b) fun m' => (m', none)

theorem mergeStmt_eq (M : Mach) (s o : Nat) (item : String) :
    mergeStmt M s o item =
      bindN (lastOf M (dictOf M s) item) M fun a => bindN (lastOf M (dictOf M o) item) M fun b => mergeR M a b := by
  unfold mergeStmt
  simp only [lookup_eq, andThen_pure]

theorem loop2_cons (s o : Nat) (m : Mach) (item : String) (rest : List String) :
    mergeAll_loop2 s o m (item :: rest) =
      andThen (if ¬ item = nsr then checkStmt m s o item else (m, none)) fun m' => mergeAll_loop2 s o m' rest := by
  rw [mergeAll_loop2]; rfl

theorem loop3_cons (s o : Nat) (m : Mach) (item : String) (rest : List String) :
    mergeAll_loop3 s o m (item :: rest) =
      andThen (if ¬ item = nsr then mergeStmt m s o item else (m, none)) fun m' => mergeAll_loop3 s o m' rest := by
  rw [mergeAll_loop3]; rfl

/-- validation loop: `for item in self.get_result_names(): if item != 'num_skipped_reps':
    self._results[item][-1]._assert_can_merge(other[item][-1])` -/
theorem loop2_eq (s o : Nat) (m : Mach) (names : List String) :
    mergeAll_loop2 s o m names = (m, checkNames (dictOf m s) (dictOf m o) m names) := by
  induction names with
  | nil => rfl
  | cons nm rest ih =>
    rw [loop2_cons, checkNames]
    by_cases hn : nm = nsr
    · rw [if_neg (not_not.mpr hn), if_pos hn]
      exact ih
    rw [if_pos hn, if_neg hn, checkStmt, lookup_eq]
    rcases lastOf m (dictOf m s) nm with e | a
    · rfl
    rw [bindN, lookup_eq]
    rcases lastOf m (dictOf m o) nm with e | b
    · rfl
    dsimp only [bindN, Ops.deref]
    rcases m.res[a]? with _ | ra
    · rcases m.res[b]? with _ | rb <;> rfl
    rcases m.res[b]? with _ | rb
    · rfl
    dsimp only [bindR]
    rcases mergeGuard ra rb with _ | e
    · exact ih
    · rfl

/-- merge loop: `for item in self.get_result_names(): if item != 'num_skipped_reps':
    self._results[item][-1].merge(other[item][-1])` -/
theorem loop3_eq (s o : Nat) (m : Mach) (names : List String) :
    mergeAll_loop3 s o m names = mergeNames (dictOf m s) (dictOf m o) m names := by
  generalize hs : dictOf m s = ds
  generalize ho : dictOf m o = od
  induction names generalizing m with
  | nil => rfl
  | cons nm rest ih =>
    rw [loop3_cons, mergeNames]
    by_cases hn : nm = nsr
    · rw [if_neg (not_not.mpr hn), if_pos hn]
      exact ih m hs ho
    rw [if_pos hn, if_neg hn, mergeStmt_eq, hs, ho]
    rcases lastOf m ds nm with e | a
    · rfl
    rcases lastOf m od nm with e | b
    · rfl
    -- `merge` writes Result objects only: the dictionaries the next round looks at are the same
    have hw := (mergeR_writes m a b).sims
    dsimp only [bindN]
    generalize mergeR m a b = p at hw ⊢
    rcases p with ⟨m', _ | e⟩
    · exact ih m' ((dictOf_congr hw s).trans hs) ((dictOf_congr hw o).trans ho)
    · rfl

/-- copying loop of the empty-`self` branch: `for name in other.get_result_names():
    self._results[name] = [copy.deepcopy(r) for r in other[name]]` -/
theorem loop1_eq (s o : Nat) (hso : s ≠ o) (suf : Dict) (m : Mach)
    (hsuf : ∀ e ∈ suf, dictGet? (dictOf m o) e.1 = some e.2) :
    mergeAll_loop1 s o m (suf.map (·.1)) = (copyDict s m suf, none) := by
  induction suf generalizing m with
  | nil => rfl
  | cons e rest ih =>
    obtain ⟨nm, l⟩ := e
    have hl := hsuf (nm, l) List.mem_cons_self
    simp only [List.map_cons]
    unfold mergeAll_loop1 copyDict
    simp only [Ops.getList, hl, Ops.setEntryNewList]
    obtain ⟨_, c3, _⟩ := copyElems_eq m (listAt m l)
    rw [c3]
    refine ih _ fun e he => ?_
    rw [dictOf_setDict_ne _ _ _ (Ne.symm hso)]
    exact hsuf e (List.mem_cons_of_mem _ he)

theorem mkRes_nsr : mkRes nsr .sum false none = .ok (fresh nsr .sum false 0) := rfl

/-- the validation of `'num_skipped_reps'` (against a new SUM result when `self` has none) -/
def nsrCheck (M : Mach) (s o : Nat) : Mach × Option PyErr :=
  if nsr ∈ Ops.names M o then
    if nsr ∈ Ops.names M s then checkStmt M s o nsr
    else
      bindR (mkRes nsr .sum false none) M fun ra =>
      bindN (Ops.getList M o nsr) M fun l' => bindN (Ops.last M l') M fun b =>
      bindR (Ops.deref M b) M fun rb =>
      match mergeGuard ra rb with
      | some e => (M, some e)
      | none => (M, none)
  else (M, none)

theorem nsrCheck_eq (M : Mach) (s o : Nat) : nsrCheck M s o = (M, checkNsr M s o) := by
  rw [nsrCheck, checkNsr, names_ite, names_ite]
  by_cases ho : (dictGet? (dictOf M o) nsr).isNone = true
  · rw [if_pos ho, if_pos ho]
  rw [if_neg ho, if_neg ho]
  by_cases hs : (dictGet? (dictOf M s) nsr).isNone = true
  · rw [if_pos hs, if_pos hs, mkRes_nsr, bindR, lookup_eq]
    rcases lastOf M (dictOf M o) nsr with e | b
    · rfl
    dsimp only [bindN, Ops.deref]
    rcases M.res[b]? with _ | rb
    · rfl
    dsimp only [bindR]
    rcases mergeGuard (fresh nsr .sum false 0) rb with _ | e <;> rfl
  · rw [if_neg hs, if_neg hs, checkStmt, lookup_eq]
    rcases lastOf M (dictOf M s) nsr with e | a
    · rfl
    rw [bindN, lookup_eq]
    rcases lastOf M (dictOf M o) nsr with e | b
    · rfl
    dsimp only [bindN, Ops.deref]
    rcases M.res[a]? with _ | ra
    · rfl
    rcases M.res[b]? with _ | rb
    · rfl
    dsimp only [bindR]
    rcases mergeGuard ra rb with _ | e <;> rfl

/-- `self.add_new_result('num_skipped_reps', SUMTYPE, 0)` -/
theorem addNew_nsr (M : Mach) (s : Nat) :
    bindR (createRes nsr .sum 0 0 false) M
        (fun r => (Ops.setEntryNewList (allocRes M r).1 s r.name [(allocRes M r).2], none))
      = ((addNewSumZero M s nsr).1, none) := by
  rw [show createRes nsr .sum 0 0 false = .ok (update (fresh nsr .sum false 0) ⟨0, some 0⟩).1 from rfl]
  unfold bindR addNewSumZero C06M.addResult Ops.setEntryNewList
  simp only [res_allocRes]

/-- the `'num_skipped_reps'` tail: created with `add_new_result` when `self` has none, then merged -/
def nsrTail (M : Mach) (s o : Nat) : Mach × Option PyErr :=
  if nsr ∈ Ops.names M o then
    andThen (if ¬ nsr ∈ Ops.names M s then
        bindR (createRes nsr .sum 0 0 false) M fun r =>
          (Ops.setEntryNewList (allocRes M r).1 s r.name [(allocRes M r).2], none)
      else (M, none)) fun M1 => mergeStmt M1 s o nsr
  else (M, none)

theorem nsrTail_eq (M : Mach) (s o : Nat) : nsrTail M s o = mergeNsr M s o := by
  rw [nsrTail, mergeNsr, ite_not, names_ite, names_ite]
  by_cases ho : (dictGet? (dictOf M o) nsr).isNone = true
  · rw [if_pos ho, if_pos ho]
  rw [if_neg ho, if_neg ho]
  by_cases hs : (dictGet? (dictOf M s) nsr).isNone = true
  · rw [if_pos hs, if_pos hs, addNew_nsr, andThen, mergeStmt_eq]
    -- the merge statement reads the same on any machine: keep `rfl` from evaluating the new one
    generalize (addNewSumZero M s nsr).1 = M1
    rfl
  · rw [if_neg hs, if_neg hs, andThen, mergeStmt_eq]
    rfl

/-- `merge_all_results` as the source writes it: copy into an empty `self`; otherwise validate every name,
    validate `'num_skipped_reps'`, merge every name, merge `'num_skipped_reps'` -/
theorem mergeAll_script (m : Mach) (s o : Nat) :
    Generated.C06Sim.mergeAll m s o =
      if s < m.sims.length ∧ o < m.sims.length then
        if Ops.size m s = 0 then andThen (mergeAll_loop1 s o m (Ops.names m o)) fun m' => (m', none)
        else
          andThen (mergeAll_loop2 s o m (Ops.names m s)) fun m1 =>
          andThen (nsrCheck m1 s o) fun m2 =>
          andThen (mergeAll_loop3 s o m2 (Ops.names m2 s)) fun m3 =>
          andThen (nsrTail m3 s o) fun m' => (m', none)
      else (m, some .AttributeError) := by
  -- as a term, `rfl` is two orders of magnitude slower to check here
  unfold Generated.C06Sim.mergeAll
  rfl

theorem mergeAll_eq (m : Mach) (s o : Nat) (hnd : ((dictOf m o).map (·.1)).Nodup) :
    Generated.C06Sim.mergeAll m s o = C06M.mergeAll m s o := by
  rw [mergeAll_script, C06M.mergeAll]
  refine if_congr Iff.rfl ?_ rfl
  rw [Ops.size, if_congr List.length_eq_zero_iff rfl rfl]
  by_cases he : dictOf m s = []
  · rw [if_pos he, if_pos he, andThen_pure]
    by_cases hso : s = o
    · subst hso
      rw [Ops.names, he]
      rfl
    · exact loop1_eq s o hso (dictOf m o) m fun e h => dictGet?_of_mem hnd h
  rw [if_neg he, if_neg he]
  simp only [loop2_eq, nsrCheck_eq, loop3_eq, nsrTail_eq, andThen_pure, Ops.names]
  -- block by block; both sides stop at the first exception
  cases checkNames (dictOf m s) (dictOf m o) m ((dictOf m s).map (·.1)) with
  | some e => rfl
  | none =>
    dsimp only [andThen]
    cases checkNsr m s o <;> rfl

end GenSim
end PyPhysim.C06M
