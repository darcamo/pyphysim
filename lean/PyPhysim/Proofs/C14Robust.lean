/-
C14 — helper lemmas for the robustness classes R15 (distinct values that are
merely close) and R16 (argument identity and buffer reuse).

R16: a caller program with in-place refilled argument buffers acts on the
generator exactly like the list of calls with the buffer contents at call time,
and the buffers themselves follow the program alone (`runC_eq`: the run of a
program is the pair of these two, by induction over the program).

R15: the Jakes sum of a single ray is `(cos θ, sin θ)` with
`θ = 2π·Fd·cos(phi)·t + psi`; two phases whose difference `d` is not zero and
less than a turn give different values, and the phases of two Doppler
frequencies at time `t` are `(Fd - Fd')·cos(phi)·t` turns apart.  So there is
no neighbourhood of a Doppler frequency (in particular of `Fd = 0`) on which
the process is the same: the model is a function of the exact value.
-/
import PyPhysim.Proofs.C14

namespace PyPhysim.C14
open PyPhysim.Proto

/-- the caller's buffers after a program: they are refilled by the program alone, whatever the generator does -/
def refills (c : Caller) : List CallerOp → Caller
  | [] => c
  | op :: ops => refills (op.refill c) ops

theorem runC_eq (c : Caller) (s : State) (ops : List CallerOp) :
    runC c s ops = (refills c ops, runR s (callsSeen c ops)) := by
  fun_induction callsSeen c ops generalizing s with
  | case1 => rfl
  | case2 c op ops r h ih => simp only [runC, stepC, h, ih, refills, runR]
  | case3 c op ops h ih => simp only [runC, stepC, h, ih, refills]

theorem runC_caller (c : Caller) (s s' : State) (ops : List CallerOp) :
    (runC c s ops).1 = (runC c s' ops).1 := by
  rw [runC_eq, runC_eq]

theorem runC_append (c : Caller) (s : State) (a b : List CallerOp) :
    runC c s (a ++ b) = runC (runC c s a).1 (runC c s a).2 b := by
  induction a generalizing c s with
  | nil => rfl
  | cons op a ih => exact ih _ _

theorem runR_append (s : State) (a b : List RawOp) : runR s (a ++ b) = runR (runR s a) b := by
  induction a generalizing s with
  | nil => rfl
  | cons r a ih => exact ih _

theorem callsSeen_fills (c : Caller) (fills : List CallerOp)
    (h : ∀ op ∈ fills, ∀ c', op.issued c' = Option.none) : callsSeen c fills = [] := by
  induction fills generalizing c with
  | nil => rfl
  | cons op fills ih =>
    rw [callsSeen, h op (List.mem_cons_self ..) c]
    exact ih _ (fun op' hm => h op' (List.mem_cons_of_mem _ hm))

theorem jakes_single (Fd t : ℝ) (r : ℝ × ℝ) :
    jakes Fd [r] t = .ok (Real.cos (rayPhase Fd t r), Real.sin (rayPhase Fd t r)) := by
  rw [jakes_ok Fd t _ (List.cons_ne_nil _ _)]
  simp only [List.length_singleton, Nat.cast_one, div_one, Real.sqrt_one, one_mul, List.map_cons, List.map_nil,
    sumList_cons, sumList_nil, add_zero]

theorem single_ray_ne_of_phase (Fd Fd' t t' : ℝ) (r r' : ℝ × ℝ) (d : ℝ)
    (hd : rayPhase Fd t r - rayPhase Fd' t' r' = d) (h0 : d ≠ 0) (h1 : |d| < 2 * Real.pi) :
    jakes Fd [r] t ≠ jakes Fd' [r'] t' := by
  intro h
  rw [jakes_single, jakes_single] at h
  injection h with h
  injection h with hc hs
  -- equal cosines and sines make `cos (θ - θ') = cos² θ' + sin² θ' = 1`; less than a turn from `0` only `0` has cosine `1`
  refine h0 ((Real.cos_eq_one_iff_of_lt_of_lt (abs_lt.mp h1).1 (abs_lt.mp h1).2).mp ?_)
  rw [← hd, Real.cos_sub, hc, hs, ← sq, ← sq, Real.cos_sq_add_sin_sq]

theorem rayPhase_sub (Fd Fd' t t' phi psi : ℝ) :
    rayPhase Fd t (phi, psi) - rayPhase Fd' t' (phi, psi) =
      2 * Real.pi * ((Fd * t - Fd' * t') * Real.cos phi) := by
  simp only [rayPhase, transc_pi, transc_cos, Nat.cast_ofNat]
  ring

theorem single_ray_ne (Fd Fd' t t' phi psi : ℝ)
    (h0 : (Fd * t - Fd' * t') * Real.cos phi ≠ 0) (h1 : |(Fd * t - Fd' * t') * Real.cos phi| < 1) :
    jakes Fd [(phi, psi)] t ≠ jakes Fd' [(phi, psi)] t' := by
  refine single_ray_ne_of_phase _ _ _ _ _ _ _ (rayPhase_sub ..) (mul_ne_zero Real.two_pi_pos.ne' h0) ?_
  rw [abs_mul, abs_of_pos Real.two_pi_pos]
  exact mul_lt_of_lt_one_right Real.two_pi_pos h1

end PyPhysim.C14
