/-
C14 — helper lemmas: bookkeeping of the request history (induction over the
operation list, core arithmetic) and the real-number facts about the Jakes sum
(`Transc ℝ` instance, triangle inequality by induction over the rays).
-/
import Mathlib.Analysis.SpecialFunctions.Trigonometric.Basic
import Mathlib.Analysis.Real.Sqrt
import Mathlib.Tactic.Ring
import PyPhysim.Model.C14

namespace PyPhysim.C14
open PyPhysim.Proto

noncomputable instance instTranscReal : Transc ℝ := ⟨Real.pi, Real.sqrt, Real.cos, Real.sin⟩

@[simp] theorem transc_pi : (Transc.pi : ℝ) = Real.pi := rfl
@[simp] theorem transc_sqrt (x : ℝ) : Transc.sqrt x = Real.sqrt x := rfl
@[simp] theorem transc_cos (x : ℝ) : Transc.cos x = Real.cos x := rfl
@[simp] theorem transc_sin (x : ℝ) : Transc.sin x = Real.sin x := rfl

theorem run_append (s : State) (a b : List Op) : run s (a ++ b) = run (run s a) b := by
  induction a generalizing s with
  | nil => rfl
  | cons op a ih => exact ih (step s op)

theorem trace_append (s : State) (a b : List Op) :
    trace s (a ++ b) = trace s a ++ trace (run s a) b := by
  induction a generalizing s with
  | nil => rfl
  | cons op a ih => simp only [List.cons_append, trace, run, ih]

theorem trace_length (s : State) (ops : List Op) : (trace s ops).length = ops.length := by
  induction ops generalizing s with
  | nil => rfl
  | cons op ops ih => simp only [trace, List.length_cons, ih]

theorem trace_drop (s : State) (pre child : List Op) :
    (trace s (pre ++ child)).drop pre.length = trace (run s pre) child := by
  rw [trace_append]
  exact List.drop_left' (trace_length s pre)

theorem step_k (s : State) (op : Op) : (step s op).k = s.k + op.size := by
  cases op <;> rfl

theorem step_k_le (s : State) (op : Op) : s.k ≤ (step s op).k := by
  rw [step_k]; exact Nat.le_add_right _ _

theorem run_fields (s : State) (ops : List Op) :
    (run s ops).k = s.k + total ops ∧ (run s ops).epoch = s.epoch + redraws ops ∧
    (run s ops).shape = shapeAfter s.shape ops := by
  induction ops generalizing s with
  | nil => exact ⟨rfl, rfl, rfl⟩
  | cons op ops ih =>
    obtain ⟨hk, he, hs⟩ := ih (step s op)
    refine ⟨hk.trans ?_, he.trans ?_, hs.trans ?_⟩
    · rw [step_k, Nat.add_assoc]; rfl
    · cases op with
      | setShape _ => exact Nat.add_assoc ..
      | _ => rfl
    · cases op <;> rfl

theorem trace_getElem? (s : State) (ops : List Op) (i : Nat) :
    (trace s ops)[i]? = ops[i]?.map (produced (run s (ops.take i))) := by
  induction ops generalizing s i with
  | nil => rfl
  | cons op ops ih =>
    cases i with
    | zero => rfl
    | succ i => exact ih (step s op) i

theorem trace_at (s : State) (pre post : List Op) (op : Op) :
    (trace s (pre ++ op :: post))[pre.length]? = some (produced (run s pre) op) := by
  rw [trace_getElem?, List.getElem?_append_right (Nat.le_refl _), Nat.sub_self, List.take_left' rfl]
  rfl

theorem produced_run (s : State) (pre : List Op) (op : Op) :
    produced (run s pre) op =
      produced ⟨s.k + total pre, shapeAfter s.shape pre, s.epoch + redraws pre, none⟩ op := by
  obtain ⟨hk, he, hs⟩ := run_fields s pre
  cases op <;> simp only [produced, genBlock, hk, he, hs]

theorem trace_congr (s s' : State) (hk : s.k = s'.k) (hs : s.shape = s'.shape)
    (he : s.epoch = s'.epoch) (ops : List Op) : trace s ops = trace s' ops := by
  apply List.ext_getElem?
  intro i
  rw [trace_getElem?, trace_getElem?]
  congr 1
  funext op
  rw [produced_run, produced_run, hk, hs, he]

theorem trace_geometry_congr (s s' : State) (hk : s.k = s'.k) (hs : s.shape = s'.shape)
    (ops : List Op) :
    (trace s ops).map (Option.map Block.geometry) = (trace s' ops).map (Option.map Block.geometry) := by
  apply List.ext_getElem?
  intro i
  rw [List.getElem?_map, List.getElem?_map, trace_getElem?, trace_getElem?]
  cases ops[i]? with
  | none => rfl
  | some op =>
    simp only [Option.map_some, produced_run, hk, hs]
    cases op <;> rfl

/-- the samples of a block are `f` over the interval of sample numbers `first, …, first + count - 1`, so that
    consecutive blocks concatenate like consecutive intervals (`List.range'_append_1`) -/
theorem samples_eq {β : Type} (f : Nat → β) (b : Block) :
    b.samples f = (List.range' b.first b.count).map f := by
  rw [Block.samples, List.range'_eq_map_range, List.map_map]
  rfl

def blocks (s : State) (ops : List Op) : List Block := (trace s ops).filterMap id

theorem blocks_cons (s : State) (op : Op) (ops : List Op) :
    blocks s (op :: ops) = (produced s op).toList ++ blocks (step s op) ops := by
  rw [blocks, trace]
  cases produced s op <;> rfl

theorem stepR_ok (s : State) (r : RawOp) (op : Op) (h : r.check = .ok op) :
    stepR s r = (step s op, none) := by
  simp only [stepR, h]

theorem stepR_error (s : State) (r : RawOp) (e : PyErr) (h : r.check = .error e) :
    stepR s r = (s, some e) := by
  simp only [stepR, h]

theorem runR_eq_run_accepted (s : State) (rs : List RawOp) : runR s rs = run s (accepted rs) := by
  fun_induction accepted rs generalizing s with
  | case1 => rfl
  | case2 r rs op h ih => rw [runR, stepR_ok s r op h, run, ih]
  | case3 r rs e h ih => rw [runR, stepR_error s r e h, ih]

@[simp] theorem sumList_nil : sumList ([] : List ℝ) = 0 := by simp only [sumList, Nat.cast_zero]
@[simp] theorem sumList_cons (x : ℝ) (xs : List ℝ) : sumList (x :: xs) = x + sumList xs := rfl

/-- triangle inequality for `∑ exp(i θ_l)` with the pair (re, im) read as a complex number: each ray adds a unit
    vector, by induction over the rays -/
theorem norm_sum_cos_sin_le {β : Type} (θ : β → ℝ) (l : List β) :
    ‖(⟨sumList (l.map fun r => Real.cos (θ r)), sumList (l.map fun r => Real.sin (θ r))⟩ : ℂ)‖ ≤ (l.length : ℝ) := by
  induction l with
  | nil =>
    rw [List.map_nil, List.map_nil, sumList_nil]
    exact (norm_zero (E := ℂ)).le.trans_eq Nat.cast_zero.symm
  | cons r l ih =>
    refine (norm_add_le (⟨Real.cos (θ r), Real.sin (θ r)⟩ : ℂ) ⟨_, _⟩).trans ?_
    rw [Complex.norm_eq_sqrt_sq_add_sq, Real.cos_sq_add_sin_sq, Real.sqrt_one, List.length_cons, Nat.cast_succ,
      add_comm]
    exact add_le_add_left ih 1

theorem rayPhase_zero (t : ℝ) (ray : ℝ × ℝ) : rayPhase (0 : ℝ) t ray = ray.2 := by
  simp only [rayPhase, Nat.cast_ofNat, transc_pi, mul_zero, transc_cos, zero_mul, zero_add]

theorem jakes_ok (Fd t : ℝ) (rays : List (ℝ × ℝ)) (h : rays ≠ []) :
    jakes Fd rays t = .ok
      (Real.sqrt (1 / (rays.length : ℝ)) * sumList (rays.map fun r => Real.cos (rayPhase Fd t r)),
       Real.sqrt (1 / (rays.length : ℝ)) * sumList (rays.map fun r => Real.sin (rayPhase Fd t r))) := by
  cases rays with
  | nil => exact absurd rfl h
  | cons _ _ =>
    simp only [jakes, List.isEmpty_cons, Bool.false_eq_true, if_false, Nat.cast_one, transc_sqrt, transc_cos,
      transc_sin]

end PyPhysim.C14
