import PyPhysim.Proofs.C08Coherent
import PyPhysim.Proofs.C08Lists
import PyPhysim.Model.C08Buf
/-!
C08 — over the views and the invariant of `Proofs/C08Coherent`: what the reads and the transmissions
return in a coherent state (`out_read*`, `doCorruptCat_eq`, `doCorrupt_spec`); what no operation but a
setter changes (`read_same`, `read_sameInputs`); the shape invariant `WellShaped`, what the views are
block by block, and calls that raise.  Histories: `reach`, `Valid` and its Boolean test `validb`, `run` over
`++`, and a caller program over refilled arrays (`Model/C08Buf.lean`, robustness class R16) is the value
history of the contents at call time (`Buf.bufRun_eq_run_resolve`); for R15 (values that are merely close)
re-initialising twice with one layout is re-initialising once (`reinit_reinit`).  No Mathlib needed.
-/
set_option linter.unusedSectionVars false
namespace PyPhysim.C08

variable {α : Type} [Add α] [Mul α] [Zero α]

/-- received signal as the property states it: current global matrix times the stacked data, plus the noise
    that is reported, filtered by the current filters, split by the receive antenna counts -/
def specReceived (F : Fns α) (st : State α) (x xe : List (Mat α)) (noise : Option (Mat α)) : List (Mat α) :=
  let X : Mat α := (if st.isExt then x ++ xe else x).flatten
  let y0 := matMul (specBigH F st) X
  let y1 := match st.noiseVar, noise with
    | some _, some n => matAdd y0 n
    | _, _ => y0
  let y2 := match st.w with
    | some ws => conjTMul F.conj (blockDiag ws) y1
    | none => y1
  (List.range st.userK).map fun k => seg st.nr y2 k

/-- the noise that must be reported after a transmission -/
def specLastNoise (st : State α) (noise : Option (Mat α)) : Option (Mat α) :=
  match st.noiseVar with
  | none => none
  | some _ => noise

/-- what `corrupt_concatenated_data` must return: `W^H (big_H X + noise)`, not split -/
def specReceivedCat (F : Fns α) (st : State α) (X : Mat α) (noise : Option (Mat α)) : Mat α :=
  let y0 := matMul (specBigH F st) X
  let y1 := match st.noiseVar, noise with
    | some _, some n => matAdd y0 n
    | _, _ => y0
  match st.w with
  | some ws => conjTMul F.conj (blockDiag ws) y1
  | none => y1

theorem finishCat_eq (F : Fns α) (st2 : State α) (y : Mat α) (ln : Option (Mat α)) (h : Coherent F st2) :
    finishCat F st2 y ln
      = ((readBigW st2).1, .rx [match st2.w with | some ws => conjTMul F.conj (blockDiag ws) y | none => y] ln) := by
  unfold finishCat
  have hw := (readBigW_spec F st2 h).1
  rcases hr : readBigW st2 with ⟨s3, bw⟩
  rw [hr] at hw
  cases (hw : bw = specBigW st2)
  cases st2.w <;> rfl

theorem transmit_lastNoise (F : Fns α) (st : State α) (noise : Option (Mat α))
    (h : Coherent F st) (hn : st.noiseVar.isSome → noise.isSome) :
    (transmit F st noise).lastNoise = specLastNoise st noise := by
  have keep : ∀ s : State α, (readBigW s).1.lastNoise = s.lastNoise := fun s =>
    ((readBigW_same s).1.2 .lastNoise (by decide)).symm
  unfold transmit
  rw [(readBigH_spec F st h).1]
  obtain ⟨e, raw, nr, nt, k, x, pl, plBig, bigHc, hc, w, bigWc, nv, ln⟩ := st
  cases nv with
  | none => exact keep _
  | some v =>
    cases noise with
    | none => nomatch hn rfl
    | some n => exact keep _

theorem doCorruptCat_eq (F : Fns α) (st : State α) (X : Mat α) (noise : Option (Mat α))
    (h : Coherent F st) (hn : st.noiseVar.isSome → noise.isSome) :
    doCorruptCat F st X noise
        = (transmit F st noise, .rx [specReceivedCat F st X noise] (specLastNoise st noise)) := by
  have hB := (readBigH_spec F st h).2
  rw [← doCorruptCat_fst F st X noise]
  unfold doCorruptCat
  rw [(readBigH_spec F st h).1] at hB ⊢
  obtain ⟨e, raw, nr, nt, k, x, pl, plBig, bigHc, hc, w, bigWc, nv, ln⟩ := st
  -- in both accepted cases the tail is `finishCat` on a coherent state with the reported noise stored
  cases nv with
  | none => exact finishCat_eq F _ _ _ (hB.of_other _ _ none)
  | some v =>
    cases noise with
    | none => nomatch hn rfl
    | some n => exact finishCat_eq F _ _ _ (hB.of_other _ _ (some n))

/-- the form in which `Properties/C08` quotes the two lemmas above -/
theorem doCorruptCat_spec (F : Fns α) (st : State α) (X : Mat α) (noise : Option (Mat α))
    (h : Coherent F st) (hn : st.noiseVar.isSome → noise.isSome) :
    (doCorruptCat F st X noise).2 = .rx [specReceivedCat F st X noise] (specLastNoise st noise)
    ∧ (doCorruptCat F st X noise).1.lastNoise = specLastNoise st noise := by
  rw [doCorruptCat_eq F st X noise h hn]
  exact ⟨rfl, transmit_lastNoise F st noise h hn⟩

theorem doCorrupt_spec (F : Fns α) (st : State α) (x xe : List (Mat α)) (noise : Option (Mat α))
    (h : Coherent F st) (hn : st.noiseVar.isSome → noise.isSome) :
    (doCorrupt F st x xe noise).2 = .rx (specReceived F st x xe noise) (specLastNoise st noise)
    ∧ (doCorrupt F st x xe noise).1.lastNoise = specLastNoise st noise := by
  have hT := (transmit_same F st noise).1
  rw [doCorrupt_eq, doCorruptCat_eq F st _ noise h hn]
  refine ⟨?_, transmit_lastNoise F st noise h hn⟩
  -- the split reads the layout, which a transmission leaves alone
  show Out.rx ((List.range (transmit F st noise).userK).map fun k => seg (transmit F st noise).nr _ k) _ = _
  rw [hT.userK (by decide) (by decide), ← (hT.2 .nr (by decide) : st.nr = _)]
  rfl

theorem out_readBigH (F : Fns α) (st : State α) (h : Coherent F st) :
    (step Cfg.fixed F st .readBigH).2 = .mat (specBigH F st) := by
  rw [step, (readBigH_spec F st h).1]

theorem out_readH (F : Fns α) (st : State α) (h : Coherent F st) :
    (step Cfg.fixed F st .readH).2 = .mom (specH F st) :=
  congrArg Out.mom (readH_spec F st h).1

theorem out_readHkl (F : Fns α) (st : State α) (k l : Nat) (h : Coherent F st) :
    (step Cfg.fixed F st (.readHkl k l)).2 = getD2 (specH F st) k l :=
  congrArg (getD2 · k l) (readH_spec F st h).1

/-- the user part of the layout does not read the `big_H` cache -/
theorem nrU_frame_bigHc (st : State α) (c : Option (Mat α)) :
    ({ st with bigHc := c } : State α).nrU = st.nrU ∧ ({ st with bigHc := c } : State α).ntU = st.ntU :=
  ⟨rfl, rfl⟩

theorem out_readHk (F : Fns α) (st : State α) (k : Nat) (h : Coherent F st) :
    (step Cfg.fixed F st (.readHk k)).2 = getD1 (rowSplit (specBigH F st) st.nrU) k := by
  rw [step, (readBigH_spec F st h).1]
  rfl

theorem out_readBigHNoExt (F : Fns α) (st : State α) (h : Coherent F st) (he : st.isExt = true) :
    (step Cfg.fixed F st .readBigHNoExt).2 = .mat (takeCols (specBigH F st) st.ntU.sum) := by
  rw [step, if_pos he, (readBigH_spec F st h).1]
  rfl

theorem out_readHkNoExt (F : Fns α) (st : State α) (k : Nat) (h : Coherent F st) (he : st.isExt = true) :
    (step Cfg.fixed F st (.readHkNoExt k)).2
      = getD1 (rowSplit (takeCols (specBigH F st) st.ntU.sum) st.nrU) k := by
  rw [step, if_pos he, (readBigH_spec F st h).1]
  rfl

theorem out_readHNoExt (F : Fns α) (st : State α) (h : Coherent F st) (he : st.isExt = true) :
    (step Cfg.fixed F st .readHNoExt).2 = .mom ((specH F st).map fun r => r.take st.userK) := by
  rw [step, if_pos he]
  show Out.mom ((readH F st).2.map fun r => r.take (readH F st).1.userK) = _
  rw [readH_fst_ext F st he, (readH_spec F st h).1]

/-- the inputs every view is computed from -/
def SameInputs (a b : State α) : Prop :=
  a.isExt = b.isExt ∧ a.raw = b.raw ∧ a.nr = b.nr ∧ a.nt = b.nt ∧ a.k = b.k ∧ a.extK = b.extK
  ∧ a.pl = b.pl ∧ a.w = b.w ∧ a.noiseVar = b.noiseVar

theorem sameInputs_spec (F : Fns α) {a b : State α} (h : SameInputs a b) :
    specBigH F a = specBigH F b ∧ specH F a = specH F b ∧ specBigW a = specBigW b := by
  obtain ⟨e, raw, nr, nt, k, x, pl, plBig, bigHc, hc, w, bigWc, nv, ln⟩ := a
  obtain ⟨h1, h2, h3, h4, h5, h6, h7, h8, _⟩ := h
  cases h1; cases h2; cases h3; cases h4; cases h5; cases h6; cases h7; cases h8
  exact ⟨rfl, rfl, rfl⟩

theorem SameOutside.sameInputs {a b : State α} (h : SameOutside [.bigHc, .hc, .bigWc, .lastNoise] a b) :
    SameInputs b a :=
  ⟨h.1.symm, (h.2 .raw (by decide)).symm, (h.2 .nr (by decide)).symm, (h.2 .nt (by decide)).symm,
   (h.2 .k (by decide)).symm, (h.2 .extK (by decide)).symm, (h.2 .pl (by decide)).symm,
   (h.2 .w (by decide)).symm, (h.2 .noiseVar (by decide)).symm⟩

/-- every operation but the five setters: the getters, the two transmissions, `stackData` and `query` -/
def Op.isRead : Op α → Bool
  | .readH | .readBigH | .readHkl _ _ | .readHk _ | .readBigHNoExt | .readHkNoExt _ | .readHNoExt => true
  | .corrupt _ _ _ => true
  | .readLayout | .readPL | .readBigWView | .readNoiseVar | .readLastNoise | .corruptCat _ _ => true
  | .stackData _ _ => true
  | .query => true
  | _ => false

/-- `corrupt_data` / `corrupt_concatenated_data` -/
def Op.isTransmit : Op α → Bool
  | .corrupt _ _ _ | .corruptCat _ _ => true
  | _ => false

/-- every operation but the five setters leaves the old state, the state after one lazy read, or the state
    after a transmission: it touches only the caches, a transmission `last_noise` as well -/
theorem read_same (F : Fns α) (st : State α) (op : Op α) (hr : op.isRead = true) :
    SameOutside (if op.isTransmit then [.lastNoise, .bigHc, .bigWc] else [.bigHc, .hc, .bigWc]) st
      (step Cfg.fixed F st op).1 := by
  have hH : SameOutside [.bigHc, .hc, .bigWc] st (readH F st).1 :=
    (readH_same F st).1.mono (by cases st.isExt <;> decide)
  have hB : SameOutside [.bigHc, .hc, .bigWc] st (readBigH F st).1 := (readBigH_same F st).1.mono (by decide)
  have hW : SameOutside [.bigHc, .hc, .bigWc] st (readBigW st).1 := (readBigW_same st).1.mono (by decide)
  rw [step_fst]
  cases op with
  | init _ _ _ _ _ | randomize _ _ _ _ _ | setPL _ _ | setNoise _ | setW _ => cases hr
  | readH | readHkl _ _ => exact hH
  | readBigH | readHk _ => exact hB
  | readBigHNoExt | readHkNoExt _ => exact of_ite (P := SameOutside _ st) hB (.refl _ st)
  | readHNoExt => exact of_ite (P := SameOutside _ st) hH (.refl _ st)
  | corrupt _ _ noise | corruptCat _ noise => exact (transmit_same F st noise).1
  | readBigWView => exact hW
  | _ => exact .refl _ st

theorem read_sameInputs (F : Fns α) (st : State α) (op : Op α) (hr : op.isRead = true) :
    SameInputs (step Cfg.fixed F st op).1 st :=
  ((read_same F st op hr).mono (by cases op.isTransmit <;> decide)).sameInputs

/-- the layout lists have `_K` entries, the stored path loss is `K x _K` -/
structure WellShaped (st : State α) : Prop where
  nr_len : st.nr.length = st.k
  nt_len : st.nt.length = st.k
  ext_le : st.isExt = true → st.extK ≤ st.k
  ext_pos : st.isExt = true → st.k = 0 ∨ 1 ≤ st.extK
  pl_rows : ∀ p, st.pl = some p → p.length = st.userK ∧ ∀ (i : Nat) (row : List α), p[i]? = some row → row.length = st.k

/-- argument shapes the API documents (nothing in the code checks them, except in
    `init_from_channel_matrix`) -/
def OpOK (st : State α) : Op α → Prop
  | .init _ _ _ _ ntE => st.isExt = true → ntE ≠ []
  | .randomize _ _ _ _ ntE => st.isExt = true → ntE ≠ []
  | .setPL (some p) pe =>
      if st.isExt then
        p.length = st.userK ∧ (∀ (i : Nat) (row : List α), p[i]? = some row → row.length = st.userK)
        ∧ pe.length = st.userK ∧ (∀ (i : Nat) (row : List α), pe[i]? = some row → row.length = st.extK)
      else p.length = st.k ∧ ∀ (i : Nat) (row : List α), p[i]? = some row → row.length = st.k
  | _ => True

def ValidFrom (F : Fns α) : State α → List (Op α) → Prop
  | _, [] => True
  | st, op :: ops => OpOK st op ∧ ValidFrom F (step Cfg.fixed F st op).1 ops

theorem wellShaped_init (e : Bool) : WellShaped (State.init α e) :=
  ⟨rfl, rfl, fun _ => Nat.le_refl 0, fun _ => .inl rfl, nofun⟩

theorem plFits_iff (p : Mat α) (u k : Nat) :
    plFits p u k = true ↔ p.length = u ∧ ∀ (i : Nat) (row : List α), p[i]? = some row → row.length = k := by
  unfold plFits
  simp only [Bool.and_eq_true, beq_iff_eq, List.all_eq_true]
  exact and_congr_right' ⟨fun h i row hi => h row (List.mem_of_getElem? hi),
    fun h row hm => (List.mem_iff_getElem?.1 hm).elim fun i hi => h i row hi⟩

theorem wellShaped_of_same {a b : State α} (h : SameInputs a b) (hb : WellShaped b) : WellShaped a := by
  obtain ⟨h1, _, h3, h4, h5, h6, h7, _⟩ := h
  have hu : a.userK = b.userK := by rw [State.userK, h1, h5, h6]; rfl
  exact ⟨h3 ▸ h5 ▸ hb.nr_len, h4 ▸ h5 ▸ hb.nt_len, h1 ▸ h5 ▸ h6 ▸ hb.ext_le, h1 ▸ h5 ▸ h6 ▸ hb.ext_pos,
    h7 ▸ hu ▸ h5 ▸ hb.pl_rows⟩

theorem WellShaped.set_pl {st : State α} (h : WellShaped st) (q : Option (Mat α))
    (hq : ∀ p, q = some p → p.length = st.userK ∧ ∀ (i : Nat) (row : List α), p[i]? = some row → row.length = st.k)
    (plBig bigHc : Option (Mat α)) (hc : Option (MoM α)) :
    WellShaped { st with pl := q, plBig := plBig, bigHc := bigHc, hc := hc } :=
  ⟨h.nr_len, h.nt_len, h.ext_le, h.ext_pos, hq⟩

theorem initCheck_lens {M : Mat α} {fnr fnt : List Nat} {fK : Nat} (h : initCheck M fnr fnt fK = true) :
    fnr.length = fK ∧ fnt.length = fK := by
  simp only [initCheck, Bool.and_eq_true, beq_iff_eq] at h
  exact ⟨h.2, h.1.2⟩

theorem randCheck_lens {e : Bool} {nr nt : List Nat} {K : Nat} {ntE : List Nat}
    (h : ¬ (randCheck Cfg.fixed e nr nt K ntE).isSome = true) :
    (fullLayout e nr nt K ntE).1.length = (fullLayout e nr nt K ntE).2.2.1
    ∧ (fullLayout e nr nt K ntE).2.1.length = (fullLayout e nr nt K ntE).2.2.1 := by
  simp only [randCheck, Cfg.fixed, Bool.true_and] at h
  split at h
  · exact absurd rfl h
  · rename_i hc
    simpa using hc

theorem reinit_wellShaped (st : State α) (M : Mat α) (nr nt : List Nat) (K : Nat) (ntE : List Nat)
    (hlen : (fullLayout st.isExt nr nt K ntE).1.length = (fullLayout st.isExt nr nt K ntE).2.2.1
      ∧ (fullLayout st.isExt nr nt K ntE).2.1.length = (fullLayout st.isExt nr nt K ntE).2.2.1)
    (hok : st.isExt = true → ntE ≠ []) : WellShaped (reinit st M nr nt K ntE) := by
  unfold reinit
  rw [install_eq]
  refine ⟨hlen.1, hlen.2, fun (he : st.isExt = true) => ?_, fun (he : st.isExt = true) => .inr ?_, fun p hp => ?_⟩
  · simp [fullLayout, he]
  · simp only [fullLayout, he, if_true]
    exact List.length_pos_iff.2 (hok he)
  · exact (plFits_iff ..).1 (Option.filter_eq_some_iff.1 hp).2

theorem step_wellShaped (F : Fns α) (st : State α) (op : Op α) (h : WellShaped st) (hok : OpOK st op) :
    WellShaped (step Cfg.fixed F st op).1 := by
  have reads : op.isRead = true → WellShaped (step Cfg.fixed F st op).1 := fun hr =>
    wellShaped_of_same (read_sameInputs F st op hr) h
  cases op with
  | init M nr nt K ntE =>
    rw [step_fst]
    exact iteInduction (motive := WellShaped)
      (fun hc => reinit_wellShaped st M nr nt K ntE (initCheck_lens hc) hok) fun _ => h
  | randomize M nr nt K ntE =>
    rw [step_fst]
    exact iteInduction (motive := WellShaped) (fun _ => h)
      fun hc => reinit_wellShaped st M nr nt K ntE (randCheck_lens hc) hok
  | setPL p pe =>
    rw [step_fst]
    refine of_ite (P := WellShaped) h ?_
    rw [doSetPL_eq]
    cases p with
    | none => exact h.set_pl none nofun _ _ _
    | some p =>
      refine h.set_pl (some _) (fun q hq => ?_) _ _ _
      cases hq
      by_cases he : st.isExt = true
      · obtain ⟨hp1, hp2, hq1, hq2⟩ := (if_pos he).mp hok
        simp only [if_pos he]
        refine ⟨by rw [List.length_zipWith, hp1, hq1, Nat.min_self], fun i row hi => ?_⟩
        rw [List.getElem?_zipWith_eq_some] at hi
        obtain ⟨a, b, ha, hb, rfl⟩ := hi
        rw [List.length_append, hp2 i a ha, hq2 i b hb, State.userK, if_pos he]
        exact Nat.sub_add_cancel (h.ext_le he)
      · have hp := (if_neg he).mp hok
        simp only [if_neg he]
        exact ⟨hp.1.trans (if_neg he).symm, hp.2⟩
  | setNoise v =>
    rw [step_fst]
    exact of_ite (P := WellShaped) ⟨h.nr_len, h.nt_len, h.ext_le, h.ext_pos, h.pl_rows⟩ h
  | setW w =>
    rw [step_fst]
    exact ⟨h.nr_len, h.nt_len, h.ext_le, h.ext_pos, h.pl_rows⟩
  | _ => exact reads rfl

theorem run_wellShaped (F : Fns α) (ops : List (Op α)) (st : State α) (h : WellShaped st)
    (hv : ValidFrom F st ops) : WellShaped (run Cfg.fixed F st ops).1 := by
  induction ops generalizing st with
  | nil => exact h
  | cons op ops ih => exact ih (step Cfg.fixed F st op).1 (step_wellShaped F st op h hv.1) hv.2

theorem userK_le (st : State α) : st.userK ≤ st.k :=
  of_ite (P := (· ≤ st.k)) (Nat.sub_le ..) (Nat.le_refl _)

/-- with the documented shapes both classes compute `H` from the first `K` rows of blocks (all of them on
    the plain class) -/
theorem specH_eq (F : Fns α) (st : State α) (hw : WellShaped st) :
    specH F st = match st.pl with
      | none => st.hNoPL.take st.userK
      | some p => scaleMom F.sqrt (st.hNoPL.take st.userK) p := by
  unfold specH
  split
  · rfl
  · rename_i he
    have : st.hNoPL.take st.userK = st.hNoPL := by
      unfold State.userK
      rw [if_neg he, ← hw.nr_len]
      exact List.take_of_length_le (by simp [State.hNoPL, mom])
    rw [this]
    rfl

theorem hNoPL_take_row (st : State α) (hw : WellShaped st) {k : Nat} (hk : k < st.userK) :
    (st.hNoPL.take st.userK)[k]? = some ((List.range st.nr.length).map fun tx => block st.raw st.nr st.nt k tx) := by
  have hk' : k < st.nr.length := hw.nr_len ▸ Nat.lt_of_lt_of_le hk (userK_le st)
  rw [List.getElem?_take_of_lt hk, State.hNoPL, mom, List.getElem?_map, List.getElem?_range hk']
  rfl

theorem getD2_of_get {H : MoM α} {k l : Nat} {row : List (Mat α)} {B : Mat α} (hk : H[k]? = some row)
    (hl : row[l]? = some B) : getD2 H k l = .mat B := by
  simp only [getD2, hk, hl]

theorem specH_get_none (F : Fns α) (st : State α) (hw : WellShaped st) {k l : Nat}
    (hk : k < st.userK) (hl : l < st.k) (hp : st.pl = none) :
    getD2 (specH F st) k l = .mat (block st.raw st.nr st.nt k l) := by
  rw [specH_eq F st hw, hp]
  refine getD2_of_get (hNoPL_take_row st hw hk) ?_
  rw [List.getElem?_map, List.getElem?_range (hw.nr_len ▸ hl)]
  rfl

theorem specH_get_some (F : Fns α) (st : State α) (hw : WellShaped st) {k l : Nat}
    (hk : k < st.userK) (hl : l < st.k) {p : Mat α} (hp : st.pl = some p) :
    ∃ prow q, p[k]? = some prow ∧ prow[l]? = some q ∧
      getD2 (specH F st) k l = .mat (scaleBy F.sqrt (block st.raw st.nr st.nt k l) q) := by
  obtain ⟨hplen, hprow⟩ := hw.pl_rows p hp
  have hpk := List.getElem?_eq_getElem (hplen ▸ hk : k < p.length)
  have hq := List.getElem?_eq_getElem (Nat.lt_of_lt_of_eq hl (hprow k _ hpk).symm)
  refine ⟨_, _, hpk, hq, ?_⟩
  rw [specH_eq F st hw]
  simp only [hp]
  apply getD2_of_get
  · rw [scaleMom, List.getElem?_zipWith, hNoPL_take_row st hw hk, hpk]
  · rw [List.getElem?_zipWith, List.getElem?_map, List.getElem?_range (hw.nr_len ▸ hl), hq]
    rfl

/-- `get_Hkl(k,l)` is the (k,l) sub-block of `big_H`, for every state with the documented shapes -/
theorem views_agree (F : Fns α) (st : State α) (hw : WellShaped st) {k l : Nat}
    (hk : k < st.userK) (hl : l < st.k) :
    getD2 (specH F st) k l = .mat (block (specBigH F st) st.nr st.nt k l) := by
  have hk' : k < st.nr.length := hw.nr_len ▸ Nat.lt_of_lt_of_le hk (userK_le st)
  have hl' : l < st.nt.length := hw.nt_len ▸ hl
  cases hp : st.pl with
  | none => rw [specH_get_none F st hw hk hl hp, specBigH, hp]
  | some p =>
    obtain ⟨prow, q, h1, h2, h3⟩ := specH_get_some F st hw hk hl hp
    rw [h3, specBigH, hp, block_scaled F.sqrt st.raw p h1 h2 (List.getElem?_eq_getElem hk') (List.getElem?_eq_getElem hl')]

/-- the `Nr` / `Nt` properties (python `l[:-extIntK]`) are the first `K` entries of the stored lists -/
theorem dropLast_prefix (st : State α) (hw : WellShaped st) (hK : 0 < st.userK) {ns : List Nat}
    (hn : ns.length = st.k) : (if st.isExt then pyDropLast ns st.extK else ns) = ns.take st.userK := by
  unfold State.userK at hK ⊢
  by_cases he : st.isExt = true
  · rw [if_pos he] at hK ⊢
    have hpos : 1 ≤ st.extK := (hw.ext_pos he).resolve_left (Nat.ne_of_gt (Nat.lt_of_lt_of_le hK (Nat.sub_le ..)))
    rw [if_pos he, pyDropLast, if_neg (Nat.ne_of_gt hpos), hn]
  · rw [if_neg he, if_neg he, ← hn, List.take_length]

/-- `get_Hk(k)` is the k-th block of rows of `big_H` -/
theorem hk_rowBlock (F : Fns α) (st : State α) (hw : WellShaped st) {k : Nat} (hk : k < st.userK) :
    getD1 (rowSplit (specBigH F st) st.nrU) k = .mat (rowBlock (specBigH F st) st.nr k) := by
  have hpre : st.nrU = st.nr.take st.userK := dropLast_prefix st hw (Nat.zero_lt_of_lt hk) hw.nr_len
  have hlen : st.nrU.length = st.userK := by
    rw [hpre, List.length_take, hw.nr_len]; exact Nat.min_eq_left (userK_le st)
  unfold getD1 rowSplit
  simp only [List.getElem?_map, List.getElem?_range (hlen ▸ hk), Option.map_some]
  unfold rowBlock seg
  rw [hpre, cum_take (Nat.le_of_lt hk), cum_take hk]

theorem getD2_map_take (H : MoM α) {u k l : Nat} (hl : l < u) :
    getD2 (H.map fun r => r.take u) k l = getD2 H k l := by
  unfold getD2
  rw [List.getElem?_map]
  cases H[k]? with
  | none => rfl
  | some row => simp only [Option.map_some, List.getElem?_take_of_lt hl]

/-- a user block of `big_H_no_ext_int` is the same block of `big_H` -/
theorem block_takeCols (M : Mat α) (st : State α) (hw : WellShaped st) {k l : Nat} (hl : l < st.userK) :
    block (takeCols M st.ntU.sum) st.nr st.nt k l = block M st.nr st.nt k l := by
  have hsum : st.ntU.sum = cum st.nt st.userK :=
    congrArg List.sum (dropLast_prefix st hw (Nat.zero_lt_of_lt hl) hw.nt_len : st.ntU = _)
  unfold block colBlock rowBlock takeCols
  rw [seg_map, List.map_map]
  apply List.map_congr_left
  intro r _
  simp only [Function.comp, seg]
  rw [hsum]
  exact slice_take r (cum_mono st.nt (Nat.succ_le_of_lt hl))

theorem scaleMom_length_le (f : α → α) (H : MoM α) (p : Mat α) : (scaleMom f H p).length ≤ H.length := by
  unfold scaleMom
  rw [List.length_zipWith]
  exact Nat.min_le_left ..

theorem getD2_out_of_range (F : Fns α) (st : State α) (hw : WellShaped st) {k l : Nat}
    (hk : st.userK ≤ k) : getD2 (specH F st) k l = .err .IndexError := by
  have hlen : (specH F st).length ≤ st.userK := by
    rw [specH_eq F st hw]
    split
    · exact List.length_take_le ..
    · exact Nat.le_trans (scaleMom_length_le ..) (List.length_take_le ..)
  unfold getD2
  rw [List.getElem?_eq_none (Nat.le_trans hlen hk)]

theorem doCorruptCat_err (F : Fns α) (st : State α) (X : Mat α) (noise : Option (Mat α)) (e : Proto.PyErr)
    (h : (doCorruptCat F st X noise).2 = .err e) : transmit F st noise = (readBigH F st).1 := by
  unfold doCorruptCat at h
  unfold transmit
  rcases hr : readBigH F st with ⟨⟨_, _, _, _, _, _, _, _, _, _, _, _, nv, _⟩, e' | M⟩
  · rfl
  · rw [hr] at h
    -- only a noise variance without drawn noise raises (`transmit` then stops after `big_H` as well); otherwise
    -- `finishCat` returns a received block and `h` is absurd
    cases nv <;> cases noise <;> first | rfl | cases h

theorem step_err_sameOutside (F : Fns α) (st : State α) (op : Op α) (e : Proto.PyErr)
    (h : (step Cfg.fixed F st op).2 = .err e) : SameOutside [.bigHc, .hc, .bigWc] st (step Cfg.fixed F st op).1 := by
  -- a guarded setter that raises has kept the state
  let P (r : State α × Out α) : Prop := r.2 = .err e → SameOutside [.bigHc, .hc, .bigWc] st r.1
  have kept (o : Out α) : P (st, o) := fun _ => .refl _ st
  have reads := read_same F st op
  cases op with
  | init M nr nt K ntE => exact of_ite (P := P) nofun (kept _) h
  | randomize M nr nt K ntE => exact of_check (P := P) (fun _ => kept _) nofun h
  | setPL p pe => exact of_check (P := P) (fun _ => kept _) nofun h
  | setNoise v =>
    revert h
    show P (doSetNoise F st v)
    rw [doSetNoise_eq]
    exact of_ite (P := P) nofun (kept _)
  | setW w => cases h
  | corrupt x xe noise =>
    have h' : (doCorrupt F st x xe noise).2 = .err e := h
    rw [doCorrupt_eq] at h'
    -- `corrupt_data` only splits a received block: its error is that of `corrupt_concatenated_data`
    have hcat : (doCorruptCat F st (if st.isExt then x ++ xe else x).flatten noise).2 = .err e := by
      split at h'
      · cases h'
      · exact h'
    rw [step_fst]
    show SameOutside _ st (transmit F st noise)
    rw [doCorruptCat_err F st _ noise e hcat]
    exact (readBigH_same F st).1.mono (by decide)
  | corruptCat X noise =>
    rw [step_fst]
    show SameOutside _ st (transmit F st noise)
    rw [doCorruptCat_err F st X noise e h]
    exact (readBigH_same F st).1.mono (by decide)
  | _ => exact reads rfl

/-- the state reached from a fresh object by a history (repaired code) -/
def reach (F : Fns α) (isExt : Bool) (ops : List (Op α)) : State α :=
  (run Cfg.fixed F (State.init α isExt) ops).1

/-- every operation of the history has the documented argument shapes -/
def Valid (F : Fns α) (isExt : Bool) (ops : List (Op α)) : Prop :=
  ValidFrom F (State.init α isExt) ops

def opOKb (st : State α) : Op α → Bool
  | .init _ _ _ _ ntE => !st.isExt || !ntE.isEmpty
  | .randomize _ _ _ _ ntE => !st.isExt || !ntE.isEmpty
  | .setPL (some p) pe =>
      if st.isExt then plFits p st.userK st.userK && plFits pe st.userK st.extK
      else plFits p st.k st.k
  | _ => true

def validb (F : Fns α) : State α → List (Op α) → Bool
  | _, [] => true
  | st, op :: ops => opOKb st op && validb F (step Cfg.fixed F st op).1 ops

theorem opOK_of_opOKb (st : State α) (op : Op α) (h : opOKb st op = true) : OpOK st op := by
  cases op with
  | init _ _ _ _ ntE | randomize _ _ _ _ ntE =>
    intro he hn
    simp [opOKb, he, hn] at h
  | setPL p pe =>
    cases p with
    | none => trivial
    | some p =>
      simp only [opOKb] at h
      simp only [OpOK]
      by_cases he : st.isExt = true
      · rw [if_pos he, Bool.and_eq_true, plFits_iff, plFits_iff] at h
        rw [if_pos he]
        exact ⟨h.1.1, h.1.2, h.2⟩
      · rw [if_neg he, plFits_iff] at h
        rw [if_neg he]
        exact h
  | _ => trivial

theorem validFrom_of_validb (F : Fns α) (ops : List (Op α)) (st : State α)
    (h : validb F st ops = true) : ValidFrom F st ops := by
  induction ops generalizing st with
  | nil => trivial
  | cons op ops ih =>
    simp only [validb, Bool.and_eq_true] at h
    exact ⟨opOK_of_opOKb st op h.1, ih _ h.2⟩

theorem valid_of_validb (F : Fns α) (e : Bool) (ops : List (Op α))
    (h : validb F (State.init α e) ops = true) : Valid F e ops :=
  validFrom_of_validb F ops _ h

theorem run_append (cfg : Cfg) (F : Fns α) (st : State α) (ops₁ ops₂ : List (Op α)) :
    run cfg F st (ops₁ ++ ops₂)
      = ((run cfg F (run cfg F st ops₁).1 ops₂).1, (run cfg F st ops₁).2 ++ (run cfg F (run cfg F st ops₁).1 ops₂).2) := by
  induction ops₁ generalizing st with
  | nil => rfl
  | cons op ops ih =>
    simp only [List.cons_append, run]
    rw [ih]

theorem run_isExt (F : Fns α) (ops : List (Op α)) (st : State α) :
    (run Cfg.fixed F st ops).1.isExt = st.isExt := by
  induction ops generalizing st with
  | nil => rfl
  | cons op ops ih => exact (ih (step Cfg.fixed F st op).1).trans (step_sameOutside F st op).1.symm

theorem reach_isExt (F : Fns α) (e : Bool) (ops : List (Op α)) : (reach F e ops).isExt = e :=
  run_isExt F ops _

namespace Buf

theorem bufRun_eq_run_resolve (cfg : Cfg) (F : Fns α) (prog : List (BOp α)) (h : Heap α) (st : State α) :
    bufRun cfg F (h, st) prog
      = ((heapAfter h prog, (run cfg F st (resolve h prog)).1), (run cfg F st (resolve h prog)).2) := by
  induction prog generalizing h st with
  | nil => rfl
  | cons op ops ih =>
    cases op with
    | refill s M => exact ih (h.set s M) st
    | call mk => exact congrArg (fun r => (r.1, (step cfg F st (mk h)).2 :: r.2)) (ih h (step cfg F st (mk h)).1)

theorem bufRun_append (cfg : Cfg) (F : Fns α) (p q : List (BOp α)) (hs : Heap α × State α) :
    bufRun cfg F hs (p ++ q)
      = ((bufRun cfg F (bufRun cfg F hs p).1 q).1, (bufRun cfg F hs p).2 ++ (bufRun cfg F (bufRun cfg F hs p).1 q).2) := by
  induction p generalizing hs with
  | nil => rfl
  | cons op ops ih =>
    simp only [List.cons_append, bufRun, ih]
    cases (bufStep cfg F hs op).2 <;> rfl

end Buf

theorem reinit_reinit (st : State α) (M M' : Mat α) (nr nt : List Nat) (K : Nat) (ntE : List Nat) :
    reinit (reinit st M nr nt K ntE) M' nr nt K ntE = reinit st M' nr nt K ntE := by
  simp only [reinit, install_eq, Option.filter_filter, Bool.and_self]

theorem init_eq_randomize (F : Fns α) (st : State α) (M : Mat α) (nr nt : List Nat) (K : Nat) (ntE : List Nat)
    (h : initCheck M (fullLayout st.isExt nr nt K ntE).1 (fullLayout st.isExt nr nt K ntE).2.1
      (fullLayout st.isExt nr nt K ntE).2.2.1 = true) :
    step Cfg.fixed F st (.init M nr nt K ntE) = step Cfg.fixed F st (.randomize M nr nt K ntE) := by
  obtain ⟨h1, h2⟩ := initCheck_lens h
  -- the layout lengths that `initCheck` has verified are all that `randCheck` tests
  have hr : randCheck Cfg.fixed st.isExt nr nt K ntE = none := by simp [randCheck, h1, h2]
  rw [step_init, step_randomize, if_pos h, hr]

end PyPhysim.C08
