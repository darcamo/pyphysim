import Mathlib.Data.String.Basic
import PyPhysim.Model.C05
import PyPhysim.Proofs.Common

/-! The parameter grid of C05: `itertools.product` is mixed-radix indexing, the numpy slice of
`get_pack_indexes` is a filter on the digits, and — for duplicate-free value lists — fixing a
position is fixing a value. -/
namespace PyPhysim.C05

theorem length_product {V : Type} : ∀ (vals : List (List V)),
    (product vals).length = prod (vals.map List.length) := by
  intro vals
  induction vals with
  | nil => rfl
  | cons vs rest ih =>
    rw [product, List.length_flatMap, List.map_congr_left (fun v _ => List.length_map _), List.map_const',
      List.sum_replicate_nat, ih]
    rfl

theorem digits_length : ∀ (dims : List Nat) (i : Nat), (digits dims i).length = dims.length := by
  intro dims
  induction dims with
  | nil => exact fun _ => rfl
  | cons _ ds ih => exact fun _ => congrArg (· + 1) (ih _)

theorem pick_cons {V : Type} (vs : List V) (rest : List (List V)) (d : Nat) (ds : List Nat) :
    pick (vs :: rest) (d :: ds) = (vs[d]?).bind (fun v => (pick rest ds).map (fun t => v :: t)) := by
  rw [pick]
  cases vs[d]? <;> cases pick rest ds <;> rfl

theorem getElem?_product {V : Type} : ∀ (vals : List (List V)) (i : Nat),
    i < prod (vals.map List.length) →
    (product vals)[i]? = pick vals (digits (vals.map List.length) i) := by
  intro vals
  induction vals with
  | nil =>
    intro i hi
    cases Nat.lt_one_iff.mp hi
    rfl
  | cons vs rest ih =>
    intro i hi
    have hm : 0 < prod (rest.map List.length) := Nat.pos_of_lt_mul_left hi
    have hblock := getElem?_flatMap_block (fun v => (product rest).map (fun t => v :: t))
      (Nat.mod_lt i hm) vs (i / prod (rest.map List.length))
      (fun v _ => by rw [List.length_map, length_product])
    rw [Nat.div_add_mod'] at hblock
    rw [product, hblock, List.map_cons, digits, pick_cons, ← ih _ (Nat.mod_lt i hm)]
    exact congrArg _ (funext fun v => List.getElem?_map ..)

theorem digits_lt (dims : List Nat) (i : Nat) (hi : i < prod dims) (k d x : Nat)
    (hd : dims[k]? = some d) (hx : (digits dims i)[k]? = some x) : x < d := by
  induction dims generalizing i k with
  | nil => cases hd
  | cons d0 ds ih =>
    have hm : 0 < prod ds := Nat.pos_of_lt_mul_left hi
    cases k with
    | zero =>
      cases hd; cases hx
      exact (Nat.div_lt_iff_lt_mul hm).mpr hi
    | succ k => exact ih _ (Nat.mod_lt _ hm) k hd hx

theorem fromDigits_digits (dims : List Nat) (i : Nat) (hi : i < prod dims) :
    fromDigits dims (digits dims i) = i := by
  induction dims generalizing i with
  | nil => exact (Nat.lt_one_iff.mp hi).symm
  | cons d ds ih =>
    rw [digits, fromDigits, ih _ (Nat.mod_lt _ (Nat.pos_of_lt_mul_left hi))]
    exact Nat.div_add_mod' i (prod ds)

theorem digits_block (d : Nat) (ds : List Nat) (k j : Nat) (hj : j < prod ds) :
    digits (d :: ds) (k * prod ds + j) = k :: digits ds j := by
  rw [digits, Nat.mul_comm k, Nat.mul_add_div (Nat.zero_lt_of_lt hj), Nat.mul_add_mod, Nat.div_eq_of_lt hj,
    Nat.mod_eq_of_lt hj]
  rfl

/-- the digits agree with the selector at every fixed (`some k`) position; positions that one of the two
    lists lacks count as matching -/
def selMatch : List (Option Nat) → List Nat → Bool
  | some k :: ss, d :: ds => d == k && selMatch ss ds
  | none :: ss, _ :: ds => selMatch ss ds
  | _, _ => true

theorem range_mul (d m : Nat) :
    List.range (d * m) = (List.range d).flatMap (fun k => (List.range m).map (fun j => k * m + j)) := by
  induction d with
  | zero => simp
  | succ d ih =>
    rw [Nat.succ_mul, List.range_add, ih, List.range_succ, List.flatMap_append]
    simp

theorem filter_range_digits (P : List Nat → Bool) (d : Nat) (ds : List Nat) (off : Nat) :
    ((List.range (prod (d :: ds))).filter (fun i => P (digits (d :: ds) i))).map (fun i => off + i) =
      (List.range d).flatMap (fun k =>
        ((List.range (prod ds)).filter (fun j => P (k :: digits ds j))).map (fun j => off + k * prod ds + j)) := by
  rw [prod, range_mul, List.filter_flatMap, List.map_flatMap]
  refine List.flatMap_congr (fun k _ => ?_)
  rw [List.filter_map, List.map_map]
  refine (List.map_congr_left (fun j _ => (Nat.add_assoc off _ j).symm)).trans (congrArg _ ?_)
  refine List.filter_congr (fun j hj => ?_)
  rw [Function.comp_apply, digits_block d ds k j (List.mem_range.mp hj)]

theorem flatMap_range_single {β : Type} (g : Nat → List β) {k' : Nat} (h : ∀ k, k ≠ k' → g k = [])
    (d : Nat) (hk : k' < d) : (List.range d).flatMap g = g k' := by
  induction d with
  | zero => exact absurd hk (Nat.not_lt_zero k')
  | succ d ih =>
    rw [List.range_succ, List.flatMap_append, List.flatMap_singleton]
    rcases Nat.lt_succ_iff_lt_or_eq.mp hk with hlt | rfl
    · rw [ih hlt, h d (Nat.ne_of_gt hlt), List.append_nil]
    · rw [List.flatMap_eq_nil_iff.mpr (fun k hk => h k (Nat.ne_of_lt (List.mem_range.mp hk))),
        List.nil_append]

section values
variable {V : Type} [BEq V]

/-- the selector `get_pack_indexes` computes for one unpacked parameter: `':'` when the
    parameter is not fixed, otherwise the first position of the fixed value -/
def SelFor (fixed : List (String × V)) (p : Param V) : Option Nat → Prop
  | none => fixed.lookup p.1 = none
  | some k => ∃ w, fixed.lookup p.1 = some w ∧ indexOf w p.2 = some k

/-- what `selectors` may return: a selector for every parameter, or `ValueError` because of a fixed
    value that its parameter does not list -/
def SelSpec (fixed : List (String × V)) (sp : List (Param V)) : Except Err (List (Option Nat)) → Prop
  | .ok sel => List.Forall₂ (SelFor fixed) sp sel
  | .error e => e = .ValueError ∧ ∃ name vals w, (name, vals) ∈ sp ∧ fixed.lookup name = some w ∧ w ∉ vals

theorem SelSpec.cons {fixed : List (String × V)} {p : Param V} {s : Option Nat} {sp : List (Param V)}
    {r : Except Err (List (Option Nat))} (h : SelSpec fixed sp r) (hs : SelFor fixed p s) :
    SelSpec fixed (p :: sp) (r.map (fun t => s :: t)) := by
  cases r with
  | ok _ => exact List.Forall₂.cons hs h
  | error _ =>
    obtain ⟨h1, n, vs, w, hm, h2⟩ := h
    exact ⟨h1, n, vs, w, List.mem_cons_of_mem _ hm, h2⟩

theorem indexOf_eq_findIdx? (v : V) (l : List V) : indexOf v l = l.findIdx? (· == v) := by
  induction l with
  | nil => rfl
  | cons x xs ih => rw [indexOf, List.findIdx?_cons, ih]

variable [LawfulBEq V]

theorem indexOf_some (v : V) (l : List V) (k : Nat) (h : indexOf v l = some k) :
    l[k]? = some v ∧ ∀ j, j < k → l[j]? ≠ some v := by
  rw [indexOf_eq_findIdx?, List.findIdx?_eq_some_iff_getElem] at h
  obtain ⟨hk, hv, hbefore⟩ := h
  refine ⟨List.getElem?_eq_some_iff.mpr ⟨hk, eq_of_beq hv⟩, fun j hj hjv => ?_⟩
  obtain ⟨hjl, e⟩ := List.getElem?_eq_some_iff.mp hjv
  exact hbefore j hj (beq_iff_eq.mpr e)

theorem indexOf_none (v : V) (l : List V) (h : indexOf v l = none) : v ∉ l := by
  rw [indexOf_eq_findIdx?, List.findIdx?_eq_none_iff] at h
  exact fun hv => beq_eq_false_iff_ne.mp (h v hv) rfl

theorem indexOf_of_mem (v : V) (l : List V) (h : v ∈ l) : ∃ k, indexOf v l = some k := by
  cases hi : indexOf v l with
  | some k => exact ⟨k, rfl⟩
  | none => exact absurd h (indexOf_none v l hi)

theorem beq_index_eq_beq_value {vals : List V} {d k : Nat} {v w : V} (hnd : vals.Nodup)
    (hv : vals[d]? = some v) (hw : vals[k]? = some w) : (d == k) = (v == w) := by
  rw [Bool.eq_iff_iff, beq_iff_eq, beq_iff_eq]
  constructor
  · rintro rfl; exact Option.some.inj (hv.symm.trans hw)
  · rintro rfl
    exact (List.getElem?_inj (List.getElem?_eq_some_iff.mp hv).1 hnd).mp (hv.trans hw.symm)

theorem selectors_spec (fixed : List (String × V)) (sp : List (Param V)) :
    SelSpec fixed sp (selectors fixed sp) := by
  fun_induction selectors fixed sp with
  | case1 => exact .nil
  | case2 name vals rest hl ih => exact ih.cons hl
  | case3 name vals rest w hl hi => exact ⟨rfl, name, vals, w, List.mem_cons_self, hl, indexOf_none w vals hi⟩
  | case4 name vals rest w hl k hi ih => exact ih.cons ⟨w, hl, hi⟩

theorem selectors_forall₂ (fixed : List (String × V)) (sp : List (Param V)) (sel : List (Option Nat))
    (h : selectors fixed sp = .ok sel) : List.Forall₂ (SelFor fixed) sp sel := by
  have := selectors_spec fixed sp
  rwa [h] at this

theorem selectors_error (fixed : List (String × V)) (sp : List (Param V)) (e : Err)
    (h : selectors fixed sp = .error e) :
    e = .ValueError ∧ ∃ name vals w, (name, vals) ∈ sp ∧ fixed.lookup name = some w ∧ w ∉ vals := by
  have := selectors_spec fixed sp
  rwa [h] at this

/-- without any hypothesis on the value lists: the slice lists the positions whose digits are the
    FIRST positions of the fixed values -/
theorem slice_eq_filter {fixed : List (String × V)} {sp : List (Param V)} {sel : List (Option Nat)}
    (h : List.Forall₂ (SelFor fixed) sp sel) (off : Nat) :
    slice (sp.map (·.2.length)) sel off
      = ((List.range (prod (sp.map (·.2.length)))).filter (fun i =>
          selMatch sel (digits (sp.map (·.2.length)) i))).map (fun i => off + i) := by
  induction h generalizing off with
  | nil => rfl
  | @cons p s sp sel hs _ ih =>
    rw [List.map_cons, filter_range_digits]
    cases s with
    | none =>
      rw [slice]
      exact List.flatMap_congr (fun k _ => ih _)
    | some k' =>
      obtain ⟨w, _, hk'⟩ := hs
      -- only the block of leading digit `k'` survives the filter
      rw [slice, ih, flatMap_range_single _ (fun k hk => ?_) _
        (List.getElem?_eq_some_iff.mp (indexOf_some w p.2 k' hk').1).1]
      · exact congrArg _ (List.filter_congr (fun j _ => by rw [selMatch, beq_iff_eq.mpr rfl, Bool.true_and]))
      · rw [List.filter_eq_nil_iff.mpr (fun j _ => by rw [selMatch, beq_false_of_ne hk]; exact Bool.false_ne_true)]
        rfl

theorem selMatch_eq_comboMatches {fixed : List (String × V)} {sp : List (Param V)}
    {sel : List (Option Nat)} (h : List.Forall₂ (SelFor fixed) sp sel) :
    ∀ (ds : List Nat) (c : List V), (∀ p ∈ sp, p.2.Nodup) →
      pick (sp.map (·.2)) ds = some c → selMatch sel ds = comboMatches fixed sp c := by
  induction h with
  | nil => intro ds c _ _; rfl
  | @cons p s sp sel hs _ ih =>
    intro ds c hnd hp
    obtain ⟨name, vals⟩ := p
    cases ds with
    | nil => cases hp
    | cons d ds =>
      rw [List.map_cons, pick_cons, Option.bind_eq_some_iff] at hp
      obtain ⟨v, hv, hp⟩ := hp
      obtain ⟨t, ht, rfl⟩ := Option.map_eq_some_iff.mp hp
      have ih' := ih ds t (fun q hq => hnd q (List.mem_cons_of_mem _ hq)) ht
      cases s with
      | none => rw [selMatch, comboMatches, ← ih', show fixed.lookup name = none from hs, Bool.true_and]
      | some k =>
        obtain ⟨w, hl, hk⟩ := hs
        rw [selMatch, comboMatches, ← ih', hl,
          beq_index_eq_beq_value (hnd _ List.mem_cons_self) hv (indexOf_some w vals k hk).1]

end values

theorem sortParams_perm {V : Type} (ps : List (Param V)) : (sortParams ps).Perm ps :=
  List.mergeSort_perm ps _

theorem sortParams_sorted {V : Type} (ps : List (Param V)) :
    (sortParams ps).Pairwise (fun a b => a.1 ≤ b.1) :=
  (List.pairwise_mergeSort (le := fun (a b : Param V) => decide (a.1 ≤ b.1))
    (fun _ _ _ h1 h2 => decide_eq_true (le_trans (of_decide_eq_true h1) (of_decide_eq_true h2)))
    (fun a b => by rw [Bool.or_eq_true, decide_eq_true_iff, decide_eq_true_iff]; exact le_total a.1 b.1)
    ps).imp of_decide_eq_true

/-- test vector: three names given out of order, capitals first as in Python -/
theorem sortParams_b_a_B : sortParams [("b", [1, 2]), ("a", [5, 6, 7]), ("B", [9])]
    = [("B", [9]), ("a", [5, 6, 7]), ("b", [1, 2])] := by
  simp [sortParams, List.mergeSort, List.MergeSort.Internal.splitInTwo]

theorem lookupValues_eq {X : Type} (results : List X) (idx : List Nat) :
    lookupValues results idx
      = ((List.range results.length).filter (fun i => decide (i ∈ idx))).filterMap (fun i => results[i]?) := by
  -- the positions are the second components of `zipIdx`, and `(x, i) ∈ zipIdx` says `results[i]? = some x`
  rw [List.filterMap_filter, List.range_eq_range', ← List.zipIdx_map_snd 0 results, List.filterMap_map]
  refine List.filterMap_congr (fun p hp => ?_)
  rw [Function.comp_apply, List.mem_zipIdx_iff_getElem?.mp hp]
  exact if_congr decide_eq_true_iff.symm rfl rfl

theorem dimsOf_eq {V : Type} (ps : List (Param V)) :
    dimsOf ps = ((sortParams ps).map (·.2)).map List.length := by
  rw [dimsOf, List.map_map]; rfl

/-- with no unpacked parameter the general formula gives the `[0]` that the code returns early -/
theorem packIndexes_eq {V : Type} [BEq V] (ps : List (Param V)) (fixed : List (String × V)) :
    packIndexes ps fixed = (selectors fixed (sortParams ps)).map (fun sel => slice (dimsOf ps) sel 0) := by
  unfold packIndexes dimsOf
  cases sortParams ps <;> rfl

end PyPhysim.C05
