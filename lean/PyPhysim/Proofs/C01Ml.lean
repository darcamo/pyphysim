import Mathlib.Analysis.SpecialFunctions.Exp
import Mathlib.Analysis.SpecialFunctions.Trigonometric.Basic
import PyPhysim.Model.C01

/-!
# C01 — nearest-point detection is maximum-likelihood detection under AWGN

The likelihood of the sample `r` given that `p` was sent through a channel adding independent
`𝒩(0, σ²)` noise to both real dimensions is `exp(−|r − p|²/2σ²)/(2πσ²)`; it decreases with the squared
distance, so the index `demod` returns (a first index at minimum distance, `demod_nearest'` of `Proofs/C01Detect.lean`) maximises it.
-/
namespace PyPhysim.C01

/-- AWGN likelihood of `r` given `p` (noise variance `σ²` per real dimension) -/
noncomputable def awgnLik (σ : ℝ) (r p : ℝ × ℝ) : ℝ :=
  Real.exp (-(dist2 r p) / (2 * σ ^ 2)) / (2 * Real.pi * σ ^ 2)

theorem awgnLik_strict {σ : ℝ} (hσ : 0 < σ) (r p q : ℝ × ℝ) (h : dist2 r p < dist2 r q) :
    awgnLik σ r q < awgnLik σ r p :=
  have hs := pow_pos hσ 2
  div_lt_div_of_pos_right
    (Real.exp_lt_exp.mpr (div_lt_div_of_pos_right (neg_lt_neg h) (mul_pos two_pos hs)))
    (mul_pos Real.two_pi_pos hs)

theorem awgnLik_anti {σ : ℝ} (hσ : 0 < σ) (r p q : ℝ × ℝ) (h : dist2 r p ≤ dist2 r q) :
    awgnLik σ r q ≤ awgnLik σ r p := by
  obtain h | h := h.lt_or_eq
  · exact (awgnLik_strict hσ r p q h).le
  · unfold awgnLik
    rw [h]

end PyPhysim.C01
