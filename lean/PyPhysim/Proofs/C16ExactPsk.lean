import PyPhysim.Proofs.C16Exact

/-!
# C16 — PSK: the formula `2·Q(d_min/2σ)` lies between the exact AWGN symbol error rate and twice it

* `psk_voronoi_of_two_le` — among `M` equally spaced points on the unit circle a sample that is strictly
  closer to `p_k` than to its two neighbours is strictly closer to `p_k` than to every other point;
* `psk_correct_bounds` — hence the decision is wrong at least when one neighbour is nearer
  (probability `Q`, `halfplane_prob`) and at most when one of the two is at least as near (`≤ 2Q`).
-/
namespace PyPhysim.C16
open MeasureTheory ProbabilityTheory Set
open PyPhysim.C01

/-- `4 · sin η · Gs x y (θ + η)` is by how much `(x, y)` is nearer, in squared distance, to the unit-circle point at
    angle `θ` than to the one at `θ + 2η` (`corr_diff`) -/
noncomputable def Gs (x y ψ : ℝ) : ℝ := x * Real.sin ψ - y * Real.cos ψ

/-- interpolation identity: with `a < t < b < a + π` it writes `Gs x y t` as a positive combination of the end values -/
theorem Gs_interp (x y a b t : ℝ) :
    Gs x y t * Real.sin (b - a) = Gs x y a * Real.sin (b - t) + Gs x y b * Real.sin (t - a) := by
  simp only [Gs, Real.sin_sub]; ring

/-- fewer than `M` half steps between two points `a < b` half steps from `θ`: the angle stays inside the upper
    half circle (`sin_step_pos`) -/
theorem sin_between_pos {M a b : Nat} (θ : ℝ) (hab : a < b) (hba : b - a < M) :
    0 < Real.sin (θ + Real.pi / (M:ℝ) * (b:ℝ) - (θ + Real.pi / (M:ℝ) * (a:ℝ))) := by
  rw [add_sub_add_left_eq_sub, ← mul_sub, ← Nat.cast_sub hab.le]
  exact sin_step_pos (Nat.sub_pos_of_lt hab) hba

/-- `Gs` positive at `a` and at `b` half steps from `θ`, fewer than `M` apart, is positive in between -/
theorem Gs_pos_of_between {M a t b : Nat} {x y θ : ℝ} (hat : a < t) (htb : t < b) (hba : b - a < M)
    (ha : 0 < Gs x y (θ + Real.pi / (M:ℝ) * (a:ℝ))) (hb : 0 < Gs x y (θ + Real.pi / (M:ℝ) * (b:ℝ))) :
    0 < Gs x y (θ + Real.pi / (M:ℝ) * (t:ℝ)) := by
  refine pos_of_mul_pos_left (Gs_interp x y _ _ _ ▸ ?_) (sin_between_pos θ (hat.trans htb) hba).le
  exact add_pos
    (mul_pos ha (sin_between_pos θ htb ((Nat.sub_le_sub_left hat.le b).trans_lt hba)))
    (mul_pos hb (sin_between_pos θ hat ((Nat.sub_le_sub_right htb.le a).trans_lt hba)))

theorem ang_add (M k m : Nat) (φ : ℝ) : ang M (k + m) φ = ang M k φ + 2 * (Real.pi / (M:ℝ) * (m:ℝ)) := by
  rw [ang, ang, Nat.cast_add, mul_add, add_right_comm, mul_div_assoc, mul_assoc, mul_assoc]

theorem corr_diff (x y θ η : ℝ) :
    2 * (x * Real.cos θ + y * Real.sin θ) - 2 * (x * Real.cos (θ + 2 * η) + y * Real.sin (θ + 2 * η)) =
      4 * Real.sin η * Gs x y (θ + η) := by
  obtain ⟨A, rfl⟩ : ∃ A, θ = A - η := ⟨θ + η, (add_sub_cancel_right _ _).symm⟩
  rw [two_mul η, ← add_assoc, sub_add_cancel]
  simp only [Gs, Real.cos_sub, Real.cos_add, Real.sin_sub, Real.sin_add]; ring

/-- the angle on the right is half-way between `p_k` and `p_{k+m}`: `m` half steps `π/M` on from `p_k` -/
theorem closer_iff (M k m : Nat) (hm : 0 < m) (hmM : m < M) (φ : ℝ) (r : ℝ × ℝ) :
    dist2 r (pskNaturalPoint M k φ) < dist2 r (pskNaturalPoint (α := ℝ) M (k + m) φ) ↔
      0 < Gs r.1 r.2 (ang M k φ + Real.pi / (M:ℝ) * (m:ℝ)) := by
  rw [pskPoint_eq, pskPoint_eq, dist2_unit, dist2_unit, ang_add, ← sub_pos, sub_sub_sub_cancel_left, corr_diff]
  exact mul_pos_iff_of_pos_left (mul_pos four_pos (sin_step_pos hm hmM))

/-- **Voronoi cell of a PSK point**: strictly closer than both neighbours ⇒ strictly closer than every
    other point.  Half-way to `p_{k+m}`, `1 < m < M − 1`, lies between half-way to the two neighbours, which are
    `M − 2 < M` half steps apart, so `Gs` is positive there as well (`Gs_pos_of_between`). -/
theorem psk_voronoi_of_two_le (M : Nat) (k : Nat) (φ : ℝ) (r : ℝ × ℝ)
    (h1 : dist2 r (pskNaturalPoint M k φ) < dist2 r (pskNaturalPoint (α := ℝ) M (k + 1) φ))
    (h2 : dist2 r (pskNaturalPoint M k φ) < dist2 r (pskNaturalPoint (α := ℝ) M (k + (M - 1)) φ))
    (m : Nat) (hm1 : 1 ≤ m) (hmM : m < M) :
    dist2 r (pskNaturalPoint M k φ) < dist2 r (pskNaturalPoint (α := ℝ) M (k + m) φ) := by
  rcases hm1.eq_or_lt with rfl | hm2
  · exact h1
  rcases (Nat.le_sub_one_of_lt hmM).eq_or_lt with rfl | hm3
  · exact h2
  have hM1 : 1 < M := hm2.trans hmM
  have hM' : M - 1 < M := Nat.sub_lt (zero_lt_one.trans hM1) one_pos
  exact (closer_iff _ _ _ (zero_lt_one.trans hm2) hmM _ _).mpr (Gs_pos_of_between hm2 hm3
    ((Nat.sub_le _ 1).trans_lt hM')
    ((closer_iff _ _ _ one_pos hM1 _ _).mp h1)
    ((closer_iff _ _ _ (Nat.sub_pos_of_lt hM1) hM' _ _).mp h2))

theorem psk_voronoi (M : Nat) (hM : 3 ≤ M) (k : Nat) (φ : ℝ) (r : ℝ × ℝ)
    (h1 : dist2 r (pskNaturalPoint M k φ) < dist2 r (pskNaturalPoint (α := ℝ) M (k + 1) φ))
    (h2 : dist2 r (pskNaturalPoint M k φ) < dist2 r (pskNaturalPoint (α := ℝ) M (k + (M - 1)) φ))
    (m : Nat) (hm1 : 1 ≤ m) (hmM : m < M) :
    dist2 r (pskNaturalPoint M k φ) < dist2 r (pskNaturalPoint (α := ℝ) M (k + m) φ) :=
  psk_voronoi_of_two_le M k φ r h1 h2 m hm1 hmM

theorem pskPoint_period (M j : Nat) (hM : 0 < M) (φ : ℝ) :
    pskNaturalPoint (α := ℝ) M (j + M) φ = pskNaturalPoint M j φ := by
  rw [pskPoint_eq, pskPoint_eq, ang_add, div_mul_cancel₀ _ (Nat.cast_ne_zero.mpr hM.ne' : (M:ℝ) ≠ 0),
    Real.cos_add_two_pi, Real.sin_add_two_pi]

theorem pskNatural_getElem? (M k : Nat) (hk : k < M) (φ : ℝ) :
    (pskNatural (α := ℝ) M φ)[k]? = some (pskNaturalPoint M k φ) := by
  rw [pskNatural, List.getElem?_map, List.getElem?_range hk]
  rfl

theorem mem_pskNatural {M : Nat} {φ : ℝ} {q : ℝ × ℝ} :
    q ∈ pskNatural (α := ℝ) M φ ↔ ∃ j, j < M ∧ pskNaturalPoint M j φ = q := by
  simp only [pskNatural, List.mem_map, List.mem_range]

/-- the indices wind round the circle: every `p_j` is a point of the table -/
theorem pskPoint_mem {M : Nat} (hM : 0 < M) (φ : ℝ) (j : Nat) : pskNaturalPoint (α := ℝ) M j φ ∈ pskNatural M φ := by
  induction j using Nat.strong_induction_on with
  | _ j ih =>
    rcases lt_or_ge j M with h | h
    · exact mem_pskNatural.mpr ⟨j, h, rfl⟩
    · rw [← Nat.sub_add_cancel h, pskPoint_period _ _ hM]
      exact ih _ (Nat.sub_lt (hM.trans_le h) hM)

/-- `p_{k+(M−1)}` is followed by `p_{k+M} = p_k`, and the chord does not depend on the order of its ends -/
theorem psk_prev_dist2 (M k : Nat) (hM : 1 ≤ M) (φ : ℝ) :
    dist2 (pskNaturalPoint M (k + (M - 1)) φ) (pskNaturalPoint (α := ℝ) M k φ)
      = (2 * Real.sin (Real.pi / M)) ^ 2 := by
  rw [← psk_adjacent_dist2 M (k + (M - 1)) φ, Nat.add_assoc, Nat.sub_add_cancel hM, pskPoint_period M k hM φ,
    psk_dist2, psk_dist2, ← Real.cos_neg, ← mul_neg, neg_sub]

theorem psk_correct_bounds (M : Nat) (hM : 2 ≤ M) (k : Nat) (hk : k < M) (φ s : ℝ)
    (c : List (ℝ × ℝ)) (hmem : ∀ q, q ∈ c ↔ q ∈ pskNatural (α := ℝ) M φ) (hnd : c.Nodup) (l : Nat)
    (hl : c[l]? = some (pskNaturalPoint M k φ)) :
    1 - 2 * Qg (pskArg M s) ≤ (noise2 (sigma s)).real (correctNoise c (pskNaturalPoint M k φ) l) ∧
      (noise2 (sigma s)).real (correctNoise c (pskNaturalPoint M k φ) l) ≤ 1 - Qg (pskArg M s) := by
  -- either neighbour, at distance `d_min = 2 sin (π/M)`, is at least as near with probability `Q`
  have hd := mul_pos (zero_lt_two' ℝ) (sin_pi_div_pos M hM)
  have next := (halfplane_prob (sigma_pos s) hd _ _ ((psk_adjacent_dist2 M k φ).trans (sq _))).2
  have prev := (halfplane_prob (sigma_pos s) hd _ _
    ((psk_prev_dist2 M k (one_le_two.trans hM) φ).trans (sq _))).2
  rw [pskArg_dmin]
  constructor
  · -- unless one of the two neighbours is at least as near as the transmitted point (probability `Q` each),
    -- the sample is in the open cell (`psk_voronoi_of_two_le`) and the decision is correct
    have := correct_ge_of_two (noise2 (sigma s)) c hnd l _ hl (pskNaturalPoint M (k + 1) φ)
      (pskNaturalPoint M (k + (M - 1)) φ) fun r h1 h2 q hq hne => by
        obtain ⟨j, hj, rfl⟩ := mem_pskNatural.mp ((hmem q).mp hq)
        have far := psk_voronoi_of_two_le M k φ r h1 h2
        -- the point `j` is `m` steps round the circle from `k`, `0 < m < M`
        rcases Nat.lt_or_gt_of_ne fun e : j = k => hne (by rw [e]) with h | h
        · have hkM : k < j + M := hk.trans_le (Nat.le_add_left M j)
          rw [← pskPoint_period M j (j.zero_le.trans_lt hj) φ, ← Nat.add_sub_cancel' hkM.le]
          exact far _ (Nat.sub_pos_of_lt hkM) (Nat.sub_lt_left_of_lt_add hkM.le (Nat.add_lt_add_right h M))
        · rw [← Nat.add_sub_cancel' h.le]
          exact far _ (Nat.sub_pos_of_lt h) ((Nat.sub_le j k).trans_lt hj)
    rwa [next.1, prev.1, ← two_mul] at this
  · -- a correct decision leaves the transmitted point at least as near as its successor
    rw [← next.2]
    exact measureReal_mono fun n hn =>
      decided_subset_closed _ _ _ hl (mem_correctNoise.mp hn) _ ((hmem _).mpr (pskPoint_mem (Nat.zero_lt_of_lt hk) φ _))

end PyPhysim.C16
