import Mathlib.Tactic.Ring
import PyPhysim.Proofs.C20Alg

/-!
The squared Frobenius norm `frobSq X = trace (Xᴴ X)` in the model's vocabulary: invariant under `cT` and under
isometries, its value on an SVD and on a difference of two projectors; symmetry and unitary invariance of `chordOfProj`.
-/
namespace PyPhysim.LinAlg.Pf
open Matrix

variable {K : Type} [CommRing K] [StarRing K] {m n p q r : Nat}

theorem frobSq_gram (X : Mat K m n) : frobSq X = trace (toM (gram X)) := by
  rw [frobSq_eq, trace_mul_comm, gram_def, toM_matMul, toM_cT]

theorem frobSq_cT (X : Mat K m n) : frobSq (cT X) = frobSq X := by
  rw [frobSq_gram, frobSq_gram, gram_def, gram_def, cT_cT, trace_matMul_comm]

theorem frobSq_isometry {U : Mat K m p} (X : Mat K p r) (hU : matMul (cT U) U = eye) :
    frobSq (matMul U X) = frobSq X := by
  rw [frobSq_gram, frobSq_gram, gram_isometry X hU]

theorem frobSq_of_svd {M : Mat K p q} {U : Mat K p r} {V : Mat K q r} {s : Fin r → K} (hs : ∀ i, star (s i) = s i)
    (hU : matMul (cT U) U = eye) (hV : matMul (cT V) V = eye) (hM : M = matMul (matMul U (diagM s)) (cT V)) :
    frobSq M = ∑ i, s i * s i := by
  rw [hM, matMul_assoc, frobSq_isometry _ hU, ← frobSq_cT, cT_matMul, cT_cT, frobSq_isometry _ hV, frobSq_cT,
    frobSq_gram, gram_def, cT_diagM hs, diagM_matMul_diagM, toM_diagM, trace_diagonal]

theorem frobSq_sub_of_herm_idem {P1 P2 : Mat K n n} (h1 : cT P1 = P1) (h2 : cT P2 = P2)
    (i1 : matMul P1 P1 = P1) (i2 : matMul P2 P2 = P2) :
    frobSq (msub P1 P2) = trace (toM P1) + trace (toM P2) - 2 * trace (toM (matMul P1 P2)) := by
  rw [frobSq_gram, gram_def, msub_eq, cT_sub, h1, h2, sub_matMul, matMul_sub, matMul_sub, i1, i2]
  show trace (toM P1 - toM (matMul P1 P2) - (toM (matMul P2 P1) - toM P2)) = _
  rw [trace_sub, trace_sub, trace_sub, trace_matMul_comm P2 P1]
  ring

theorem frobSq_proj_sub {Q1 : Mat K n p} {Q2 : Mat K n q} (h1 : matMul (cT Q1) Q1 = eye)
    (h2 : matMul (cT Q2) Q2 = eye) :
    frobSq (msub (matMul Q1 (cT Q1)) (matMul Q2 (cT Q2))) = (p : K) + (q : K) - 2 * frobSq (matMul (cT Q1) Q2) := by
  -- `tr(Q Qᴴ) = tr(Qᴴ Q)` is the number of columns
  have t1 : trace (toM (matMul Q1 (cT Q1))) = (p : K) := by
    rw [trace_matMul_comm, h1, toM_eye, trace_one, Fintype.card_fin]
  have t2 : trace (toM (matMul Q2 (cT Q2))) = (q : K) := by
    rw [trace_matMul_comm, h2, toM_eye, trace_one, Fintype.card_fin]
  -- `tr(Q1 Q1ᴴ Q2 Q2ᴴ) = tr((Q1ᴴ Q2)ᴴ (Q1ᴴ Q2))`, one factor taken round
  have t12 : trace (toM (matMul (matMul Q1 (cT Q1)) (matMul Q2 (cT Q2)))) = frobSq (matMul (cT Q1) Q2) := by
    rw [matMul_assoc Q1, trace_matMul_comm Q1, ← matMul_assoc (cT Q1), matMul_assoc _ (cT Q2),
      trace_matMul_comm, frobSq_gram, gram_def, cT_matMul, cT_cT]
  rw [frobSq_sub_of_herm_idem (by rw [cT_matMul, cT_cT]) (by rw [cT_matMul, cT_cT])
      (by rw [matMul_assoc, ← matMul_assoc (cT Q1), h1, eye_matMul])
      (by rw [matMul_assoc, ← matMul_assoc (cT Q2), h2, eye_matMul]), t1, t2, t12]

section model
variable [RSqrt K] [Div K]

theorem chordOfProj_comm (P1 P2 : Mat K m m) : chordOfProj P1 P2 = chordOfProj P2 P1 := by
  rw [chordOfProj, chordOfProj, frobSq_eq, frobSq_eq, toM_msub, toM_msub, ← neg_sub (toM P2), conjTranspose_neg,
    Matrix.neg_mul, Matrix.mul_neg, neg_neg]

theorem chordOfProj_unitary (U P1 P2 : Mat K m m) (hU : matMul (cT U) U = eye) :
    chordOfProj (matMul (matMul U P1) (cT U)) (matMul (matMul U P2) (cT U)) = chordOfProj P1 P2 := by
  rw [chordOfProj, chordOfProj, msub_eq, msub_eq, ← sub_matMul, ← matMul_sub, matMul_assoc, frobSq_isometry _ hU,
    ← frobSq_cT, cT_matMul, cT_cT, frobSq_isometry _ hU, frobSq_cT]

end model
end PyPhysim.LinAlg.Pf
