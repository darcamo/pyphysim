import PyPhysim.Generated.C11Formulas
/-!
# C11 — the regenerated formula trees under the names `Gen.*`

`Generated/C11Formulas.lean` holds the expression trees of the covariance / SINR methods as the source states them
(re-emitted on every check run by `harness/gen/c11.py`).  This module only brings them in under the names `Gen.*`
(inside the namespace `PyPhysim.Sinr.GenPf`, which `Properties/C11.lean` opens);
they are compared with the model in `generated_formulas_match_model` (`Properties/C11.lean`).
-/
namespace PyPhysim.Sinr.GenPf
namespace Gen
export PyPhysim.Generated.C11 (chFirstNone chFirstScalar chFirstMat chSecond chBklScalar chBklMat chSinrDen chSinrVal
  jpFirst jpSecond jpSinrDen jpSinrVal solFirst solSecond solBklPlain solBklExt solSinrDen solSinrVal)
end Gen

end PyPhysim.Sinr.GenPf
