import PyPhysim.Model.C15Robust
import PyPhysim.Proofs.GrayGenerated

/-! The PSK object under `setPhaseOffset` histories and the buffer machine of `Model/C15Robust`
(classes R15 / R16 of C15); the facts over ℝ about offsets are `psk_offset_inj` (`C01Psk`) and
`unit_chord` (`C16Dmin`). -/
namespace PyPhysim.C15R
open PyPhysim.Proto PyPhysim.Gray PyPhysim.C01

theorem hamming_sum_eq_zero_iff (as bs : List Nat) (hl : as.length = bs.length) :
    (List.zipWith hamming as bs).sum = 0 ↔ as = bs := by
  induction as generalizing bs with
  | nil =>
    cases bs with
    | nil => exact ⟨fun _ => rfl, fun _ => rfl⟩
    | cons b bs => exact absurd hl (Nat.succ_ne_zero _).symm
  | cons a as ih =>
    cases bs with
    | nil => exact absurd hl (Nat.succ_ne_zero _)
    | cons b bs =>
      simp only [List.length_cons, Nat.add_right_cancel_iff] at hl
      simp only [List.zipWith_cons_cons, List.sum_cons, Nat.add_eq_zero_iff, hamming_eq_zero_iff,
        ih bs hl, List.cons.injEq]

theorem Psk.run_M {α : Type} (s : Psk α) (φs : List α) : (s.run φs).M = s.M := by
  induction φs generalizing s with
  | nil => rfl
  | cons φ φs ih => exact ih (s.setOffset φ)

theorem Psk.run_snoc {α : Type} (s : Psk α) (φs : List α) (φ : α) :
    s.run (φs ++ [φ]) = ⟨s.M, φ, false⟩ := by
  rw [Psk.run, List.foldl_append, ← Psk.run, ← Psk.run_M s φs]
  rfl

theorem write_call (h : Heap) (op : Op) (hc : ∀ i xs, op ≠ .refill i xs) : write h op = h := by
  cases op <;> first | rfl | exact absurd rfl (hc _ _)

theorem run_append (h : Heap) (a b : List Op) :
    run h (a ++ b) = ((run (run h a).1 b).1, (run h a).2 ++ (run (run h a).1 b).2) := by
  induction a generalizing h with
  | nil => rfl
  | cons op a ih => simp only [List.cons_append, run, ih]

theorem run_length (h : Heap) (ops : List Op) : (run h ops).2.length = ops.length := by
  induction ops generalizing h with
  | nil => rfl
  | cons op ops ih => simp only [run, List.length_cons, ih]

theorem mapE_ok {f : Nat → Except PyErr Nat} {g : Nat → Nat} (h : ∀ x, f x = .ok (g x)) :
    ∀ xs, mapE f xs = .ok (xs.map g)
  | [] => rfl
  | x :: xs => by rw [mapE, h, mapE_ok h xs]; rfl

theorem result_biterr (h : Heap) (i j : Nat) :
    result h (.biterr i j) = .num (List.zipWith hamming (h i) (h j)).sum := by
  simp only [result, mapE_ok gen_count_bits, List.map_zipWith]
  rfl

theorem zipWith_xor_self (xs : List Nat) :
    List.zipWith Generated.xor xs xs = List.replicate xs.length 0 := by
  induction xs with
  | nil => rfl
  | cons x xs ih => rw [List.zipWith_cons_cons, ih, Generated.xor, Nat.xor_self]; rfl

end PyPhysim.C15R
