import PyPhysim.Proofs.C09Top

/-!
The null space that the SVD factorisation of a wide matrix yields (the contract `BDContract.null`
as a theorem, `svd_null`), and the external-interference variants: block diagonality after whitening
(`whiteningChannel`, `whiteningFilters`), the precoder and receive filter of `enhancedReduced`, and the
specification of `np.argmax` (`argmax_fold_spec`, `argmaxFirst_spec`) on which `enhancedDecide` rests.
-/
namespace PyPhysim.BD
namespace Pf
open Matrix

section svd
variable {R T n : Nat}

/-- the `R × T` rectangular diagonal matrix of a full SVD -/
def sigmaRect (S : Fin R → ℝ) : Mat ℂ R T := fun a b => if a.val = b.val then ((S a : ℝ) : ℂ) else 0

theorem lt_revIdx (h : n ≤ T) (hR : R + n ≤ T) (a : Fin R) (j : Fin n) : a.val < (revIdx h j).val :=
  Nat.lt_sub_of_add_lt (Nat.lt_sub_of_add_lt (by omega))

/-- `V0` consists of the last `n` columns of `V_Hᴴ`, and `A · V_Hᴴ = U Σ`, where `Σ` (`R` rows, `R + n ≤ T`) has no
    entry in those columns: the singular values play no role -/
theorem svd_null (A : Mat ℂ R T) (U : Mat ℂ R R) (S : Fin R → ℝ) (VH : Mat ℂ T T) (h : n ≤ T) (hR : R + n ≤ T)
    (hsvd : A = matMul (matMul U (sigmaRect S)) VH) (hU : matMul VH (cT VH) = eye) :
    matMul A (leastCols VH n h) = fun _ _ => 0 := by
  have e : matMul A (cT VH) = matMul U (sigmaRect S) := by rw [hsvd, matMul_assoc, hU, matMul_eye]
  funext a j
  refine (congrFun (congrFun e a) (revIdx h j)).trans ?_
  rw [matMul_apply]
  exact Finset.sum_eq_zero fun b _ => mul_eq_zero_of_right _ (if_neg (lt_revIdx h hR b j).ne)

end svd

section whitening
variable {K N : Nat}
variable {hK : 0 < K} {H : Mat ℂ (K * N) (K * N)} {Ww Wi : Fin K → Mat ℂ N N}
  {VH1 : Fin K → Mat ℂ (K * N) (K * N)} {VH2 : Fin K → Mat ℂ N N} {S2 : Fin K → Fin N → ℝ}

theorem filters_left_inverse (hW : ∀ k, matMul (Ww k) (Wi k) = eye) (k : Fin K) :
    matMul (cT (Wi k)) (whiteningFilters Ww k) = eye := by
  rw [whiteningFilters, ← cT_matMul, hW, cT_eye]

theorem whitening_blockDiagonal (c : BDContract hK (whiteningChannel Ww H) VH1 VH2 S2)
    (hW : ∀ k, matMul (Ww k) (Wi k) = eye) (iPu : ℝ) :
    IsBlockDiagonal (matMul H (blockDiagonalizeNoWF hK iPu (whiteningChannel Ww H) VH1 VH2 S2).2) := by
  show IsBlockDiagonal (matMul H (noWF iPu _))
  rw [noWF_eq_diag]
  refine blockDiagonal_mul_diagM H _ _ (blockDiagonal_stack H _ (fun j k hjk => ?_))
  exact null_of_whitened_null (whiteningFilters Ww) (fun k => cT (Wi k)) (filters_left_inverse hW) H _ j
    (calcBD_null c j k hjk)

end whitening

section reduction
variable {T N n : Nat}

theorem enhancedReduced_Ms (iPu : ℝ) (Hk : Mat ℂ N T) (Msk : Mat ℂ T N) (Pk : Mat ℂ N n) (G : Mat ℂ n n)
    (Wp : Mat ℂ n N) : (enhancedReduced iPu Hk Msk n Pk G Wp).Ms = (reduce iPu Hk Msk Pk G).MsPk := rfl

/-- the stream-reduction filter `pinv(…)·P (PᴴP)⁻¹ Pᴴ` is of the form `M Pᴴ` -/
theorem enhancedReduced_W (iPu : ℝ) (Hk : Mat ℂ N T) (Msk : Mat ℂ T N) (Pk : Mat ℂ N n) (G : Mat ℂ n n)
    (Wp : Mat ℂ n N) : (enhancedReduced iPu Hk Msk n Pk G Wp).W = matMul (matMul Wp (matMul Pk G)) (cT Pk) :=
  (matMul_assoc Wp (matMul Pk G) (cT Pk)).symm

theorem eyeCols_orthonormal (hn : n ≤ N) : matMul (cT (eyeCols : Mat ℂ N n)) eyeCols = eye := by
  -- `eyeCols` consists of the first `n` columns of the identity, so the entries are those of `1ᴴ · 1`
  have he : (eyeCols : Mat ℂ N n) = fun i j => eye i (Fin.castLE hn j) :=
    funext fun i => funext fun j => if_congr (Fin.ext_iff (b := Fin.castLE hn j)).symm rfl rfl
  have e : matMul (cT (eye : Mat ℂ N N)) eye = eye := by rw [cT_eye, matMul_eye]
  funext a b
  rw [he]
  exact (congrFun (congrFun e (Fin.castLE hn a)) (Fin.castLE hn b)).trans
    (if_congr Fin.castLE_inj rfl rfl)

/-- invariant of the loop of `argmaxFirst`: after the elements `pre` (`pos` of them) the accumulator
    `(b, v, pos)` holds the first position `b` of the maximum `v` of `pre`; so does the accumulator `res`
    after the remaining elements `xs`, for `pre ++ xs` -/
theorem argmax_fold_spec (xs : List ℝ) (b : Nat) (v : ℝ) (pos : Nat) (pre : List ℝ) (res : Nat × ℝ × Nat)
    (hpos : pre.length = pos) (hb : b < pos) (hv : pre[b]? = some v)
    (hmax : ∀ y ∈ pre, y ≤ v) (hfirst : ∀ i, i < b → ∀ y, pre[i]? = some y → y < v)
    (hres : xs.foldl (fun (acc : Nat × ℝ × Nat) c =>
      if acc.2.1 < c then (acc.2.2, c, acc.2.2 + 1) else (acc.1, acc.2.1, acc.2.2 + 1)) (b, v, pos) = res) :
    res.1 < (pre ++ xs).length ∧ (pre ++ xs)[res.1]? = some res.2.1 ∧
      (∀ y ∈ pre ++ xs, y ≤ res.2.1) ∧ ∀ i, i < res.1 → ∀ y, (pre ++ xs)[i]? = some y → y < res.2.1 := by
  induction xs generalizing b v pos pre with
  | nil =>
    subst hres
    rw [List.append_nil]
    exact ⟨hb.trans_eq hpos.symm, hv, hmax, hfirst⟩
  | cons x xs ih =>
    have hlen : (pre ++ [x]).length = pos + 1 := by rw [List.length_append, hpos]; rfl
    rw [List.append_cons]
    rw [List.foldl_cons] at hres
    split at hres
    · rename_i hlt
      refine ih pos x (pos + 1) (pre ++ [x]) hlen (Nat.lt_succ_self _) ?_ (fun y hy => ?_) (fun i hi y hy => ?_) hres
      · rw [← hpos]; exact List.getElem?_concat_length
      · rcases List.mem_append.mp hy with h | h
        · exact le_trans (hmax y h) (le_of_lt hlt)
        · exact le_of_eq (List.mem_singleton.mp h)
      · rw [List.getElem?_append_left (hpos ▸ hi)] at hy
        exact lt_of_le_of_lt (hmax y (List.mem_of_getElem? hy)) hlt
    · rename_i hnlt
      refine ih b v (pos + 1) (pre ++ [x]) hlen (Nat.lt_succ_of_lt hb) ?_ (fun y hy => ?_) (fun i hi y hy => ?_) hres
      · rw [List.getElem?_append_left (hpos ▸ hb)]; exact hv
      · rcases List.mem_append.mp hy with h | h
        · exact hmax y h
        · rw [List.mem_singleton.mp h]; exact not_lt.mp hnlt
      · rw [List.getElem?_append_left (hpos ▸ lt_trans hi hb)] at hy
        exact hfirst i hi y hy

/-- `np.argmax` of a non-empty sequence: the index returned is valid, holds a maximum, and is the first such index -/
theorem argmaxFirst_spec (l : List ℝ) (hl : 0 < l.length) :
    argmaxFirst l < l.length ∧
      ∃ v, l[argmaxFirst l]? = some v ∧ (∀ y ∈ l, y ≤ v) ∧ ∀ i, i < argmaxFirst l → ∀ y, l[i]? = some y → y < v := by
  cases l with
  | nil => exact absurd hl (Nat.lt_irrefl 0)
  | cons x xs =>
    have h := argmax_fold_spec xs 0 x 1 [x] _ rfl Nat.zero_lt_one rfl (fun y hy => (List.mem_singleton.mp hy).le)
      (fun i hi => absurd hi (Nat.not_lt_zero i)) rfl
    exact ⟨h.1, _, h.2.1, h.2.2.1, h.2.2.2⟩

end reduction
end Pf
end PyPhysim.BD
