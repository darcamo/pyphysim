import Mathlib.Analysis.SpecialFunctions.Complex.Log
import PyPhysim.Proofs.C18Cis

/-!
C18 — the complex numbers with `cis q = exp(2πi·q)` and complex conjugation
satisfy `CisLaws`; the theorems of `Properties/C18.lean` that involve scalars are stated for this
instance.
-/
namespace PyPhysim.C18P
open PyPhysim.Cazac Complex

noncomputable instance instCisOpsComplex : CisOps ℂ where
  cis q := Complex.exp (2 * Real.pi * Complex.I * (q : ℂ))
  conj := starRingEnd ℂ

theorem cis_complex_def (q : ℚ) :
    (CisOps.cis q : ℂ) = Complex.exp (2 * Real.pi * Complex.I * (q : ℂ)) := rfl

theorem conj_complex_def (x : ℂ) : (CisOps.conj x : ℂ) = starRingEnd ℂ x := rfl

theorem cisLaws_complex : CisLaws ℂ where
  cis_zero := by simp only [cis_complex_def, Rat.cast_zero, mul_zero, Complex.exp_zero]
  cis_add a b := by simp only [cis_complex_def, Rat.cast_add, mul_add, Complex.exp_add]
  cis_eq_one a := by
    rw [cis_complex_def, Complex.exp_eq_one_iff]
    -- `2πi·a = n·2πi` exactly when `a = n`
    refine exists_congr fun n => ?_
    rw [mul_comm (n : ℂ), mul_right_inj' Complex.two_pi_I_ne_zero, ← Rat.cast_intCast (α := ℂ),
      Rat.cast_inj]
  conj_cis a := by
    simp only [conj_complex_def, cis_complex_def, ← Complex.exp_conj, RingHom.map_mul,
      Complex.conj_I, Complex.conj_ofReal, Complex.conj_ofNat, map_ratCast, Rat.cast_neg, mul_neg,
      neg_mul]
  conj_hom := ⟨starRingEnd ℂ, fun _ => rfl⟩

theorem norm_sq_of_mul_conj (v : ℂ) (c : ℝ) (h : v * (starRingEnd ℂ) v = (c : ℂ)) : ‖v‖ ^ 2 = c := by
  rw [Complex.mul_conj, Complex.ofReal_inj] at h
  rw [Complex.sq_norm, h]

theorem norm_one_of_mul_conj (v : ℂ) (h : v * (starRingEnd ℂ) v = 1) : ‖v‖ = 1 := by
  rw [← Real.sqrt_sq (norm_nonneg v), norm_sq_of_mul_conj v 1 (by rw [h, Complex.ofReal_one]),
    Real.sqrt_one]

end PyPhysim.C18P
