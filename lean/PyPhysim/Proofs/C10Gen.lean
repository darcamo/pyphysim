import PyPhysim.Proofs.C10Cache
import PyPhysim.Generated.C10Effects
import PyPhysim.Proofs.CacheEffects
import PyPhysim.Model.C10Toy
/-!
# C10 — the effect of the cache machine's `step` on the eight attributes, as a finite table

`Generated/C10Effects.lean` (re-emitted from `iabase.py` / `algorithms.py` on every
run) lists, per class and entry point, which attributes are reset / assigned /
possibly written / possibly lazily filled.  This file provides the MODEL side:

* `Fld` names the fields of `State`; `effect kind` is the effect table of the model
  operation `kind`;
* `step_frame_clears`, `step_fillOnly`: the table is what
  `step Cfg.fixed` does, for every interpretation `Ops`, every `K`, every state and
  all arguments.  The frame and the cleared fields are checked operation by operation by `Eff.sound`:
  the old values put back into the fields the table lists (`Fld.copy`) give the old state;
* `specDeps` is the dependency table of the derived fields, read off `Coherent` and
  `FullFDerived`: the clause of a derived field looks only at that field and at the fields
  `specDeps` lists for it (`coherence_reads_only_spec_dependencies` of `Properties/C10.lean`);
* the translation between fields and Python attribute names, the predicates the
  bridge theorems of `Properties/C10.lean` evaluate on the generated tables, and `rows_classes`, under
  which they may be evaluated class by class.
-/
namespace PyPhysim.C10
open PyPhysim.Proto PyPhysim.CacheEffects

inductive Fld where
  | ns | pow | prec | fullF | w | wH | fullWH | fullW
  deriving DecidableEq, Repr

def Fld.all : List Fld := [.ns, .pow, .prec, .fullF, .w, .wH, .fullWH, .fullW]

inductive Kind where
  | setP | randomizeF | setPrecoders | setFilters | solve | clear | setInit | query | fork
  | readF | readFullF | readW | readWH | readFullWH | readFullW | readNs | readP
  deriving DecidableEq, Repr

def Kind.all : List Kind :=
  [.setP, .randomizeF, .setPrecoders, .setFilters, .solve, .clear, .setInit, .query, .fork, .readF, .readFullF,
   .readW, .readWH, .readFullWH, .readFullW, .readNs, .readP]

section
variable {μ ρ : Type}

def Op.kind : Op μ ρ → Kind
  | .setP .. => .setP | .randomizeF .. => .randomizeF | .setPrecoders .. => .setPrecoders
  | .setFilters .. => .setFilters | .solve .. => .solve | .clear => .clear | .setInit .. => .setInit
  | .query => .query | .fork => .fork | .readF => .readF | .readFullF => .readFullF | .readW => .readW
  | .readWH => .readWH | .readFullWH => .readFullWH | .readFullW => .readFullW | .readNs => .readNs
  | .readP => .readP

def Fld.agree (f : Fld) (a b : State μ ρ) : Prop :=
  match f with
  | .ns => a.ns = b.ns | .pow => a.p = b.p | .prec => a.f = b.f | .fullF => a.fullF = b.fullF
  | .w => a.w = b.w | .wH => a.wH = b.wH | .fullWH => a.fullWH = b.fullWH | .fullW => a.fullW = b.fullW

def Fld.isNone (f : Fld) (a : State μ ρ) : Prop :=
  match f with
  | .ns => a.ns = none | .pow => a.p = none | .prec => a.f = none | .fullF => a.fullF = none
  | .w => a.w = none | .wH => a.wH = none | .fullWH => a.fullWH = none | .fullW => a.fullW = none

end

structure Eff where
  clears : List Fld := []
  assigns : List Fld := []
  mayWrite : List Fld := []
  fills : List Fld := []
  deriving DecidableEq, Repr

def Eff.touched (e : Eff) : List Fld := e.clears ++ e.assigns ++ e.mayWrite ++ e.fills

def effect : Kind → Eff
  | .setP => { clears := [.fullF, .fullWH, .fullW], assigns := [.pow] }
  | .randomizeF => { clears := [.fullF, .fullWH, .fullW], assigns := [.prec, .ns, .pow] }
  | .setPrecoders => { clears := [.fullWH, .fullW], assigns := [.prec, .fullF, .ns], mayWrite := [.pow] }
  | .setFilters => { clears := [.fullWH, .fullW], assigns := [.w, .wH] }
  | .solve => { clears := [.fullWH, .fullW], assigns := [.pow, .prec, .fullF, .w, .wH, .ns] }
  | .clear => { clears := [.ns, .pow, .prec, .fullF, .w, .wH, .fullWH, .fullW] }
  | .readFullF => { fills := [.fullF] }
  | .readW => { fills := [.w] }
  | .readWH => { fills := [.wH] }
  | .readFullWH => { fills := [.wH, .fullF, .fullWH] }
  | .readFullW => { fills := [.wH, .fullF, .fullWH, .fullW] }
  | .setInit | .query | .fork | .readF | .readNs | .readP => {}

section Sound
variable {μ ρ : Type}

def SameOutside (fs : List Fld) (a b : State μ ρ) : Prop := ∀ f, f ∉ fs → f.agree a b

def FillOnly (f : Fld) (a b : State μ ρ) : Prop := f.agree a b ∨ (f.isNone a ∧ ¬ f.isNone b)

theorem Fld.agree_refl (f : Fld) (a : State μ ρ) : f.agree a a := by cases f <;> rfl

/-- `t` with one field taken from `s`.  Putting the fields a table lists back one after the other
    (`List.foldl`) and finding `s` again says that `t` differs from `s` in those fields only, and it is
    an evaluation in which no membership in the table is decided: the written values are overwritten
    unseen, so it goes through by `rfl` whatever they are (`Eff.sound`). -/
def Fld.copy (s t : State μ ρ) : Fld → State μ ρ
  | .ns => { t with ns := s.ns } | .pow => { t with p := s.p } | .prec => { t with f := s.f }
  | .fullF => { t with fullF := s.fullF } | .w => { t with w := s.w } | .wH => { t with wH := s.wH }
  | .fullWH => { t with fullWH := s.fullWH } | .fullW => { t with fullW := s.fullW }

theorem agree_copy {x y : Fld} (h : x ≠ y) {a s t : State μ ρ} (ha : x.agree a (Fld.copy s t y)) :
    x.agree a t := by
  cases x <;> cases y <;> first | exact ha | exact absurd rfl h

theorem agree_foldl_copy {x : Fld} {a s t : State μ ρ} {fs : List Fld} (hx : x ∉ fs)
    (h : x.agree a (fs.foldl (Fld.copy s) t)) : x.agree a t := by
  induction fs generalizing t with
  | nil => exact h
  | cons y fs ih => exact agree_copy (List.ne_of_not_mem_cons hx) (ih (List.not_mem_of_not_mem_cons hx) h)

local instance (x : Fld) (a : State μ ρ) : Decidable (x.isNone a) := by
  cases x <;> exact inferInstanceAs (Decidable (_ = none))

/-- The table `e` describes the passage from `s` to `t`, as two evaluations.  `foldl`, not `foldr`: with
    `foldr` the unevaluated rest of the table sits inside a record that every `{ t with … }` copies, and is
    evaluated again for each field. -/
theorem Eff.sound {e : Eff} {s t : State μ ρ} (h1 : e.touched.foldl (Fld.copy s) t = s)
    (h2 : decide (∀ x ∈ e.clears, x.isNone t) = true) : SameOutside e.touched s t ∧ ∀ x ∈ e.clears, x.isNone t :=
  ⟨fun x hx => agree_foldl_copy hx ((congrArg (x.agree s) h1).mpr (x.agree_refl s)),
   of_decide_eq_true h2⟩

theorem fillOnly_opt {α : Type} {a b : Option α} (h : a = none ∨ b = a) : a = b ∨ (a = none ∧ ¬ b = none) := by
  rcases h with rfl | rfl
  · cases b with
    | none => exact .inl rfl
    | some _ => exact .inr ⟨rfl, nofun⟩
  · exact .inl rfl

theorem CacheFill.fillOnly {O : Ops μ ρ} {K : Nat} {s t : State μ ρ} (h : CacheFill O K s t) (x : Fld) :
    FillOnly x s t := by
  cases x with
  | ns => exact .inl h.ns.symm
  | pow => exact .inl h.p.symm
  | prec => exact .inl h.f.symm
  | fullF =>
    refine fillOnly_opt (h.fullF.elim .inr fun e => ?_)
    rw [e, getFullF_eq]
    cases s.fullF with
    | none => exact .inl rfl
    | some _ => exact .inr rfl
  | w =>
    refine fillOnly_opt (h.w.elim .inr fun e => ?_)
    rw [e, getW_eq]
    cases s.w with
    | none => exact .inl rfl
    | some _ => exact .inr rfl
  | wH =>
    refine fillOnly_opt (h.wH.elim .inr fun e => ?_)
    rw [e, getWH_eq]
    cases s.wH with
    | none => exact .inl rfl
    | some _ => exact .inr rfl
  | fullWH => exact fillOnly_opt (h.fullWH.elim .inr fun e => .inl e.1)
  | fullW => exact fillOnly_opt (h.fullW.elim .inr fun e => .inl e.1)

/-- a rejected call changes nothing, an accepted mutator writes what `Op.upd` shows, a getter leaves what
    its equation (`readFullF_eq`, `readW_eq`, `readWH_eq`, `readFullWH_of_none`) or its fill lemma shows -/
theorem step_frame_clears (O : Ops μ ρ) (K : Nat) (st : State μ ρ) (op : Op μ ρ) :
    SameOutside (effect op.kind).touched st (step Cfg.fixed O K st op).1
    ∧ ((∀ e, (step Cfg.fixed O K st op).2 ≠ .err e) →
        ∀ x ∈ (effect op.kind).clears, x.isNone (step Cfg.fixed O K st op).1) := by
  -- the state as a constructor term: against a variable `st` the `rfl`s below compare projection with
  -- projection, which first tries to unify the records and is exponential in the number of updates
  obtain ⟨ns, p, f, fullF, w, wH, fullWH, fullW⟩ := st
  cases hm : op.isMutator with
  | true =>
    rw [step_mutator O K _ op hm]
    cases op.err O K with
    | some e => exact ⟨fun x _ => x.agree_refl _, fun hok => absurd rfl (hok e)⟩
    | none =>
      -- the two evaluations as goals: as terms (`Eff.sound rfl rfl`) they are tried a first time while
      -- `e`, `s`, `t` are still unknown
      cases op <;> first | exact Bool.noConfusion hm | refine (Eff.sound ?_ ?_).imp_right fun h _ => h
      all_goals rfl
  | false =>
    refine (Eff.sound ?_ ?_).imp_right fun h _ => h
    · cases op with
      | readFullF => simp only [step, readFullF_eq]; rfl
      | readW => simp only [step, readW_eq]; rfl
      | readWH => simp only [step, readWH_eq]; rfl
      | readFullWH =>
        simp only [step]
        cases fullWH with
        | some Z => rfl
        | none => rw [readFullWH_of_none _ _ _ rfl]; rfl
      | readFullW =>
        -- the nested getter has no equation: `readFullW_fill` names the four fields it leaves alone
        obtain ⟨⟨hns, hp, hf, _, _, _, _, _⟩, hw⟩ := readFullW_fill O K ⟨ns, p, f, fullF, w, wH, fullWH, fullW⟩
        simp only [step]
        generalize (readFullW Cfg.fixed O K _).1 = t at hns hp hf hw
        obtain ⟨ns', p', f', fullF', w', wH', fullWH', fullW'⟩ := t
        cases hns; cases hp; cases hf; cases hw; rfl
      | query | fork | readF | readNs | readP => rfl
      | _ => cases hm
    · cases op <;> first | exact Bool.noConfusion hm | rfl

theorem step_fillOnly (O : Ops μ ρ) (K : Nat) (st : State μ ρ) (op : Op μ ρ) (x : Fld)
    (hx : x ∈ (effect op.kind).fills) : FillOnly x st (step Cfg.fixed O K st op).1 := by
  cases op with
  | readFullF | readW | readWH | readFullWH | readFullW => exact (step_fill O K st _ rfl).fillOnly x
  | _ => exact (List.not_mem_nil hx).elim

end Sound

section Tight

/-- states of the exact `1 × 1` rational interpretation `toyOps` (`Model/C10Toy.lean`) -/
abbrev TSt := State (List Rat) Rat

def Fld.same (x : Fld) (a b : TSt) : Bool :=
  match x with
  | .ns => a.ns == b.ns | .pow => a.p == b.p | .prec => a.f == b.f | .fullF => a.fullF == b.fullF
  | .w => a.w == b.w | .wH => a.wH == b.wH | .fullWH => a.fullWH == b.fullWH | .fullW => a.fullW == b.fullW

def changed (a b : TSt) : List Fld := Fld.all.filter fun x => !x.same a b

/-- two users with direct channels `2` and `4` -/
def toyProbe : Ops (List Rat) Rat := toyOps [2, 4]

/-- precoders and filters set, nothing read yet -/
def probeFresh : TSt :=
  (run Cfg.fixed toyProbe 2 (State.init _ _)
    [.randomizeF [3, -2] (.int 1) (.scalar 4), .setFilters none (some [1, 1])]).1

/-- the same solver after `full_W` was read (all eight attributes hold a value) -/
def probeFull : TSt := (run Cfg.fixed toyProbe 2 probeFresh [.readFullW]).1

/-- one concrete (state, operation) per operation kind that writes or fills something -/
def probes : List (TSt × Op (List Rat) Rat) :=
  [(probeFull, .setP (.scalar 9)),
   (probeFull, .randomizeF [-1, 5] (.list [2, 2]) (.scalar 9)),
   ({ probeFull with ns := some [3, 3] }, .setPrecoders (some [-1, -1]) (some [7, 7]) (some [9, 9])),
   (probeFull, .setFilters (some [5, 5]) none),
   (probeFull, .solve false (.list [3, 3]) (.scalar 9) ⟨[-1, 1], some [8, 8], [6, 6], true, [2, 2]⟩),
   (probeFull, .clear),
   (probeFresh, .readFullF),
   ((run Cfg.fixed toyProbe 2 (State.init _ _) [.setFilters (some [1, 1]) none]).1, .readW),
   (probeFresh, .readWH), (probeFresh, .readFullWH), (probeFresh, .readFullW)]

def probeChanges : List (Kind × List Fld) :=
  probes.map fun p => (p.2.kind, changed p.1 (step Cfg.fixed toyProbe 2 p.1 p.2).1)

theorem probeChanges_eq : probeChanges =
    [(.setP, [.pow, .fullF, .fullWH, .fullW]),
     (.randomizeF, [.ns, .pow, .prec, .fullF, .fullWH, .fullW]),
     (.setPrecoders, [.ns, .pow, .prec, .fullF, .fullWH, .fullW]),
     (.setFilters, [.w, .wH, .fullWH, .fullW]),
     (.solve, [.ns, .pow, .prec, .fullF, .w, .wH, .fullWH, .fullW]),
     (.clear, [.ns, .pow, .prec, .fullF, .w, .wH, .fullWH, .fullW]),
     (.readFullF, [.fullF]), (.readW, [.w]), (.readWH, [.wH]),
     (.readFullWH, [.fullF, .wH, .fullWH]), (.readFullW, [.fullF, .wH, .fullWH, .fullW])] := by
  decide +kernel

def covers (tbl : List (Kind × List Fld)) : Bool :=
  Kind.all.all fun k => (effect k).touched.all fun x => tbl.any fun e => e.1 == k && e.2.contains x

/-- every field the table lists for an operation is really changed by that operation on one of
    the probes: the table is not an over-approximation -/
def tight : Bool := covers probeChanges

end Tight

section Deps
variable {μ ρ : Type}

/-- the fields the value of a derived field is computed from (`Coherent`, `specFullWH`,
    `FullFDerived`): `_W` / `_W_H` mirror each other, `_full_F = _F·√P`,
    `_full_W_H = solve(W_H·H·full_F, W_H)`, `_full_W = _full_W_Hᴴ` -/
def specDeps : Fld → List Fld
  | .fullF => [.prec, .pow]
  | .w => [.wH]
  | .wH => [.w]
  | .fullWH => [.w, .wH, .fullF, .prec, .pow]
  | .fullW => [.fullWH]
  | _ => []

def derivedFlds : List Fld := [.fullF, .w, .wH, .fullWH, .fullW]

def clause (O : Ops μ ρ) (K : Nat) (x : Fld) (st : State μ ρ) : Prop :=
  match x with
  | .fullF => FullFDerived O K st
  | .w | .wH => ∀ X Y, st.w = some X → st.wH = some Y → X = O.herm Y ∨ Y = O.herm X
  | .fullWH => ∀ Z, st.fullWH = some Z → specFullWH O K st = .ok (some Z)
  | .fullW => ∀ Z', st.fullW = some Z' → ∃ Z, st.fullWH = some Z ∧ Z' = O.herm Z
  | _ => True

end Deps

def baseCls : String := "IASolverBaseClass"
/-- the concrete solver classes of `algorithms.py` -/
def solverClasses : List String :=
  ["ClosedFormIASolver", "AlternatingMinIASolver", "MinLeakageIASolver", "MaxSinrIASolver", "MMSEIASolver"]

def Fld.attr : Fld → String
  | .ns => "_Ns" | .pow => "_P" | .prec => "_F" | .fullF => "_full_F" | .w => "_W" | .wH => "_W_H"
  | .fullWH => "_full_W_H" | .fullW => "_full_W"

def attrsOf (fs : List Fld) : List String := norm (fs.map Fld.attr)
def attrFld (a : String) : Option Fld := Fld.all.find? fun x => x.attr == a
def tracked (a : String) : Bool := (attrFld a).isSome
/-- the part of an attribute list that concerns the eight modelled attributes (as a set) -/
def proj (xs : List String) : List String := norm (xs.filter tracked)

/-- attributes outside the cache machine: the channel object, the random generator, and the
    bookkeeping of the iterative solvers (none of them is read by a lazy fill except the channel) -/
def untrackedOf (cls : String) : List String :=
  ["_multiUserChannel", "_rs"] ++
  (if cls == "ClosedFormIASolver" then ["_use_best_init"] else []) ++
  (if ["AlternatingMinIASolver", "MinLeakageIASolver", "MaxSinrIASolver", "MMSEIASolver"].contains cls then
    ["_alt_min_ia_solver", "_closed_form_ia_solver", "_initialize_with", "_runned_iterations", "max_iterations",
     "relative_factor"] else []) ++
  (if cls == "AlternatingMinIASolver" then ["_C"] else []) ++
  (if cls == "MMSEIASolver" then ["_mu"] else [])

/-- the model operation behind a public entry point; `none` for `solve` and the step methods, which
    `rowMatches` treats before it asks, and for the entry points modelled as `Op.query` (`calc_Q`,
    `calc_SINR`, `get_cost`, `K`, …) -/
def kindOf : String → Option Kind
  | "P.setter" => some .setP
  | "randomizeF" => some .randomizeF
  | "set_precoders" => some .setPrecoders
  | "set_receive_filters" => some .setFilters
  | "clear" => some .clear
  | "initialize_with.setter" => some .setInit
  | "F" => some .readF
  | "full_F" => some .readFullF
  | "W" => some .readW
  | "W_H" => some .readWH
  | "full_W_H" => some .readFullWH
  | "full_W" => some .readFullW
  | "Ns" => some .readNs
  | "P" => some .readP
  | _ => none

def lazyAttrs : List String := attrsOf (Kind.all.flatMap fun k => (effect k).fills)

def subset (a b : List String) : Bool := a.all b.contains

/-- a generated row says what the model operation behind it does to the eight attributes.
    * a modelled entry point: same resets, assignments, conditional writes and lazy fills;
    * `solve` of a concrete solver (the model takes the stored solution as a parameter): it resets
      what `Op.solve` resets and writes nothing `Op.solve` does not write;
    * `_updateF` / `_updateW` (the names passed as `steps`): no table (they are examined by the sufficiency condition only);
    * anything else: writes none of the eight attributes, fills at most the known caches.
    Writes outside the eight attributes must be to the known bookkeeping attributes of the class. -/
def rowMatches (steps : List String) (r : Row) : Bool :=
  (r.cls == baseCls || solverClasses.contains r.cls)
  && subset (r.written.filter fun a => !tracked a) (untrackedOf r.cls)
  && subset r.fills lazyAttrs
  && (if steps.contains r.name then true
      else if r.name == "solve" then
        let e := effect .solve
        subset (attrsOf e.clears) r.clears && subset (proj r.written) (attrsOf (e.clears ++ e.assigns ++ e.mayWrite))
      else match kindOf r.name with
        | some k =>
          let e := effect k
          proj r.clears == attrsOf e.clears && proj r.assigns == attrsOf e.assigns
            && proj r.mayWrite == attrsOf e.mayWrite && norm r.fills == attrsOf e.fills
        | none => (proj r.written).isEmpty)

/-- rows that must exist: the whole modelled interface for the base class; for every concrete
    solver the mutators, the filling getters, `solve` and the two iteration steps -/
def baseEntryPoints : List String :=
  ["P.setter", "randomizeF", "set_precoders", "set_receive_filters", "clear", "F", "full_F", "W", "W_H", "full_W_H",
   "full_W", "Ns", "P"]
def solverEntryPoints : List String :=
  ["P.setter", "randomizeF", "set_precoders", "set_receive_filters", "clear", "solve", "full_F", "W", "W_H",
   "full_W_H", "full_W", "_updateF", "_updateW"]

def entryPointsPresent (rows : List Row) : Bool :=
  baseEntryPoints.all (fun n => rows.any fun r => r.cls == baseCls && r.name == n)
  && solverClasses.all fun c => solverEntryPoints.all fun n => rows.any fun r => r.cls == c && r.name == n

/-- the attributes of a fresh object: the eight (all `None`, as in `State.init`) + the known others -/
def initMatches (tbl : List (String × List (String × Bool))) : Bool :=
  tbl.map (fun e => e.1) == baseCls :: solverClasses
  && tbl.all fun e =>
    norm (e.2.map fun x => x.1) == norm (Fld.all.map Fld.attr ++ untrackedOf e.1)
    && Fld.all.all fun x => e.2.contains (x.attr, true)

/-- every attribute a row mentions exists on a fresh object of its class -/
def mentionsOnlyInit (tbl : List (String × List (String × Bool))) (rows : List Row) : Bool :=
  rows.all fun r =>
    let known := (tbl.filter fun e => e.1 == r.cls).flatMap fun e => e.2.map fun x => x.1
    (r.written ++ r.fills ++ r.reads).all known.contains

/-- dependency table of a class: the generated fill read-sets of its lazy caches -/
def depsOf (fills : List (String × String × List String)) (cls : String) : Deps :=
  (fills.filter fun e => e.1 == cls).map fun e => e.2

def specDepsTable : Deps := derivedFlds.map fun x => (x.attr, (specDeps x).map Fld.attr)

/-- in every class the lazily filled attributes are the model's caches, and the closure of what
    each fill reads (restricted to the eight attributes) is the closure of `specDeps` -/
def fillsMatch (fills : List (String × String × List String)) : Bool :=
  (baseCls :: solverClasses).all fun cls =>
    norm ((fills.filter fun e => e.1 == cls).map fun e => e.2.1) == lazyAttrs
    && (fills.filter fun e => e.1 == cls).all fun e =>
      proj ((depsOf fills cls).closure e.2.1) == norm (specDepsTable.closure e.2.1)

/-- Every generated row belongs to one of the six analysed classes: the side condition under which a
    check of all rows may be made class by class (`all_eq_all_rowsOf`). -/
theorem rows_classes :
    (Generated.C10Effects.rows.all fun r => (baseCls :: solverClasses).contains r.cls) = true := by
  decide +kernel

/-- `_full_F` is not examined for `solve` rows: the iterative solvers fill and patch it inside
    their loop (`_solve_finalize`); what `solve` leaves there is the `Solution` parameter of the
    model operation and is compared by the correspondence -/
def solveExempt (r : Row) (c : String) : Bool :=
  r.name == "solve" && r.cls != "ClosedFormIASolver" && c == "_full_F"

end PyPhysim.C10
