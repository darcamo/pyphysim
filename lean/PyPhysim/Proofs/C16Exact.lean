import PyPhysim.Proofs.C16Gauss
import PyPhysim.Proofs.C16Dmin
import PyPhysim.Proofs.C01Detect

/-!
# C16 — the formulas are the AWGN error rates of the modelled detector (BPSK, decision cells)

* BPSK: the sign detector of `Model/C01` (`bpskDemod`) errs on `±1 + n` iff `n` lies in a half-line, whose
  probability under `n ~ 𝒩(0, σ²)`, `σ² = 1/(2γ)`, is `bpskSER Qg` (`bpsk_ser_is_exact` of `Properties/C16.lean`,
  through `bpskArg_eq_inv_sigma` of `Proofs/C16Dmin.lean`).
* decision cells of the nearest-point detector `demod` (for QAM / PSK, used by
  `Proofs/C16ExactQam.lean`, `Proofs/C16ExactPsk.lean`): the event "`demod` returns `i`" lies
  between the open and the closed Voronoi cell of point `i`.
* `halfplane_prob` — the probability that the noise carries the sample (weakly / strictly) closer to
  another point `q` than to the transmitted `p` is `Qg(|q − p| / 2σ)`.
-/
namespace PyPhysim.C16
open MeasureTheory ProbabilityTheory Filter Topology Set
open PyPhysim.C01

theorem bpskDemod_ne_zero (x : ℝ) : bpskDemod x ≠ 0 ↔ x < 0 := by
  unfold bpskDemod
  split_ifs with h
  · exact iff_of_true one_ne_zero h
  · exact iff_of_false (fun h0 => h0 rfl) h

theorem bpskDemod_ne_one (x : ℝ) : bpskDemod x ≠ 1 ↔ 0 ≤ x := by
  unfold bpskDemod
  split_ifs with h
  · exact iff_of_false (fun h1 => h1 rfl) (not_le.mpr h)
  · exact iff_of_true zero_ne_one (le_of_not_gt h)

/-- bit 0 is sent as `+1`; the detector (`re < 0 ↦ 1`) errs iff `1 + n < 0` -/
theorem bpsk_err_bit0 : {n : ℝ | bpskDemod ((1:ℝ) + n) ≠ 0} = Iio (-1) := by
  ext n
  rw [mem_ofPred_eq, bpskDemod_ne_zero, mem_Iio, lt_neg_iff_add_neg, add_comm]

/-- bit 1 is sent as `-1`; the detector errs iff `¬(-1 + n < 0)` -/
theorem bpsk_err_bit1 : {n : ℝ | bpskDemod ((-1:ℝ) + n) ≠ 1} = Ici 1 := by
  ext n
  rw [mem_ofPred_eq, bpskDemod_ne_one, mem_Ici, neg_add_eq_sub, sub_nonneg]

def closedCell (c : List (ℝ × ℝ)) (p : ℝ × ℝ) : Set (ℝ × ℝ) :=
  {r | ∀ q ∈ c, dist2 r p ≤ dist2 r q}

def openCell (c : List (ℝ × ℝ)) (p : ℝ × ℝ) : Set (ℝ × ℝ) :=
  {r | ∀ q ∈ c, q ≠ p → dist2 r p < dist2 r q}

def decided (c : List (ℝ × ℝ)) (i : Nat) : Set (ℝ × ℝ) := {r | demod c r = i}

theorem decided_subset_closed (c : List (ℝ × ℝ)) (i : Nat) (p : ℝ × ℝ) (hi : c[i]? = some p) :
    decided c i ⊆ closedCell c p := by
  intro r hr q hq
  obtain ⟨p', hp', hall⟩ := demod_nearest' c (List.ne_nil_of_mem hq) r
  rw [show demod c r = i from hr, hi] at hp'
  cases hp'
  obtain ⟨j, hj⟩ := List.getElem?_of_mem hq
  exact (hall j q hj).1

theorem open_subset_decided (c : List (ℝ × ℝ)) (hnd : c.Nodup) (i : Nat) (p : ℝ × ℝ)
    (hi : c[i]? = some p) : openCell c p ⊆ decided c i :=
  fun r hr => demod_of_nearest_point c hnd i p hi r hr

/-- sandwich: if open and closed cell have the same probability, so has the decision event
    (an outer-measure argument: no measurability of `decided` is needed) -/
theorem decided_prob (μ : Measure (ℝ × ℝ)) [IsFiniteMeasure μ] (c : List (ℝ × ℝ)) (hnd : c.Nodup)
    (i : Nat) (p : ℝ × ℝ) (hi : c[i]? = some p) (v : ℝ)
    (ho : v ≤ μ.real (openCell c p)) (hc : μ.real (closedCell c p) ≤ v) :
    μ.real (decided c i) = v :=
  le_antisymm ((measureReal_mono (decided_subset_closed c i p hi) (measure_ne_top _ _)).trans hc)
    (ho.trans (measureReal_mono (open_subset_decided c hnd i p hi) (measure_ne_top _ _)))

/-- the noise vectors for which the detector returns index `idx` when `p` was transmitted -/
def correctNoise (c : List (ℝ × ℝ)) (p : ℝ × ℝ) (idx : Nat) : Set (ℝ × ℝ) :=
  {n | demod c (p.1 + n.1, p.2 + n.2) = idx}

theorem mem_correctNoise {c : List (ℝ × ℝ)} {p n : ℝ × ℝ} {idx : Nat} :
    n ∈ correctNoise c p idx ↔ (p.1 + n.1, p.2 + n.2) ∈ decided c idx := Iff.rfl

/-- union bound with two competitors: if being strictly closer to `p` than to `q₁` and `q₂` already puts a
    sample into the open cell of `p`, the decision can only fail when `q₁` or `q₂` is at least as close -/
theorem correct_ge_of_two (μ : Measure (ℝ × ℝ)) [IsProbabilityMeasure μ] (c : List (ℝ × ℝ)) (hnd : c.Nodup)
    (l : Nat) (p : ℝ × ℝ) (hl : c[l]? = some p) (q₁ q₂ : ℝ × ℝ)
    (h : ∀ r, dist2 r p < dist2 r q₁ → dist2 r p < dist2 r q₂ → r ∈ openCell c p) :
    1 - (μ.real {n | dist2 (p.1 + n.1, p.2 + n.2) q₁ ≤ dist2 (p.1 + n.1, p.2 + n.2) p} +
        μ.real {n | dist2 (p.1 + n.1, p.2 + n.2) q₂ ≤ dist2 (p.1 + n.1, p.2 + n.2) p}) ≤
      μ.real (correctNoise c p l) := by
  rw [sub_le_iff_le_add, ← probReal_univ (μ := μ)]
  -- the three events cover the plane: outside the last two the sample lies in the open cell of `p`
  refine le_trans (measureReal_mono (fun n _ => ?_) (measure_ne_top _ _))
    ((measureReal_union_le _ _).trans (add_le_add le_rfl (measureReal_union_le _ _)))
  exact or_iff_not_imp_right.mpr fun hn => mem_correctNoise.mpr <|
    open_subset_decided c hnd l p hl (h _ (not_le.mp fun h1 => hn (Or.inl h1)) (not_le.mp fun h2 => hn (Or.inr h2)))

theorem dist2_diff (p q n : ℝ × ℝ) :
    dist2 (p.1 + n.1, p.2 + n.2) q - dist2 (p.1 + n.1, p.2 + n.2) p =
      dist2 q p - 2 * ((q.1 - p.1) * n.1 + (q.2 - p.2) * n.2) := by
  simp only [dist2]
  ring

/-- the perpendicular bisector in coordinates: with `A − B = D − 2L` the order of `A`, `B` is that of `D/2`, `L` -/
theorem bisector_iff {A B D L : ℝ} (h : A - B = D - 2 * L) :
    (A < B ↔ D / 2 < L) ∧ (A ≤ B ↔ D / 2 ≤ L) ∧ (B ≤ A ↔ L ≤ D / 2) := by
  have hlt : A < B ↔ D / 2 < L := by rw [← sub_neg, h, sub_neg, div_lt_iff₀' (zero_lt_two' ℝ)]
  exact ⟨hlt, by rw [← sub_nonpos, h, sub_nonpos, div_le_iff₀' (zero_lt_two' ℝ)], by rw [← not_lt, hlt, not_lt]⟩

/-- **pairwise error probability**: the noise makes `q`, at distance `d` from the transmitted `p`, strictly
    closer than `p` with probability `Q(d/2σ)`; the same for "at least as close"; the transmitted point stays
    at least as close with the complementary probability.  All three events are half-planes bounded by the
    perpendicular bisector of `p q`: the component of the noise along `q − p` exceeds `d² / 2` or not. -/
theorem halfplane_prob {σ d : ℝ} (hσ : 0 < σ) (hd0 : 0 < d) (p q : ℝ × ℝ) (hdd : dist2 q p = d * d) :
    (noise2 σ).real {n | dist2 (p.1 + n.1, p.2 + n.2) q < dist2 (p.1 + n.1, p.2 + n.2) p} =
        Qg (d / (2 * σ)) ∧
    (noise2 σ).real {n | dist2 (p.1 + n.1, p.2 + n.2) q ≤ dist2 (p.1 + n.1, p.2 + n.2) p} =
        Qg (d / (2 * σ)) ∧
    (noise2 σ).real {n | dist2 (p.1 + n.1, p.2 + n.2) p ≤ dist2 (p.1 + n.1, p.2 + n.2) q} =
        1 - Qg (d / (2 * σ)) := by
  have hd : 0 < d * σ := mul_pos hd0 hσ
  have harg : dist2 q p / 2 / (d * σ) = d / (2 * σ) := by
    rw [hdd, div_div, mul_left_comm, mul_div_mul_left _ _ hd0.ne']
  rw [← harg]
  refine ⟨?_, ?_, ?_⟩
  -- `hdd` is `(q.1 − p.1)·(q.1 − p.1) + (q.2 − p.2)·(q.2 − p.2) = d·d`: the functional along `q − p` has length `d`
  · rw [← gauss_Ioi hd, ← linear_preimage σ hdd measurableSet_Ioi]
    exact congrArg _ (Set.ext fun n => (bisector_iff (dist2_diff p q n)).1)
  · rw [← gauss_Ici hd, ← linear_preimage σ hdd measurableSet_Ici]
    exact congrArg _ (Set.ext fun n => (bisector_iff (dist2_diff p q n)).2.1)
  · rw [← gauss_Iic hd, ← linear_preimage σ hdd measurableSet_Iic]
    exact congrArg _ (Set.ext fun n => (bisector_iff (dist2_diff p q n)).2.2)

end PyPhysim.C16
