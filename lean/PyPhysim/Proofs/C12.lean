import Mathlib.Algebra.Order.Field.Basic
import Mathlib.Algebra.Order.BigOperators.Group.List
import PyPhysim.Model.C12

/-!
# C12: what `doWF` computes

The value of `doWFWith` is determined by where the loop stops (`doWFWith_eq_of_dropLoop`,
`doWFWith_of_dropLoop_nil`: any field, no order axioms; `Proofs/C12Gen` meets the model there).
The loop stops at a suffix `w :: rest` of the sorted list whose head fails the test, right after a channel
`d` that passed it (`dropLoop_stops`, no arithmetic).  Over a linear ordered field the returned level
`mu = dPdiff / k + minMu` is the one at which the kept channels take up exactly `P`:
`Σ_{x ∈ w :: rest} (mu - level x) = P` (`sum_level_sub`).  Against this identity the failed test
`¬ P < Σ (level w - level x)` reads `level w ≤ mu` and the passed one `P < Σ (level d - level x)` reads
`mu < level d` (a sum of `c - level x` grows with `c`); the channels removed before `d` lie higher still and
the kept ones below `w`, the list being level-sorted.  That is `doWFWith_spec`: in sorted order the code
returns `mu` and the powers `mu - level x` of the kept channels scattered back, `mu` lying between the
kept and the removed levels.  For a sort result satisfying `SortContract` this is a water-filling
solution (`doWFWith_isWaterFilling`).
-/
namespace PyPhysim.C12
open PyPhysim.Proto

section sort
variable {α : Type} [LinearOrder α] {g : List α} {asc : List (Chan α)}

/-- contract of the external kernel `np.argsort` (result paired with the gains):
    a permutation of the indexed gains, gains non-decreasing -/
structure SortContract (g : List α) (asc : List (Chan α)) : Prop where
  perm : asc.Perm g.zipIdx
  sorted : asc.Pairwise (fun x y => x.1 ≤ y.1)

theorem SortContract.length_eq (hc : SortContract g asc) : asc.length = g.length :=
  hc.perm.length_eq.trans List.length_zipIdx

theorem SortContract.ne_nil (hc : SortContract g asc) (hne : g ≠ []) : asc ≠ [] :=
  fun h => hne (List.length_eq_zero_iff.mp (hc.length_eq ▸ h ▸ rfl))

theorem argsortAsc_contract (g : List α) : SortContract g (argsortAsc g) := by
  refine ⟨List.mergeSort_perm _ _, ?_⟩
  have := List.pairwise_mergeSort (le := fun x y : Chan α => !(decide (y.1 < x.1)))
    (by
      intro a b c hab hbc
      simp only [Bool.not_eq_true', decide_eq_false_iff_not, not_lt] at hab hbc ⊢
      exact le_trans hab hbc)
    (by
      intro a b
      simp only [Bool.or_eq_true, Bool.not_eq_true', decide_eq_false_iff_not, not_lt]
      exact le_total _ _)
    g.zipIdx
  refine this.imp ?_
  intro a b hab
  simpa using hab

end sort

variable {α : Type} [Field α] [LinearOrder α]

/-- `(p, μ)` is a water-filling solution for gains `g`, power `P`, noise `N`, symbol energy `Es` -/
structure IsWaterFilling (g : List α) (P N Es : α) (p : List α) (mu : α) : Prop where
  form : p = g.map (fun x => max 0 (mu - N / (Es * x)))
  sum : p.sum = P

section
variable {g p : List α} {P N Es mu : α}

theorem IsWaterFilling.nonneg (h : IsWaterFilling g P N Es p mu) : ∀ y ∈ p, 0 ≤ y := by
  intro y hy
  rw [h.form, List.mem_map] at hy
  obtain ⟨x, _, rfl⟩ := hy
  exact le_max_left _ _

theorem IsWaterFilling.getElem (h : IsWaterFilling g P N Es p mu) (j : Nat) (hj : j < g.length)
    (hj' : j < p.length) : p[j] = max 0 (mu - N / (Es * g[j])) := by
  have := h.form
  subst this
  exact List.getElem_map _

end

/-- every channel removed, or none to begin with: `vtOptPaux[0]` / `vtChannelsSorted[-1]` raises -/
theorem doWFWith_of_dropLoop_nil {asc : List (Chan α)} {N Es P : α} (n : Nat)
    (h : dropLoop N Es P asc = []) : doWFWith asc n P N Es = .error .IndexError := by
  cases asc with
  | nil => rfl
  | cons a asc' => simp only [doWFWith, h]

/-- the code after the loop when it stopped with the channels `w :: rest` in use, in the code's
    own terms: remainder split `dPdiff / k`, `Ps`, `minMu` -/
theorem doWFWith_eq_of_dropLoop {asc : List (Chan α)} {N Es P : α} {w : Chan α}
    {rest : List (Chan α)} (n : Nat) (h : dropLoop N Es P asc = w :: rest) :
    doWFWith asc n P N Es
      = .ok (scatter n ((w :: rest).map fun x =>
              (x.2, (P - (excess N Es w (w :: rest)).sum) / ((w :: rest).length : α)
                + (level N Es w - level N Es x))),
             (P - (excess N Es w (w :: rest)).sum) / ((w :: rest).length : α) + level N Es w) := by
  cases asc with
  | nil => cases h
  | cons a asc' =>
    obtain ⟨best, hbest⟩ : ∃ b, (w :: rest).getLast? = some b :=
      ⟨_, List.getLast?_eq_some_getLast (List.cons_ne_nil w rest)⟩
    simp only [doWFWith, h, excess, List.getLast?_map, hbest, Option.map_some, List.map_map,
      List.zip_map', Function.comp_def]
    simp only [level, ← add_sub_assoc, sub_add_cancel]

theorem lookup_map_of_mem {κ β : Type} (v : κ × Nat → β) :
    ∀ (l : List (κ × Nat)), (l.map (·.2)).Nodup → ∀ x ∈ l,
      (l.map (fun y => (y.2, v y))).lookup x.2 = some (v x) := by
  intro l
  induction l with
  | nil => intro _ x hx; cases hx
  | cons y l ih =>
    intro hnd x hx
    rw [List.map_cons, List.nodup_cons] at hnd
    rw [List.map_cons, List.lookup_cons]
    rcases List.mem_cons.mp hx with rfl | hx
    · rw [beq_self_eq_true]
    · have hne : x.2 ≠ y.2 := fun h => hnd.1 (h ▸ List.mem_map_of_mem hx)
      rw [beq_false_of_ne hne]
      exact ih hnd.2 x hx

/-- `vtOptP = zeros(n); vtOptP[idx[:k]] = F(kept)`: when the sort permutation splits into the
    removed channels `pre` and the kept ones `K`, the result is `F` on every channel, provided
    `F` vanishes on the removed ones. -/
theorem scatter_of_perm {κ : Type} [Zero κ] {g : List κ} {pre K : List (Chan κ)}
    (hperm : (pre ++ K).Perm g.zipIdx) (F : Chan κ → κ) (hpre : ∀ x ∈ pre, F x = 0) :
    scatter g.length (K.map fun x => (x.2, F x)) = g.zipIdx.map F := by
  have hnd : ((pre ++ K).map (·.2)).Nodup := by
    rw [(hperm.map _).nodup_iff, List.zipIdx_map_snd]
    exact List.nodup_range'
  rw [List.map_append, List.nodup_append] at hnd
  obtain ⟨-, hndK, hdisj⟩ := hnd
  rw [scatter, List.range_eq_range', ← List.zipIdx_map_snd 0 g, List.map_map]
  apply List.map_congr_left
  intro x hx
  rw [← hperm.mem_iff, List.mem_append] at hx
  rw [Function.comp, scatterAt]
  rcases hx with hx | hx
  · -- a removed channel: its index is none of the kept indices, so the zero of `zeros(n)` stays, and `F x = 0`
    rw [List.lookup_eq_none_iff.mpr fun q hq => ?_, hpre x hx]
    obtain ⟨y, hy, rfl⟩ := List.mem_map.mp hq
    exact bne_iff_ne.mpr (hdisj x.2 (List.mem_map_of_mem hx) y.2 (List.mem_map_of_mem hy))
  · rw [lookup_map_of_mem F K hndK x hx]

/-- where the loop stops: at a suffix `K` whose head fails the test, right after a channel `d` that passed it
    (and contributes `level d - level d = 0` to its own test) -/
theorem dropLoop_stops (N Es P : α) (L : List (Chan α)) :
    ∃ pre K, L = pre ++ K ∧ dropLoop N Es P L = K ∧
      (∀ w rest, K = w :: rest → ¬ P < (excess N Es w K).sum) ∧
      (pre = [] ∨ ∃ pre' d, pre = pre' ++ [d] ∧ P < (excess N Es d K).sum) := by
  fun_induction dropLoop N Es P L with
  | case1 => exact ⟨[], [], rfl, rfl, fun _ _ h => (nomatch h), .inl rfl⟩
  | case2 w L' h ih =>
    obtain ⟨pre, K, rfl, hd, hK, hpre⟩ := ih
    refine ⟨w :: pre, K, rfl, hd, hK, .inr ?_⟩
    rcases hpre with rfl | ⟨pre', d, rfl, hlt⟩
    · exact ⟨[], w, rfl, by rwa [excess, List.map_cons, List.sum_cons, sub_self, zero_add] at h⟩
    · exact ⟨w :: pre', d, rfl, hlt⟩
  | case3 w L' h => exact ⟨[], w :: L', rfl, rfl, fun _ _ e => by cases e; exact h, .inl rfl⟩

/-- levels are non-increasing along the ascending-gain list -/
def LevelSorted (N Es : α) (L : List (Chan α)) : Prop :=
  L.Pairwise (fun x y => level N Es y ≤ level N Es x)

/-- on a level-sorted list every channel from `w` on lies at or below the level of `w` -/
theorem LevelSorted.le_head {N Es : α} {pre rest : List (Chan α)} {w : Chan α}
    (hs : LevelSorted N Es (pre ++ w :: rest)) : ∀ x ∈ w :: rest, level N Es x ≤ level N Es w :=
  fun x hx => (List.mem_cons.mp hx).elim (fun e => e ▸ le_rfl)
    ((List.pairwise_cons.mp (List.pairwise_append.mp hs).2.1).1 x)

variable [IsStrictOrderedRing α]

/-- `Σ vtOptPaux = dPt`: the remainder split hands out exactly what the excesses leave of `P`, so the channels
    `K` at the level `dPdiff / k + minMu` take up exactly `P` -/
theorem sum_level_sub {N Es P : α} {K : List (Chan α)} (w : Chan α) (hK : K ≠ []) :
    (K.map fun x => (P - (excess N Es w K).sum) / (K.length : α) + level N Es w - level N Es x).sum
      = P := by
  have hk : (K.length : α) ≠ 0 := Nat.cast_ne_zero.mpr (mt List.length_eq_zero_iff.mp hK)
  simp only [add_sub_assoc]
  rw [List.sum_map_add, List.map_const', List.sum_replicate, nsmul_eq_mul, mul_div_cancel₀ _ hk,
    excess, sub_add_cancel]

/-- with a negative total power every channel is removed (the `IndexError` branch): every test reads
    `P < ` a sum of non-negative excesses -/
theorem dropLoop_neg (N Es P : α) (hP : P < 0) (L : List (Chan α)) (hs : LevelSorted N Es L) :
    dropLoop N Es P L = [] := by
  obtain ⟨pre, K, rfl, hd, hfail, -⟩ := dropLoop_stops N Es P L
  rw [hd]
  cases K with
  | nil => rfl
  | cons w rest =>
    exact absurd (hP.trans_le (List.sum_nonneg (List.forall_mem_map.mpr fun x hx =>
      sub_nonneg.mpr (hs.le_head x hx)))) (hfail w rest rfl)

theorem SortContract.levelSorted {g : List α} {asc : List (Chan α)} (hc : SortContract g asc)
    (hg : ∀ x ∈ g, 0 < x) {N Es : α} (hN : 0 < N) (hEs : 0 < Es) : LevelSorted N Es asc := by
  refine hc.sorted.imp_of_mem ?_
  intro x y hx _ hxy
  have hx0 := (hc.perm.map Prod.fst).mem_iff.mp (List.mem_map_of_mem hx)
  rw [List.zipIdx_map_fst] at hx0
  exact div_le_div_of_nonneg_left hN.le (mul_pos hEs (hg _ hx0))
    (mul_le_mul_of_nonneg_left hxy hEs.le)

/-- what the code computes, in sorted order: the channels `K` it keeps (a suffix of the sort result), and a level
    `mu` at which `K` takes up exactly `P`, at or above every kept level and at or below every removed one -/
theorem doWFWith_spec {asc : List (Chan α)} {P N Es : α} (n : Nat) (hne : asc ≠ [])
    (hs : LevelSorted N Es asc) (hP : 0 ≤ P) :
    ∃ pre K mu, asc = pre ++ K ∧
      doWFWith asc n P N Es = .ok (scatter n (K.map fun x => (x.2, mu - level N Es x)), mu) ∧
      (K.map fun x => mu - level N Es x).sum = P ∧
      (∀ x ∈ K, level N Es x ≤ mu) ∧ ∀ x ∈ pre, mu ≤ level N Es x := by
  obtain ⟨pre, K, rfl, hd, hfail, hpass⟩ := dropLoop_stops N Es P asc
  cases K with
  | nil =>
    -- had every channel been removed, the last test would have read `P < 0`
    rcases hpass with rfl | ⟨pre', d, rfl, hlt⟩
    · exact absurd rfl hne
    · exact absurd hlt (not_lt.mpr hP)
  | cons w rest =>
    have hK := List.cons_ne_nil w rest
    -- the returned level, in the code's terms `dPdiff / k + minMu`
    obtain ⟨mu, hmu⟩ : ∃ mu, (P - (excess N Es w (w :: rest)).sum) / ((w :: rest).length : α)
        + level N Es w = mu := ⟨_, rfl⟩
    have hdo := doWFWith_eq_of_dropLoop n hd
    simp only [← add_sub_assoc, hmu] at hdo
    have hsum : ((w :: rest).map fun x => mu - level N Es x).sum = P := hmu ▸ sum_level_sub w hK
    -- the test failed at `w`: the remainder is non-negative
    have hw : level N Es w ≤ mu := hmu ▸ le_add_of_nonneg_left
      (div_nonneg (sub_nonneg.mpr (not_lt.mp (hfail w rest rfl))) (Nat.cast_nonneg _))
    refine ⟨pre, _, mu, rfl, hdo, hsum, fun x hx => (hs.le_head x hx).trans hw, ?_⟩
    -- the channel removed last passed it: `P` does not lift the kept channels to its level; the ones removed
    -- before it lie higher still
    rcases hpass with rfl | ⟨pre', d, rfl, hlt⟩
    · exact fun _ h => nomatch h
    · rw [excess, ← hsum] at hlt
      obtain ⟨y, -, hy⟩ := List.exists_lt_of_sum_lt _ _ hlt
      have hd' := (sub_lt_sub_iff_right _).mp hy
      intro x hx
      rcases List.mem_append.mp hx with hx | hx
      · exact hd'.le.trans ((List.pairwise_append.mp (List.pairwise_append.mp hs).1).2.2 x hx d
          (List.mem_singleton_self d))
      · exact List.mem_singleton.mp hx ▸ hd'.le

theorem doWFWith_isWaterFilling {g : List α} {asc : List (Chan α)} {P N Es : α}
    (hc : SortContract g asc) (hne : g ≠ []) (hg : ∀ x ∈ g, 0 < x)
    (hP : 0 ≤ P) (hN : 0 < N) (hEs : 0 < Es) :
    ∃ p mu, doWFWith asc g.length P N Es = .ok (p, mu) ∧ IsWaterFilling g P N Es p mu := by
  obtain ⟨pre, K, mu, rfl, hdo, hsum, hK, hpre⟩ :=
    doWFWith_spec g.length (hc.ne_nil hne) (hc.levelSorted hg hN hEs) hP
  -- the allocation as a function of the gain / of the channel
  let f : α → α := fun x => max 0 (mu - N / (Es * x))
  have hKf : ∀ x ∈ K, mu - level N Es x = (f ∘ Prod.fst) x :=
    fun x hx => (max_eq_right (sub_nonneg.mpr (hK x hx))).symm
  have hpre0 : ∀ x ∈ pre, (f ∘ Prod.fst) x = 0 := fun x hx => max_eq_left (sub_nonpos.mpr (hpre x hx))
  -- in sorted order the removed channels get nothing and the kept ones take up `P`
  have hS : ((pre ++ K).map (f ∘ Prod.fst)).sum = P := by
    rw [List.map_append, List.sum_append, List.sum_eq_zero (List.forall_mem_map.mpr hpre0), zero_add,
      ← List.map_congr_left hKf, hsum]
  -- back in the caller's order
  rw [List.map_congr_left fun x hx => by rw [hKf x hx], scatter_of_perm hc.perm (f ∘ Prod.fst) hpre0] at hdo
  rw [(hc.perm.map _).sum_eq] at hS
  rw [← List.map_map, List.zipIdx_map_fst] at hdo hS
  exact ⟨_, _, hdo, rfl, hS⟩

section facts
variable {g p : List α} {P N Es mu : α}

theorem IsWaterFilling.length (h : IsWaterFilling g P N Es p mu) : p.length = g.length := by
  rw [h.form, List.length_map]

theorem IsWaterFilling.of_doWF (hne : g ≠ []) (hg : ∀ x ∈ g, 0 < x) (hP : 0 ≤ P) (hN : 0 < N)
    (hEs : 0 < Es) (h : doWF g P N Es = .ok (p, mu)) : IsWaterFilling g P N Es p mu := by
  obtain ⟨p', mu', h', hw⟩ := doWFWith_isWaterFilling (argsortAsc_contract g) hne hg hP hN hEs
  cases h.symm.trans h'
  exact hw

theorem doWF_sum (g : List α) (P N Es : α) (p : List α) (mu : α) (hne : g ≠ [])
    (hg : ∀ x ∈ g, 0 < x) (hP : 0 ≤ P) (hN : 0 < N) (hEs : 0 < Es)
    (h : doWF g P N Es = .ok (p, mu)) : p.sum = P :=
  (IsWaterFilling.of_doWF hne hg hP hN hEs h).sum

theorem doWF_nonneg (g : List α) (P N Es : α) (p : List α) (mu : α) (hne : g ≠ [])
    (hg : ∀ x ∈ g, 0 < x) (hP : 0 ≤ P) (hN : 0 < N) (hEs : 0 < Es)
    (h : doWF g P N Es = .ok (p, mu)) : ∀ y ∈ p, 0 ≤ y :=
  (IsWaterFilling.of_doWF hne hg hP hN hEs h).nonneg

theorem doWF_length (g : List α) (P N Es : α) (p : List α) (mu : α) (hne : g ≠ [])
    (hg : ∀ x ∈ g, 0 < x) (hP : 0 ≤ P) (hN : 0 < N) (hEs : 0 < Es)
    (h : doWF g P N Es = .ok (p, mu)) : p.length = g.length :=
  (IsWaterFilling.of_doWF hne hg hP hN hEs h).length

end facts

end PyPhysim.C12
