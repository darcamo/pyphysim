import Mathlib.RingTheory.RootsOfUnity.Complex
import PyPhysim.Generated.OfdmIndex

/-!
C02 — instantiation at ℂ: numpy's twiddle factor and the code's power scale.
-/
namespace PyPhysim.C02

/-- numpy's forward twiddle factor `exp(-2πi/N)` (written as the inverse of `exp(2πi/N)`) -/
noncomputable def npOmega (N : ℕ) : ℂ := (Complex.exp (2 * Real.pi * Complex.I / N))⁻¹

theorem npOmega_primitive (N : ℕ) (hN : N ≠ 0) : IsPrimitiveRoot (npOmega N) N :=
  (Complex.isPrimitiveRoot_exp N hN).inv

theorem npOmega_eq (N : ℕ) : npOmega N = Complex.exp (-(2 * Real.pi * Complex.I / N)) := by
  unfold npOmega; rw [Complex.exp_neg]

/-- the code's power scale (`_calculate_power_scale` as regenerated from the source), over ℝ -/
noncomputable def codeScale (p : Params) : ℝ :=
  Generated.C02.calculate_power_scale (α := ℝ) p.fft p.cp p.used

end PyPhysim.C02
