import Mathlib.LinearAlgebra.Matrix.Rank
import PyPhysim.Proofs.C20GmdInvTop
import PyPhysim.Proofs.C04Round

/-!
`GMDMimo._calc_precoder` / `_calc_receive_filter` run `gmd(*np.linalg.svd(channel))`.  The sweep
inside `util.misc.gmd` has an executable model (`PyPhysim.LinAlg.gmd`, `Model/C20Gmd.lean`, shared
with C20) that is proved correct (`Proofs/C20GmdInv*.lean`, `gmd_sound`).  This file carries that
result into the vocabulary of the C04 model: `gmdCall` is what the code's `gmd(U, S, V_H)` returns
according to that model, read as C04 matrices (the two core-only matrix vocabularies,
`PyPhysim.C04.matMul/cT/eye` and `PyPhysim.LinAlg.matMul/cT/eye`, are the same text in two
namespaces); under the SVD contract `IsFullSvd` the call returns a triple satisfying the `gmd`
contract `IsGmd` that `gmd_roundtrip` / `encode_energy_gmd` assume (`gmd_contract_of_svd`); and
positive singular values with `Nt ≤ Nr` are full column rank (`fullColRank_of_svd`).  Conversely
`FullColRank` (invertible Gram matrix) is the textbook notion, rank = number of columns
(`isUnit_gram_iff_rank`), so it forces `Nt ≤ Nr` (`le_of_fullColRank`).
-/
namespace PyPhysim.C04
open PyPhysim.Proto Matrix

/-- both models' `sumFin` are `∑ i, f i` (`sumFin_eq` of either bridge) -/
theorem matMul_linalg {m k n : Nat} (A : Mat ℂ m k) (B : Mat ℂ k n) :
    matMul A B = LinAlg.matMul A B := by
  funext i j
  exact (sumFin_eq k _).trans (LinAlg.sumFin_eq k _).symm

/-- a matrix stored as an array of columns / of rows (the results of the C20 array model), seen
    as a C04 matrix -/
def ofCols {m n : Nat} (A : Array (Array ℂ)) : Mat ℂ m n := fun i j => LinAlg.entryCols A i.val j.val
def ofRows {m n : Nat} (A : Array (Array ℂ)) : Mat ℂ m n := fun i j => LinAlg.entryRows A i.val j.val

/-- the `Nr × Nt` matrix `Σ` of a full SVD: `S` on the main diagonal, zero elsewhere -/
noncomputable def svdSigma {Nr Nt : Nat} (S : Fin (min Nr Nt) → ℝ) : Mat ℂ Nr Nt :=
  LinAlg.sigmaMat (fun i => ((S i : ℝ) : ℂ))

/-- `sigma_bar = math.exp(np.mean(np.log(S[0:p])))`, read over the reals -/
noncomputable def gmdSigmaBar {p : Nat} (S : Fin p → ℝ) : ℝ := Real.exp ((∑ i, Real.log (S i)) / p)

/-- `gmd(U, S, V_H)` as `GMDMimo` calls it (`tol = 0`: all `min(Nr, Nt)` singular values in use),
    computed by the executable model of the sweep (`PyPhysim.LinAlg.gmd`, instantiated at `ℂ` as the
    compiled drivers instantiate it at binary64: real `sqrt` of the real part, `≤` on real parts).
    `P = V_H.conj().T.copy()`, `Q = U.copy()` are handed over by columns; `σ̄` is the value the code
    computes from `S`. -/
noncomputable def gmdCall {Nr Nt : Nat} (U : Mat ℂ Nr Nr) (S : Fin (min Nr Nt) → ℝ) (VH : Mat ℂ Nt Nt)
    (sb : ℝ) : Except PyErr (Mat ℂ Nr Nr × Mat ℂ Nr Nt × Mat ℂ Nt Nt) :=
  match @LinAlg.gmd ℂ _ _ _ _ _ _ _ _ LinAlg.GmdInv.leRe LinAlg.GmdInv.decLeRe Nr Nt (min Nr Nt) (sb : ℂ)
      (LinAlg.colsOf U) (Array.ofFn (fun i => ((S i : ℝ) : ℂ))) (LinAlg.colsOf (cT VH)) with
  | .ok (Q, R, P, _) => .ok (ofCols Q, ofRows R, ofCols P)
  | .error e => .error e

/-- the contract of a full `np.linalg.svd(H)` as `GMDMimo` uses it: `U Σ V_H = H`, `Uᴴ U = 1`,
    `V_H V_Hᴴ = 1`, singular values positive (full rank) and sorted non-increasingly -/
structure IsFullSvd {Nr Nt : Nat} (H : Mat ℂ Nr Nt) (U : Mat ℂ Nr Nr) (S : Fin (min Nr Nt) → ℝ)
    (VH : Mat ℂ Nt Nt) : Prop where
  factor : matMul (matMul U (svdSigma S)) VH = H
  u_unitary : matMul (cT U) U = eye
  v_unitary : matMul VH (cT VH) = eye
  pos : ∀ i, 0 < S i
  sorted : ∀ i j, i ≤ j → S j ≤ S i

/-- the contract of `gmd` the C04 scheme theorems assume, plus what makes it a *geometric mean*
    decomposition -/
structure IsGmd {Nr Nt : Nat} (H : Mat ℂ Nr Nt) (sb : ℝ) (Q : Mat ℂ Nr Nr) (R : Mat ℂ Nr Nt)
    (P : Mat ℂ Nt Nt) : Prop where
  factor : matMul (matMul Q R) (cT P) = H
  p_unitary : matMul (cT P) P = eye
  q_unitary : matMul (cT Q) Q = eye
  upper : ∀ i j, j.val < i.val → R i j = 0
  diag : ∀ i j, i.val = j.val → i.val < min Nr Nt → R i j = (sb : ℂ)

namespace Pf
variable {Nr Nt : Nat}

theorem gmd_contract_of_svd (H : Mat ℂ Nr Nt) (U : Mat ℂ Nr Nr) (S : Fin (min Nr Nt) → ℝ)
    (VH : Mat ℂ Nt Nt) (hsvd : IsFullSvd H U S VH) (hp : 0 < min Nr Nt) (sb : ℝ) (hsb : 0 < sb)
    (hprod : sb ^ (min Nr Nt) = ∏ i, S i) :
    ∃ Q R P, gmdCall U S VH sb = .ok (Q, R, P) ∧ IsGmd H sb Q R P := by
  -- `cT`, `eye` of the two vocabularies unfold to the same term; `matMul` needs `matMul_linalg`
  obtain ⟨Q, R, P, mg, hok, h1, h2, h3, h4, h5⟩ :=
    @LinAlg.GmdInv.gmd_sound ℂ _ _ _ LinAlg.GmdInv.leRe LinAlg.GmdInv.decLeRe Complex.ofRealHom
      LinAlg.GmdInv.realLike_complex Nr Nt U (cT VH) S sb hp
      ((matMul_linalg (cT U) U).symm.trans hsvd.u_unitary)
      ((matMul_linalg (cT (cT VH)) (cT VH)).symm.trans (by rw [cT_cT]; exact hsvd.v_unitary))
      hsvd.pos hsvd.sorted hsb hprod
  refine ⟨ofCols Q, ofRows R, ofCols P, ?_, ?_, (matMul_linalg _ _).trans h3, (matMul_linalg _ _).trans h2,
    h4, h5⟩
  · simp only [Complex.ofRealHom_eq_coe] at hok
    rw [gmdCall, hok]
  · rw [matMul_linalg, matMul_linalg]
    refine Eq.trans h1 ?_
    rw [← hsvd.factor, matMul_linalg, matMul_linalg]
    exact congrArg (LinAlg.matMul _) (cT_cT VH)

theorem gmdSigmaBar_spec {p : Nat} (S : Fin p → ℝ) (hp : 0 < p) (hS : ∀ i, 0 < S i) :
    0 < gmdSigmaBar S ∧ gmdSigmaBar S ^ p = ∏ i, S i :=
  ⟨Real.exp_pos _, LinAlg.GmdInv.exp_mean_log_pow p S hp hS⟩

theorem sigma_gram (S : Fin (min Nr Nt) → ℝ) (h : Nt ≤ Nr) :
    matMul (cT (svdSigma S)) (svdSigma S)
      = diagM (fun b : Fin Nt => (((S ⟨b.val, Nat.lt_min.mpr ⟨lt_of_lt_of_le b.isLt h, b.isLt⟩⟩ : ℝ) : ℂ)) ^ 2) := by
  funext a b
  rw [matMul, sumFin_eq, Finset.sum_eq_single (⟨b.val, lt_of_lt_of_le b.isLt h⟩ : Fin Nr)]
  · by_cases hab : a = b
    · subst hab
      simp only [cT, svdSigma, LinAlg.sigmaMat, ↓reduceDIte, conj_def, RCLike.star_def, Complex.conj_ofReal, diagM,
        ↓reduceIte, sq]
    · have : ¬ b.val = a.val := fun e => hab (Fin.ext e.symm)
      simp only [cT, svdSigma, LinAlg.sigmaMat, this, ↓reduceDIte, conj_def, star_zero, zero_mul, diagM, hab,
        ↓reduceIte]
  · intro r _ hr
    have : ¬ r.val = b.val := fun e => hr (Fin.ext e)
    simp only [svdSigma, LinAlg.sigmaMat, this, ↓reduceDIte, mul_zero]
  · intro hh; exact absurd (Finset.mem_univ _) hh

/-- `Σ` has full column rank (`Σᴴ Σ = diag(S²)`) and the unitary factors on either side keep it -/
theorem fullColRank_of_svd (H : Mat ℂ Nr Nt) (U : Mat ℂ Nr Nr) (S : Fin (min Nr Nt) → ℝ)
    (VH : Mat ℂ Nt Nt) (hsvd : IsFullSvd H U S VH) (h : Nt ≤ Nr) : FullColRank H := by
  have hS : FullColRank (svdSigma S) := by
    rw [fullColRank_iff, sigma_gram S h, toM_diagM, Matrix.isUnit_iff_isUnit_det, det_diagonal,
      isUnit_iff_ne_zero]
    exact Finset.prod_ne_zero_iff.mpr fun b _ => pow_ne_zero 2 (Complex.ofReal_ne_zero.mpr (hsvd.pos _).ne')
  have hv := hsvd.v_unitary
  c04_matrix at hv
  rw [← hsvd.factor, matMul_assoc]
  exact fullColRank_isometry_mul hsvd.u_unitary (fullColRank_mul_isUnit hS (IsUnit.of_mul_eq_one _ hv))

section rank
open scoped ComplexOrder
variable {m n : Nat}

theorem isUnit_gram_iff_rank (H : Mat ℂ m n) : FullColRank H ↔ (toM H).rank = n := by
  rw [FullColRank, ← rank_conjTranspose_mul_self]
  constructor
  · intro h
    rw [rank_of_isUnit _ h, Fintype.card_fin]
  · intro h
    -- a square matrix of full rank is onto, hence invertible
    exact Matrix.mulVec_surjective_iff_isUnit.mp (LinearMap.range_eq_top.mp
      (Submodule.eq_top_of_finrank_eq (h.trans (Module.finrank_fin_fun ℂ).symm)))

end rank

theorem le_of_fullColRank (H : Mat ℂ Nr Nt) (hr : FullColRank H) : Nt ≤ Nr :=
  ((isUnit_gram_iff_rank H).mp hr).symm.trans_le (Matrix.rank_le_height (toM H))

theorem gmd_triangular (H : Mat ℂ Nr Nt) (sb : ℝ) (Q : Mat ℂ Nr Nr) (R : Mat ℂ Nr Nt) (P : Mat ℂ Nt Nt)
    (hg : IsGmd H sb Q R P) : matMul (cT Q) (matMul H P) = R := by
  rw [← eq_matMul_of_matMul_cT hg.factor hg.p_unitary, ← matMul_assoc, hg.q_unitary, eye_matMul]

theorem gmd_channelEq_eq (H : Mat ℂ Nr Nt) (sb : ℝ) (Q : Mat ℂ Nr Nr) (R : Mat ℂ Nr Nt) (P : Mat ℂ Nt Nt)
    (hg : IsGmd H sb Q R P) : gmdChannelEq Q R = matMul H P :=
  eq_matMul_of_matMul_cT hg.factor hg.p_unitary

end Pf

namespace Ex

/-- the channel `diag(4, 1)` … -/
noncomputable def H3 : Mat ℂ 2 2 := svdSigma LinAlg.GmdInv.exS

/-- … with its full SVD `1 · diag(4, 1) · 1`: singular values `(4, 1)`, geometric mean `2`
    (the sweep performs one genuine Givens rotation on it) -/
theorem fullSvd_contract : IsFullSvd H3 eye LinAlg.GmdInv.exS eye ∧ 0 < min 2 2 ∧ 2 ≤ 2 := by
  refine ⟨⟨?_, ?_, ?_, LinAlg.GmdInv.ex_hyps.2.2.2.1, LinAlg.GmdInv.ex_hyps.2.2.2.2.1⟩, by decide, le_refl _⟩
  · rw [eye_matMul, matMul_eye]
    rfl
  · rw [cT_eye, eye_matMul]
  · rw [cT_eye, eye_matMul]

end Ex
end PyPhysim.C04
