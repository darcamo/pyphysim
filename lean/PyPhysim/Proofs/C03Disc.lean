import Mathlib.Data.Rat.Floor
import Mathlib.Algebra.BigOperators.Ring.List
import Mathlib.Algebra.Order.BigOperators.Group.List
import PyPhysim.Model.C03Disc
import PyPhysim.Proofs.Common

/-!
# C03 — discretisation of a tap profile (over ℚ)

Three parts: `roundHalfEven` picks a nearest integer (even in a tie); `uniqueSorted` is a strictly
sorted list with the same members; `accumulate` adds up the powers of taps that fall on the same
sample: its length, its sum, and, read as a table over the distinct delays (an update at the position
of a delay is an update at that delay), the map of `collidingPower`; invariance under permutation of the taps.
-/
namespace PyPhysim.C03

theorem roundHalfEven_cases (x : ℚ) :
    (x - (x.floor : ℚ) < 1 / 2 ∧ roundHalfEven x = x.floor) ∨
    (1 / 2 < x - (x.floor : ℚ) ∧ roundHalfEven x = x.floor + 1) ∨
    (x - (x.floor : ℚ) = 1 / 2 ∧ roundHalfEven x % 2 = 0 ∧ (roundHalfEven x = x.floor ∨ roundHalfEven x = x.floor + 1)) := by
  rcases lt_trichotomy (x - (x.floor : ℚ)) (1 / 2) with h | h | h
  · exact .inl ⟨h, if_pos h⟩
  · have hR : roundHalfEven x = if x.floor % 2 = 0 then x.floor else x.floor + 1 :=
      (if_neg h.not_lt).trans (if_neg h.not_gt)
    rw [hR]
    refine .inr (.inr ⟨h, ?_⟩)
    split_ifs with c
    · exact ⟨c, .inl rfl⟩
    · refine ⟨?_, .inr rfl⟩
      rw [Int.add_emod, (Int.emod_two_eq_zero_or_one _).resolve_left c]
      rfl
  · exact .inr (.inl ⟨h, (if_neg h.not_gt).trans (if_pos h)⟩)

theorem roundHalfEven_nonneg (x : ℚ) (hx : 0 ≤ x) : 0 ≤ roundHalfEven x := by
  have hf : 0 ≤ x.floor := Int.floor_nonneg.mpr hx
  rcases roundHalfEven_cases x with ⟨-, h⟩ | ⟨-, h⟩ | ⟨-, -, h | h⟩ <;> rw [h]
  exacts [hf, Int.add_nonneg hf Int.one_nonneg, hf, Int.add_nonneg hf Int.one_nonneg]

theorem mem_insertU (a x : Int) (l : List Int) : x ∈ insertU a l ↔ x = a ∨ x ∈ l := by
  fun_induction insertU a l with
  | case1 => exact List.mem_singleton.trans (or_iff_left List.not_mem_nil).symm
  | case2 b bs h1 => exact List.mem_cons
  | case3 bs h1 => rw [List.mem_cons, ← or_assoc, or_self]
  | case4 b bs h1 h2 ih => rw [List.mem_cons, ih, List.mem_cons, or_left_comm]

theorem insertU_sorted (a : Int) (l : List Int) (h : l.Pairwise (· < ·)) : (insertU a l).Pairwise (· < ·) := by
  fun_induction insertU a l with
  | case1 => exact List.pairwise_singleton _ _
  | case2 b bs h1 =>
    exact List.pairwise_cons.mpr ⟨fun y hy => (List.mem_cons.mp hy).elim (· ▸ h1)
      (fun hy => h1.trans ((List.pairwise_cons.mp h).1 y hy)), h⟩
  | case3 bs h1 => exact h
  | case4 b bs h1 h2 ih =>
    have hb := List.pairwise_cons.mp h
    refine List.pairwise_cons.mpr ⟨fun y hy => ?_, ih hb.2⟩
    rcases (mem_insertU a y bs).mp hy with rfl | hy
    · exact lt_of_le_of_ne (Int.not_lt.mp h1) (Ne.symm h2)
    · exact hb.1 y hy

theorem uniqueSorted_sorted (l : List Int) : (uniqueSorted l).Pairwise (· < ·) := by
  induction l with
  | nil => exact List.Pairwise.nil
  | cons a l ih => exact insertU_sorted a _ ih

theorem mem_uniqueSorted (x : Int) (l : List Int) : x ∈ uniqueSorted l ↔ x ∈ l := by
  induction l with
  | nil => rfl
  | cons a l ih => exact (mem_insertU a x _).trans ((or_congr_right ih).trans List.mem_cons.symm)

theorem uniqueSorted_nodup (l : List Int) : (uniqueSorted l).Nodup :=
  (uniqueSorted_sorted l).imp (fun h => ne_of_lt h)

theorem sum_map_div (l : List ℚ) (c : ℚ) : (l.map (· / c)).sum = l.sum / c := by
  simp only [div_eq_mul_inv, List.sum_map_mul_right, List.map_id']

theorem sum_modify_add (l : List ℚ) (i : Nat) (v : ℚ) (h : i < l.length) :
    (l.modify i (· + v)).sum = l.sum + v := by
  induction l generalizing i with
  | nil => simp at h
  | cons a l ih =>
    cases i with
    | zero => rw [List.modify_zero_cons, List.sum_cons, List.sum_cons, add_right_comm]
    | succ i => rw [List.modify_succ_cons, List.sum_cons, List.sum_cons, ih i (Nat.lt_of_succ_lt_succ h), add_assoc]

theorem sum_foldl_modify (ts : List (Nat × ℚ)) (acc : List ℚ) (h : ∀ t ∈ ts, t.1 < acc.length) :
    (ts.foldl (fun acc ip => acc.modify ip.1 (· + ip.2)) acc).sum = acc.sum + (ts.map (·.2)).sum := by
  induction ts generalizing acc with
  | nil => simp
  | cons t ts ih =>
    rw [List.foldl_cons, ih, sum_modify_add _ _ _ (h t List.mem_cons_self), List.map_cons, List.sum_cons, add_assoc]
    intro t' ht'
    rw [List.length_modify]
    exact h t' (List.mem_cons_of_mem _ ht')

theorem accumulate_length (m : Nat) (inv : List Nat) (p : List ℚ) : (accumulate m inv p).length = m := by
  rw [accumulate, foldl_length _ fun _ _ => List.length_modify .., List.length_replicate]

theorem inverseIdx_lt (idx : List Int) : ∀ k ∈ inverseIdx (uniqueSorted idx) idx, k < (uniqueSorted idx).length := by
  intro k hk
  obtain ⟨a, ha, rfl⟩ := List.mem_map.mp hk
  exact List.idxOf_lt_length_of_mem ((mem_uniqueSorted a idx).mpr ha)

theorem accumulate_sum (idx : List Int) (p : List ℚ) (hlen : idx.length = p.length) :
    (accumulate (uniqueSorted idx).length (inverseIdx (uniqueSorted idx) idx) p).sum = p.sum := by
  unfold accumulate
  rw [sum_foldl_modify]
  · rw [List.map_snd_zip (by simp [inverseIdx, hlen])]
    simp
  · intro t ht
    rw [List.length_replicate]
    exact inverseIdx_lt idx t.1 (List.of_mem_zip ht).1

/-- a table over a duplicate-free list of keys, updated at the position of key `a`, is updated at key `a` -/
theorem modify_idxOf_map {ι β : Type} [DecidableEq ι] (u : List ι) (hu : u.Nodup) (g : ι → β) (a : ι) (f : β → β) :
    (u.map g).modify (u.idxOf a) f = u.map (fun d => if d = a then f (g d) else g d) := by
  induction u with
  | nil => rfl
  | cons b u ih =>
    obtain ⟨hb, hu⟩ := List.nodup_cons.mp hu
    by_cases h : b = a
    · subst h
      rw [List.idxOf_cons_self, List.map_cons, List.modify_zero_cons, List.map_cons, if_pos rfl]
      exact congrArg _ (List.map_congr_left fun d hd => (if_neg fun (e : d = b) => hb (e ▸ hd)).symm)
    · rw [List.idxOf_cons_ne _ h, List.map_cons, List.modify_succ_cons, ih hu, List.map_cons, if_neg h]

/-- scatter-adding (key, value) pairs into a table over the keys `u` adds, at every key, the values that came with it -/
theorem foldl_modify_idxOf (u : List ℤ) (hu : u.Nodup) (ts : List (ℤ × ℚ)) (g : ℤ → ℚ) :
    ts.foldl (fun acc t => acc.modify (u.idxOf t.1) (· + t.2)) (u.map g)
      = u.map (fun d => g d + ((ts.filter (fun t => t.1 == d)).map (·.2)).sum) := by
  induction ts generalizing g with
  | nil => exact (List.map_congr_left fun d _ => (add_zero _).symm)
  | cons t ts ih =>
    rw [List.foldl_cons, modify_idxOf_map u hu, ih]
    refine List.map_congr_left fun d _ => ?_
    rw [List.filter_cons]
    by_cases h : d = t.1
    · rw [if_pos h, if_pos (beq_iff_eq.mpr h.symm), List.map_cons, List.sum_cons, add_assoc]
    · rw [if_neg h, if_neg (fun e => h (beq_iff_eq.mp e).symm)]

/-- the accumulation loop over `np.unique`'s inverse index computes, for every distinct delay, the power colliding there -/
theorem accumulate_eq_map (idx : List Int) (p : List ℚ) :
    accumulate (uniqueSorted idx).length (inverseIdx (uniqueSorted idx) idx) p
      = (uniqueSorted idx).map (collidingPower idx p) := by
  rw [accumulate, inverseIdx, List.zip_map_left, List.foldl_map, ← List.map_const']
  exact (foldl_modify_idxOf _ (uniqueSorted_nodup idx) _ _).trans (List.map_congr_left fun d _ => zero_add _)

theorem collidingPower_ge (idx : List Int) (p : List ℚ) (hpos : ∀ x ∈ p, 0 ≤ x) (i : Nat) (d : Int) (v : ℚ)
    (hi : idx[i]? = some d) (hv : p[i]? = some v) : v ≤ collidingPower idx p d := by
  refine List.single_le_sum (fun x hx => ?_) v (List.mem_map_of_mem (f := (·.2)) (a := (d, v)) (List.mem_filter.mpr
    ⟨List.mem_iff_getElem?.mpr ⟨i, List.getElem?_zip_eq_some.mpr ⟨hi, hv⟩⟩, beq_self_eq_true d⟩))
  obtain ⟨ip, hip, rfl⟩ := List.mem_map.mp hx
  exact hpos _ (List.of_mem_zip (List.mem_filter.mp hip).1).2

theorem uniqueSorted_perm {l l' : List Int} (h : l.Perm l') : uniqueSorted l = uniqueSorted l' := by
  apply List.Perm.eq_of_pairwise (le := (· < ·)) _ (uniqueSorted_sorted l) (uniqueSorted_sorted l')
  · rw [List.perm_ext_iff_of_nodup (uniqueSorted_nodup l) (uniqueSorted_nodup l')]
    intro a
    rw [mem_uniqueSorted, mem_uniqueSorted, h.mem_iff]
  · intro a b _ _ h1 h2
    exact absurd h2 (lt_asymm h1)

theorem zip_map_fst_snd {β γ : Type} (l : List (β × γ)) : (l.map (·.1)).zip (l.map (·.2)) = l :=
  List.zip_map'.trans (List.map_id' l)

theorem collidingPower_perm (Ts : ℚ) {taps taps' : List (ℚ × ℚ)} (h : taps.Perm taps') (d : Int) :
    collidingPower (delayIdx (taps.map (·.1)) Ts) (taps.map (·.2)) d
      = collidingPower (delayIdx (taps'.map (·.1)) Ts) (taps'.map (·.2)) d := by
  unfold collidingPower delayIdx
  rw [List.map_map, List.map_map, List.zip_map', List.zip_map']
  exact (((h.map _).filter _).map _).sum_eq

end PyPhysim.C03
