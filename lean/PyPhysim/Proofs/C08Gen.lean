import PyPhysim.Proofs.C08Coherent
import PyPhysim.Generated.C08Effects
import PyPhysim.Proofs.CacheEffects
/-!
# C08 — the model side of the comparison with the generated effect tables

`Generated/C08Effects.lean` (re-emitted from `multiuser.py` on every run) lists,
per class and per public entry point, which attributes are reset / assigned /
possibly written / possibly lazily filled.  `Proofs/C08Frame.lean` has the effect
table `effect` of the model and the proof that it is what `step Cfg.fixed` does.
Here:

* `tight`: on concrete probes every field the table lists is really changed;
* `specDeps` is the dependency table of the derived fields, read off the
  coherence invariant: `clause_congr` proves that the clause of `Coherent` about a
  derived field only looks at that field and at the fields `specDeps` lists for it;
* the translation between fields and Python attribute names, and the expected
  rows / attribute lists the bridge theorems of `Properties/C08.lean` compare the
  generated tables with.
-/
set_option linter.unusedSectionVars false
namespace PyPhysim.C08
open PyPhysim.Proto PyPhysim.CacheEffects

def fProbe : Fns Int := ⟨id, id, fun x => decide (0 ≤ x)⟩

def Fld.same (f : Fld) (a b : State Int) : Bool :=
  match f with
  | .raw => a.raw == b.raw | .nr => a.nr == b.nr | .nt => a.nt == b.nt | .k => a.k == b.k
  | .extK => a.extK == b.extK | .pl => a.pl == b.pl | .plBig => a.plBig == b.plBig
  | .bigHc => a.bigHc == b.bigHc | .hc => a.hc == b.hc | .w => a.w == b.w | .bigWc => a.bigWc == b.bigWc
  | .noiseVar => a.noiseVar == b.noiseVar | .lastNoise => a.lastNoise == b.lastNoise

def changed (a b : State Int) : List Fld := Fld.all.filter fun f => !f.same a b

def onesMat (r c : Nat) : Mat Int := List.replicate r (List.replicate c 1)

/-- a configured two-user object (one interference source on the ExtInt class) on which nothing
    has been read yet -/
def probeFresh (isExt : Bool) : State Int :=
  (run Cfg.fixed fProbe (State.init Int isExt)
    [.init (onesMat 2 (if isExt then 3 else 2)) [1, 1] [1, 1] 2 (if isExt then [1] else []),
     .setPL (some [[1, 4], [9, 1]]) [[4], [9]], .setW (some [[[2]], [[3]]]), .setNoise (some 1)]).1

/-- the same object after every view has been read and a transmission made (on the ExtInt class
    `_H_with_pathloss` is never filled by a getter; the probe puts a value there by hand) -/
def probeFull (isExt : Bool) : State Int :=
  let s := (run Cfg.fixed fProbe (probeFresh isExt)
    [.readH, .readBigH, .readBigWView, .corrupt [[[1]], [[1]]] [[[1]]] (some [[5], [6]])]).1
  if isExt then { s with hc := some [] } else s

/-- one concrete (state, operation) per operation kind whose row of the table is not empty (and `readHNoExt`) -/
def probes (isExt : Bool) : List (State Int × Op Int) :=
  let fresh := probeFresh isExt
  let full := probeFull isExt
  [(full, .init (onesMat 3 (if isExt then 5 else 3)) [1, 1, 1] [1, 1, 1] 3 (if isExt then [1, 1] else [])),
   (full, .randomize (onesMat 3 (if isExt then 5 else 3)) [1, 1, 1] [1, 1, 1] 3 (if isExt then [1, 1] else [])),
   (full, .setPL (some [[4, 1], [1, 4]]) [[1], [1]]),
   (full, .setNoise (some 7)), (full, .setW (some [[[5]], [[7]]])),
   (fresh, .readH), (fresh, .readBigH), (fresh, .readHkl 0 1), (fresh, .readHk 0), (fresh, .readBigHNoExt),
   (fresh, .readHkNoExt 0), (fresh, .readHNoExt), (fresh, .readBigWView),
   (fresh, .corrupt [[[1]], [[1]]] [[[1]]] (some [[5], [6]])),
   (fresh, .corruptCat (onesMat (if isExt then 3 else 2) 1) (some [[5], [6]]))]

section SpecDeps
variable {α : Type} [Add α] [Mul α] [Zero α]

/-- the fields the value of a derived field is computed from (`Coherent`, `specBigH`, `specHFull`) -/
def specDeps : Fld → List Fld
  | .plBig => [.pl, .nr, .nt]
  | .bigHc => [.raw, .pl, .nr, .nt]
  | .hc => [.raw, .pl, .nr, .nt]
  | .bigWc => [.w]
  | _ => []

/-- the fields that hold an attribute computed from other fields (`specDeps` says from which); each has
    its clause in `Coherent` -/
def derivedFlds : List Fld := [.plBig, .bigHc, .hc, .bigWc]

def clause (F : Fns α) (f : Fld) (st : State α) : Prop :=
  match f with
  | .plBig => st.plBig = st.pl.map fun p => expand p st.nr st.nt
  | .bigHc => ∀ M, st.bigHc = some M → M = specBigH F st
  | .hc => ∀ H, st.hc = some H → H = specHFull F st
  | .bigWc => ∀ B, st.bigWc = some B → ∃ ws, st.w = some ws ∧ blockDiag ws = B
  | _ => True

theorem coherent_iff_clauses (F : Fns α) (st : State α) : Coherent F st ↔ ∀ f ∈ derivedFlds, clause F f st :=
  ⟨fun h f _ => by
    cases f with
    | plBig => exact h.plBig
    | bigHc => exact h.bigH
    | hc => exact h.h
    | bigWc => exact h.bigW
    | _ => trivial,
   fun h => ⟨h .plBig (by decide), h .bigHc (by decide), h .hc (by decide), h .bigWc (by decide)⟩⟩

/-- so a derived field can only go stale through a write to itself or to a field `specDeps` lists for it -/
theorem clause_congr (F : Fns α) (f : Fld) (a b : State α) (hf : f.agree a b)
    (hd : ∀ g ∈ specDeps f, g.agree a b) : clause F f a ↔ clause F f b := by
  obtain ⟨e, raw, nr, nt, k, x, pl, plBig, bigHc, hc, w, bigWc, nv, ln⟩ := a
  cases f with
  | plBig =>
    cases hf; cases hd .pl (by decide); cases hd .nr (by decide); cases hd .nt (by decide)
    exact Iff.rfl
  | bigHc =>
    cases hf; cases hd .raw (by decide); cases hd .pl (by decide); cases hd .nr (by decide); cases hd .nt (by decide)
    exact Iff.rfl
  | hc =>
    cases hf; cases hd .raw (by decide); cases hd .pl (by decide); cases hd .nr (by decide); cases hd .nt (by decide)
    exact Iff.rfl
  | bigWc =>
    cases hf; cases hd .w (by decide)
    exact Iff.rfl
  | _ => exact Iff.rfl

end SpecDeps

def plainCls : String := "MultiUserChannelMatrix"
def extCls : String := "MultiUserChannelMatrixExtInt"

/-- the Python attributes stored in a field (the plain class has no interference bookkeeping;
    `_H_no_pathloss` is the block view `State.hNoPL` of `_big_H_no_pathloss`) -/
def Fld.attrs (isExt : Bool) : Fld → List String
  | .raw => ["_big_H_no_pathloss", "_H_no_pathloss"]
  | .nr => ["_Nr"] | .nt => ["_Nt"] | .k => ["_K"]
  | .extK => if isExt then ["_extIntK", "_extIntNt"] else []
  | .pl => ["_pathloss_matrix"] | .plBig => ["_pathloss_big_matrix"]
  | .bigHc => ["_big_H_with_pathloss"] | .hc => ["_H_with_pathloss"]
  | .w => ["_W"] | .bigWc => ["_big_W"] | .noiseVar => ["_noise_var"] | .lastNoise => ["_last_noise"]

/-- attributes outside the model: the two random generators (only their methods are called) -/
def untracked : List String := ["_RS_channel", "_RS_noise"]

def attrsOf (isExt : Bool) (fs : List Fld) : List String := norm (fs.flatMap (Fld.attrs isExt))

def attrFld (a : String) : Option Fld := Fld.all.find? fun f => (Fld.attrs true f).contains a

/-- the model operation behind a public entry point (`p.setter` = the setter of property `p`);
    entry points that are not listed (`calc_Q`, `calc_SINR`, the seeding methods, …) are `Op.query` -/
def kindOf : String → Option Kind
  | "init_from_channel_matrix" => some .init
  | "randomize" => some .randomize
  | "set_pathloss" => some .setPL
  | "noise_var.setter" => some .setNoise
  | "set_post_filter" => some .setW
  | "H" => some .readH
  | "big_H" => some .readBigH
  | "get_Hkl" => some .readHkl
  | "get_Hk" => some .readHk
  | "get_Hk_with_ext_int" => some .readHk
  | "big_H_no_ext_int" => some .readBigHNoExt
  | "get_Hk_without_ext_int" => some .readHkNoExt
  | "H_no_ext_int" => some .readHNoExt
  | "corrupt_data" => some .corrupt
  | "corrupt_concatenated_data" => some .corruptCat
  | "K" | "Nr" | "Nt" | "extIntK" | "extIntNt" => some .readLayout
  | "pathloss" => some .readPL
  | "big_W" => some .readBigWView
  | "noise_var" => some .readNoiseVar
  | "last_noise" => some .readLastNoise
  | _ => none

def Kind.all : List Kind :=
  [.init, .randomize, .setPL, .setNoise, .setW, .readH, .readBigH, .readHkl, .readHk, .readBigHNoExt,
   .readHkNoExt, .readHNoExt, .corrupt, .readLayout, .readPL, .readBigWView, .readNoiseVar, .readLastNoise,
   .corruptCat, .stackData, .query]

/-- every field the table lists for an operation (and that exists as an attribute of the class) is
    really changed by that operation on one of the probes: the table is not an over-approximation -/
def tight (isExt : Bool) : Bool :=
  Kind.all.all fun k =>
    ((effect isExt k).touched.filter fun f => !(Fld.attrs isExt f).isEmpty).all fun f =>
      (probes isExt).any fun p =>
        p.1.isExt == isExt && p.2.kind == k && (changed p.1 (step Cfg.fixed fProbe p.1 p.2).1).contains f

def lazyAttrs (isExt : Bool) : List String := attrsOf isExt (Kind.all.flatMap fun k => (effect isExt k).fills)

/-- the entry points every class must have (those of the base class), and the ExtInt-only ones -/
def baseEntryPoints : List String :=
  ["init_from_channel_matrix", "randomize", "set_pathloss", "noise_var.setter", "set_post_filter", "H", "big_H",
   "get_Hkl", "get_Hk", "corrupt_data", "corrupt_concatenated_data", "K", "Nr", "Nt", "pathloss", "big_W",
   "noise_var", "last_noise"]
def extEntryPoints : List String :=
  ["get_Hk_with_ext_int", "big_H_no_ext_int", "get_Hk_without_ext_int", "H_no_ext_int", "extIntK", "extIntNt"]

/-- a generated row says what the model operation behind it does (as sets of attributes); an
    entry point without a model operation writes nothing and fills at most the known caches -/
def rowMatches (r : Row) : Bool :=
  (r.cls == plainCls || r.cls == extCls) &&
  let isExt := r.cls == extCls
  match kindOf r.name with
  | some k =>
    let e := effect isExt k
    norm r.clears == attrsOf isExt e.clears && norm r.assigns == attrsOf isExt e.assigns
      && norm r.mayWrite == attrsOf isExt e.mayWrite && norm r.fills == attrsOf isExt e.fills
  | none => r.written.isEmpty && r.fills.all (lazyAttrs isExt).contains

def entryPointsPresent (rows : List Row) : Bool :=
  baseEntryPoints.all (fun n => rows.any fun r => r.cls == plainCls && r.name == n)
  && (baseEntryPoints ++ extEntryPoints).all (fun n => rows.any fun r => r.cls == extCls && r.name == n)

/-- the fields that hold `None` on a fresh object (`init_isNone_iff`) -/
def initNone : List Fld := [.pl, .plBig, .bigHc, .hc, .w, .bigWc, .noiseVar, .lastNoise]

theorem init_isNone_iff {α : Type} (e : Bool) (f : Fld) : f.isNone (State.init α e) ↔ f ∈ initNone := by
  cases f <;> first
    | exact ⟨fun _ => by decide, fun _ => rfl⟩
    | exact ⟨False.elim, fun h => absurd h (by decide)⟩

/-- the attributes a fresh object of the class must have, with the `None` flag (sorted by name) -/
def expectedInit (isExt : Bool) : List (String × Bool) :=
  (norm (Fld.all.flatMap (Fld.attrs isExt) ++ untracked)).map fun a =>
    (a, match attrFld a with | some f => initNone.contains f | none => false)

def initMatches (tbl : List (String × List (String × Bool))) : Bool :=
  tbl.map (fun e => e.1) == [plainCls, extCls]
  && tbl.all fun e =>
    let exp := expectedInit (e.1 == extCls)
    (norm (e.2.map fun x => x.1)) == exp.map (fun x => x.1)
      && exp.all fun x => e.2.contains x

/-- every attribute a row mentions exists on a fresh object of its class -/
def mentionsOnlyInit (tbl : List (String × List (String × Bool))) (rows : List Row) : Bool :=
  rows.all fun r =>
    let known := (tbl.filter fun e => e.1 == r.cls).flatMap fun e => e.2.map fun x => x.1
    (r.written ++ r.fills ++ r.reads).all known.contains

/-- derived attributes that are recomputed eagerly rather than lazily: `_pathloss_big_matrix`
    (`Coherent.plBig` / `specDeps .plBig`) and the block view `_H_no_pathloss` (`State.hNoPL`) -/
def eagerDeps : Deps :=
  [("_pathloss_big_matrix", (specDeps .plBig).flatMap (Fld.attrs true)),
   ("_H_no_pathloss", ["_big_H_no_pathloss", "_Nr", "_Nt"])]

/-- dependency table of a class: the generated fill read-sets of its lazy caches + `eagerDeps` -/
def depsOf (fills : List (String × String × List String)) (cls : String) : Deps :=
  ((fills.filter fun e => e.1 == cls).map fun e => e.2) ++ eagerDeps

def sameSet (a b : List Fld) : Bool := a.all b.contains && b.all a.contains

/-- the lazily filled attributes of each class are the model's caches, and what each fill
    (transitively) reads are exactly the fields the coherence invariant computes it from -/
def fillsMatch (fills : List (String × String × List String)) : Bool :=
  [(plainCls, false), (extCls, true)].all fun ce =>
    norm ((fills.filter fun e => e.1 == ce.1).map fun e => e.2.1) == lazyAttrs ce.2
    && (fills.filter fun e => e.1 == ce.1).all fun e =>
      match attrFld e.2.1 with
      | none => false
      | some c =>
        sameSet (((depsOf fills ce.1).closure e.2.1).filterMap attrFld |>.filter fun f => !derivedFlds.contains f)
          (specDeps c)

end PyPhysim.C08
