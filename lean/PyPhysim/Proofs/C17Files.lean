import PyPhysim.Proofs.C17Ops
/-!
Helper lemmas for C17: file store (`save_to_file` / `load_from_file`) and
file-name templates.

Two expansions of one template in environments that differ in field `n` only are compared
segment by segment (`expand_pair`).  Their lengths differ by a multiple of the difference in
length of the two renderings of `n`, so equal names force equally long renderings; and equally
long renderings can be cancelled position by position up to the first `{n}` field, where they
meet (one rendering could otherwise be a proper prefix of the other).
-/
namespace PyPhysim.C17

theorem normExt_idem (ext : String) : normExt (normExt ext) = normExt ext := by
  by_cases h : (ext == "") = true
  · rw [show normExt ext = ".pickle" from if_pos h]
    exact ite_self _
  · have hn : normExt ext = ext := if_neg h
    rw [hn, hn]

theorem storeRead_head (st : Store) (f : FName) (c : Content) : storeRead ((f, c) :: st) f = some c :=
  if_pos rfl

theorem storeRead_cons_ne (st : Store) (f g : FName) (c : Content) (h : f ≠ g) :
    storeRead ((f, c) :: st) g = storeRead st g :=
  if_neg h

variable {fr : Nat → PyFloat → String} {st : Store} {s : SimResults} {txt : String} {tpl : List Seg}
  {ext stem : String} {n : Node} {rest : Chain}

theorem saveToFile_eq (st : Store) {fmt : Fmt} (hp : s.params = n :: rest)
    (hn : getFilename fr n.parameters txt tpl = .ok stem) (hf : fmtOf (normExt ext) = some fmt) :
    saveToFile fr st s txt tpl ext =
      .ok (({ stem := stem, ext := normExt ext },
              match fmt with
              | .pickle => Content.pickled { s with originalFilename := .str (txt ++ normExt ext) }
              | .json => Content.json (simToJson { s with originalFilename := .str (txt ++ normExt ext) })) :: st,
           { s with originalFilename := .str (txt ++ normExt ext) },
           { stem := stem, ext := normExt ext }) := by
  unfold saveToFile
  simp only [hp, hn, bind_ok, hf]
  cases fmt <;> rfl

theorem saveToFile_ok {res : Store × SimResults × FName} (h : saveToFile fr st s txt tpl ext = .ok res) :
    ∃ n rest stem fmt, s.params = n :: rest ∧ getFilename fr n.parameters txt tpl = .ok stem ∧
      fmtOf (normExt ext) = some fmt := by
  unfold saveToFile at h
  cases hp : s.params with
  | nil => simp only [hp] at h; cases h
  | cons n rest =>
    simp only [hp] at h
    obtain ⟨stem, hn, h⟩ := bind_eq_ok.1 h
    cases hf : fmtOf (normExt ext) with
    | none => simp only [hf] at h; cases h
    | some fmt => exact ⟨n, rest, stem, fmt, rfl, hn, rfl⟩

theorem string_append_inj {a b c d : String} (h : a ++ c = b ++ d) (hl : a.length = b.length) :
    a = b ∧ c = d := by
  have h' := congrArg String.toList h
  rw [String.toList_append, String.toList_append] at h'
  have := List.append_inj h' hl
  exact ⟨String.toList_inj.1 this.1, String.toList_inj.1 this.2⟩

/-- number of `{n}` fields in a template -/
def countField (n : String) : List Seg → Nat
  | [] => 0
  | .lit _ :: r => countField n r
  | .field m :: r => (if m == n then 1 else 0) + countField n r

/-- both environments render every field other than `n` alike -/
def agreeExcept (fr : Nat → PyFloat → String) (n : String) (e1 e2 : List (String × PyVal)) : Prop :=
  ∀ m, (m == n) = false → (lookup m e1).map (render fr) = (lookup m e2).map (render fr)

variable {env e1 e2 : List (String × PyVal)} {m : String} {r : List Seg} {a b : String}

theorem expand_field_ok (h : expand fr env (.field m :: r) = .ok a) :
    ∃ t u, (lookup m env).map (render fr) = some (some t) ∧ expand fr env r = .ok u ∧ a = t ++ u := by
  unfold expand at h
  split at h
  · cases h
  next v hl =>
    split at h
    · cases h
    next t hr =>
      obtain ⟨u, hu, h⟩ := bind_eq_ok.1 h
      cases h
      exact ⟨t, u, hl ▸ congrArg some hr, hu, rfl⟩

/-- Two expansions of one template in environments that differ in field `n` only.  Their lengths differ by the
    number of `{n}` fields times the difference in length of the two renderings of `n`; and when the renderings
    are equally long, equal expansions agree on the first `{n}` field, position by position. -/
theorem expand_pair {n : String} {v1 v2 : PyVal} {t1 t2 : String} (hv1 : lookup n e1 = some v1)
    (hv2 : lookup n e2 = some v2) (ht1 : render fr v1 = some t1) (ht2 : render fr v2 = some t2)
    (hag : agreeExcept fr n e1 e2) {segs : List Seg} (ha : expand fr e1 segs = .ok a)
    (hb : expand fr e2 segs = .ok b) :
    a.length + countField n segs * t2.length = b.length + countField n segs * t1.length ∧
      (t1.length = t2.length → 0 < countField n segs → a = b → t1 = t2) := by
  fun_induction countField n segs generalizing a b with
  | case1 =>
    cases ha; cases hb
    exact ⟨by rw [Nat.zero_mul, Nat.zero_mul], fun _ hc => absurd hc (Nat.lt_irrefl 0)⟩
  | case2 s r ih =>
    obtain ⟨u1, hu1, h1⟩ := bind_eq_ok.1 ha
    obtain ⟨u2, hu2, h2⟩ := bind_eq_ok.1 hb
    cases h1
    cases h2
    obtain ⟨hlen, hinj⟩ := ih hu1 hu2
    refine ⟨?_, fun hl hc h => hinj hl hc (string_append_inj h rfl).2⟩
    rw [String.length_append, String.length_append, Nat.add_assoc, hlen, Nat.add_assoc]
  | case3 m r ih =>
    obtain ⟨p1, u1, hr1, hu1, rfl⟩ := expand_field_ok ha
    obtain ⟨p2, u2, hr2, hu2, rfl⟩ := expand_field_ok hb
    obtain ⟨hlen, hinj⟩ := ih hu1 hu2
    by_cases hm : (m == n) = true
    · cases eq_of_beq hm
      rw [hv1, Option.map_some, ht1] at hr1
      rw [hv2, Option.map_some, ht2] at hr2
      cases hr1; cases hr2
      refine ⟨?_, fun hl _ h => (string_append_inj h hl).1⟩
      -- both sides regroup to (|t1| + |t2|) + (|u| + c * |t|)
      rw [String.length_append, String.length_append, if_pos hm, Nat.add_mul, Nat.add_mul, Nat.one_mul,
        Nat.one_mul, Nat.add_add_add_comm, hlen, Nat.add_add_add_comm t2.length, Nat.add_comm t2.length]
    · rw [hag m (eq_false_of_ne_true hm), hr2] at hr1
      cases hr1
      rw [if_neg hm, Nat.zero_add]
      refine ⟨?_, fun hl hc h => hinj hl hc (string_append_inj h rfl).2⟩
      rw [String.length_append, String.length_append, Nat.add_assoc, hlen, Nat.add_assoc]

theorem agreeExcept_setKV (fr : Nat → PyFloat → String) (k : String) (v1 v2 : PyVal)
    (env : List (String × PyVal)) : agreeExcept fr k (setKV k v1 env) (setKV k v2 env) := by
  intro m hm
  have hk : (k == m) = false := beq_false_of_ne fun e => ne_true_of_eq_false hm (beq_iff_eq.2 e.symm)
  rw [lookup_setKV_other k m v1 hk env, lookup_setKV_other k m v2 hk env]

theorem render_norm (fr : Nat → PyFloat → String) (hfr : ∀ w f, fr w f = fr 64 f) (v : PyVal) :
    render fr (norm v) = render fr v := by
  cases v with
  | npfloat w f => exact congrArg some (hfr w f).symm
  | _ => rfl

theorem expand_norm (fr : Nat → PyFloat → String) (hfr : ∀ w f, fr w f = fr 64 f)
    (env : List (String × PyVal)) (segs : List Seg) : expand fr (normKVs env) segs = expand fr env segs := by
  induction segs with
  | nil => rfl
  | cons seg r ih =>
    cases seg with
    | lit s => unfold expand; rw [ih]
    | field n =>
      unfold expand
      rw [lookup_normKVs, ih]
      cases lookup n env with
      | none => rfl
      | some v => simp only [Option.map, render_norm fr hfr v]

end PyPhysim.C17
