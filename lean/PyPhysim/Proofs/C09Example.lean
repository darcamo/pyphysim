import PyPhysim.Proofs.C09Top
import Mathlib.Tactic.FinCases
import Mathlib.Tactic.NormNum

/-!
A concrete instance of the kernel contracts (non-vacuity of the hypotheses of
the C09 theorems): 2 users with one antenna each, `H = [[3, 4i], [4i, 3]]`; and an interference
matrix `E` with a reduction matrix `P` orthogonal to it (the noise-eigenspace contract).  The `N = 3`
instance of the SVD contract of the rank-counting theorems (`Ex3`) stands at the end of `Proofs/C09Rank.lean`.
-/
namespace PyPhysim.BD.Pf.Ex
open PyPhysim.BD PyPhysim.BD.Pf
noncomputable def H : Mat ℂ (2 * 1) (2 * 1) := fun i j => if i.val = j.val then ⟨3, 0⟩ else ⟨0, 4⟩
/-- `V_H` of `svd(H̃_k)` (`H̃_0 = [4i, 3]`, `H̃_1 = [3, 4i]`) -/
noncomputable def VH1 : Fin 2 → Mat ℂ (2 * 1) (2 * 1) := fun k i j =>
  if (k.val + i.val + j.val) % 2 = 0 then ⟨0, 4 / 5⟩ else ⟨3 / 5, 0⟩
noncomputable def VH2 : Fin 2 → Mat ℂ 1 1 := fun _ _ _ => 1
def S2 : Fin 2 → Fin 1 → ℝ := fun _ _ => 5

/-- `H` and both `VH1 k` are 2 × 2 circulants `[[a, b], [b, a]]` -/
def circ (a b : ℂ) : Mat ℂ (2 * 1) (2 * 1) := fun i j => if i = j then a else b

theorem circ_mul (a b c d : ℂ) : matMul (circ a b) (circ c d) = circ (a * c + b * d) (a * d + b * c) := by
  funext i j
  fin_cases i <;> fin_cases j
  · show 0 + a * c + b * d = a * c + b * d
    rw [zero_add]
  · show 0 + a * d + b * c = a * d + b * c
    rw [zero_add]
  · show 0 + b * c + a * d = a * d + b * c
    rw [zero_add, add_comm]
  · show 0 + b * d + a * c = a * c + b * d
    rw [zero_add, add_comm]

theorem cT_circ (a b : ℂ) : cT (circ a b) = circ (star a) (star b) := by
  funext i j
  simp only [cT, circ, eq_comm (a := j)]
  split <;> rfl

theorem H_eq : H = circ ⟨3, 0⟩ ⟨0, 4⟩ := by
  funext i j
  simp only [H, circ, Fin.val_inj]

theorem VH1_zero : VH1 0 = circ ⟨0, 4 / 5⟩ ⟨3 / 5, 0⟩ := by
  funext i j
  fin_cases i <;> fin_cases j <;> rfl

theorem VH1_one : VH1 1 = circ ⟨3 / 5, 0⟩ ⟨0, 4 / 5⟩ := by
  funext i j
  fin_cases i <;> fin_cases j <;> rfl

/-- products of complex numbers given by coordinates: what is left of the checks below is rational
    arithmetic -/
theorem mk_mul_add (a b c d a' b' c' d' : ℝ) :
    (⟨a, b⟩ : ℂ) * ⟨c, d⟩ + ⟨a', b'⟩ * ⟨c', d'⟩ =
      ⟨a * c - b * d + (a' * c' - b' * d'), a * d + b * c + (a' * d' + b' * c')⟩ := rfl

theorem star_mk (a b : ℝ) : star (⟨a, b⟩ : ℂ) = ⟨a, -b⟩ := rfl

theorem unitary1 (k : Fin 2) : matMul (VH1 k) (cT (VH1 k)) = eye := by
  have h : ∀ a b : ℂ, a * star a + b * star b = 1 → a * star b + b * star a = 0 →
      matMul (circ a b) (cT (circ a b)) = eye := fun a b h1 h2 => by
    rw [cT_circ, circ_mul, h1, h2]; rfl
  have h1 : (⟨0, 4 / 5⟩ : ℂ) * star ⟨0, 4 / 5⟩ + ⟨3 / 5, 0⟩ * star ⟨3 / 5, 0⟩ = 1 := by
    rw [star_mk, star_mk, mk_mul_add, Complex.ext_iff]; norm_num
  have h2 : (⟨0, 4 / 5⟩ : ℂ) * star ⟨3 / 5, 0⟩ + ⟨3 / 5, 0⟩ * star ⟨0, 4 / 5⟩ = 0 := by
    rw [star_mk, star_mk, mk_mul_add, Complex.ext_iff]; norm_num
  fin_cases k
  · exact VH1_zero ▸ h _ _ h1 h2
  · exact VH1_one ▸ h _ _ ((add_comm _ _).trans h1) ((add_comm _ _).trans h2)

theorem unitary2 (k : Fin 2) : matMul (VH2 k) (cT (VH2 k)) = eye := by
  funext i j
  show 0 + (1 : ℂ) * star 1 = if i = j then 1 else 0
  rw [if_pos (Subsingleton.elim i j), star_one, mul_one, zero_add]

/-- `H_j · Ṽ0_k` is the entry `(j, 1)` of `H · V_H(k)ᴴ`; for `j ≠ k` the same product
    `3·conj(4i/5) + 4i·conj(3/5)` -/
theorem null (k : Fin 2) : matMul (tildeChannel H k) (calcBD (by norm_num) H VH1 VH2 S2 k).V0 = fun _ _ => 0 := by
  have h0 : (⟨3, 0⟩ : ℂ) * star ⟨0, 4 / 5⟩ + ⟨0, 4⟩ * star ⟨3 / 5, 0⟩ = 0 := by
    rw [star_mk, star_mk, mk_mul_add, Complex.ext_iff]; norm_num
  have hnull : ∀ k j : Fin 2, j ≠ k → ∀ (r c : Fin 1),
      matMul H (cT (VH1 k)) (join j r) (revIdx (Nat.le_mul_of_pos_left 1 (by norm_num)) c) = 0 := by
    simp only [Fin.forall_fin_two, Fin.forall_fin_one]
    refine ⟨⟨fun h => absurd rfl h, fun _ => ?_⟩, fun _ => ?_, fun h => absurd rfl h⟩
    · rw [H_eq, VH1_zero, cT_circ, circ_mul, h0]; rfl
    · rw [H_eq, VH1_one, cT_circ, circ_mul, h0]; rfl
  apply tilde_null_of_rowBlocks
  intro j hjk
  funext r c
  exact hnull k j hjk r c

theorem contract : BDContract (by norm_num) H VH1 VH2 S2 := ⟨unitary1, unitary2, null⟩

theorem fullRank : ∃ Hinv : Mat ℂ (2 * 1) (2 * 1), matMul Hinv H = eye := by
  refine ⟨circ ⟨3 / 25, 0⟩ ⟨0, -4 / 25⟩, ?_⟩
  rw [H_eq, circ_mul]
  show circ _ _ = circ 1 0
  congr 1 <;> rw [mk_mul_add, Complex.ext_iff] <;> norm_num

noncomputable def E : Mat ℂ 2 1 := fun i _ => if i.val = 0 then ⟨0, 2⟩ else 0
noncomputable def P : Mat ℂ 2 1 := fun i _ => if i.val = 0 then 0 else 1

theorem P_orthogonal_to_E : matMul (cT E) P = fun _ _ => 0 := by
  funext i j
  have h0 : P 0 j = 0 := rfl
  have h1 : cT E i 1 = 0 := star_zero ℂ
  show 0 + cT E i 0 * P 0 j + cT E i 1 * P 1 j = 0
  rw [h0, h1, mul_zero, zero_mul, add_zero, add_zero]

end PyPhysim.BD.Pf.Ex
