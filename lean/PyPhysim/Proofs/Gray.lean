import PyPhysim.Model.Gray

/-! Theory behind C15.  `f s` is "xor with own right shift by `s`"; `b2g = f 1`.  The `f s` commute
(`f_comm`) and `f s ∘ f s = f (2s)` (`f_f`), so `f 1` followed by the shifts `2^(m-1), …, 2, 1` is
`f (2^m)` (`g2b_f_one`), the identity below `2^(2^m)`.  After the round trip: `popcount` and `hamming`
through their recursion equations, `b2g` as a cyclic one-bit-per-step code
(`hamming_b2g_of_ringAdjacent`), and the QAM labelling by any coordinate inverse of `b2g`
(`qam_gray_of_inverse`). -/
namespace PyPhysim.Gray

theorem xor_xor_xor_comm : ∀ a b c d : Bool, ((a ^^ b) ^^ (c ^^ d)) = ((a ^^ c) ^^ (b ^^ d)) := by
  decide

theorem b2g_eq_f : b2g = f 1 := funext fun _ => Nat.xor_comm _ _

theorem testBit_f (s x i : Nat) : (f s x).testBit i = (x.testBit i ^^ x.testBit (i + s)) := by
  rw [f, Nat.testBit_xor, Nat.testBit_shiftRight, Nat.add_comm]

theorem f_comm (s t x : Nat) : f s (f t x) = f t (f s x) := by
  apply Nat.eq_of_testBit_eq
  intro i
  simp only [testBit_f]
  rw [Nat.add_right_comm i t s]
  exact xor_xor_xor_comm _ _ _ _

theorem f_g2bWith (s : Nat) : ∀ (l : List Nat) (x : Nat), f s (g2bWith l x) = g2bWith l (f s x)
  | [], _ => rfl
  | t :: l, x => (f_g2bWith s l (f t x)).trans (congrArg (g2bWith l) (f_comm s t x))

theorem f_lt {x k : Nat} (s : Nat) (hx : x < 2^k) : f s x < 2^k :=
  Nat.xor_lt_two_pow hx (Nat.lt_of_le_of_lt (Nat.shiftRight_le x s) hx)

theorem g2bWith_lt {k : Nat} : ∀ (l : List Nat) {x : Nat}, x < 2^k → g2bWith l x < 2^k
  | [], _, hx => hx
  | s :: l, _, hx => g2bWith_lt l (f_lt s hx)

theorem b2g_lt (n k : Nat) (hn : n < 2^k) : b2g n < 2^k := b2g_eq_f ▸ f_lt 1 hn

theorem b2g_xor (a b : Nat) : b2g a ^^^ b2g b = b2g (a ^^^ b) := by
  simp only [b2g, Nat.shiftRight_xor_distrib]
  ac_rfl

/-- squaring `1 + shift s` over `𝔽₂`: the cross terms cancel -/
theorem f_f (s x : Nat) : f s (f s x) = f (2 * s) x := by
  apply Nat.eq_of_testBit_eq
  intro i
  rw [testBit_f, testBit_f, testBit_f, testBit_f, Nat.two_mul, Nat.add_assoc, Bool.xor_assoc,
    ← Bool.xor_assoc (x.testBit (i + s)), Bool.xor_self, Bool.false_xor]

/-- `f 1` and the shifts `2^(m-1), …, 1` make `f (2^m)`; one more `f (2^m)` in front, moved past `f 1`,
squares that to `f (2^(m+1))` -/
theorem g2b_f_one : ∀ m n, g2bWith (descPows m) (f 1 n) = f (2^m) n
  | 0, _ => rfl
  | m+1, n => by
    show g2bWith (descPows m) (f (2^m) (f 1 n)) = _
    rw [f_comm, g2b_f_one m, f_f, ← Nat.pow_succ']

theorem f_of_lt {s n : Nat} (h : n < 2^s) : f s n = n := by
  rw [f, Nat.shiftRight_eq_div_pow, Nat.div_eq_of_lt h, Nat.xor_zero]

theorem g2b_b2g (m n : Nat) (hn : n < 2^(2^m)) : g2bWith (descPows m) (b2g n) = n := by
  rw [b2g_eq_f, g2b_f_one, f_of_lt hn]

/-- `b2g = f 1` commutes with every `f s`, so a left inverse built from them is a right inverse -/
theorem b2g_g2b (m n : Nat) (hn : n < 2^(2^m)) : b2g (g2bWith (descPows m) n) = n := by
  rw [b2g_eq_f, f_g2bWith, ← b2g_eq_f, g2b_b2g m n hn]

theorem b2g_ones (k : Nat) : b2g (2^(k+1) - 1) = 2^k := by
  apply Nat.eq_of_testBit_eq
  intro i
  rw [b2g_eq_f, testBit_f, Nat.testBit_two_pow_sub_one, Nat.testBit_two_pow_sub_one,
    Nat.testBit_two_pow, Bool.eq_iff_iff]
  simp only [bne_iff_ne, ne_eq, decide_eq_decide, decide_eq_true_eq]
  omega

/-- The carry of `n + 1` flips the trailing ones of `n` and the zero above them: `n` and `n+1` differ
in the last bit, and their halves are equal (`n` even) or again successors (`n` odd). -/
theorem succ_xor (n : Nat) : ∃ k, (n ^^^ (n+1)) + 1 = 2^(k+1) := by
  induction n using Nat.div2Induction with
  | _ n ih =>
    -- `2 * (n/2 ^^^ (n+1)/2) + (n ^^^ (n+1)) % 2 = n ^^^ (n+1)`
    have split := Nat.div_add_mod (n ^^^ (n+1)) 2
    rw [Nat.xor_div_two] at split
    rcases Nat.mod_two_eq_zero_or_one n with h | h
    · have h' : (n+1) % 2 = 1 := by rw [Nat.add_mod, h]
      rw [Nat.xor_mod_two_eq_one.mpr fun e => Nat.zero_ne_one (h.symm.trans (e.mpr h')),
        Nat.succ_div_of_mod_ne_zero (h'.symm ▸ Nat.one_ne_zero), Nat.xor_self] at split
      exact ⟨0, congrArg (· + 1) split.symm⟩
    · have h' : (n+1) % 2 = 0 := by rw [Nat.add_mod, h]
      have hn : 0 < n :=
        Nat.pos_of_ne_zero fun e => Nat.zero_ne_one ((congrArg (· % 2) e).symm.trans h)
      obtain ⟨k, hk⟩ := ih hn
      rw [Nat.xor_mod_two_eq_one.mpr fun e => Nat.zero_ne_one (h'.symm.trans (e.mp h)),
        Nat.succ_div_of_mod_eq_zero h'] at split
      refine ⟨k+1, ?_⟩
      rw [← split, Nat.pow_succ', ← hk]
      rfl

theorem bitlen_zero : bitlen 0 = 0 := by rw [bitlen, dif_pos rfl]

theorem bitlen_eq {n : Nat} (h : n ≠ 0) : bitlen n = bitlen (n / 2) + 1 := by rw [bitlen, dif_neg h]

theorem popcount_zero : popcount 0 = 0 := by rw [popcount, dif_pos rfl]

theorem popcount_eq (n : Nat) : popcount n = n % 2 + popcount (n / 2) := by
  by_cases h : n = 0
  · subst h; rw [popcount_zero]
  · rw [popcount, dif_neg h]

theorem popcount_one : popcount 1 = 1 := by rw [popcount_eq, popcount_zero]

theorem popcount_div_add_mod : ∀ (k n : Nat), popcount n = popcount (n / 2^k) + popcount (n % 2^k)
  | 0, n => by rw [Nat.pow_zero, Nat.div_one, Nat.mod_one, popcount_zero, Nat.add_zero]
  | k+1, n => by
    rw [popcount_eq n, popcount_eq (n % 2^(k+1)), popcount_div_add_mod k (n/2), Nat.pow_succ',
      Nat.mod_mul_right_div_self, Nat.mod_mul_right_mod, Nat.div_div_eq_div_mul, Nat.add_left_comm]

theorem popcount_two_pow (k : Nat) : popcount (2^k) = 1 := by
  rw [popcount_div_add_mod k, Nat.div_self (Nat.two_pow_pos k), Nat.mod_self, popcount_zero,
    popcount_one]

theorem popcount_eq_zero_iff (n : Nat) : popcount n = 0 ↔ n = 0 := by
  refine ⟨?_, fun h => h ▸ popcount_zero⟩
  induction n using Nat.div2Induction with
  | _ n ih =>
    intro h
    rw [popcount_eq, Nat.add_eq_zero_iff] at h
    by_cases h0 : n = 0
    · exact h0
    · rw [← Nat.div_add_mod n 2, h.1, ih (Nat.pos_of_ne_zero h0) h.2]

theorem popcount_eq_count : ∀ (k n : Nat), n < 2^k →
    popcount n = ((List.range k).filter (fun i => n.testBit i)).length
  | 0, n, h => by rw [Nat.lt_one_iff.mp h]; exact popcount_zero
  | k+1, n, h => by
    have ih := popcount_eq_count k (n/2) (Nat.div_lt_of_lt_mul (Nat.pow_succ' ▸ h))
    have hs : ((fun i => n.testBit i) ∘ Nat.succ) = fun i => (n/2).testBit i :=
      funext fun i => Nat.testBit_succ n i
    rw [popcount_eq, ih, List.range_succ_eq_map, List.filter_cons, List.filter_map, hs,
      Nat.testBit_zero]
    rcases Nat.mod_two_eq_zero_or_one n with hm | hm
    · -- bit 0 clear: the filter drops index 0
      simp only [hm, Nat.zero_add, Nat.zero_ne_one, decide_false, Bool.false_eq_true, if_false, List.length_map]
    · -- bit 0 set: the filter keeps index 0
      simp only [hm, decide_true, if_true, List.length_cons, List.length_map, Nat.add_comm]

theorem hamming_comm (a b : Nat) : hamming a b = hamming b a := by rw [hamming, Nat.xor_comm]; rfl

theorem hamming_self (a : Nat) : hamming a a = 0 := by rw [hamming, Nat.xor_self, popcount_zero]

theorem hamming_eq_zero_iff (a b : Nat) : hamming a b = 0 ↔ a = b := by
  rw [hamming, popcount_eq_zero_iff]
  refine ⟨fun h => ?_, fun h => h ▸ Nat.xor_self a⟩
  rw [← Nat.zero_xor b, ← Nat.xor_self a, Nat.xor_assoc, h, Nat.xor_zero]

theorem hamming_div_add_mod (k a b : Nat) :
    hamming a b = hamming (a / 2^k) (b / 2^k) + hamming (a % 2^k) (b % 2^k) := by
  rw [hamming, popcount_div_add_mod k, Nat.xor_div_two_pow, Nat.xor_mod_two_pow]
  rfl

theorem hamming_step (p : Nat) : hamming (b2g p) (b2g (p+1)) = 1 := by
  obtain ⟨k, hk⟩ := succ_xor p
  rw [hamming, b2g_xor, Nat.eq_sub_of_add_eq hk, b2g_ones, popcount_two_pow]

theorem hamming_wrap (k : Nat) : hamming (b2g (2^(k+1) - 1)) (b2g 0) = 1 := by
  rw [hamming, b2g_ones, show b2g 0 = 0 from rfl, Nat.xor_zero, popcount_two_pow]

theorem succ_mod_eq_iff {M p q : Nat} (hp : p < M) (hq : q < M) :
    (p + 1) % M = q ↔ p + 1 = q ∨ (p + 1 = M ∧ q = 0) := by
  rcases Nat.lt_or_eq_of_le (show p + 1 ≤ M from hp) with h | h
  · rw [Nat.mod_eq_of_lt h]
    exact ⟨Or.inl, fun h' => h'.resolve_right fun e => Nat.ne_of_lt h e.1⟩
  · rw [h, Nat.mod_self]
    exact ⟨fun e => Or.inr ⟨rfl, e.symm⟩, fun h' => (h'.resolve_left (Nat.ne_of_gt hq)).2.symm⟩

theorem ringAdjacent_iff {M p q : Nat} (hp : p < M) (hq : q < M) :
    ringAdjacent M p q = true ↔
      (p + 1 = q ∨ (p + 1 = M ∧ q = 0)) ∨ (q + 1 = p ∨ (q + 1 = M ∧ p = 0)) := by
  simp only [ringAdjacent, Bool.or_eq_true, beq_iff_eq, succ_mod_eq_iff hp hq, succ_mod_eq_iff hq hp]

theorem hamming_b2g_of_ringAdjacent {m p q : Nat} (hm : 1 ≤ m) (hp : p < 2^m) (hq : q < 2^m)
    (h : ringAdjacent (2^m) p q = true) : hamming (b2g p) (b2g q) = 1 := by
  obtain ⟨j, rfl⟩ := Nat.exists_eq_add_of_le' hm
  rcases (ringAdjacent_iff hp hq).mp h with (rfl | ⟨e, rfl⟩) | (rfl | ⟨e, rfl⟩)
  · exact hamming_step p
  · rw [Nat.eq_sub_of_add_eq e]; exact hamming_wrap j
  · rw [hamming_comm]; exact hamming_step q
  · rw [hamming_comm, Nat.eq_sub_of_add_eq e]; exact hamming_wrap j

theorem qamPos_div {conv : Nat → Nat} {k l : Nat} (h : conv (l % 2^k) < 2^k) :
    qamPos conv k (2^k) l / 2^k = conv (l / 2^k) := by
  rw [qamPos, Nat.shiftLeft_eq, Nat.mul_comm, Nat.mul_add_div (Nat.two_pow_pos k), Nat.div_eq_of_lt h,
    Nat.add_zero]

theorem qamPos_mod {conv : Nat → Nat} {k l : Nat} (h : conv (l % 2^k) < 2^k) :
    qamPos conv k (2^k) l % 2^k = conv (l % 2^k) := by
  rw [qamPos, Nat.shiftLeft_eq, Nat.mul_comm, Nat.mul_add_mod, Nat.mod_eq_of_lt h]

/-- Label `l` sits at cell `(g (l / 2^k), g (l % 2^k))`, so a step along a row or a column is a step
of `b2g` in one half of the label and leaves the other half alone. -/
theorem qam_gray_of_inverse {k : Nat} {g : Nat → Nat} (glt : ∀ x < 2^k, g x < 2^k)
    (inv : ∀ x < 2^k, b2g (g x) = x) {l₁ l₂ : Nat} (h₁ : l₁ < 2^k * 2^k) (h₂ : l₂ < 2^k * 2^k)
    (hadj : gridAdjacent (2^k) (qamPos g k (2^k) l₁) (qamPos g k (2^k) l₂) = true) :
    hamming l₁ l₂ = 1 := by
  have c (l : Nat) : l % 2^k < 2^k := Nat.mod_lt l (Nat.two_pow_pos k)
  simp only [gridAdjacent, qamPos_div (glt _ (c l₁)), qamPos_div (glt _ (c l₂)),
    qamPos_mod (glt _ (c l₁)), qamPos_mod (glt _ (c l₂)), Bool.or_eq_true, Bool.and_eq_true,
    beq_iff_eq] at hadj
  rw [hamming_div_add_mod k, ← inv _ (Nat.div_lt_of_lt_mul h₁), ← inv _ (Nat.div_lt_of_lt_mul h₂),
    ← inv _ (c l₁), ← inv _ (c l₂)]
  rcases hadj with ⟨hrow, hcol | hcol⟩ | ⟨hcol, hrow | hrow⟩
  · rw [hrow, hamming_self, ← hcol, hamming_step]
  · rw [hrow, hamming_self, ← hcol, hamming_comm, hamming_step]
  · rw [hcol, hamming_self, ← hrow, hamming_step]
  · rw [hcol, hamming_self, ← hrow, hamming_comm, hamming_step]

end PyPhysim.Gray
