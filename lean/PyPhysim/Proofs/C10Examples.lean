import PyPhysim.Proofs.C10Closed
import PyPhysim.Proofs.C10KyFan

/-!
Concrete instances: the hypotheses of `full_filter_identity` (`ex_filter_identity`) and of
`closed_form_nulls_cross_interference` (`ex_closed_form`) are satisfiable, and so is the contract
`IsLeast` on its own, by a non-zero matrix (`ex_isLeast`).  The joint hypotheses of the two iteration
theorems, of `mmse_power_bounded` and of `altmin_filter_zero_forcing` are not instantiated.
-/
namespace PyPhysim.C10
open Matrix
open scoped ComplexOrder

theorem ex_filter_identity : ∃ (WH Hkk fF X : Mat ℂ 1 1),
    matMul (eqChan WH Hkk fF) X = WH ∧ IsUnit (toM (eqChan WH Hkk fF)) := by
  refine ⟨fun _ _ => 1, fun _ _ => 2, fun _ _ => 1, fun _ _ => 1 / 2, ?_, ?_⟩
  · funext i j
    simp [matMul, eqChan, sumFin]
  · rw [Matrix.isUnit_iff_isUnit_det, Matrix.det_fin_one]
    simp [eqChan, matMul, sumFin]

theorem ex_closed_form : ∃ (Hm A F0' W' : Mat ℂ 2 2) (F0 : Mat ℂ 2 1) (L : Mat ℂ 1 1) (W : Mat ℂ 2 1),
    ClosedKernels Hm Hm Hm Hm Hm Hm A A A A A ∧ matMul (cfE A A A) F0 = matMul F0 L
    ∧ matMul (cfWMat Hm (mdiv (cfChain A Hm F0) 1)) W = mzero
    ∧ matMul (cfWMat Hm (mdiv F0 1)) W = mzero := by
  -- identity channels and kernels, `F0 = e₁`, `W = e₂`: both Gram matrices are `e₁ e₁ᴴ`, which kills `e₂`
  have key : matMul (outerG (fun i _ => if i = 0 then 1 else 0 : Mat ℂ 2 1))
      (fun i _ => if i = 1 then 1 else 0 : Mat ℂ 2 1) = mzero := by
    funext i j
    simp [matMul, sumFin, outerG, cT, mzero, Conj.conj]
  refine ⟨eye, eye, eye, eye, fun i _ => if i = 0 then 1 else 0, eye, fun i _ => if i = 1 then 1 else 0,
    ⟨matMul_eye _, matMul_eye _, matMul_eye _, matMul_eye _, matMul_eye _⟩, ?_, ?_, ?_⟩
  · rw [cfE, eye_matMul, eye_matMul, eye_matMul, matMul_eye]
  · rw [cfChain, eye_matMul, eye_matMul, mdiv_one, cfWMat, eye_matMul]
    exact key
  · rw [mdiv_one, cfWMat, eye_matMul]
    exact key

/-- the column `e₁` -/
def exV : Matrix (Fin 2) (Fin 1) ℂ := Matrix.single 0 0 1
/-- `diag(1, 2)`, written `1·P + 2·(1 − P)` with the projector `P = e₁ e₁ᴴ` -/
def exQ : Matrix (Fin 2) (Fin 2) ℂ := exV * exVᴴ + (2 : ℂ) • (1 - exV * exVᴴ)

theorem ex_isLeast : ∃ (Q : Matrix (Fin 2) (Fin 2) ℂ) (V : Matrix (Fin 2) (Fin 1) ℂ), IsLeast Q V ∧ Q ≠ 0 := by
  -- eigenvalue `1` on `e₁`, `μ = 2` on the complement: everything follows from `e₁ᴴ e₁ = 1`
  have hV : exVᴴ * exV = 1 := by
    rw [exV, conjTranspose_single, single_mul_single_same, star_one, mul_one]
    exact (Fin.sum_univ_one _).symm.trans sum_single_one
  have hD : diagonal (fun _ : Fin 1 => ((1 : ℝ) : ℂ)) = 1 := by
    rw [Complex.ofReal_one]; exact diagonal_one
  have hQV : exQ * exV = exV := by
    rw [exQ, Matrix.add_mul, Matrix.smul_mul, Matrix.sub_mul, Matrix.one_mul, Matrix.mul_assoc, hV, Matrix.mul_one,
      sub_self, smul_zero, add_zero]
  refine ⟨exQ, exV, ⟨hV, fun _ => 1, 2, by rw [hD, Matrix.mul_one, hQV], fun _ => one_le_two, ?_⟩, fun h => ?_⟩
  · rw [hD, Matrix.mul_one, exQ, Complex.ofReal_ofNat, add_sub_cancel_left, sub_self]
    exact PosSemidef.zero
  · rw [h, Matrix.zero_mul] at hQV
    rw [← hQV, Matrix.mul_zero] at hV
    exact zero_ne_one hV

end PyPhysim.C10
