import PyPhysim.Model.C08
/-!
# C08 — what each operation of the model does to the state fields

`effect isExt kind` is the effect table of the model operation `kind` on an object of the plain
(`isExt = false`) or the external-interference class: the fields it resets, assigns, writes on some
paths, fills lazily.  The mutators are brought into the form "one record update of the old state"
(`install_eq`, `doSetPL_eq`, `doSetNoise_eq`), so that "`b` is `a` except in the fields `fs`"
(`SameOutside`) holds by `rfl` through `patch`; a guarded setter is taken apart by `of_ite` / `of_check`
(the check raises and the state is kept, or the call goes through).  `step_sameOutside`, `step_fillOnly`, `step_clears`
say what of the table `step Cfg.fixed` obeys, for every state and every argument: no field outside
`touched` changes, a field under `fills` is kept or goes from `None` to a value, a field under `clears`
is `None` after an accepted call.  `assigns` and `mayWrite` enter through `touched` only; the split is
compared with the table generated from the source by `generated_tables_check` (`C08Tables`).
-/
set_option linter.unusedSectionVars false
namespace PyPhysim.C08
open PyPhysim.Proto

/-- the fields of `State` (the class flag `isExt` never changes) -/
inductive Fld where
  | raw | nr | nt | k | extK | pl | plBig | bigHc | hc | w | bigWc | noiseVar | lastNoise
  deriving DecidableEq, Repr

def Fld.all : List Fld :=
  [.raw, .nr, .nt, .k, .extK, .pl, .plBig, .bigHc, .hc, .w, .bigWc, .noiseVar, .lastNoise]

/-- the operations of `Op` without their arguments (`Op.kind`) -/
inductive Kind where
  | init | randomize | setPL | setNoise | setW | readH | readBigH | readHkl | readHk | readBigHNoExt
  | readHkNoExt | readHNoExt | corrupt | readLayout | readPL | readBigWView | readNoiseVar
  | readLastNoise | corruptCat | stackData | query
  deriving DecidableEq, Repr

section
variable {α : Type}

def Op.kind : Op α → Kind
  | .init .. => .init | .randomize .. => .randomize | .setPL .. => .setPL | .setNoise .. => .setNoise
  | .setW .. => .setW | .readH => .readH | .readBigH => .readBigH | .readHkl .. => .readHkl
  | .readHk .. => .readHk | .readBigHNoExt => .readBigHNoExt | .readHkNoExt .. => .readHkNoExt
  | .readHNoExt => .readHNoExt | .corrupt .. => .corrupt | .readLayout => .readLayout | .readPL => .readPL
  | .readBigWView => .readBigWView | .readNoiseVar => .readNoiseVar | .readLastNoise => .readLastNoise
  | .corruptCat .. => .corruptCat | .stackData .. => .stackData | .query => .query

def Fld.agree (f : Fld) (a b : State α) : Prop :=
  match f with
  | .raw => a.raw = b.raw | .nr => a.nr = b.nr | .nt => a.nt = b.nt | .k => a.k = b.k
  | .extK => a.extK = b.extK | .pl => a.pl = b.pl | .plBig => a.plBig = b.plBig
  | .bigHc => a.bigHc = b.bigHc | .hc => a.hc = b.hc | .w => a.w = b.w | .bigWc => a.bigWc = b.bigWc
  | .noiseVar => a.noiseVar = b.noiseVar | .lastNoise => a.lastNoise = b.lastNoise

def Fld.isNone (f : Fld) (a : State α) : Prop :=
  match f with
  | .pl => a.pl = none | .plBig => a.plBig = none | .bigHc => a.bigHc = none | .hc => a.hc = none
  | .w => a.w = none | .bigWc => a.bigWc = none | .noiseVar => a.noiseVar = none
  | .lastNoise => a.lastNoise = none
  | _ => False

end

/-- one row of the effect table: the fields an operation resets to `None`, assigns on every accepted call,
    writes on some paths only, fills lazily -/
structure Eff where
  clears : List Fld := []
  assigns : List Fld := []
  mayWrite : List Fld := []
  fills : List Fld := []
  deriving DecidableEq, Repr

def Eff.touched (e : Eff) : List Fld := e.clears ++ e.assigns ++ e.mayWrite ++ e.fills

def effect (isExt : Bool) : Kind → Eff
  | .init | .randomize =>
    { clears := [.bigHc, .hc], assigns := [.raw, .nr, .nt, .k, .extK, .plBig], mayWrite := [.pl] }
  | .setPL => { clears := [.bigHc, .hc], assigns := [.pl, .plBig] }
  | .setNoise => { assigns := [.noiseVar] }
  | .setW => { clears := [.bigWc], assigns := [.w] }
  | .readH | .readHkl => if isExt then {} else { fills := [.hc] }
  | .readBigH | .readHk => { fills := [.bigHc] }
  -- the three ExtInt-only views: `AttributeError` on the plain class; `H_no_ext_int` goes through the
  -- ExtInt `H` getter, which does not cache
  | .readBigHNoExt | .readHkNoExt => if isExt then { fills := [.bigHc] } else {}
  | .readHNoExt => {}
  | .corrupt | .corruptCat => { assigns := [.lastNoise], fills := [.bigHc, .bigWc] }
  | .readBigWView => { fills := [.bigWc] }
  | .readLayout | .readPL | .readNoiseVar | .readLastNoise | .stackData | .query => {}

variable {α : Type}

theorem of_ite {β : Type} {P : β → Prop} {c : Prop} [Decidable c] {a b : β} (ha : P a) (hb : P b) :
    P (if c then a else b) :=
  iteInduction (fun _ => ha) fun _ => hb

/-- the shape of a guarded setter: the check raises and the state is kept, or the call goes through -/
theorem of_check {P : State α × Out α → Prop} {c : Option PyErr} {st : State α} {r : State α × Out α}
    (he : ∀ e, P (st, .err e)) (hr : P r) :
    P (match c with
      | some e => (st, .err e)
      | none => r) := by
  cases c with
  | none => exact hr
  | some e => exact he e

theorem install_eq (st : State α) (M : Mat α) (nr nt : List Nat) (K : Nat) :
    install Cfg.fixed st M nr nt K =
      { st with bigHc := none, hc := none, k := K, nr := nr, nt := nt, raw := M,
                pl := st.pl.filter fun p => plFits p (if st.isExt then K - st.extK else K) K,
                plBig := (st.pl.filter fun p => plFits p (if st.isExt then K - st.extK else K) K).map
                  fun p => expand p nr nt } := by
  obtain ⟨e, raw, nr₀, nt₀, k₀, x, pl, plBig, bigHc, hc, w, bigWc, nv, ln⟩ := st
  cases pl with
  | none => rfl
  | some p =>
    show (if plFits p (if e then K - x else K) K then _ else _) = _
    simp only [Option.filter]
    generalize plFits p _ K = c
    cases c <;> rfl

theorem doSetPL_eq (st : State α) (p : Option (Mat α)) (pe : Mat α) :
    doSetPL Cfg.fixed st p pe =
      { st with bigHc := none, hc := none,
                pl := p.map fun p => if st.isExt then List.zipWith (· ++ ·) p pe else p,
                plBig := (p.map fun p => if st.isExt then List.zipWith (· ++ ·) p pe else p).map
                  fun q => expand q st.nr st.nt } := by
  obtain ⟨e, raw, nr₀, nt₀, k₀, x, pl, plBig, bigHc, hc, w, bigWc, nv, ln⟩ := st
  cases e <;> cases p <;> rfl

theorem doSetNoise_eq (F : Fns α) (st : State α) (v : Option α) :
    doSetNoise F st v
      = if v.all F.nonneg then ({ st with noiseVar := v }, .unit) else (st, .err .AssertionError) := by
  cases v with
  | none => rfl
  | some x =>
    show (if F.nonneg x = true then _ else _) = if F.nonneg x = true then _ else _
    cases F.nonneg x <;> rfl

def SameOutside (fs : List Fld) (a b : State α) : Prop :=
  a.isExt = b.isExt ∧ ∀ f, f ∉ fs → f.agree a b

def FillOnly (f : Fld) (a b : State α) : Prop := f.agree a b ∨ (f.isNone a ∧ ¬ f.isNone b)

/-- `a` with the fields `fs` taken from `b`.  For a concrete `fs` and a `b` that is a record update
    of `a` in those fields, `b = patch fs a b` holds by `rfl`. -/
def patch (fs : List Fld) (a b : State α) : State α where
  isExt := a.isExt
  raw := if .raw ∈ fs then b.raw else a.raw
  nr := if .nr ∈ fs then b.nr else a.nr
  nt := if .nt ∈ fs then b.nt else a.nt
  k := if .k ∈ fs then b.k else a.k
  extK := if .extK ∈ fs then b.extK else a.extK
  pl := if .pl ∈ fs then b.pl else a.pl
  plBig := if .plBig ∈ fs then b.plBig else a.plBig
  bigHc := if .bigHc ∈ fs then b.bigHc else a.bigHc
  hc := if .hc ∈ fs then b.hc else a.hc
  w := if .w ∈ fs then b.w else a.w
  bigWc := if .bigWc ∈ fs then b.bigWc else a.bigWc
  noiseVar := if .noiseVar ∈ fs then b.noiseVar else a.noiseVar
  lastNoise := if .lastNoise ∈ fs then b.lastNoise else a.lastNoise

theorem SameOutside.of_patch {fs : List Fld} {a b : State α} (h : b = patch fs a b) : SameOutside fs a b := by
  rw [h]
  exact ⟨rfl, fun f hf => by cases f <;> exact (if_neg hf).symm⟩

theorem SameOutside.refl (fs : List Fld) (a : State α) : SameOutside fs a a :=
  ⟨rfl, fun f _ => by cases f <;> rfl⟩

theorem Fld.agree_trans {f : Fld} {a b c : State α} (h1 : f.agree a b) (h2 : f.agree b c) : f.agree a c := by
  cases f <;> exact Eq.trans h1 h2

theorem SameOutside.trans {fs gs : List Fld} {a b c : State α} (h1 : SameOutside fs a b)
    (h2 : SameOutside gs b c) : SameOutside (fs ++ gs) a c :=
  ⟨h1.1.trans h2.1, fun f hf =>
    Fld.agree_trans (h1.2 f fun h => hf (List.mem_append_left _ h)) (h2.2 f fun h => hf (List.mem_append_right _ h))⟩

theorem SameOutside.mono {fs gs : List Fld} {a b : State α} (h : SameOutside fs a b)
    (hs : ∀ f ∈ fs, f ∈ gs) : SameOutside gs a b :=
  ⟨h.1, fun f hf => h.2 f fun hm => hf (hs f hm)⟩

theorem SameOutside.userK {fs : List Fld} {a b : State α} (h : SameOutside fs a b) (hk : Fld.k ∉ fs)
    (hx : Fld.extK ∉ fs) : b.userK = a.userK := by
  unfold State.userK
  rw [← h.1, ← (h.2 .k hk : a.k = b.k), ← (h.2 .extK hx : a.extK = b.extK)]

theorem Fld.isNone_congr {f : Fld} {a b : State α} (h : f.agree a b) : f.isNone a ↔ f.isNone b := by
  cases f <;> first | exact Iff.rfl | exact iff_of_eq (congrArg (· = none) h)

theorem FillOnly.of_same_left {f : Fld} {fs : List Fld} {a b c : State α} (h1 : SameOutside fs a b) (hf : f ∉ fs)
    (h2 : FillOnly f b c) : FillOnly f a c :=
  h2.imp (Fld.agree_trans (h1.2 f hf)) (And.imp_left (Fld.isNone_congr (h1.2 f hf)).2)

theorem FillOnly.of_same_right {f : Fld} {fs : List Fld} {a b c : State α} (h1 : FillOnly f a b)
    (h2 : SameOutside fs b c) (hf : f ∉ fs) : FillOnly f a c :=
  h1.imp (Fld.agree_trans · (h2.2 f hf)) (And.imp_right fun hn hc => hn ((Fld.isNone_congr (h2.2 f hf)).2 hc))

variable [Add α] [Mul α] [Zero α]

theorem readBigH_same (F : Fns α) (st : State α) :
    SameOutside [.bigHc] st (readBigH F st).1 ∧ FillOnly .bigHc st (readBigH F st).1 := by
  have kept : SameOutside [.bigHc] st st ∧ FillOnly .bigHc st st := ⟨.refl _ st, .inl rfl⟩
  obtain ⟨e, raw, nr, nt, k, x, pl, plBig, bigHc, hc, w, bigWc, nv, ln⟩ := st
  cases pl with
  | none => exact kept
  | some p =>
    cases bigHc with
    | some M => exact kept
    | none =>
      cases plBig with
      | none => exact kept
      | some P => exact ⟨.of_patch rfl, .inr ⟨rfl, nofun⟩⟩

theorem readH_fst_ext (F : Fns α) (st : State α) (he : st.isExt = true) : (readH F st).1 = st := by
  unfold readH
  rw [if_pos he]
  split <;> rfl

theorem readH_same (F : Fns α) (st : State α) :
    SameOutside (effect st.isExt .readH).touched st (readH F st).1 ∧ FillOnly .hc st (readH F st).1 := by
  have kept : SameOutside (effect st.isExt .readH).touched st st ∧ FillOnly .hc st st := ⟨.refl _ st, .inl rfl⟩
  cases he : st.isExt with
  | true => rw [readH_fst_ext F st he]; exact he ▸ kept
  | false =>
    rw [he] at kept
    unfold readH
    rw [if_neg (by rw [he]; nofun)]
    split
    · exact kept
    · split
      · exact kept
      · rename_i hh
        exact ⟨.of_patch rfl, .inr ⟨hh, nofun⟩⟩

theorem readBigW_same (st : State α) :
    SameOutside [.bigWc] st (readBigW st).1 ∧ FillOnly .bigWc st (readBigW st).1 := by
  have kept : SameOutside [.bigWc] st st ∧ FillOnly .bigWc st st := ⟨.refl _ st, .inl rfl⟩
  obtain ⟨e, raw, nr, nt, k, x, pl, plBig, bigHc, hc, w, bigWc, nv, ln⟩ := st
  cases bigWc with
  | some B => exact kept
  | none =>
    cases w with
    | none => exact kept
    | some ws => exact ⟨.of_patch rfl, .inr ⟨rfl, nofun⟩⟩

/-- the state an accepted `init_from_channel_matrix` / `randomize` leaves -/
def reinit (st : State α) (M : Mat α) (nr nt : List Nat) (K : Nat) (ntE : List Nat) : State α :=
  let L := fullLayout st.isExt nr nt K ntE
  install Cfg.fixed { st with extK := L.2.2.2 } M L.1 L.2.1 L.2.2.1

/-- the state after `corrupt_data` / `corrupt_concatenated_data`: `big_H` is read; unless that raised or
    the noise generator broke its contract, the noise is stored and `big_W` is read -/
def transmit (F : Fns α) (st : State α) (noise : Option (Mat α)) : State α :=
  match (readBigH F st).2, (readBigH F st).1.noiseVar, noise with
  | .ok _, none, _ => (readBigW { (readBigH F st).1 with lastNoise := none }).1
  | .ok _, some _, some n => (readBigW { (readBigH F st).1 with lastNoise := some n }).1
  | _, _, _ => (readBigH F st).1

/-- the state component of `step Cfg.fixed`, without the outputs -/
def next (F : Fns α) (st : State α) : Op α → State α
  | .init M nr nt K ntE =>
    if initCheck M (fullLayout st.isExt nr nt K ntE).1 (fullLayout st.isExt nr nt K ntE).2.1
        (fullLayout st.isExt nr nt K ntE).2.2.1 then reinit st M nr nt K ntE else st
  | .randomize M nr nt K ntE =>
    if (randCheck Cfg.fixed st.isExt nr nt K ntE).isSome then st else reinit st M nr nt K ntE
  | .setPL p pe => if (setPLCheck Cfg.fixed st p pe).isSome then st else doSetPL Cfg.fixed st p pe
  | .setNoise v => if v.all F.nonneg then { st with noiseVar := v } else st
  | .setW w => { st with w := w, bigWc := none }
  | .readH | .readHkl _ _ => (readH F st).1
  | .readBigH | .readHk _ => (readBigH F st).1
  | .readBigHNoExt | .readHkNoExt _ => if st.isExt then (readBigH F st).1 else st
  | .readHNoExt => if st.isExt then (readH F st).1 else st
  | .corrupt _ _ noise | .corruptCat _ noise => transmit F st noise
  | .readBigWView => (readBigW st).1
  | .readLayout | .readPL | .readNoiseVar | .readLastNoise | .stackData _ _ | .query => st

theorem doCorruptCat_fst (F : Fns α) (st : State α) (X : Mat α) (noise : Option (Mat α)) :
    (doCorruptCat F st X noise).1 = transmit F st noise := by
  unfold doCorruptCat transmit
  rcases readBigH F st with ⟨⟨e, raw, nr, nt, k, x, pl, plBig, bigHc, hc, w, bigWc, nv, ln⟩, e | M⟩
  · rfl
  · cases nv <;> cases noise <;> rfl

/-- `corrupt_data` is `corrupt_concatenated_data` on the stacked data, its output split by the receive
    antenna counts (in every state, whatever the caches hold) -/
theorem doCorrupt_eq (F : Fns α) (st : State α) (x xe : List (Mat α)) (noise : Option (Mat α)) :
    doCorrupt F st x xe noise =
      match doCorruptCat F st (if st.isExt then x ++ xe else x).flatten noise with
      | (s, .rx [Y] ln) => (s, .rx ((List.range s.userK).map fun k => seg s.nr Y k) ln)
      | r => r := by
  unfold doCorrupt doCorruptCat
  rcases readBigH F st with ⟨⟨e, raw, nr, nt, k, x, pl, plBig, bigHc, hc, w, bigWc, nv, ln⟩, e | M⟩
  · rfl
  · cases nv <;> cases noise <;> rfl

theorem doCorrupt_fst (F : Fns α) (st : State α) (x xe : List (Mat α)) (noise : Option (Mat α)) :
    (doCorrupt F st x xe noise).1 = transmit F st noise := by
  rw [doCorrupt_eq, ← doCorruptCat_fst F st (if st.isExt then x ++ xe else x).flatten noise]
  split
  · rename_i h
    rw [h]
  · rfl

theorem step_init (F : Fns α) (st : State α) (M : Mat α) (nr nt : List Nat) (K : Nat) (ntE : List Nat) :
    step Cfg.fixed F st (.init M nr nt K ntE)
      = if initCheck M (fullLayout st.isExt nr nt K ntE).1 (fullLayout st.isExt nr nt K ntE).2.1
            (fullLayout st.isExt nr nt K ntE).2.2.1 then (reinit st M nr nt K ntE, .unit)
        else (st, .err .ValueError) := rfl

theorem step_randomize (F : Fns α) (st : State α) (M : Mat α) (nr nt : List Nat) (K : Nat) (ntE : List Nat) :
    step Cfg.fixed F st (.randomize M nr nt K ntE)
      = match randCheck Cfg.fixed st.isExt nr nt K ntE with
        | some e => (st, .err e)
        | none => (reinit st M nr nt K ntE, .unit) := rfl

/-- the operations that begin by reading `big_H` keep the state that read leaves, whatever they return -/
theorem fst_match_bigH (r : State α × Except PyErr (Mat α)) (f : State α → Mat α → Out α) :
    (match r with
      | (s, .ok M) => (s, f s M)
      | (s, .error e) => (s, Out.err e)).1 = r.1 := by
  rcases r with ⟨s, e | M⟩ <;> rfl

/-- a guarded setter keeps the state when its check raises -/
theorem fst_match_check (c : Option PyErr) (st : State α) (r : State α × Out α) :
    (match c with
      | some e => (st, Out.err e)
      | none => r).1 = if c.isSome then st else r.1 := by
  cases c <;> rfl

theorem step_fst (F : Fns α) (st : State α) (op : Op α) : (step Cfg.fixed F st op).1 = next F st op := by
  cases op with
  | init M nr nt K ntE => exact apply_ite Prod.fst _ _ _
  | randomize M nr nt K ntE => exact fst_match_check _ st _
  | setPL p pe => exact fst_match_check _ st _
  | setNoise v => rw [step, doSetNoise_eq]; exact apply_ite Prod.fst _ _ _
  | readBigH | readHk _ => exact fst_match_bigH (readBigH F st) _
  | readBigHNoExt | readHkNoExt _ =>
    exact (apply_ite Prod.fst _ _ _).trans
      (congrArg (if st.isExt = true then · else st) (fst_match_bigH (readBigH F st) _))
  | readHNoExt => exact apply_ite Prod.fst _ _ _
  | corrupt x xe noise => exact doCorrupt_fst F st x xe noise
  | corruptCat X noise => exact doCorruptCat_fst F st X noise
  | _ => rfl

theorem reinit_same (st : State α) (M : Mat α) (nr nt : List Nat) (K : Nat) (ntE : List Nat) :
    SameOutside [.bigHc, .hc, .raw, .nr, .nt, .k, .extK, .plBig, .pl] st (reinit st M nr nt K ntE) :=
  .of_patch (by unfold reinit; rw [install_eq]; rfl)

theorem doSetPL_same (st : State α) (p : Option (Mat α)) (pe : Mat α) :
    SameOutside [.bigHc, .hc, .pl, .plBig] st (doSetPL Cfg.fixed st p pe) :=
  .of_patch (by rw [doSetPL_eq]; rfl)

theorem transmit_same (F : Fns α) (st : State α) (noise : Option (Mat α)) :
    SameOutside [.lastNoise, .bigHc, .bigWc] st (transmit F st noise)
    ∧ FillOnly .bigHc st (transmit F st noise) ∧ FillOnly .bigWc st (transmit F st noise) := by
  let P (s : State α) := SameOutside [.lastNoise, .bigHc, .bigWc] st s ∧ FillOnly .bigHc st s ∧ FillOnly .bigWc st s
  have hB := readBigH_same F st
  have stay : P (readBigH F st).1 := ⟨hB.1.mono (by decide), hB.2, .inl (hB.1.2 _ (by decide))⟩
  have go : ∀ x, P (readBigW { (readBigH F st).1 with lastNoise := x }).1 := fun x =>
    have hL : SameOutside [.lastNoise] (readBigH F st).1 { (readBigH F st).1 with lastNoise := x } := .of_patch rfl
    have hW := readBigW_same { (readBigH F st).1 with lastNoise := x }
    ⟨(hB.1.trans (hL.trans hW.1)).mono (by decide), hB.2.of_same_right (hL.trans hW.1) (by decide),
     hW.2.of_same_left (hB.1.trans hL) (by decide)⟩
  unfold transmit
  split
  · exact go none
  · exact go (some _)
  · exact stay

theorem step_sameOutside (F : Fns α) (st : State α) (op : Op α) :
    SameOutside (effect st.isExt op.kind).touched st (step Cfg.fixed F st op).1 := by
  rw [step_fst]
  cases op with
  | init M nr nt K ntE => exact of_ite (P := SameOutside _ st) (reinit_same st M nr nt K ntE) (.refl _ st)
  | randomize M nr nt K ntE => exact of_ite (P := SameOutside _ st) (.refl _ st) (reinit_same st M nr nt K ntE)
  | setPL p pe => exact of_ite (P := SameOutside _ st) (.refl _ st) (doSetPL_same st p pe)
  | setNoise v => exact of_ite (P := SameOutside [.noiseVar] st) (.of_patch rfl) (.refl _ st)
  | setW w =>
    show SameOutside [.bigWc, .w] st _
    exact .of_patch rfl
  | readH | readHkl _ _ => exact (readH_same F st).1
  | readBigH | readHk _ => exact (readBigH_same F st).1
  | readBigHNoExt | readHkNoExt _ =>
    exact iteInduction (motive := SameOutside _ st) (fun he => he ▸ (readBigH_same F st).1) fun _ => .refl _ st
  | readHNoExt =>
    exact iteInduction (motive := SameOutside _ st) (fun he => by rw [readH_fst_ext F st he]; exact .refl _ st)
      fun _ => .refl _ st
  | corrupt x xe noise | corruptCat X noise => exact (transmit_same F st noise).1
  | readBigWView => exact (readBigW_same st).1
  | _ => exact .refl _ st

theorem step_fillOnly (F : Fns α) (st : State α) (op : Op α) (f : Fld)
    (hf : f ∈ (effect st.isExt op.kind).fills) : FillOnly f st (step Cfg.fixed F st op).1 := by
  rw [step_fst]
  cases op with
  | readH | readHkl _ _ =>
    cases he : st.isExt <;> rw [he] at hf
    · cases List.mem_singleton.1 hf
      exact (readH_same F st).2
    · exact absurd hf List.not_mem_nil
  | readBigH | readHk _ =>
    cases List.mem_singleton.1 hf
    exact (readBigH_same F st).2
  | readBigHNoExt | readHkNoExt _ =>
    cases he : st.isExt <;> rw [he] at hf
    · exact absurd hf List.not_mem_nil
    · cases List.mem_singleton.1 hf
      exact of_ite (P := FillOnly .bigHc st) (readBigH_same F st).2 (.inl rfl)
  | corrupt x xe noise | corruptCat X noise =>
    rcases hf with _ | ⟨_, hf⟩
    · exact (transmit_same F st noise).2.1
    · cases List.mem_singleton.1 hf
      exact (transmit_same F st noise).2.2
  | readBigWView =>
    cases List.mem_singleton.1 hf
    exact (readBigW_same st).2
  | _ => exact absurd hf List.not_mem_nil

theorem reinit_cleared (st : State α) (M : Mat α) (nr nt : List Nat) (K : Nat) (ntE : List Nat) :
    (reinit st M nr nt K ntE).bigHc = none ∧ (reinit st M nr nt K ntE).hc = none := by
  unfold reinit
  rw [install_eq]
  exact ⟨rfl, rfl⟩

theorem isNone_of_mem_caches {f : Fld} {s : State α} (hf : f ∈ [Fld.bigHc, .hc])
    (h : s.bigHc = none ∧ s.hc = none) : f.isNone s := by
  rcases hf with _ | ⟨_, hf⟩
  · exact h.1
  · cases List.mem_singleton.1 hf
    exact h.2

theorem step_clears (F : Fns α) (st : State α) (op : Op α) (f : Fld)
    (hf : f ∈ (effect st.isExt op.kind).clears)
    (hok : ∀ e, (step Cfg.fixed F st op).2 ≠ .err e) : f.isNone (step Cfg.fixed F st op).1 := by
  -- of a guarded setter only the accepted call matters
  let P (r : State α × Out α) : Prop := (∀ e, r.2 ≠ .err e) → f.isNone r.1
  have rejected (e : PyErr) : P (st, .err e) := fun h => absurd rfl (h e)
  cases op with
  | init M nr nt K ntE =>
    exact of_ite (P := P) (fun _ => isNone_of_mem_caches hf (reinit_cleared st M nr nt K ntE)) (rejected _) hok
  | randomize M nr nt K ntE =>
    exact of_check (P := P) rejected (fun _ => isNone_of_mem_caches hf (reinit_cleared st M nr nt K ntE)) hok
  | setPL p pe =>
    refine of_check (P := P) rejected (fun _ => ?_) hok
    rw [doSetPL_eq]
    exact isNone_of_mem_caches hf ⟨rfl, rfl⟩
  | setW w =>
    cases List.mem_singleton.1 hf
    rfl
  | readH | readHkl _ _ | readBigHNoExt | readHkNoExt _ => exact absurd hf (by cases st.isExt <;> exact List.not_mem_nil)
  | _ => exact absurd hf List.not_mem_nil

end PyPhysim.C08
