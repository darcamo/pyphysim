import Mathlib.Analysis.SpecialFunctions.Log.Base
import Mathlib.Analysis.SpecialFunctions.Pow.Real
import Mathlib.Tactic.Ring
import Mathlib.Tactic.NormNum
import PyPhysim.Model.C13

/-!
# C13 — the model at `α = ℝ`

`log10 = Real.logb 10`, `pow10 x = 10 ^ x` (real power).  All other structure
(`+ - * /`, literals, order) resolves to Mathlib's instances on `ℝ`.

Every deterministic loss of the path-loss classes is affine in `log10` of the
distance and every distance-for-a-loss query is the inverse of such a map:
`affLog` / `affLogInv` carry the monotonicity and inverse facts once, and each
generated formula is shown to be an instance (`…_eq`).  The longer normal forms are
proved by `ring` once the source's integer-valued float literals (`10.0`, `1000.0`) have
been turned into numerals by `sci_int` (the `1000000.0` of `fsCalcC_real` by `norm_num1`), so a
re-associated or commuted source expression still reaches them.
-/
namespace PyPhysim.C13
open PyPhysim.Proto

noncomputable instance : Transc ℝ := ⟨Real.logb 10, fun x => (10 : ℝ) ^ x⟩

@[simp] theorem log10_real (x : ℝ) : (Transc.log10 x : ℝ) = Real.logb 10 x := rfl
@[simp] theorem pow10_real (x : ℝ) : (Transc.pow10 x : ℝ) = (10 : ℝ) ^ x := rfl
@[simp] theorem zero_real : (zero : ℝ) = 0 := Nat.cast_zero

theorem one_lt_ten : (1 : ℝ) < 10 := by norm_num

theorem ten_pos : (0 : ℝ) < 10 := by norm_num

theorem pow10_log10 {x : ℝ} (h : 0 < x) : (10 : ℝ) ^ Real.logb 10 x = x :=
  Real.rpow_logb ten_pos one_lt_ten.ne' h

theorem log10_pow10 (x : ℝ) : Real.logb 10 ((10 : ℝ) ^ x) = x :=
  Real.logb_rpow ten_pos one_lt_ten.ne'

theorem log10_strictMonoOn : StrictMonoOn (Real.logb 10) (Set.Ioi 0) :=
  Real.strictMonoOn_logb one_lt_ten

theorem pow10_pos (x : ℝ) : 0 < (10 : ℝ) ^ x := Real.rpow_pos_of_pos ten_pos x

/-- a loss with slope `a` per decade of distance and value `b` at distance 1 -/
noncomputable def affLog (a b d : ℝ) : ℝ := a * Real.logb 10 d + b

/-- the distance at which `affLog a b` takes the value `p` -/
noncomputable def affLogInv (a b p : ℝ) : ℝ := (10 : ℝ) ^ ((p - b) / a)

section
variable {a : ℝ} (b : ℝ)

theorem affLog_strictMonoOn (ha : 0 < a) : StrictMonoOn (affLog a b) (Set.Ioi 0) :=
  fun _ hx _ hy h => add_lt_add_left (mul_lt_mul_of_pos_left (log10_strictMonoOn hx hy h) ha) b

theorem affLog_monotoneOn (ha : 0 ≤ a) : MonotoneOn (affLog a b) (Set.Ioi 0) :=
  fun _ hx _ hy h =>
    add_le_add_left (mul_le_mul_of_nonneg_left (log10_strictMonoOn.monotoneOn hx hy h) ha) b

theorem affLog_strictAntiOn (ha : a < 0) : StrictAntiOn (affLog a b) (Set.Ioi 0) :=
  fun _ hx _ hy h => add_lt_add_left (mul_lt_mul_of_neg_left (log10_strictMonoOn hx hy h) ha) b

theorem affLog_injOn (ha : a ≠ 0) : Set.InjOn (affLog a b) (Set.Ioi 0) :=
  fun _ hx _ hy h => log10_strictMonoOn.injOn hx hy (mul_left_cancel₀ ha (add_right_cancel h))

theorem affLog_offset_inj {b₁ b₂ d : ℝ} (h : affLog a b₁ d = affLog a b₂ d) : b₁ = b₂ :=
  add_left_cancel h

end

theorem affLog_inverse_pair {f g : ℝ → ℝ} {a b : ℝ} (hf : f = affLog a b) (hg : g = affLogInv a b)
    (ha : a ≠ 0) : (∀ d, 0 < d → g (f d) = d) ∧ ∀ p, 0 < g p ∧ f (g p) = p := by
  subst hf hg
  refine ⟨fun d hd => ?_, fun p => ⟨pow10_pos _, ?_⟩⟩
  · rw [affLog, affLogInv, add_sub_cancel_right, mul_div_cancel_left₀ _ ha, pow10_log10 hd]
  · rw [affLog, affLogInv, log10_pow10, mul_div_cancel₀ _ ha, sub_add_cancel]

/-- A float literal `m.0` of the source is the integer `m`: `(sci_int 70 : (70.0 : ℝ) = 70)`.
    Where `ring` comes next, rewrite with such a typed instance, not with `sci_int 70` itself, which
    leaves the cast `((70 : ℕ) : ℝ)` in the goal, on which `ring` is several times slower. -/
theorem sci_int (m : ℕ) : (OfScientific.ofScientific (m * 10) true 1 : ℝ) = m := by
  rw [NNRatCast.ofScientific_eq_ite, if_pos rfl, pow_one,
    show NNRat.divNat (m * 10) 10 = NNRat.divNat (m * 10) (1 * 10) from rfl,
    NNRat.divNat_mul_right (by norm_num), ← NNRat.natCast_eq_divNat, NNRat.cast_natCast]

theorem sci_10 : (10.0 : ℝ) = 10 := sci_int 10

theorem sci_1000 : (1000.0 : ℝ) = 1000 := sci_int 1000

theorem sci_5 : (5.0 : ℝ) = 5 := sci_int 5

theorem dB2Linear_real (x : ℝ) : Gen.dB2Linear x = (10 : ℝ) ^ (x / 10) := by
  simp only [Gen.dB2Linear, pow10_real, sci_10]

theorem linear2dB_real (x : ℝ) : Gen.linear2dB x = 10 * Real.logb 10 x := by
  simp only [Gen.linear2dB, log10_real, sci_10]

theorem linear2dB_dB2Linear (x : ℝ) : Gen.linear2dB (Gen.dB2Linear x) = x := by
  rw [dB2Linear_real, linear2dB_real, log10_pow10, mul_div_cancel₀ _ ten_pos.ne']

theorem dB2Linear_linear2dB {y : ℝ} (h : 0 < y) : Gen.dB2Linear (Gen.linear2dB y) = y := by
  rw [linear2dB_real, dB2Linear_real, mul_div_cancel_left₀ _ ten_pos.ne', pow10_log10 h]

theorem dB2Linear_pos (x : ℝ) : 0 < Gen.dB2Linear x := by
  rw [dB2Linear_real]; exact pow10_pos _

theorem dB2Linear_mono {x y : ℝ} (h : x ≤ y) : Gen.dB2Linear x ≤ Gen.dB2Linear y := by
  rw [dB2Linear_real, dB2Linear_real]
  exact Real.rpow_le_rpow_of_exponent_le one_lt_ten.le (div_le_div_of_nonneg_right h ten_pos.le)

theorem dB2Linear_neg_le_one {x : ℝ} (h : 0 ≤ x) : Gen.dB2Linear (-x) ≤ 1 := by
  have := dB2Linear_mono (neg_nonpos.2 h)
  rwa [dB2Linear_real 0, zero_div, Real.rpow_zero] at this

theorem generalDb_real (n C d : ℝ) : Gen.generalDb n C d = 10 * n * Real.logb 10 d + C := by
  simp only [Gen.generalDb, log10_real]
  ring

example : Gen.generalDb (2 : ℝ) 3 10 = 23 := by
  rw [generalDb_real, Real.logb_self_eq_one one_lt_ten]
  norm_num

theorem fsCalcC_real (fc n : ℝ) :
    Gen.fsCalcC fc n = 10 * n * (Real.logb 10 (fc * 1000000) - 4.377911390697565) := by
  simp only [Gen.fsCalcC, log10_real]
  norm_num1
  ring

theorem generalWhichDb_eq (n C : ℝ) : Gen.generalWhichDb n C = affLogInv (10 * n) C := by
  funext p
  simp only [Gen.generalWhichDb, pow10_real, affLogInv, sci_10]

end PyPhysim.C13
