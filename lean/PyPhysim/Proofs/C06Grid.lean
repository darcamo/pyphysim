import Mathlib.Algebra.Order.Field.Rat
import Mathlib.Data.String.Basic
import PyPhysim.Model.C06Heap
import PyPhysim.Proofs.Common

/-! C06: parameter grids — `np.union1d`, the order of `get_unpacked_params_list`
and the row-major index computed by `get_pack_indexes`. -/
namespace PyPhysim.C06M
open PyPhysim.Proto

theorem mem_insertUniq (x y : Rat) (l : List Rat) : y ∈ insertUniq x l ↔ y = x ∨ y ∈ l := by
  fun_induction insertUniq x l with
  | case1 => exact List.mem_singleton.trans (or_iff_left List.not_mem_nil).symm
  | case2 => exact List.mem_cons
  | case3 zs hnl =>
    rw [List.mem_cons]
    exact or_self_left.symm
  | case4 z zs hnl hne ih =>
    rw [List.mem_cons, ih, List.mem_cons]
    exact or_left_comm

theorem sorted_insertUniq (x : Rat) (l : List Rat) (h : l.Pairwise (· < ·)) :
    (insertUniq x l).Pairwise (· < ·) := by
  fun_induction insertUniq x l with
  | case1 => exact List.pairwise_singleton _ _
  | case2 z zs hlt =>
    refine List.pairwise_cons.mpr ⟨fun a ha => ?_, h⟩
    rcases List.mem_cons.mp ha with e | e
    · exact e ▸ hlt
    · exact lt_trans hlt (List.rel_of_pairwise_cons h e)
  | case3 => exact h
  | case4 z zs hnl hne ih =>
    refine List.pairwise_cons.mpr ⟨fun a ha => ?_, ih h.of_cons⟩
    rcases (mem_insertUniq x a zs).mp ha with e | e
    · exact e ▸ lt_of_le_of_ne (not_lt.mp hnl) (Ne.symm hne)
    · exact List.rel_of_pairwise_cons h e

theorem mem_union1d (a b : List Rat) (x : Rat) : x ∈ union1d a b ↔ x ∈ a ∨ x ∈ b := by
  unfold union1d
  suffices ∀ l : List Rat, x ∈ l.foldr insertUniq [] ↔ x ∈ l by rw [this]; simp
  intro l
  induction l with
  | nil => simp
  | cons y ys ih => simp [List.foldr, mem_insertUniq, ih]

theorem sorted_union1d (a b : List Rat) : (union1d a b).Pairwise (· < ·) := by
  unfold union1d
  generalize a ++ b = l
  induction l with
  | nil => simp
  | cons y ys ih => exact sorted_insertUniq y _ ih

theorem perm_insertByName {α : Type} (e : String × α) (l : List (String × α)) :
    (insertByName e l).Perm (e :: l) := by
  fun_induction insertByName e l with
  | case1 => exact List.Perm.refl _
  | case2 => exact List.Perm.refl _
  | case3 x xs hnl ih => exact (List.Perm.cons x ih).trans (List.Perm.swap e x xs)

theorem perm_sortByName {α : Type} (l : List (String × α)) : (sortByName l).Perm l := by
  induction l with
  | nil => exact List.Perm.refl _
  | cons x xs ih => exact (perm_insertByName x _).trans (List.Perm.cons x ih)

theorem sorted_insertByName {α : Type} (e : String × α) (l : List (String × α))
    (h : l.Pairwise (fun a b => a.1 ≤ b.1)) : (insertByName e l).Pairwise (fun a b => a.1 ≤ b.1) := by
  fun_induction insertByName e l with
  | case1 => exact List.pairwise_singleton _ _
  | case2 x xs hlt =>
    refine List.pairwise_cons.mpr ⟨fun a ha => ?_, h⟩
    rcases List.mem_cons.mp ha with e' | e'
    · exact e' ▸ le_of_lt hlt
    · exact le_trans (le_of_lt hlt) (List.rel_of_pairwise_cons h e')
  | case3 x xs hnl ih =>
    refine List.pairwise_cons.mpr ⟨fun a ha => ?_, ih h.of_cons⟩
    rcases List.mem_cons.mp ((perm_insertByName e xs).mem_iff.mp ha) with hae | hae
    · exact hae ▸ not_lt.mp hnl
    · exact List.rel_of_pairwise_cons h hae

theorem sorted_sortByName {α : Type} (l : List (String × α)) :
    (sortByName l).Pairwise (fun a b => a.1 ≤ b.1) := by
  induction l with
  | nil => simp [sortByName]
  | cons x xs ih => exact sorted_insertByName x _ ih

theorem length_product (vals : List (List Rat)) : (product vals).length = dimsProd vals := by
  induction vals with
  | nil => rfl
  | cons vs rest ih =>
    simp only [product, dimsProd]
    induction vs with
    | nil => simp
    | cons v vs' ihv => simp [List.flatMap_cons, ih, ihv, Nat.succ_mul, Nat.add_comm]

theorem mem_product (vals : List (List Rat)) (c : List Rat) :
    c ∈ product vals ↔ List.Forall₂ (· ∈ ·) c vals := by
  fun_induction product vals generalizing c with
  | case1 =>
    rw [List.mem_singleton]
    constructor
    · rintro rfl
      exact List.Forall₂.nil
    · intro h
      cases h
      rfl
  | case2 vs rest ih =>
    simp only [List.mem_flatMap, List.mem_map]
    constructor
    · rintro ⟨v, hv, cs, hcs, rfl⟩
      exact List.Forall₂.cons hv ((ih cs).mp hcs)
    · intro h
      cases h with
      | cons hv hrest => exact ⟨_, hv, _, (ih _).mpr hrest, rfl⟩

/-- `list.index` is the library's `List.idxOf?` -/
theorem indexOf?_eq_idxOf? (x : Rat) (l : List Rat) : indexOf? x l = l.idxOf? x := by
  induction l with
  | nil => rfl
  | cons y ys ih => simp only [indexOf?, List.idxOf?_cons, ih, beq_iff_eq]

theorem indexOf?_eq_some_iff (x : Rat) (l : List Rat) (i : Nat) :
    indexOf? x l = some i ↔ l[i]? = some x ∧ ∀ j, j < i → l[j]? ≠ some x := by
  rw [indexOf?_eq_idxOf?, List.idxOf?_eq_some_iff]
  constructor
  · rintro ⟨h, hx, hj⟩
    refine ⟨by rw [List.getElem?_eq_getElem h, hx], fun j hji e => ?_⟩
    rw [List.getElem?_eq_getElem (Nat.lt_trans hji h)] at e
    exact hj j hji (Option.some.inj e)
  · rintro ⟨hx, hj⟩
    obtain ⟨h, e⟩ := List.getElem?_eq_some_iff.mp hx
    exact ⟨h, e, fun j hji e' => hj j hji (by rw [List.getElem?_eq_getElem (Nat.lt_trans hji h), e'])⟩

theorem indexOf?_eq_none_iff (x : Rat) (l : List Rat) : indexOf? x l = none ↔ x ∉ l := by
  rw [indexOf?_eq_idxOf?]; exact List.idxOf?_eq_none_iff

/-- `get_pack_indexes` of a full combination: the index it returns is the position of the
    combination in the enumeration, and it raises (`ValueError`) only when a value is not on its axis -/
theorem packIndex_spec (vals : List (List Rat)) (c : List Rat) (hlen : c.length = vals.length) :
    match packIndex vals c with
    | .ok i => (product vals)[i]? = some c
    | .error e => e = .ValueError ∧ c ∉ product vals := by
  fun_induction packIndex vals c with
  | case1 c =>
    cases c with
    | nil => rfl
    | cons _ _ => cases hlen
  | case2 vs rest => cases hlen
  | case3 vs rest x cs hi =>
    refine ⟨rfl, fun hm => ?_⟩
    cases (mem_product _ _).mp hm with
    | cons hv _ => exact (indexOf?_eq_none_iff x vs).mp hi hv
  | case4 vs rest x cs i0 hi e hj ih =>
    have ih := hj ▸ ih (Nat.succ.inj hlen)
    refine ⟨ih.1, fun hm => ih.2 ?_⟩
    cases (mem_product _ _).mp hm with
    | cons _ hrest => exact (mem_product _ _).mpr hrest
  | case5 vs rest x cs i0 hi j hj ih =>
    have ih := hj ▸ ih (Nat.succ.inj hlen)
    have hjlt : j < dimsProd rest := by
      rw [← length_product]
      exact (List.getElem?_eq_some_iff.mp ih).1
    -- row-major: block `i0` of the enumeration holds the combinations that start with `vs[i0]`
    show (product (vs :: rest))[i0 * dimsProd rest + j]? = some (x :: cs)
    rw [product, getElem?_flatMap_block _ hjlt vs i0 (fun a _ => by rw [List.length_map, length_product]),
      ((indexOf?_eq_some_iff x vs i0).mp hi).1, Option.bind_some, List.getElem?_map, ih]
    rfl

end PyPhysim.C06M
