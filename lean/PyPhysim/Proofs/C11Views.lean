import PyPhysim.Proofs.C11Spec

/-!
The channel views the SINR code reads: block `(k, j)` of `big_H` is the block of
the matrix given to `init_from_channel_matrix`, every entry multiplied by
`√pathloss[k, j]`.  And what such a factor does to a stream: the amplitude
`uᴴ H f` is linear in the channel and in the stream vector, so a factor `√g` on
either multiplies the stream's power by `g`.  The module also defines `plScale` (a channel block scaled by `√g`),
which the statements of `pathloss_stream_power` and `sinr_power_scale_invariant` use.
-/
namespace PyPhysim.Sinr.Pf
open PyPhysim.Sinr PyPhysim.Sinr.Spec

theorem owner_offs (N : List Nat) (k a : Nat) (hk : k < N.length) (ha : a < N[k]) : owner N (offs N k + a) = k := by
  induction N generalizing k with
  | nil => exact absurd hk (Nat.not_lt_zero k)
  | cons x xs ih =>
    cases k with
    | zero => exact (congrArg (owner (x :: xs)) (Nat.zero_add a)).trans (if_pos ha)
    | succ k =>
      rw [offs, owner, Nat.add_assoc, if_neg (Nat.not_lt.mpr (Nat.le_add_right x _)), Nat.add_sub_cancel_left,
        ih k (Nat.lt_of_succ_lt_succ hk) ha]

variable {α ρ : Type} [Mul α] [RC ρ α] [RFun ρ]

theorem block_pathloss (big : Nat → Nat → α) (Nr NtAll : List Nat) (p : Nat → Nat → ρ) (k j : Nat)
    (hk : k < Nr.length) (hj : j < NtAll.length) (a : Fin Nr[k]) (b : Fin NtAll[j]) :
    blockOf (bigPL big Nr NtAll (some p)) (offs Nr k) (offs NtAll j) Nr[k] NtAll[j] a b =
      big (offs Nr k + a.val) (offs NtAll j + b.val) * RC.ofReal (RFun.sqrt (p k j)) := by
  simp only [blockOf, bigPL, owner_offs Nr k a.val hk a.isLt, owner_offs NtAll j b.val hj b.isLt]

theorem block_no_pathloss (big : Nat → Nat → α) (Nr NtAll : List Nat) (r0 c0 m n : Nat) (a : Fin m) (b : Fin n) :
    blockOf (bigPL (ρ := ρ) big Nr NtAll none) r0 c0 m n a b = big (r0 + a.val) (c0 + b.val) := rfl

noncomputable def plScale {n t : Nat} (H : Mat ℂ n t) (g : ℝ) : Mat ℂ n t :=
  fun a b => H a b * RC.ofReal (RFun.sqrt g)

/-- `amp` is linear in the products `H a b * f b`: a factor on the channel entries or on the stream entries comes out -/
theorem amp_mul {n t : Nat} (u : Fin n → ℂ) {H H' : Mat ℂ n t} {f f' : Fin t → ℂ} {z : ℂ}
    (h : ∀ a b, H' a b * f' b = z * (H a b * f b)) : amp u H' f' = z * amp u H f := by
  simp only [amp, h, ← Finset.mul_sum, mul_left_comm _ z]

theorem amp_mul_channel {n t : Nat} (u : Fin n → ℂ) (H : Mat ℂ n t) (f : Fin t → ℂ) (z : ℂ) :
    amp u (fun a b => H a b * z) f = z * amp u H f :=
  amp_mul u (fun _ _ => (mul_right_comm _ _ _).trans (mul_comm _ _))

theorem amp_mul_stream {n t : Nat} (u : Fin n → ℂ) (H : Mat ℂ n t) (f : Fin t → ℂ) (z : ℂ) :
    amp u H (fun b => f b * z) = z * amp u H f :=
  amp_mul u (fun _ _ => (mul_assoc _ _ _).symm.trans (mul_comm _ _))

theorem normSq_sqrt_mul {g : ℝ} (hg : 0 ≤ g) (z : ℂ) :
    Complex.normSq (((Real.sqrt g : ℝ) : ℂ) * z) = g * Complex.normSq z := by
  rw [Complex.normSq_mul, Complex.normSq_ofReal, Real.mul_self_sqrt hg]

end PyPhysim.Sinr.Pf
