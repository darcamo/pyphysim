import Mathlib.Data.Complex.Basic
import Mathlib.LinearAlgebra.Matrix.NonsingularInverse
import PyPhysim.Proofs.C20GmdInvInit

/-!
Correctness of the array model of `gmd`, for real and for complex matrices (scalars `K` as in
`RealLike`).  For every full SVD `A = U Σ Vᴴ` over `K` (unitary `U`, `V`; real, positive, non-increasing
singular values; `σ̄` their geometric mean) the executable model `gmd` returns `.ok (Q, R, P, _)` with
`Q R Pᴴ = U Σ Vᴴ`, `Qᴴ Q = 1`, `Pᴴ P = 1`, upper-triangular `R` with constant diagonal `σ̄`
(`gmd_sound`; `gmd_sound_p` for any number `p ≤ min m n` of singular values in use, `Q R Pᴴ = U Σ_p Vᴴ`).
`realLike_real`, `realLike_complex`: `ℝ` (with `ι = id`) and `ℂ` (with the coercion, the
`RSqrt ℂ` of `C20Real` and the comparison of real parts `leRe`, as in the compiled driver) are such scalars.
`exp_mean_log_pow`, `prod_trunc`: the hypothesis on `σ̄` in the two forms in which
`Properties/C20.lean` states it (`σ̄ = exp(mean(log S))`; the product written over all of
`Fin (min m n)`).  `exS`, `ex_hyps`, `exU`: the example input `S = (4, 1)`, `σ̄ = 2`,
`U = V = 1` (real) or `i · 1` (complex) of the non-vacuity `example`s of `Properties/C20.lean`; `Proofs/C04GmdFromSvd.lean`
takes `exS` and `ex_hyps` for its own.
-/
set_option linter.unusedSectionVars false
namespace PyPhysim.LinAlg.GmdInv
open PyPhysim.Proto PyPhysim.LinAlg Matrix

section generic
variable {K : Type} [Field K] [StarRing K] [RSqrt K] [LE K] [DecidableLE K]

theorem orth_to_eye {m : Nat} (F : Nat → Nat → K) (h : Orth (colv m F)) :
    matMul (cT (fun (i j : Fin m) => F i.val j.val)) (fun (i j : Fin m) => F i.val j.val) = eye := by
  funext a b
  have := h a.val b.val a.isLt b.isLt
  simp only [matMul, cT, eye, sumFin_eq, Conj.conj]
  have e : (if a = b then (1 : K) else 0) = if a.val = b.val then 1 else 0 := by
    simp only [Fin.ext_iff]
  rw [e]
  exact this

/-- Any tolerance `tol`: `p ≤ min m n` singular values in use; `Q R Pᴴ` is the rank-`p` truncation
    `U Σ_p Vᴴ`, and `R` has `σ̄` on its first `p` diagonal entries. -/
theorem gmd_sound_p {ι : ℝ →+* K} (hι : RealLike ι) (m n : Nat) (U : Mat K m m) (V : Mat K n n)
    (S : Fin (min m n) → ℝ) (sb : ℝ) (p : Nat)
    (hp : 0 < p) (hpmn : p ≤ min m n) (hU : matMul (cT U) U = eye) (hV : matMul (cT V) V = eye)
    (hS : ∀ i : Fin (min m n), i.val < p → 0 < S i)
    (hmono : ∀ i j : Fin (min m n), i ≤ j → j.val < p → S j ≤ S i) (hsb : 0 < sb)
    (hprod : sb ^ p = ∏ r ∈ Finset.range p, Sx S r) :
    ∃ Q R P mg, gmd m n p (ι sb) (colsOf U) (Array.ofFn (fun i => ι (S i))) (colsOf V)
        = .ok (Q, R, P, mg) ∧
      (let Qm : Mat K m m := fun i j => entryCols Q i.val j.val
       let Rm : Mat K m n := fun i j => entryRows R i.val j.val
       let Pm : Mat K n n := fun i j => entryCols P i.val j.val
       matMul (matMul Qm Rm) (cT Pm) = matMul (matMul U (sigmaMat (fun i => ι (truncS p S i)))) (cT V) ∧
       matMul (cT Qm) Qm = eye ∧ matMul (cT Pm) Pm = eye ∧
       (∀ i j, j.val < i.val → Rm i j = 0) ∧
       (∀ i j, i.val = j.val → i.val < p → Rm i j = ι sb)) := by
  have hU' := orthonormal_toM hU
  have hV' := orthonormal_toM hV
  have hpm : p ≤ m := le_trans hpmn (Nat.min_le_left m n)
  have hpn : p ≤ n := le_trans hpmn (Nat.min_le_right m n)
  obtain ⟨R0, hR0, hR0r, hR0z⟩ :=
    initR_ok m n p (Array.ofFn (fun i => ι (S i))) hp hpm hpn (by rw [Array.size_ofFn]; exact hpmn)
  have sh0 := init_shape m n p (min m n) R0 U V (fun i => ι (S i)) hpmn hR0r
  have Spos : ∀ r, r < p → 0 < Sx S r := fun r hr => by
    rw [Sx_of_lt S r (Nat.lt_of_lt_of_le hr hpmn)]
    exact hS _ hr
  have Smono : ∀ r r', r ≤ r' → r' < p → Sx S r' ≤ Sx S r := fun r r' hrr hr' => by
    have h' : r' < min m n := Nat.lt_of_lt_of_le hr' hpmn
    rw [Sx_of_lt S r' h', Sx_of_lt S r (Nat.lt_of_le_of_lt hrr h')]
    exact hmono _ _ hrr hr'
  have inv0 := init_inv ι m n p R0 U V S sb hp hpmn hU' hV' Spos hprod hR0z
  obtain ⟨st, hst, sh, inv⟩ := sweep_ok hι m n p _ (Sx S) sb _ sh0 inv0 hpm hpn hsb Spos Smono
    (p - 1) (le_refl _)
  obtain ⟨R', hfin, hR'⟩ := finish_ok m n p (ι sb) st sh hp hpm hpn
  have fin := inv.final hp hpm (entryRows R')
  have oP := inv.mi.oP
  have oQ := inv.mi.oQ
  -- the views of `absSt st` are to be `entryCols st.P`, … on sight: compared with those, the unifier
  -- unfolds `entryCols` before it reduces the projection
  dsimp only [absSt] at fin oP oQ
  obtain ⟨f1, f2, f3⟩ := fin hR'
  refine ⟨st.Q, R', st.P, st.margin, ?_, ?_⟩
  · rw [gmd_eq m n p (ι sb) _ _ _ hp, hR0, ok_bind, hst, ok_bind, hfin]
  · have ePP := orth_to_eye _ oP
    refine ⟨?_, orth_to_eye _ oQ, ePP, ?_, ?_⟩
    · have ePP' := orthonormal_toM ePP
      to_matrix
      -- `A = A 1 = A P Pᴴ`, so `Q R = A P` is left, and its columns are `f1`
      refine Eq.trans ?_ (Matrix.mul_one _)
      rw [← _root_.mul_eq_one_comm.mp ePP', ← Matrix.mul_assoc]
      refine congrArg (· * _) ?_
      ext i b
      have := congrFun (f1 b.val b.isLt) i
      rw [Matrix.mul_apply, Matrix.mul_apply]
      simp only [Matrix.mulVec, dotProduct, colv, Finset.sum_apply, Pi.smul_apply, smul_eq_mul,
        Finset.sum_range] at this
      simp only [Matrix.of_apply]
      exact (this.trans (Finset.sum_congr rfl (fun a _ => mul_comm _ _))).symm
    · intro i j hji
      exact f2 i.val j.val hji
    · intro i j hij hi
      show entryRows R' i.val j.val = ι sb
      rw [← hij]
      exact f3 i.val hi

/-- all singular values in use (`tol = 0`, the default): `Q R Pᴴ = U Σ Vᴴ` -/
theorem gmd_sound {ι : ℝ →+* K} (hι : RealLike ι) (m n : Nat) (U : Mat K m m) (V : Mat K n n)
    (S : Fin (min m n) → ℝ) (sb : ℝ)
    (hp : 0 < min m n) (hU : matMul (cT U) U = eye) (hV : matMul (cT V) V = eye)
    (hS : ∀ i, 0 < S i) (hmono : ∀ i j, i ≤ j → S j ≤ S i) (hsb : 0 < sb)
    (hprod : sb ^ (min m n) = ∏ i, S i) :
    ∃ Q R P mg, gmd m n (min m n) (ι sb) (colsOf U) (Array.ofFn (fun i => ι (S i))) (colsOf V)
        = .ok (Q, R, P, mg) ∧
      (let Qm : Mat K m m := fun i j => entryCols Q i.val j.val
       let Rm : Mat K m n := fun i j => entryRows R i.val j.val
       let Pm : Mat K n n := fun i j => entryCols P i.val j.val
       matMul (matMul Qm Rm) (cT Pm) = matMul (matMul U (sigmaMat (fun i => ι (S i)))) (cT V) ∧
       matMul (cT Qm) Qm = eye ∧ matMul (cT Pm) Pm = eye ∧
       (∀ i j, j.val < i.val → Rm i j = 0) ∧
       (∀ i j, i.val = j.val → i.val < min m n → Rm i j = ι sb)) := by
  have hprod' : sb ^ (min m n) = ∏ r ∈ Finset.range (min m n), Sx S r := by
    rw [hprod, Finset.prod_range]
    exact Finset.prod_congr rfl fun i _ => (Sx_of_lt S i.val i.isLt).symm
  have htr : truncS (min m n) S = S := funext fun i => if_pos i.isLt
  have := gmd_sound_p hι m n U V S sb (min m n) hp (le_refl _) hU hV (fun i _ => hS i)
    (fun i j hij _ => hmono i j hij) hsb hprod'
  rw [htr] at this
  exact this

end generic

theorem exp_mean_log_pow (p : Nat) (S : Fin p → ℝ) (hp : 0 < p) (hS : ∀ i, 0 < S i) :
    Real.exp ((∑ i, Real.log (S i)) / p) ^ p = ∏ i, S i := by
  have hp' : (p : ℝ) ≠ 0 := Nat.cast_ne_zero.mpr hp.ne'
  rw [← Real.exp_nat_mul, mul_div_cancel₀ _ hp', Real.exp_sum]
  exact Finset.prod_congr rfl (fun i _ => Real.exp_log (hS i))

theorem prod_trunc {q : Nat} (S : Fin q → ℝ) (p : Nat) (hpq : p ≤ q) :
    ∏ i : Fin q, (if i.val < p then S i else 1) = ∏ r ∈ Finset.range p, Sx S r := by
  have e1 : ∏ i : Fin q, (if i.val < p then S i else 1)
      = ∏ r ∈ Finset.range q, (if r < p then Sx S r else 1) := by
    rw [Finset.prod_range]
    exact Finset.prod_congr rfl fun i _ => by rw [Sx_of_lt S i.val i.isLt]
  rw [e1]
  symm
  rw [← Finset.prod_subset (Finset.range_subset_range.mpr hpq)]
  · apply Finset.prod_congr rfl
    intro r hr
    rw [if_pos (Finset.mem_range.mp hr)]
  · intro r _ hr
    rw [if_neg (fun h => hr (Finset.mem_range.mpr h))]

theorem realLike_real : RealLike (RingHom.id ℝ) :=
  ⟨fun x => star_trivial x, fun _ => rfl, fun _ _ => Iff.rfl⟩

/-- comparison of the real parts: the order the complex instantiation of the model uses
    (`instance : LE CF := ⟨fun a b => a.re ≤ b.re⟩` in `Drivers/C20.lean`) -/
@[reducible] def leRe : LE ℂ := ⟨fun a b => a.re ≤ b.re⟩
@[reducible] noncomputable def decLeRe : @DecidableLE ℂ leRe := fun a b => inferInstanceAs (Decidable (a.re ≤ b.re))

theorem realLike_complex : @RealLike ℂ _ _ _ leRe Complex.ofRealHom :=
  @RealLike.mk ℂ _ _ _ leRe Complex.ofRealHom (fun x => Complex.conj_ofReal x)
    (fun x => by show ((Real.sqrt (Complex.ofReal x).re : ℝ) : ℂ) = _; rw [Complex.ofReal_re]; rfl)
    (fun x y => by show (Complex.ofReal x).re ≤ (Complex.ofReal y).re ↔ x ≤ y; rw [Complex.ofReal_re, Complex.ofReal_re])

def exS : Fin (min 2 2) → ℝ := fun i => if i.val = 0 then 4 else 1

/-- The hypotheses of `gmd_sound` at `m = n = 2`, `U = V = 1`, `S = exS`, `σ̄ = 2`, in the order of
    its binders (the users take them by projection). -/
theorem ex_hyps : 0 < min 2 2 ∧ matMul (cT (eye : Mat ℝ 2 2)) eye = eye ∧
    matMul (cT (eye : Mat ℝ 2 2)) eye = eye ∧ (∀ i, 0 < exS i) ∧
    (∀ i j, i ≤ j → exS j ≤ exS i) ∧ (0 : ℝ) < 2 ∧ (2 : ℝ) ^ (min 2 2) = ∏ i, exS i := by
  refine ⟨by decide, eye_orthonormal, eye_orthonormal, ?_, ?_, by norm_num, ?_⟩
  · intro i; unfold exS; split <;> norm_num
  · intro i j hij
    have hij' : i.val ≤ j.val := hij
    unfold exS
    -- of the four cases `j = 0 ≠ i` contradicts `i ≤ j`
    split <;> split <;> first | (exfalso; omega) | norm_num
  · show (2 : ℝ) ^ 2 = ∏ i : Fin 2, exS i
    rw [Fin.prod_univ_two]
    norm_num [exS]

noncomputable def exU : Mat ℂ 2 2 := fun i j => if i = j then Complex.I else 0

theorem exU_unitary : matMul (cT exU) exU = eye := by
  -- `i · 1` is unitary because `conj i · i = 1`
  have e : toM exU = Matrix.diagonal fun _ => Complex.I := rfl
  to_matrix
  rw [e, Matrix.diagonal_conjTranspose, Matrix.diagonal_mul_diagonal]
  simp only [Pi.star_apply, Complex.star_def, Complex.conj_I, neg_mul, Complex.I_mul_I, neg_neg, Matrix.diagonal_one]

end PyPhysim.LinAlg.GmdInv
