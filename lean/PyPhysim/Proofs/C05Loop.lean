import PyPhysim.Model.C05Spec

/-! The repetition loop of one variation against its fold specification (`after`, `freshState`,
`stateOf`): which prefix of the stream it consumes and in which state it ends; and the count behind
every bound on it: where a run has to go on, the repetitions it started from plus the successes it
consumed are below the limit (`startRep_add_oks_lt`). -/
namespace PyPhysim.C05

variable {R : Type}

/-- one outcome applied to the state of a variation: the body of the `while` loop -/
def stepOut (merge : R → R → R) (s : VarState R) : Outcome R → VarState R
  | .ok r => stepOk merge s r
  | .skip => stepSkip s

theorem oks_append (p q : List (Outcome R)) : oks (p ++ q) = oks p ++ oks q := by
  fun_induction oks p with
  | case1 => rfl
  | case2 r os ih => exact congrArg (r :: ·) ih
  | case3 os ih => exact ih

theorem skips_append (p q : List (Outcome R)) : skips (p ++ q) = skips p + skips q := by
  fun_induction skips p with
  | case1 => exact (Nat.zero_add _).symm
  | case2 r os ih => exact ih
  | case3 os ih => exact (congrArg (· + 1) ih).trans (Nat.add_right_comm ..)

theorem after_append (merge : R → R → R) (s : VarState R) (p q : List (Outcome R)) :
    after merge s (p ++ q) = after merge (after merge s p) q := by
  simp only [after, oks_append, skips_append, List.foldl_append, List.length_append, Nat.add_assoc]

theorem after_cons (merge : R → R → R) (s : VarState R) (o : Outcome R) (p : List (Outcome R)) :
    after merge s (o :: p) = after merge (stepOut merge s o) p :=
  (after_append merge s [o] p).trans (by cases o <;> rfl)

theorem oks_length_add_skips (p : List (Outcome R)) : (oks p).length + skips p = p.length := by
  fun_induction oks p with
  | case1 => rfl
  | case2 r os ih => exact (Nat.add_right_comm ..).trans (congrArg (· + 1) ih)
  | case3 os ih => exact congrArg (· + 1) ih

theorem forall_proper_prefix_cons {α : Type} {P : List α → Prop} {a : α} {l : List α} (h0 : P [])
    (h : ∀ p, p <+: l → p ≠ l → P (a :: p)) : ∀ p, p <+: a :: l → p ≠ a :: l → P p := by
  intro p hp hne
  cases p with
  | nil => exact h0
  | cons b p =>
    obtain ⟨rfl, hp'⟩ := List.cons_prefix_cons.mp hp
    exact h p hp' (fun e => hne (congrArg _ e))

theorem loop_stop {merge : R → R → R} {repMax : Nat} {keep : Keep R} {s : VarState R}
    (h : guard repMax keep s = false) (outs : List (Outcome R)) :
    loop merge repMax keep s outs = ⟨s, outs, false⟩ := by
  cases outs with
  | nil => rw [loop, h]
  | cons o os => unfold loop; rw [if_neg (by rw [h]; exact Bool.false_ne_true)]

theorem loop_cons {merge : R → R → R} {repMax : Nat} {keep : Keep R} {s : VarState R}
    (h : guard repMax keep s = true) (o : Outcome R) (os : List (Outcome R)) :
    loop merge repMax keep s (o :: os) = loop merge repMax keep (stepOut merge s o) os := by
  conv => lhs; unfold loop
  rw [if_pos h]; cases o <;> rfl

/-- `e` is how a run over `outs` ended, when `stf p` is the state after the outcomes `p` (if
    there is one yet): `used` was consumed; after every proper prefix of it that had a state
    the guard held; at the end the guard fails, unless the stream ran out with the guard true -/
structure EndsAs (stf : List (Outcome R) → Option (VarState R)) (repMax : Nat) (keep : Keep R)
    (outs : List (Outcome R)) (e : VarEnd R) (used : List (Outcome R)) : Prop where
  split : outs = used ++ e.rest
  final : stf used = some e.st
  running : ∀ p, p <+: used → p ≠ used → ∀ s, stf p = some s → guard repMax keep s = true
  stopped : e.exhausted = false → guard repMax keep e.st = false
  ranOut : e.exhausted = true → e.rest = [] ∧ guard repMax keep e.st = true

theorem EndsAs.cons {stf stf' : List (Outcome R) → Option (VarState R)} {repMax : Nat} {keep : Keep R}
    {outs : List (Outcome R)} {e : VarEnd R} {used : List (Outcome R)} (o : Outcome R)
    (h0 : ∀ s, stf [] = some s → guard repMax keep s = true) (hcons : ∀ p, stf (o :: p) = stf' p)
    (h : EndsAs stf' repMax keep outs e used) : EndsAs stf repMax keep (o :: outs) e (o :: used) where
  split := congrArg (o :: ·) h.split
  final := (hcons used).trans h.final
  running := forall_proper_prefix_cons h0 (fun p hp hne s hs => h.running p hp hne s ((hcons p).symm.trans hs))
  stopped := h.stopped
  ranOut := h.ranOut

theorem loop_spec (merge : R → R → R) (repMax : Nat) (keep : Keep R) :
    ∀ (outs : List (Outcome R)) (s : VarState R),
      ∃ used, EndsAs (fun p => some (after merge s p)) repMax keep outs (loop merge repMax keep s outs) used := by
  intro outs
  induction outs with
  | nil =>
    exact fun s => ⟨[], rfl, rfl, fun _ hp hne => absurd (List.prefix_nil.mp hp) hne, fun h => h, fun h => ⟨rfl, h⟩⟩
  | cons o os ih =>
    intro s
    cases hg : guard repMax keep s with
    | false =>
      rw [loop_stop hg]
      exact ⟨[], rfl, rfl, fun _ hp hne => absurd (List.prefix_nil.mp hp) hne, fun _ => hg, nofun⟩
    | true =>
      obtain ⟨used, h⟩ := ih (stepOut merge s o)
      rw [loop_cons hg]
      exact ⟨o :: used, h.cons o (fun _ hs => Option.some.inj hs ▸ hg) (fun p => congrArg some (after_cons ..))⟩

def shift (k : Nat) (s : VarState R) : VarState R :=
  { s with skipped := s.skipped + k, calls := s.calls + k }

/-- state of a fresh variation after `p`, when `k` skips (and calls) happened before -/
def stK (merge : R → R → R) (k : Nat) (p : List (Outcome R)) : Option (VarState R) :=
  (freshState merge p).map (shift k)

theorem freshState_nil (merge : R → R → R) : freshState merge ([] : List (Outcome R)) = none := rfl

theorem stK_nil (merge : R → R → R) (k : Nat) : stK merge k ([] : List (Outcome R)) = none := rfl

theorem stK_skip (merge : R → R → R) (k : Nat) (p : List (Outcome R)) :
    stK merge k (.skip :: p) = stK merge (k + 1) p := by
  simp only [stK, freshState, oks, skips, List.length_cons]
  cases oks p with
  | nil => rfl
  | cons r rs =>
    show some (VarState.mk _ _ (skips p + 1 + k) (p.length + 1 + k)) = some (VarState.mk _ _ _ _)
    rw [Nat.add_assoc (skips p), Nat.add_assoc p.length, Nat.add_comm 1 k]

theorem stK_ok (merge : R → R → R) (k : Nat) (r : R) (p : List (Outcome R)) :
    stK merge k (.ok r :: p) = some (after merge ⟨r, 1, k, k + 1⟩ p) := by
  show some (VarState.mk _ ((oks p).length + 1) (skips p + k) (p.length + 1 + k)) = some (VarState.mk _ _ _ _)
  rw [Nat.add_comm _ 1, Nat.add_comm _ k, Nat.add_comm _ k, ← Nat.add_assoc k, Nat.add_right_comm k]

theorem stateOf_none (merge : R → R → R) : stateOf merge (none : Option (R × Nat)) = stK merge 0 := by
  funext p
  show freshState merge p = (freshState merge p).map (shift 0)
  cases freshState merge p <;> rfl

def startRep : Option (R × Nat) → Nat
  | some (_, n) => n
  | none => 0

theorem stateOf_spec (merge : R → R → R) (start : Option (R × Nat)) (p : List (Outcome R)) :
    match stateOf merge start p with
    | none => start = none ∧ oks p = []
    | some s => s.rep = startRep start + (oks p).length ∧ s.calls = p.length := by
  cases start with
  | some ar => exact ⟨rfl, Nat.zero_add _⟩
  | none =>
    unfold stateOf freshState
    cases oks p with
    | nil => exact ⟨rfl, rfl⟩
    | cons r rs => exact ⟨(Nat.zero_add _).symm, rfl⟩

theorem stateOf_calls (merge : R → R → R) (start : Option (R × Nat)) (p : List (Outcome R))
    (s : VarState R) (h : stateOf merge start p = some s) : s.calls = p.length := by
  have hp := stateOf_spec merge start p
  rw [h] at hp
  exact hp.2

theorem firstRun_done (merge : R → R → R) (repMax : Nat) (keep : Keep R)
    (outs : List (Outcome R)) (k : Nat) (e : VarEnd R) (h : firstRun merge repMax keep k outs = .done e) :
    ∃ used, EndsAs (stK merge k) repMax keep outs e used := by
  fun_induction firstRun merge repMax keep k outs with
  | case1 k => nomatch h
  | case2 k os ih =>
    obtain ⟨used, hu⟩ := ih h
    exact ⟨.skip :: used, hu.cons .skip (fun _ hs => nomatch hs) (stK_skip merge k)⟩
  | case3 k r os =>
    obtain ⟨used, hu⟩ := loop_spec merge repMax keep os ⟨r, 1, k, k + 1⟩
    cases h
    exact ⟨.ok r :: used, hu.cons (.ok r) (fun _ hs => nomatch hs) (stK_ok merge k r)⟩

theorem firstRun_starved (merge : R → R → R) (repMax : Nat) (keep : Keep R) :
    ∀ (outs : List (Outcome R)) (k c : Nat),
      firstRun merge repMax keep k outs = .starved c → c = k + outs.length ∧ oks outs = [] := by
  intro outs k c h
  fun_induction firstRun merge repMax keep k outs with
  | case1 k => cases h; exact ⟨rfl, rfl⟩
  | case2 k os ih => exact ⟨(ih h).1.trans (Nat.add_right_comm k 1 _), (ih h).2⟩
  | case3 k r os => nomatch h

theorem firstRun_skips_then_ok (merge : R → R → R) (repMax : Nat) (keep : Keep R) (r : R)
    (os : List (Outcome R)) : ∀ (k j : Nat),
      firstRun merge repMax keep j (List.replicate k .skip ++ .ok r :: os)
        = .done (loop merge repMax keep ⟨r, 1, j + k, j + k + 1⟩ os) := by
  intro k
  induction k with
  | zero => exact fun j => rfl
  | succ k ih => exact fun j => Nat.add_right_comm j 1 k ▸ ih (j + 1)

theorem runVariation_done (merge : R → R → R) (repMax : Nat) (keep : Keep R)
    (start : Option (R × Nat)) (outs : List (Outcome R)) (e : VarEnd R)
    (h : runVariation merge repMax keep start outs = .done e) :
    ∃ used, EndsAs (stateOf merge start) repMax keep outs e used := by
  cases start with
  | none =>
    rw [stateOf_none]
    exact firstRun_done merge repMax keep outs 0 e h
  | some ar =>
    cases h
    exact loop_spec merge repMax keep outs ⟨ar.1, ar.2, 0, 0⟩

theorem runVariation_isVarRun (merge : R → R → R) (repMax : Nat) (keep : Keep R)
    (start : Option (R × Nat)) (outs : List (Outcome R)) (e : VarEnd R)
    (h : runVariation merge repMax keep start outs = .done e) (hex : e.exhausted = false) :
    ∃ seg, outs = seg ++ e.rest ∧ IsVarRun merge repMax keep start seg e.st := by
  obtain ⟨used, h1, h2, h3, h4, _⟩ := runVariation_done merge repMax keep start outs e h
  exact ⟨used, h1, h2, h4 hex, h3⟩

theorem isVarRun_fresh_ne_nil (merge : R → R → R) (repMax : Nat) (keep : Keep R)
    (seg : List (Outcome R)) (st : VarState R)
    (h : IsVarRun merge repMax keep none seg st) : seg ≠ [] := by
  rintro rfl
  exact nomatch h.1

/-- once a variation has a state, further outcomes are folded into it -/
theorem stateOf_append (merge : R → R → R) (start : Option (R × Nat)) (p q : List (Outcome R))
    (s : VarState R) (hs : stateOf merge start p = some s) :
    stateOf merge start (p ++ q) = some (after merge s q) := by
  cases start with
  | some ar => cases hs; exact congrArg some (after_append ..)
  | none =>
    -- past the leading skips the state is an `after` (`stK_ok`), to which `after_append` applies
    rw [stateOf_none] at hs ⊢
    generalize 0 = k at hs ⊢
    induction p generalizing k with
    | nil => cases hs
    | cons o p ih =>
      cases o with
      | skip => exact stK_skip merge k _ ▸ ih _ (stK_skip merge k p ▸ hs)
      | ok r =>
        cases (stK_ok merge k r p).symm.trans hs
        exact (stK_ok ..).trans (congrArg some (after_append ..))

/-- Where a run has to go on — no repetition has returned results yet, or the guard holds — the
    repetitions it started from and the successes it consumed are below the limit. -/
theorem startRep_add_oks_lt {merge : R → R → R} {repMax : Nat} {keep : Keep R} {start : Option (R × Nat)}
    {p : List (Outcome R)}
    (h : stateOf merge start p = none ∨ ∃ s, stateOf merge start p = some s ∧ guard repMax keep s = true) :
    startRep start + (oks p).length < max 1 repMax := by
  have hp := stateOf_spec merge start p
  rcases h with hn | ⟨s, hs, hg⟩
  · rw [hn] at hp
    rw [hp.1, hp.2]
    exact Nat.lt_of_lt_of_le Nat.zero_lt_one (Nat.le_max_left _ _)
  · rw [hs] at hp
    rw [← hp.1]
    exact Nat.lt_of_lt_of_le (of_decide_eq_true (Bool.and_eq_true_iff.mp hg).2) (Nat.le_max_right _ _)

theorem startRep_add_oks_le {merge : R → R → R} {repMax : Nat} {keep : Keep R} {start : Option (R × Nat)}
    {p : List (Outcome R)} (hp : p ≠ [])
    (hrun : ∀ q, q <+: p → q ≠ p → ∀ s, stateOf merge start q = some s → guard repMax keep s = true) :
    startRep start + (oks p).length ≤ max 1 repMax := by
  obtain ⟨q, o, rfl⟩ := (List.eq_nil_or_concat p).resolve_left hp
  rw [List.concat_eq_append] at hrun ⊢
  have hq : startRep start + (oks q).length < max 1 repMax := startRep_add_oks_lt <| by
    cases hq : stateOf merge start q with
    | none => exact .inl rfl
    | some s =>
      exact .inr ⟨s, rfl, hrun q (List.prefix_append q [o])
        (fun e => List.cons_ne_nil o [] (List.self_eq_append_right.mp e)) s hq⟩
  -- the last outcome adds at most one success
  rw [oks_append, List.length_append]
  cases o
  · exact hq
  · exact Nat.le_of_lt hq

theorem oks_used_le (merge : R → R → R) (repMax : Nat) (keep : Keep R) (start : Option (R × Nat))
    (used : List (Outcome R))
    (hrun : ∀ q, q <+: used → q ≠ used → ∀ s', stateOf merge start q = some s' → guard repMax keep s' = true) :
    (oks used).length ≤ max 1 repMax := by
  cases used with
  | nil => exact Nat.zero_le _
  | cons o os => exact Nat.le_trans (Nat.le_add_left _ _) (startRep_add_oks_le (List.cons_ne_nil o os) hrun)

theorem rep_le_of_running (merge : R → R → R) (repMax : Nat) (keep : Keep R) (start : Option (R × Nat))
    (p : List (Outcome R)) (s : VarState R) (hrun : ∀ q, q <+: p → q ≠ p → ∀ s', stateOf merge start q = some s' → guard repMax keep s' = true)
    (hs : stateOf merge start p = some s) (hstart : ∀ a n, start = some (a, n) → n ≤ repMax)
    (hmax : 1 ≤ repMax) : s.rep ≤ repMax := by
  have hp := stateOf_spec merge start p
  rw [hs] at hp
  rw [hp.1]
  cases p with
  | nil =>
    cases start with
    | none => cases hs
    | some ar => exact hstart ar.1 ar.2 rfl
  | cons o os =>
    exact Nat.le_trans (startRep_add_oks_le (List.cons_ne_nil o os) hrun)
      (Nat.max_le.mpr ⟨hmax, Nat.le_refl _⟩)

theorem isVarRun_at_limit (merge : R → R → R) (repMax : Nat) (keep : Keep R) (a : R) (n : Nat)
    (seg : List (Outcome R)) (st : VarState R) (hn : repMax ≤ n)
    (h : IsVarRun merge repMax keep (some (a, n)) seg st) : seg = [] ∧ st = ⟨a, n, 0, 0⟩ := by
  cases seg with
  | nil => exact ⟨rfl, (Option.some.inj h.1).symm⟩
  | cons o os =>
    have hg := h.2.2 [] List.nil_prefix (List.cons_ne_nil o os).symm ⟨a, n, 0, 0⟩ rfl
    exact absurd (of_decide_eq_true (Bool.and_eq_true_iff.mp hg).2) (Nat.not_lt.mpr hn)

end PyPhysim.C05
