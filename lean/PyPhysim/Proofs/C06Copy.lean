import PyPhysim.Proofs.C06Heap

/-! C06: `merge_all_results` into an empty object yields a deep copy of the operand; list lemmas
for the deep copy of a whole result set. -/
namespace PyPhysim.C06M
open PyPhysim.Proto

/-- list address and element addresses of a dictionary entry are allocated -/
def ValidEntry (m : Mach) (e : String × Nat) : Prop :=
  e.2 < m.lists.length ∧ ∀ a ∈ listAt m e.2, a < m.res.length

theorem viewList_of_validEntry {s : Nat} {m m' : Mach} (hf : Frame (fun _ => False) s m m') {e : String × Nat}
    (hv : ValidEntry m e) : viewList m' e.2 = viewList m e.2 :=
  viewList_of_frame hf hv.1 fun a ha => ⟨hv.2 a ha, id⟩

theorem ValidEntry.of_frame {s : Nat} {m m' : Mach} (hf : Frame (fun _ => False) s m m') {e : String × Nat}
    (hv : ValidEntry m e) : ValidEntry m' e :=
  ⟨Nat.lt_of_lt_of_le hv.1 hf.listsLen, fun a ha => by
    rw [hf.listAt hv.1] at ha
    exact Nat.lt_of_lt_of_le (hv.2 a ha) hf.resLen⟩

/-- one round of the copying loop at the level of `view` -/
theorem copyEntry_view (s : Nat) (m : Mach) (nm : String) (l : Nat) (hs : s < m.sims.length)
    (hv : ValidEntry m (nm, l)) :
    Frame (fun _ => False) s m (copyEntry s m nm l)
      ∧ dictOf (copyEntry s m nm l) s = dictSet (dictOf m s) nm m.lists.length
      ∧ ValidEntry (copyEntry s m nm l) (nm, m.lists.length)
      ∧ viewList (copyEntry s m nm l) m.lists.length = viewList m l := by
  obtain ⟨rs, h, hrs⟩ := copyEntry_eq s m nm l
  rw [h]
  refine ⟨frame_allocEntry _ m s rs _ nm, dictOf_allocEntry hs rs _ nm, ⟨?_, fun a ha => ?_⟩, ?_⟩
  · show m.lists.length < (m.lists ++ [_]).length
    rw [List.length_append]; exact Nat.lt_add_one _
  · show a < (m.res ++ rs).length
    rw [listAt_allocEntry] at ha
    rw [List.length_append]
    exact (List.mem_range'_1.mp ha).2
  · have := filterMap_alloc (pre := m.res) (rs := rs) (xs := [])
    rw [List.append_nil] at this
    rw [viewList, listAt_allocEntry, ← hrs hv.2]
    exact this

theorem copyDict_view (s : Nat) (d : Dict) (m : Mach) (hs : s < m.sims.length)
    (hvs : ∀ e ∈ dictOf m s, ValidEntry m e) (hvd : ∀ e ∈ d, ValidEntry m e)
    (hnew : ∀ e ∈ d, dictGet? (dictOf m s) e.1 = none) (hnd : (d.map (·.1)).Nodup) :
    view (copyDict s m d) s = view m s ++ d.map (fun e => (e.1, viewList m e.2)) := by
  induction d generalizing m with
  | nil => simp [copyDict]
  | cons e rest ih =>
    obtain ⟨nm, l⟩ := e
    obtain ⟨hstep, hdict, hnewentry, hview_new⟩ := copyEntry_view s m nm l hs (hvd _ List.mem_cons_self)
    rw [dictSet_append (hnew _ List.mem_cons_self)] at hdict
    have hvr : ∀ e ∈ rest, ValidEntry m e := fun e he => hvd e (List.mem_cons_of_mem _ he)
    rw [copyDict_cons]
    generalize copyEntry s m nm l = m' at hstep hdict hnewentry hview_new
    have hnd' : nm ∉ rest.map (·.1) ∧ (rest.map (·.1)).Nodup := List.nodup_cons.mp hnd
    rw [ih m' (by rw [hstep.simsLen]; exact hs)
      (by
        intro e he
        rw [hdict] at he
        rcases List.mem_append.mp he with h | h
        · exact ValidEntry.of_frame hstep (hvs e h)
        · exact List.mem_singleton.mp h ▸ hnewentry)
      (fun e he => ValidEntry.of_frame hstep (hvr e he))
      (by
        intro e he
        rw [hdict]
        exact dictGet?_append_none (hnew e (List.mem_cons_of_mem _ he))
          (fun heq => hnd'.1 (List.mem_map.mpr ⟨e, he, heq.symm⟩)))
      hnd'.2]
    simp only [view, hdict, List.map_append, List.map_cons, List.map_nil, List.append_assoc,
      List.singleton_append, hview_new]
    congr 1
    · apply List.map_congr_left
      intro e he
      rw [viewList_of_validEntry hstep (hvs e he)]
    · congr 1
      apply List.map_congr_left
      intro e he
      rw [viewList_of_validEntry hstep (hvr e he)]

theorem mem_dedupNat (l : List Nat) (a : Nat) : a ∈ dedupNat l ↔ a ∈ l := by
  fun_induction dedupNat l with
  | case1 => exact Iff.rfl
  | case2 x xs h ih =>
    rw [List.mem_cons, ← ih]
    exact (or_iff_right_of_imp fun e => e ▸ h).symm
  | case3 x xs h ih => rw [List.mem_cons, List.mem_cons, ih]

theorem getElem?_filterMap_posOf {β} (g : Nat → Option β) {l : List Nat} (h : ∀ b ∈ l, (g b).isSome)
    {a : Nat} (ha : a ∈ l) : (l.filterMap g)[posOf a l]? = g a := by
  fun_induction posOf a l with
  | case1 => cases ha
  | case2 =>
    rw [List.filterMap_cons_some (Option.some_get (h a List.mem_cons_self)).symm, List.getElem?_cons_zero,
      Option.some_get]
  | case3 x xs e ih =>
    rw [List.filterMap_cons_some (Option.some_get (h x List.mem_cons_self)).symm, List.getElem?_cons_succ]
    exact ih (fun b hb => h b (List.mem_cons_of_mem _ hb))
      ((List.mem_cons.mp ha).resolve_left (fun e' => e e'.symm))

end PyPhysim.C06M
