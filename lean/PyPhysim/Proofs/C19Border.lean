import PyPhysim.Proofs.C19Place

set_option linter.unusedSectionVars false

/-! C19 — the repaired `get_border_point`: soundness (on an edge, on the ray, first),
completeness for polygons seen counter-clockwise from the centre, in particular for every polygon
with that property placed by a unit rotation at any position; covariance of the search under a
positive scaling of the polygon (`minOpt_map`, `crossStep_scale`, `edgeStep_scale`). -/
namespace PyPhysim.C19

section lists
variable {β : Type}

theorem mem_adjPairs_cons {e : β × β} (x : β) : ∀ {l : List β}, e ∈ adjPairs l → e ∈ adjPairs (x :: l)
  | [], h => absurd h List.not_mem_nil
  | _ :: _, h => List.mem_cons_of_mem _ h

theorem adjPairs_suffix (l₁ l₂ : List β) (e : β × β) (h : e ∈ adjPairs l₂) : e ∈ adjPairs (l₁ ++ l₂) := by
  induction l₁ with
  | nil => exact h
  | cons x t ih => exact mem_adjPairs_cons x ih
end lists

section ring
variable {α : Type} [CommRing α]
theorem cross_smul_sub (a b d : Pt α) :
    psub (smul (cross a d) b) (smul (cross b d) a) = smul (cross a b) d := by
  simp only [cross, smul, psub, Prod.mk.injEq]
  constructor <;> ring

theorem cross_seg (a b : Pt α) (σ : α) :
    cross a (padd a (smul σ (psub b a))) = σ * cross a b ∧
    cross b (padd a (smul σ (psub b a))) = (σ - 1) * cross a b := by
  simp only [cross, padd, smul, psub]
  constructor <;> ring
end ring

section field
variable {α : Type} [Field α] [LinearOrder α] [IsStrictOrderedRing α]

theorem minOpt_eq_min? : ∀ l : List α, minOpt l = l.min?
  | [] => rfl
  | x :: xs => by
    simp only [minOpt, minOpt_eq_min? xs, List.min?_cons]
    cases xs.min? with
    | none => rfl
    | some m =>
      rcases lt_or_ge m x with h | h
      · exact congrArg some ((if_pos h).trans (min_eq_right h.le).symm)
      · exact congrArg some ((if_neg h.not_gt).trans (min_eq_left h).symm)

theorem minOpt_map {f : α → α} (hf : StrictMono f) : ∀ l : List α, minOpt (l.map f) = (minOpt l).map f
  | [] => rfl
  | x :: xs => by
    simp only [List.map_cons, minOpt, minOpt_map hf xs]
    cases minOpt xs with
    | none => rfl
    | some m => simp only [Option.map_some, hf.lt_iff_lt, apply_ite f]

/-- `edgeStep` on the three numbers it looks at: `s = cross a d`, `s' = cross b d` (which sides of the
    line of `d` the end points are on) and `c = cross a b`.  The end points must be on opposite closed
    sides and not both on the line. -/
def crossStep (s s' c : α) : Option α :=
  if ((0 ≤ s ∧ s' ≤ 0) ∨ (s ≤ 0 ∧ 0 ≤ s')) ∧ s ≠ s' then
    if 0 < c / (s - s') then some (c / (s - s')) else none
  else none

theorem edgeStep_eq (d a b : Pt α) : edgeStep d (a, b) = crossStep (cross a d) (cross b d) (cross a b) := by
  simp only [edgeStep, crossStep, Nat.cast_zero, lt_or_lt_iff_ne]

theorem crossStep_eq_some {s s' c t : α} (h : crossStep s s' c = some t) :
    0 < t ∧ t = c / (s - s') ∧ s - s' ≠ 0 ∧ 0 ≤ s / (s - s') ∧ s / (s - s') ≤ 1 := by
  rw [crossStep, Option.ite_none_right_eq_some, Option.ite_none_right_eq_some, Option.some.injEq] at h
  obtain ⟨hc, ht, rfl⟩ := h
  have hD : s - s' ≠ 0 := sub_ne_zero.mpr hc.2
  refine ⟨ht, rfl, hD, ?_⟩
  rcases hc.1 with ⟨h1, h2⟩ | ⟨h1, h2⟩
  · have hD0 : 0 < s - s' := lt_of_le_of_ne (sub_nonneg.mpr (h2.trans h1)) hD.symm
    exact ⟨div_nonneg h1 hD0.le, (div_le_one hD0).mpr (le_sub_self_iff s |>.mpr h2)⟩
  · have hD0 : s - s' < 0 := lt_of_le_of_ne (sub_nonpos.mpr (h1.trans h2)) hD
    exact ⟨div_nonneg_of_nonpos h1 hD0.le, (div_le_one_of_neg hD0).mpr (sub_le_self s h2)⟩

theorem crossStep_of_param {s s' c t σ : α} (ht : 0 < t) (hc : c ≠ 0) (h0 : 0 ≤ σ) (h1 : σ ≤ 1)
    (e1 : t * s = σ * c) (e2 : t * s' = (σ - 1) * c) : crossStep s s' c = some t := by
  have eD : c = t * (s - s') := by rw [mul_sub, e1, e2, ← sub_mul, sub_sub_cancel, one_mul]
  have hD : s - s' ≠ 0 := right_ne_zero_of_mul (eD ▸ hc)
  -- `t·s = σ·c` and `t·s' = (σ-1)·c` are on opposite sides, whichever sign `c` has, and `t > 0`
  have h1' := sub_nonpos.mpr h1
  have hg : (0 ≤ s ∧ s' ≤ 0) ∨ (s ≤ 0 ∧ 0 ≤ s') := (le_total 0 c).imp
    (fun hp => ⟨nonneg_of_mul_nonneg_right ((mul_nonneg h0 hp).trans_eq e1.symm) ht,
      nonpos_of_mul_nonpos_right (e2.trans_le (mul_nonpos_of_nonpos_of_nonneg h1' hp)) ht⟩)
    (fun hn => ⟨nonpos_of_mul_nonpos_right (e1.trans_le (mul_nonpos_of_nonneg_of_nonpos h0 hn)) ht,
      nonneg_of_mul_nonneg_right ((mul_nonneg_of_nonpos_of_nonpos h1' hn).trans_eq e2.symm) ht⟩)
  rw [crossStep, if_pos ⟨hg, sub_ne_zero.mp hD⟩, (div_eq_iff hD).mpr eD, if_pos ht]

theorem mul_nonpos_iff_of_pos_left {k x : α} (hk : 0 < k) : k * x ≤ 0 ↔ x ≤ 0 := by
  rw [← mul_le_mul_iff_right₀ hk (b := x), mul_zero]

theorem crossStep_scale {k : α} (hk : 0 < k) (s s' c : α) :
    crossStep (k * s) (k * s') (k * k * c) = (crossStep s s' c).map (fun t => k * t) := by
  -- both tests are unchanged (`k·s` has the sign of `s`, `k·s ≠ k·s' ↔ s ≠ s'`), and the value is
  -- `k·k·c / (k·(s − s')) = k·(c / (s − s'))`, positive iff `c / (s − s')` is
  have hk0 := hk.ne'
  simp only [crossStep, mul_nonneg_iff_of_pos_left hk, mul_nonpos_iff_of_pos_left hk,
    (mul_right_injective₀ hk0).ne_iff, ← mul_sub, mul_assoc, mul_div_mul_left _ _ hk0, mul_div_assoc,
    mul_pos_iff_of_pos_left hk, apply_ite (Option.map fun t => k * t), Option.map_some, Option.map_none]

theorem edgeStep_scale {k : α} (hk : 0 < k) (d a b : Pt α) :
    edgeStep d (smul k a, smul k b) = (edgeStep d (a, b)).map (fun t => k * t) := by
  rw [edgeStep_eq, edgeStep_eq, cross_smul_left, cross_smul_left, cross_smul, crossStep_scale hk]

/-- one coordinate of `cross_smul_sub`, divided by `s - s'` -/
theorem crossing_coord {s s' c x y z : α} (hD : s - s' ≠ 0) (h : s * y - s' * x = c * z) :
    c / (s - s') * z = x + s / (s - s') * (y - x) := by
  rw [div_mul_eq_mul_div, ← h, div_mul_eq_mul_div, add_div' _ _ _ hD]
  congr 1
  ring

theorem edgeStep_sound (d a b : Pt α) (t : α) (h : edgeStep d (a, b) = some t) :
    0 < t ∧ OnSegment a b (smul t d) := by
  rw [edgeStep_eq] at h
  obtain ⟨ht, rfl, hD, h0, h1⟩ := crossStep_eq_some h
  have hc := Prod.ext_iff.mp (cross_smul_sub a b d)
  exact ⟨ht, _, Nat.cast_zero (R := α) ▸ h0, Nat.cast_one (R := α) ▸ h1,
    Prod.ext (crossing_coord hD hc.1) (crossing_coord hD hc.2)⟩

theorem edgeStep_complete (d a b : Pt α) (hab : cross a b ≠ 0) (t' : α) (ht' : 0 < t')
    (hseg : OnSegment a b (smul t' d)) : edgeStep d (a, b) = some t' := by
  obtain ⟨σ, h0, h1, hp⟩ := hseg
  -- the equation of the point, crossed with `a` and with `b`
  have e1 := congrArg (cross a) hp
  have e2 := congrArg (cross b) hp
  simp only [cross_smul_right, cross_seg a b σ] at e1 e2
  simp only [Nat.cast_zero, Nat.cast_one] at h0 h1
  rw [edgeStep_eq, crossStep_of_param ht' hab h0 h1 e1 e2]

theorem borderStep_sound {rel : List (Pt α)} {d : Pt α} {t : α} (h : borderStep rel d = some t) :
    0 < t ∧ OnBoundary rel (smul t d) ∧
      ∀ e ∈ cyc rel, cross e.1 e.2 ≠ 0 → ∀ t', 0 < t' → OnSegment e.1 e.2 (smul t' d) → t ≤ t' := by
  unfold borderStep at h
  obtain ⟨hmem, hmin⟩ := List.min?_eq_some_iff.mp ((minOpt_eq_min? _).symm.trans h)
  obtain ⟨e, he, hes⟩ := List.mem_filterMap.mp hmem
  obtain ⟨ht, hseg⟩ := edgeStep_sound d e.1 e.2 t hes
  refine ⟨ht, ⟨e, he, hseg⟩, ?_⟩
  intro e' he' hne t' ht' hseg'
  have := edgeStep_complete d e'.1 e'.2 hne t' ht' hseg'
  exact hmin t' (List.mem_filterMap.mpr ⟨e', he', this⟩)

theorem ccw_trans (d u v w : Pt α) (hu : 0 < cross u d) (hv : 0 < cross v d) (hw : 0 < cross w d)
    (huv : 0 < cross u v) (hvw : 0 < cross v w) : 0 < cross u w := by
  -- `cross u w · cross v d = cross u v · cross w d + cross v w · cross u d > 0`
  have hpos := (add_pos (mul_pos huv hw) (mul_pos hvw hu)).trans_eq (cross_three u v w d).symm
  exact (mul_pos_iff_of_pos_right hv).mp hpos

theorem chain_ccw (d : Pt α) : ∀ (x : Pt α) (rest : List (Pt α)),
    (∀ v ∈ x :: rest, 0 < cross v d) → (∀ e ∈ adjPairs (x :: rest), 0 < cross e.1 e.2) →
    ∀ y ∈ rest, 0 < cross x y
  | _, [], _, _, y, hy => absurd hy List.not_mem_nil
  | x, y' :: r, hf, hadj, y, hy => by
    have hxy' : 0 < cross x y' := hadj (x, y') List.mem_cons_self
    rcases List.mem_cons.mp hy with rfl | hy
    · exact hxy'
    · have ih := chain_ccw d y' r (fun v hv => hf v (List.mem_cons_of_mem _ hv))
        (fun e he => hadj e (List.mem_cons_of_mem _ he)) y hy
      exact ccw_trans d x y' y (hf x List.mem_cons_self) (hf y' (List.mem_cons_of_mem _ List.mem_cons_self))
        (hf y (List.mem_cons_of_mem _ (List.mem_cons_of_mem _ hy))) hxy' ih

theorem exists_cross_nonpos (rel : List (Pt α)) (hne : rel ≠ []) (hstar : StarCCW rel) (d : Pt α) :
    ∃ v ∈ rel, cross v d ≤ 0 := by
  -- otherwise going once round by counter-clockwise steps inside an open half-plane would put the
  -- first vertex strictly clockwise of itself
  by_contra hcon
  push Not at hcon
  obtain ⟨a, t, rfl⟩ := List.exists_cons_of_ne_nil hne
  have hf : ∀ v ∈ a :: (t ++ [a]), 0 < cross v d := by
    intro v hv
    rw [← List.cons_append, List.mem_append, List.mem_singleton] at hv
    exact hv.elim (hcon v) fun h => h ▸ hcon a List.mem_cons_self
  have := chain_ccw d a (t ++ [a]) hf (fun e he => Nat.cast_zero (R := α) ▸ hstar e he) a (by simp)
  exact lt_irrefl _ (cross_self a ▸ this)

theorem descent_linear (f : Pt α → α) : ∀ (x : Pt α) (rest : List (Pt α)), 0 ≤ f x →
    (∃ y ∈ rest, f y ≤ 0) → ∃ e ∈ adjPairs (x :: rest), 0 ≤ f e.1 ∧ f e.2 ≤ 0
  | x, y' :: r, hx, ⟨y, hy, hfy⟩ => by
    rcases le_or_gt (f y') 0 with h | h
    · exact ⟨(x, y'), List.mem_cons_self, hx, h⟩
    · obtain ⟨e, he, h12⟩ := descent_linear f y' r h.le
        ⟨y, (List.mem_cons.mp hy).resolve_left fun e => (e ▸ hfy).not_gt h, hfy⟩
      exact ⟨e, List.mem_cons_of_mem _ he, h12⟩

theorem descent_cyclic (f : Pt α → α) : ∀ rel : List (Pt α), (∃ x ∈ rel, 0 ≤ f x) → (∃ y ∈ rel, f y ≤ 0) →
    ∃ e ∈ cyc rel, 0 ≤ f e.1 ∧ f e.2 ≤ 0
  | a :: t, ⟨x, hxmem, hfx⟩, ⟨y, hymem, hfy⟩ => by
    rcases le_or_gt 0 (f a) with ha | ha
    · -- start at `a`; the step down happens before or at the closing copy of `a`
      refine descent_linear f a (t ++ [a]) ha ⟨y, ?_, hfy⟩
      rw [List.mem_append, List.mem_singleton, or_comm]
      exact List.mem_cons.mp hymem
    · -- `f a < 0`: start at a vertex `x` of the tail, the closing copy of `a` is below
      have hxt : x ∈ t := (List.mem_cons.mp hxmem).resolve_left fun e => (e ▸ hfx).not_gt ha
      obtain ⟨l₁, l₂, rfl⟩ := List.append_of_mem hxt
      obtain ⟨e, he, h12⟩ := descent_linear f x (l₂ ++ [a]) hfx ⟨a, List.mem_append_right _ List.mem_cons_self, ha.le⟩
      refine ⟨e, ?_, h12⟩
      rw [cyc, List.cons_append, List.append_assoc]
      exact adjPairs_suffix (a :: l₁) (x :: (l₂ ++ [a])) e he

theorem borderStep_exists (rel : List (Pt α)) (hne : rel ≠ []) (hstar : StarCCW rel) (d : Pt α)
    (hd : d ≠ (0, 0)) : ∃ t, borderStep rel d = some t := by
  -- some vertex is on the non-negative side and some on the non-positive side of the line of `d`,
  -- so some edge steps down from the one to the other
  obtain ⟨x, hx, h⟩ := exists_cross_nonpos rel hne hstar (smul (-1) d)
  simp only [cross_smul_right, neg_one_mul, neg_nonpos] at h
  obtain ⟨e, he, h1, h2⟩ := descent_cyclic (fun v => cross v d) rel ⟨x, hx, h⟩ (exists_cross_nonpos rel hne hstar d)
  have hC : 0 < cross e.1 e.2 := Nat.cast_zero (R := α) ▸ hstar e he
  -- the two end points are not both on the line: `cross e.1 e.2 • d` would vanish
  have hlt : cross e.2 d < cross e.1 d := by
    refine lt_of_le_of_ne (h2.trans h1) fun heq => hd ?_
    have z1 : cross e.1 d = 0 := le_antisymm (heq ▸ h2) h1
    have h := cross_smul_sub e.1 e.2 d
    simp only [heq, z1, smul, psub, zero_mul, sub_zero, Prod.mk.injEq] at h
    exact Prod.ext ((mul_eq_zero.mp h.1.symm).resolve_left hC.ne') ((mul_eq_zero.mp h.2.symm).resolve_left hC.ne')
  -- so the edge passes both tests of `crossStep`
  have hs := (edgeStep_eq d e.1 e.2).trans ((if_pos ⟨Or.inl ⟨h1, h2⟩, hlt.ne'⟩).trans
    (if_pos (div_pos hC (sub_pos.mpr hlt))))
  exact Option.ne_none_iff_exists'.mp fun hm => List.ne_nil_of_mem (List.mem_filterMap.mpr ⟨e, he, hs⟩)
    (List.min?_eq_none_iff.mp ((minOpt_eq_min? _).symm.trans hm))

theorem borderPoint_exists (pos : Pt α) (verts : List (Pt α)) (hne : verts ≠ [])
    (hstar : StarCCW (verts.map (fun v => psub v pos))) (d : Pt α) (hd : d ≠ (0, 0)) (ratio : α) :
    ∃ p, borderPoint pos verts d ratio = .ok p := by
  obtain ⟨t, ht⟩ := borderStep_exists _ (by simpa using hne) hstar d hd
  unfold borderPoint
  rw [ht]
  exact ⟨_, rfl⟩

theorem placed_border_point_exists {base : List (Pt α)} (hne : base ≠ []) (hstar : StarCCW base)
    (pos u d : Pt α) (hu : norm2 u = 1) (hd : d ≠ (0, 0)) (ratio : α) :
    ∃ p, borderPoint pos (place pos u base) d ratio = .ok p := by
  refine borderPoint_exists pos (place pos u base) (fun h => hne (List.map_eq_nil_iff.mp h)) ?_ d hd ratio
  rw [place_rel]
  exact starCCW_rot _ u hu hstar
end field

end PyPhysim.C19
