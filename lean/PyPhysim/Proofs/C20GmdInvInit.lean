import PyPhysim.Proofs.C20Bridge
import PyPhysim.Proofs.C20GmdInvLoop

/-!
`gmd_eq`: the model `gmd` is `initR` (the `p < 2` special case), the sweep, `finishM`.
`init_shape`, `init_inv`: the initial state built from a full SVD `U Σ Vᴴ` over `K` (unitary `U`,
`V`, positive singular values, `σ̄^p = ∏ S`) has the right shape and satisfies `Inv 0` for
`A = U Σ_p Vᴴ`, where `Σ_p` keeps the first `p` singular values (`truncS`).  Before them, what the views
of `C20GmdInvArr` read in arrays given by a function (`getD_ofFn` … `colv_colsOf_ge`, `getD_replicate`): only
the initial state is built that way.
-/
set_option linter.unusedSectionVars false
namespace PyPhysim.LinAlg.GmdInv
open PyPhysim.Proto PyPhysim.LinAlg Matrix

variable {K : Type} [Field K] [StarRing K] [RSqrt K] [LE K] [DecidableLE K]

/-- `S` continued by `0` beyond its length -/
def Sx {p : Nat} (S : Fin p → ℝ) : Nat → ℝ := fun r => if h : r < p then S ⟨r, h⟩ else 0

theorem Sx_of_lt {p : Nat} (S : Fin p → ℝ) (r : Nat) (h : r < p) : Sx S r = S ⟨r, h⟩ := dif_pos h

/-- an array given by a function, read at any index (the companion of `getD_set`) -/
theorem getD_ofFn {β : Type} {n : Nat} (f : Fin n → β) (j : Nat) (d : β) :
    ((Array.ofFn f)[j]?).getD d = if h : j < n then f ⟨j, h⟩ else d := by
  rw [Array.getElem?_ofFn]
  split <;> rfl

theorem vget_ofFn (ι : ℝ →+* K) {p : Nat} (S : Fin p → ℝ) :
    vget (Array.ofFn (fun i => ι (S i))) = fun r => ι (Sx S r) := by
  funext r
  rw [vget, getD_ofFn, Sx, apply_dite ι, ι.map_zero]

theorem nget_range (p r : Nat) : nget (Array.range p) r = if r < p then r else 0 := by
  unfold nget
  by_cases h : r < p <;> simp [h]

theorem cget_colsOf {r c : Nat} (M : Mat K r c) (j : Nat) (hj : j < c) :
    cget (colsOf M) j = Array.ofFn (fun i : Fin r => M i ⟨j, hj⟩) :=
  (getD_ofFn _ j #[]).trans (dif_pos hj)

theorem entryCols_colsOf {r c : Nat} (M : Mat K r c) (i j : Nat) (hi : i < r) (hj : j < c) :
    entryCols (colsOf M) i j = M ⟨i, hi⟩ ⟨j, hj⟩ := by
  rw [entryCols_eq, cget_colsOf M j hj]
  exact (getD_ofFn _ i 0).trans (dif_pos hi)

theorem colv_colsOf {r c : Nat} (M : Mat K r c) (j : Nat) (hj : j < c) :
    colv r (entryCols (colsOf M)) j = fun i => M i ⟨j, hj⟩ := by
  -- `colv` first: left to the unifier, `entryCols` is unfolded before it
  unfold colv
  funext i
  exact entryCols_colsOf M i.val j i.isLt hj

theorem colv_colsOf_ge {r c : Nat} (M : Mat K r c) (j : Nat) (hj : c ≤ j) :
    colv r (entryCols (colsOf M)) j = 0 := by
  unfold colv
  funext i
  rw [entryCols_eq, cget, colsOf, getD_ofFn, dif_neg (Nat.not_lt_of_le hj)]
  rfl

/-- a constant array, read at any index -/
theorem getD_replicate {β : Type} (k : Nat) (x : β) (j : Nat) (d : β) :
    ((Array.replicate k x)[j]?).getD d = if j < k then x else d := by
  rw [Array.getElem?_replicate]
  split <;> rfl

/-- initial `R`: zeros, with `R[0, 0] = d[0]` when `p < 2` -/
def initR (m n p : Nat) (S : Array K) : Except PyErr (Array (Array K)) :=
  (if p < 2 then do
      let d0 ← idx S 0
      let row ← idx (Array.replicate m (Array.replicate n (0 : K))) 0
      let row ← upd row 0 d0
      upd (Array.replicate m (Array.replicate n (0 : K))) 0 row
    else pure (Array.replicate m (Array.replicate n (0 : K))))

abbrev st0 (p : Nat) (R0 : Array (Array K)) (Ucols : Array (Array K)) (S : Array K)
    (Vcols : Array (Array K)) : GmdState K :=
  { d := S, z := Array.replicate (p - 1) 0, R := R0, P := Vcols, Q := Ucols,
    perm := Array.range p, invperm := Array.range p, large := 1, small := p - 1, margin := 1 }

theorem gmd_eq (m n p : Nat) (sb : K) (Ucols : Array (Array K)) (S : Array K) (Vcols : Array (Array K))
    (hp : 1 ≤ p) :
    gmd m n p sb Ucols S Vcols = (do
      let R0 ← initR m n p S
      let st ← (List.range (p - 1)).foldlM (fun st k => gmdStep sb k st) (st0 p R0 Ucols S Vcols)
      finishM p sb st) := by
  have : ¬ p < 1 := Nat.not_lt_of_le hp
  unfold gmd
  simp only [this, if_false]
  rfl

theorem initR_ok (m n p : Nat) (S : Array K) (hp : 1 ≤ p) (hpm : p ≤ m) (hpn : p ≤ n) (hS : p ≤ S.size) :
    ∃ R0, initR m n p S = .ok R0 ∧ Rect m n R0 ∧
      (∀ a b, entryRows R0 a b ≠ 0 → a = p - 1 ∧ b = p - 1) := by
  have hc : ∀ a, cget (Array.replicate m (Array.replicate n (0 : K))) a = if a < m then Array.replicate n 0 else #[] :=
    fun a => getD_replicate m _ a #[]
  have hrect : Rect m n (Array.replicate m (Array.replicate n (0 : K))) :=
    ⟨Array.size_replicate, fun i hi => by rw [hc, if_pos hi]; exact Array.size_replicate⟩
  have hz : ∀ a b, entryRows (Array.replicate m (Array.replicate n (0 : K))) a b = 0 := fun a b => by
    rw [entryRows_eq, hc]
    split
    · exact (getD_replicate n 0 b 0).trans (ite_self 0)
    · rfl
  have h0m : 0 < m := Nat.lt_of_lt_of_le hp hpm
  have h0n : 0 < n := Nat.lt_of_lt_of_le hp hpn
  by_cases h2 : p < 2
  · refine ⟨setE _ 0 0 (vget S 0), ?_, hrect.setE 0 0 _ h0m, fun a b hne => ?_⟩
    · rw [initR, if_pos h2, idx_v _ _ (Nat.lt_of_lt_of_le hp hS), ok_bind]
      exact setE_ok hrect h0m h0n _
    · rw [entryRows_setE hrect h0m h0n, hz] at hne
      -- `p = 1`
      rw [Nat.le_antisymm (Nat.le_of_lt_succ h2) hp]
      exact of_not_not fun hab => hne (if_neg hab)
  · exact ⟨_, by rw [initR, if_neg h2]; rfl, hrect, fun a b hne => absurd (hz a b) hne⟩

theorem init_shape (m n p q : Nat) (R0 : Array (Array K)) (U : Mat K m m) (V : Mat K n n) (S : Fin q → K)
    (hpq : p ≤ q) (hR0 : Rect m n R0) :
    Shape m n p (st0 p R0 (colsOf U) (Array.ofFn S) (colsOf V)) := by
  refine ⟨Array.size_ofFn.symm ▸ hpq, Array.size_replicate, hR0.1, hR0.2, Array.size_ofFn, fun j hj => ?_,
    Array.size_ofFn, fun j hj => ?_, Array.size_range, Array.size_range⟩
  · show (cget (colsOf V) j).size = n
    rw [cget_colsOf V j hj, Array.size_ofFn]
  · show (cget (colsOf U) j).size = m
    rw [cget_colsOf U j hj, Array.size_ofFn]

/-- `sigmaMat`'s own case `a = b` carries `b < min m n`, where `Sx S b` is `S b` -/
theorem sigmaMat_apply (ι : ℝ →+* K) {m n : Nat} (S : Fin (min m n) → ℝ) (a : Fin m) (b : Fin n) :
    sigmaMat (fun i => ι (S i)) a b = if a.val = b.val then ι (Sx S b.val) else 0 := by
  unfold sigmaMat
  by_cases h : a.val = b.val
  · rw [dif_pos h, if_pos h, Sx_of_lt S b.val (Nat.lt_min.mpr ⟨h ▸ a.isLt, b.isLt⟩)]
  · rw [dif_neg h, if_neg h]

/-- `M Vᴴ` maps the `b`-th column of `V` (`Vᴴ V = 1`) to the `b`-th column of `M` -/
theorem mul_conjTranspose_col {m n : Nat} (M : Matrix (Fin m) (Fin n) K) (V' : Matrix (Fin n) (Fin n) K)
    (hV : V'ᴴ * V' = 1) (b : Fin n) : (M * V'ᴴ) *ᵥ (fun i => V' i b) = fun l => M l b := by
  funext i
  exact (congrFun (congrFun (Matrix.mul_assoc M V'ᴴ V') i) b).trans (by rw [hV, Matrix.mul_one])

theorem svd_col (ι : ℝ →+* K) {m n : Nat} (U : Mat K m m) (V : Mat K n n) (S : Fin (min m n) → ℝ)
    (hV : (toM V)ᴴ * toM V = 1) (b : Nat) (hb : b < n) :
    (toM U * toM (sigmaMat (fun i => ι (S i))) * (toM V)ᴴ) *ᵥ colv n (entryCols (colsOf V)) b =
      ι (Sx S b) • colv m (entryCols (colsOf U)) b := by
  rw [colv_colsOf V b hb]
  refine (mul_conjTranspose_col _ (toM V) hV ⟨b, hb⟩).trans ?_
  funext i
  simp only [Matrix.mul_apply, Matrix.of_apply, sigmaMat_apply, Pi.smul_apply, smul_eq_mul]
  by_cases hbm : b < m
  · rw [Finset.sum_eq_single (⟨b, hbm⟩ : Fin m)]
    · rw [if_pos rfl, mul_comm, colv_colsOf U b hbm]
    · intro l _ hl
      rw [if_neg fun e => hl (Fin.ext e), mul_zero]
    · intro h; exact absurd (Finset.mem_univ _) h
  · rw [colv_colsOf_ge U b (Nat.le_of_not_lt hbm), Pi.zero_apply, mul_zero]
    apply Finset.sum_eq_zero
    intro l _
    rw [if_neg fun e => hbm (lt_of_eq_of_lt e.symm l.isLt), mul_zero]

theorem orth_colsOf {m : Nat} (U : Mat K m m) (hU : (toM U)ᴴ * toM U = 1) :
    Orth (colv m (entryCols (colsOf U))) := by
  intro a b ha hb
  rw [colv_colsOf U a ha, colv_colsOf U b hb]
  have := congrFun (congrFun hU ⟨a, ha⟩) ⟨b, hb⟩
  simp only [Matrix.mul_apply, Matrix.conjTranspose_apply, Matrix.of_apply, Matrix.one_apply,
    Fin.mk.injEq] at this
  exact this

def truncS {q : Nat} (p : Nat) (S : Fin q → ℝ) : Fin q → ℝ := fun i => if i.val < p then S i else 0

theorem Sx_truncS {q : Nat} (p : Nat) (S : Fin q → ℝ) (b : Nat) :
    Sx (truncS p S) b = if b < p then Sx S b else 0 := by
  unfold Sx truncS
  by_cases h : b < q <;> by_cases h' : b < p <;> simp [h, h']

theorem init_inv (ι : ℝ →+* K) (m n p : Nat) (R0 : Array (Array K)) (U : Mat K m m) (V : Mat K n n)
    (S : Fin (min m n) → ℝ) (sb : ℝ) (hp : 0 < p) (hpmn : p ≤ min m n)
    (hU : (toM U)ᴴ * toM U = 1) (hV : (toM V)ᴴ * toM V = 1) (hS : ∀ r, r < p → 0 < Sx S r)
    (hprod : sb ^ p = ∏ r ∈ Finset.range p, Sx S r)
    (hR0 : ∀ a b, entryRows R0 a b ≠ 0 → a = p - 1 ∧ b = p - 1) :
    Inv ι m n p (toM U * toM (sigmaMat (fun i => ι (truncS p S i))) * (toM V)ᴴ) (Sx S) sb 0
      (absSt (st0 p R0 (colsOf U) (Array.ofFn (fun i => ι (S i))) (colsOf V))) := by
  have hpn : p ≤ n := le_trans hpmn (Nat.min_le_right m n)
  have hp1 : p - 1 < p := Nat.sub_lt hp Nat.one_pos
  have hperm : ∀ r, r < p → nget (Array.range p) r = r := fun r hr => (nget_range p r).trans (if_pos hr)
  -- every column of `V` is mapped to the multiple of the column of `U` by the singular value in use
  have hcol := svd_col ι U V (truncS p S) hV
  have hd := congrFun (vget_ofFn (K := K) ι S)
  constructor
  · dsimp only [absSt, st0]
    refine ⟨orth_colsOf U hU, orth_colsOf V hV, fun b hb => absurd hb (Nat.not_lt_zero b), ?_, fun b _ hb => ?_,
      fun b hb hbn => ?_, fun a b hne => Or.inr (hR0 a b hne), fun j hj => absurd hj (Nat.not_lt_zero j)⟩
    · rw [Finset.range_zero, Finset.sum_empty, zero_add, hd, hcol 0 (Nat.lt_of_lt_of_le hp hpn), Sx_truncS, if_pos hp]
    · rw [hd, hcol b (Nat.lt_of_lt_of_le hb hpn), Sx_truncS, if_pos hb]
    · rw [hcol b hbn, Sx_truncS, if_neg (Nat.not_lt_of_le hb), ι.map_zero, zero_smul]
  · dsimp only [absSt, st0]
    refine ⟨Sx S, hd, Nat.add_comm 1 (p - 1), le_refl 1, hp1, fun r hr1 hr2 => ?_, fun q hq1 hq2 => ?_, hS 0 hp, ?_⟩
    · have hr : r < p := Nat.lt_of_le_of_lt hr2 hp1
      rw [hperm r hr, hperm r hr]
      exact ⟨hr1, hr, rfl, rfl⟩
    · rw [hperm q hq2, hperm q hq2]
      exact ⟨hq1, Nat.le_sub_one_of_lt hq2, rfl⟩
    · rw [Nat.sub_zero, hprod, Nat.sub_add_cancel hp, ← Finset.prod_eq_prod_Ico_succ_bot hp (Sx S),
        ← Finset.range_eq_Ico]

end PyPhysim.LinAlg.GmdInv
