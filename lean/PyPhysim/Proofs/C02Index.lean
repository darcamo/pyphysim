import PyPhysim.Model.C02
import PyPhysim.Proofs.Common

/-!
C02 — the index layer, core Lean only: reshape / flatten, fancy-index scatter and
gather, cyclic prefix; the parameter guard, zero padding and the subcarrier index map.
-/
namespace PyPhysim.C02
open PyPhysim.Proto

section lists
variable {α : Type}

theorem mapM_ok_length {β γ : Type} (f : β → Except PyErr γ) (l : List β) (out : List γ)
    (h : l.mapM f = .ok out) : out.length = l.length :=
  (mapM_eq_ok_iff.1 h).1

theorem rows_length (w R : Nat) (l : List α) : (rows w R l).length = R := by
  induction R generalizing l with
  | zero => rfl
  | succ R ih => rw [rows, List.length_cons, ih]

theorem rows_row_length (w R : Nat) (l : List α) (h : R * w ≤ l.length) :
    ∀ r ∈ rows w R l, r.length = w := by
  induction R generalizing l with
  | zero => exact List.forall_mem_nil _
  | succ R ih =>
    rw [Nat.succ_mul] at h
    rw [rows, List.forall_mem_cons]
    exact ⟨List.length_take_of_le (Nat.le_trans (Nat.le_add_left w _) h),
      ih _ (by rw [List.length_drop]; exact Nat.le_sub_of_add_le h)⟩

theorem flatten_rows (w R : Nat) (l : List α) (h : l.length = R * w) : (rows w R l).flatten = l := by
  induction R generalizing l with
  | zero => rw [Nat.zero_mul] at h; rw [List.eq_nil_of_length_eq_zero h]; rfl
  | succ R ih =>
    rw [Nat.succ_mul] at h
    rw [rows, List.flatten_cons, ih (l.drop w) (by rw [List.length_drop, h, Nat.add_sub_cancel]),
      List.take_append_drop]

theorem rows_flatten (w : Nat) (bs : List (List α)) (h : ∀ b ∈ bs, b.length = w) :
    rows w bs.length bs.flatten = bs := by
  induction bs with
  | nil => rfl
  | cons b t ih =>
    have hb : b.length = w := h b List.mem_cons_self
    rw [List.length_cons, rows, List.flatten_cons, List.take_left' hb, List.drop_left' hb,
      ih fun c hc => h c (List.mem_cons_of_mem b hc)]

theorem getElem?_rows (w R : Nat) (l : List α) (r : Nat) (hr : r < R) :
    (rows w R l)[r]? = some ((l.drop (r * w)).take w) := by
  induction R generalizing l r with
  | zero => cases hr
  | succ R ih =>
    cases r with
    | zero => rw [rows, List.getElem?_cons_zero, Nat.zero_mul, List.drop_zero]
    | succ r =>
      rw [rows, List.getElem?_cons_succ, ih (l.drop w) r (Nat.lt_of_succ_lt_succ hr), List.drop_drop,
        Nat.succ_mul, Nat.add_comm]

theorem getElem?_flatten_uniform (w : Nat) (bs : List (List α)) (h : ∀ b ∈ bs, b.length = w)
    (r q : Nat) (hq : q < w) : bs.flatten[r * w + q]? = (bs[r]?).bind (fun b => b[q]?) :=
  List.flatMap_id (L := bs) ▸ getElem?_flatMap_block id hq bs r h

theorem scatterInto_nil_idx (acc vals : List α) : scatterInto acc [] vals = acc := by
  cases vals <;> rfl

theorem scatterInto_nil_vals (acc : List α) (idx : List Nat) : scatterInto acc idx [] = acc := by
  cases idx <;> rfl

theorem scatterInto_length (acc : List α) (idx : List Nat) (vals : List α) :
    (scatterInto acc idx vals).length = acc.length := by
  fun_induction scatterInto acc idx vals with
  | case1 acc i is v vs ih => rw [ih, List.length_set]
  | case2 => rfl

theorem scatterInto_not_mem (acc : List α) (idx : List Nat) (vals : List α) (j : Nat) (h : j ∉ idx) :
    (scatterInto acc idx vals)[j]? = acc[j]? := by
  fun_induction scatterInto acc idx vals with
  | case1 acc i is v vs ih =>
    rw [List.mem_cons, not_or] at h
    rw [ih h.2, List.getElem?_set_ne (Ne.symm h.1)]
  | case2 => rfl

theorem map_getD_scatterInto (acc : List α) (idx : List Nat) (vals : List α) (d : α) (hnd : idx.Nodup)
    (hlen : idx.length = vals.length) (hlt : ∀ i ∈ idx, i < acc.length) :
    idx.map ((scatterInto acc idx vals).getD · d) = vals := by
  induction idx generalizing acc vals with
  | nil => rw [List.eq_nil_of_length_eq_zero hlen.symm]; rfl
  | cons i is ih =>
    cases vals with
    | nil => cases hlen
    | cons v vs =>
      have hnd' := List.nodup_cons.mp hnd
      rw [scatterInto, List.map_cons, ih _ _ hnd'.2 (Nat.succ.inj hlen) fun j hj => by
          rw [List.length_set]; exact hlt j (List.mem_cons_of_mem i hj),
        List.getD_eq_getElem?_getD, scatterInto_not_mem _ _ _ _ hnd'.1,
        List.getElem?_set_self (hlt i List.mem_cons_self)]
      rfl

theorem lookup_ok {row : List α} {i : Nat} {v : α} (h : lookup row i = .ok v) : row[i]? = some v := by
  unfold lookup at h
  split at h
  · next hr => exact hr.trans (congrArg some (Except.ok.inj h))
  · cases h

theorem gather_eq_map (idx : List Nat) (row : List α) (d : α) (h : ∀ i ∈ idx, i < row.length) :
    gather idx row = .ok (idx.map (row.getD · d)) :=
  mapM_ok _ _ _ fun i hi => by
    rw [lookup, List.getD_eq_getElem?_getD, List.getElem?_eq_getElem (h i hi)]; rfl

theorem gather_ok_spec (idx : List Nat) (row out : List α) (h : gather idx row = .ok out) :
    out.length = idx.length ∧ ∀ k (hk : k < idx.length), row[idx[k]]? = out[k]? := by
  obtain ⟨hl, hall⟩ := mapM_eq_ok_iff.1 h
  refine ⟨hl, fun k hk => ?_⟩
  obtain ⟨v, hv, hk'⟩ := hall k idx[k] (List.getElem?_eq_getElem hk)
  rw [lookup_ok hv, hk']

/-- the `if` of `_add_CP` only avoids the slice `[-0:]`; both branches are "tail, then the row" -/
theorem addCP_eq (cp : Nat) (row : List α) : addCP cp row = row.drop (row.length - cp) ++ row := by
  unfold addCP
  split
  · rfl
  · next h => rw [Decidable.not_not.mp h, Nat.sub_zero, List.drop_length, List.nil_append]

theorem addCP_length (cp : Nat) (row : List α) (h : cp ≤ row.length) :
    (addCP cp row).length = row.length + cp := by
  rw [addCP_eq, List.length_append, List.length_drop, Nat.sub_sub_self h, Nat.add_comm]

theorem drop_addCP (cp : Nat) (row : List α) (h : cp ≤ row.length) : (addCP cp row).drop cp = row := by
  rw [addCP_eq]; exact List.drop_left' (by rw [List.length_drop, Nat.sub_sub_self h])

theorem take_addCP (cp : Nat) (row : List α) (h : cp ≤ row.length) :
    (addCP cp row).take cp = row.drop (row.length - cp) := by
  rw [addCP_eq]; exact List.take_left' (by rw [List.length_drop, Nat.sub_sub_self h])

theorem getElem?_addCP (cp : Nat) (row : List α) (h : cp ≤ row.length) (q : Nat) :
    (addCP cp row)[q]? = if q < cp then row[row.length - cp + q]? else row[q - cp]? := by
  rw [addCP_eq, List.getElem?_append, List.length_drop, List.getElem?_drop, Nat.sub_sub_self h]

variable [Zero α]

theorem scatter_length (n : Nat) (idx : List Nat) (vals : List α) : (scatter n idx vals).length = n := by
  rw [scatter, scatterInto_length, List.length_replicate]

theorem scatter_not_mem (n : Nat) (idx : List Nat) (vals : List α) (j : Nat) (hj : j < n) (h : j ∉ idx) :
    (scatter n idx vals)[j]? = some 0 := by
  rw [scatter, scatterInto_not_mem _ _ _ _ h, List.getElem?_replicate, if_pos hj]

theorem map_getD_scatter (n : Nat) (idx : List Nat) (vals : List α) (hnd : idx.Nodup)
    (hlen : idx.length = vals.length) (hlt : ∀ i ∈ idx, i < n) :
    idx.map ((scatter n idx vals).getD · 0) = vals :=
  map_getD_scatterInto _ idx vals 0 hnd hlen (by rw [List.length_replicate]; exact hlt)

end lists

/-- the guard on Python ints -/
def ValidInt (fft cp u : Int) : Prop := 0 ≤ cp ∧ cp ≤ fft ∧ u ≤ fft ∧ u % 2 = 0 ∧ 2 ≤ u

/-- the guard ladder with `None` already read as `fft_size` -/
theorem setParameters_eq (fft cp : Int) (used : Option Int) :
    setParameters fft cp used =
      if cp < 0 ∨ cp > fft then .error .ValueError
      else if used.getD fft > fft then .error .ValueError
      else if used.getD fft % 2 ≠ 0 ∨ used.getD fft < 2 then .error .ValueError
      else .ok ⟨fft.toNat, cp.toNat, (used.getD fft).toNat⟩ := by
  cases used <;> rfl

theorem setParameters_ok {fft cp : Int} {used : Option Int}
    (h : ValidInt fft cp (used.getD fft)) :
    setParameters fft cp used = .ok ⟨fft.toNat, cp.toNat, (used.getD fft).toNat⟩ := by
  obtain ⟨h1, h2, h3, h4, h5⟩ := h
  rw [setParameters_eq, if_neg (not_or.mpr ⟨Int.not_lt.mpr h1, Int.not_lt.mpr h2⟩),
    if_neg (Int.not_lt.mpr h3), if_neg (not_or.mpr ⟨Decidable.not_not.mpr h4, Int.not_lt.mpr h5⟩)]

theorem setParameters_error {fft cp : Int} {used : Option Int}
    (h : ¬ ValidInt fft cp (used.getD fft)) :
    setParameters fft cp used = .error .ValueError := by
  rw [setParameters_eq]
  by_cases h1 : cp < 0 ∨ cp > fft
  · exact if_pos h1
  by_cases h2 : used.getD fft > fft
  · rw [if_neg h1]; exact if_pos h2
  rw [if_neg h1, if_neg h2]
  refine if_pos (Decidable.byContradiction fun h3 => ?_)
  rw [not_or] at h1 h3
  exact h ⟨Int.not_lt.mp h1.1, Int.not_lt.mp h1.2, Int.not_lt.mp h2, Decidable.not_not.mp h3.1,
    Int.not_lt.mp h3.2⟩

theorem setParameters_ok_inv {fft cp : Int} {used : Option Int} {p : Params}
    (h : setParameters fft cp used = .ok p) :
    ValidInt fft cp (used.getD fft) ∧ p = ⟨fft.toNat, cp.toNat, (used.getD fft).toNat⟩ := by
  by_cases hv : ValidInt fft cp (used.getD fft)
  · rw [setParameters_ok hv] at h
    cases h
    exact ⟨hv, rfl⟩
  · rw [setParameters_error hv] at h
    cases h

theorem setParameters_valid {fft cp : Int} {used : Option Int} {p : Params}
    (h : setParameters fft cp used = .ok p) : p.Valid := by
  obtain ⟨⟨-, h2, h3, h4, h5⟩, rfl⟩ := setParameters_ok_inv h
  have hu : 0 ≤ used.getD fft := Int.le_trans (by decide) h5
  exact ⟨Int.toNat_le_toNat h2, Int.toNat_le_toNat h3,
    Int.ofNat_inj.mp (by rw [Int.natCast_emod, Int.toNat_of_nonneg hu]; exact h4), (Int.le_toNat hu).mpr h5⟩

theorem step_valid (s : Params) (hs : s.Valid) (op : Int × Int × Option Int) : (step s op).1.Valid := by
  unfold step
  cases h : setParameters op.1 op.2.1 op.2.2 with
  | error e => exact hs
  | ok p => exact setParameters_valid h

theorem run_valid (s : Params) (hs : s.Valid) (ops : List (Int × Int × Option Int)) : (run s ops).Valid := by
  induction ops generalizing s with
  | nil => exact hs
  | cons op ops ih => exact ih _ (step_valid s hs op)

theorem toNat_inj {a b : Int} (ha : 0 ≤ a) (hb : 0 ≤ b) (h : a.toNat = b.toNat) : a = b := by
  rw [← Int.toNat_of_nonneg ha, ← Int.toNat_of_nonneg hb, h]

theorem Params.Valid.used_pos {p : Params} (hp : p.Valid) : 0 < p.used :=
  Nat.lt_of_lt_of_le Nat.zero_lt_two hp.2.2.2

theorem Params.Valid.fft_pos {p : Params} (hp : p.Valid) : 0 < p.fft :=
  Nat.lt_of_lt_of_le hp.used_pos hp.2.1

theorem Params.Valid.width_ne_zero {p : Params} (hp : p.Valid) : p.fft + p.cp ≠ 0 :=
  Nat.ne_of_gt (Nat.lt_of_lt_of_le hp.fft_pos (Nat.le_add_right _ _))

theorem ceilDiv_spec (n d : Nat) (hd : 0 < d) : n ≤ d * ceilDiv n d ∧ d * ceilDiv n d < n + d := by
  have hpos : 0 < n + d := Nat.lt_of_lt_of_le hd (Nat.le_add_left _ _)
  constructor
  · -- `n + d - 1 < d * (q + 1)` for the quotient `q` of `n + d - 1` by `d`
    have h := Nat.lt_mul_div_succ (n + d - 1) hd
    rw [Nat.mul_succ, ← Nat.succ_le_iff, Nat.succ_eq_add_one, Nat.sub_add_cancel hpos] at h
    exact Nat.le_of_add_le_add_right h
  · exact Nat.lt_of_le_of_lt (Nat.mul_div_le _ _) (Nat.sub_one_lt_of_lt hpos)

theorem zeropad_spec (p : Params) (hp : p.Valid) (n : Nat) :
    n + zeropad p n = p.used * numSymbols p n ∧ zeropad p n < p.used :=
  have h := ceilDiv_spec n p.used hp.used_pos
  ⟨Nat.add_sub_of_le h.1, Nat.sub_lt_left_of_lt_add h.1 h.2⟩

theorem usedIdx_length {fft used : Nat} (h : used % 2 = 0) : (usedIdx fft used).length = used := by
  rw [usedIdx, List.length_append, List.length_range', List.length_range', ← Nat.two_mul,
    Nat.mul_div_cancel' (Nat.dvd_of_mod_eq_zero h)]

theorem usedIdx_injective (fft u u' : Nat) (hu : u % 2 = 0) (hu' : u' % 2 = 0)
    (h : usedIdx fft u = usedIdx fft u') : u = u' := by
  have := congrArg List.length h
  rwa [usedIdx_length hu, usedIdx_length hu'] at this

theorem mem_usedIdx (fft used j : Nat) :
    j ∈ usedIdx fft used ↔
      (fft - used / 2 ≤ j ∧ j < fft - used / 2 + used / 2) ∨
      ((if used = fft then 0 else 1) ≤ j ∧ j < (if used = fft then 0 else 1) + used / 2) := by
  rw [usedIdx, List.mem_append, List.mem_range'_1, List.mem_range'_1]

theorem Params.Valid.half {p : Params} (hp : p.Valid) : 2 * (p.used / 2) = p.used :=
  Nat.mul_div_cancel' (Nat.dvd_of_mod_eq_zero hp.2.2.1)

/-- under the guard the lower band `[c, c + h)` ends no later than the upper band `[fft - h, fft)` begins -/
theorem Params.Valid.bands {p : Params} (hp : p.Valid) :
    (if p.used = p.fft then 0 else 1) + p.used / 2 + p.used / 2 ≤ p.fft := by
  rw [Nat.add_assoc, ← Nat.two_mul, hp.half]
  split
  · rw [Nat.zero_add]; exact hp.2.1
  · next hne => rw [Nat.add_comm]; exact Nat.lt_of_le_of_ne hp.2.1 hne

theorem usedIdx_lt (p : Params) (hp : p.Valid) : ∀ i ∈ usedIdx p.fft p.used, i < p.fft := by
  intro i hi
  rw [mem_usedIdx, Nat.sub_add_cancel (Nat.le_trans (Nat.div_le_self _ _) hp.2.1)] at hi
  rcases hi with h | h
  · exact h.2
  · exact Nat.lt_of_lt_of_le h.2 (Nat.le_trans (Nat.le_add_right _ _) hp.bands)

theorem usedIdx_nodup (p : Params) (hp : p.Valid) : (usedIdx p.fft p.used).Nodup := by
  unfold usedIdx
  rw [List.nodup_append]
  refine ⟨List.nodup_range' 1, List.nodup_range' 1, fun a ha b hb => ?_⟩
  rw [List.mem_range'_1] at ha hb
  exact Nat.ne_of_gt (Nat.lt_of_lt_of_le hb.2 (Nat.le_trans (Nat.le_sub_of_add_le hp.bands) ha.1))

theorem mem_usedIdx_of_lt (p : Params) (hp : p.Valid) (hlt : p.used < p.fft) (j : Nat) :
    j ∈ usedIdx p.fft p.used ↔ (1 ≤ j ∧ j ≤ p.used / 2) ∨ (p.fft - p.used / 2 ≤ j ∧ j < p.fft) := by
  rw [mem_usedIdx, if_neg (Nat.ne_of_lt hlt), Nat.sub_add_cancel (Nat.le_trans (Nat.div_le_self _ _) hp.2.1),
    Nat.lt_one_add_iff, or_comm]

theorem zero_not_mem_usedIdx (p : Params) (hp : p.Valid) (hlt : p.used < p.fft) :
    0 ∉ usedIdx p.fft p.used := by
  rw [mem_usedIdx_of_lt p hp hlt]
  rintro (⟨h, -⟩ | ⟨h, -⟩)
  · exact Nat.not_succ_le_zero 0 h
  · -- `fft ≤ used/2` is impossible below `fft`
    exact Nat.lt_irrefl _ (Nat.lt_of_le_of_lt
      (Nat.le_trans (Nat.sub_eq_zero_iff_le.mp (Nat.le_zero.mp h)) (Nat.div_le_self _ _)) hlt)

end PyPhysim.C02
