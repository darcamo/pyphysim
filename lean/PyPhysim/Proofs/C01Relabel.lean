import Mathlib.Data.List.Nodup
import Mathlib.Data.List.Perm.Subperm
import PyPhysim.Proofs.GrayGenerated
import PyPhysim.Model.C01

/-! Gray relabelling is a permutation of the natural constellation: `relabel` on an in-range index list
is the list of the entries it names (`relabel_ok`), and the index arrays of the source are self-maps of
`[0,n)` with a left inverse, hence permutations of it (`perm_range_of_leftInverse`). -/
namespace PyPhysim.C01
open PyPhysim.Proto PyPhysim.Gray List

section relabel
variable {β : Type} (natural : List β)

theorem filterMap_getElem?_range : (range natural.length).filterMap (fun i => natural[i]?) = natural := by
  induction natural with
  | nil => rfl
  | cons a l ih =>
    rw [length_cons, range_succ_eq_map, filterMap_cons_some getElem?_cons_zero, filterMap_map]
    -- `(a :: l)[i+1]?` is `l[i]?` by `rfl`
    exact congrArg (a :: ·) ih

theorem relabel_cons_of_lt {i : Nat} (is : List Nat) (hi : i < natural.length) :
    relabel natural (i :: is) = (relabel natural is).map (natural[i] :: ·) := by
  rw [relabel, getElem?_eq_getElem hi]
  cases relabel natural is <;> rfl

theorem relabel_cons_of_le {i : Nat} (is : List Nat) (hi : natural.length ≤ i) :
    relabel natural (i :: is) = .error .IndexError := by
  rw [relabel, getElem?_eq_none hi]

theorem relabel_ok (idx : List Nat) (h : ∀ i ∈ idx, i < natural.length) :
    relabel natural idx = .ok (idx.filterMap fun i => natural[i]?) := by
  induction idx with
  | nil => rfl
  | cons i is ih =>
    rw [forall_mem_cons] at h
    rw [relabel_cons_of_lt natural is h.1, ih h.2, filterMap_cons_some (getElem?_eq_getElem h.1)]
    rfl

theorem relabel_error : ∀ (idx : List Nat),
    (∃ i ∈ idx, natural.length ≤ i) → relabel natural idx = .error .IndexError
  | [], h => by obtain ⟨i, hi, _⟩ := h; cases hi
  | i :: is, h => by
    rcases Nat.lt_or_ge i natural.length with hi | hi
    · rw [exists_mem_cons_iff, or_iff_right (Nat.not_le.mpr hi)] at h
      rw [relabel_cons_of_lt natural is hi, relabel_error is h]
      rfl
    · exact relabel_cons_of_le natural is hi

theorem relabel_of_perm (idx : List Nat) {n : Nat} (hn : natural.length = n) (hp : idx.Perm (range n)) :
    ∃ t, relabel natural idx = .ok t ∧ t.Perm natural := by
  subst hn
  exact ⟨_, relabel_ok natural idx fun i hi => mem_range.mp (hp.subset hi),
    (hp.filterMap _).trans (.of_eq (filterMap_getElem?_range natural))⟩
end relabel

theorem perm_range_of_leftInverse {n : Nat} {f g : Nat → Nat} (hf : ∀ a < n, f a < n)
    (hg : ∀ a < n, g (f a) = a) : ((range n).map f).Perm (range n) := by
  apply (subperm_of_subset (Nodup.map_on ?_ nodup_range) ?_).perm_of_length_le
  · exact Nat.le_of_eq (length_map _).symm
  · intro a ha b hb hab
    rw [← hg a (mem_range.mp ha), hab, hg b (mem_range.mp hb)]
  · intro x hx
    obtain ⟨a, ha, rfl⟩ := mem_map.mp hx
    exact mem_range.mpr (hf a (mem_range.mp ha))

/-- PSK index array `gray2binary(arange M)` is a permutation of `[0,M)` for `M = 2^m ≤ 2^64` -/
theorem psk_idx_perm (m : Nat) (hm : m ≤ 64) :
    ((List.range (2^m)).map (pskPosInit Generated.gray2binary)).Perm (List.range (2^m)) :=
  perm_range_of_leftInverse (g := Generated.binary2gray)
    (fun _ ha => lt_of_eq_of_lt (congrFun gen_g2b _) (g2bWith_lt _ ha)) fun _ ha => (gen_roundtrip hm ha).2

/-- label `2^k` falls out of range when `2^k < M < 2^(k+1)`: its image is `2^(k+1) - 1 ≥ M` -/
theorem g2b_two_pow (k : Nat) (hk : k < 64) : Generated.gray2binary (2^k) = 2^(k+1) - 1 := by
  rw [← b2g_ones k, ← gen_b2g]
  exact (gen_roundtrip hk (Nat.sub_lt (Nat.two_pow_pos _) Nat.one_pos)).1

/-- QAM index array `(b2g r <<< k) + b2g c` is a permutation of `[0, L²)` for `L = 2^k`: the array built the
    same way from `g2b` undoes it, row by row and column by column (`qamPos_div`, `qamPos_mod`) -/
theorem qam_idx_perm (k : Nat) :
    ((List.range (2^k * 2^k)).map (qamPos Generated.binary2gray k (2^k))).Perm (List.range (2^k * 2^k)) := by
  have hk := Nat.two_pow_pos k
  have hb := fun l => b2g_lt _ k (Nat.mod_lt l hk)
  -- `2^k < 2^(2^k)`, below which `descPows k` undoes `b2g`
  have hkk := Nat.pow_lt_pow_right Nat.one_lt_two (Nat.lt_two_pow_self (n := k))
  rw [gen_b2g]
  apply perm_range_of_leftInverse (g := qamPos (g2bWith (descPows k)) k (2^k))
  · intro l hl
    rw [← Nat.div_lt_iff_lt_mul hk, qamPos_div (hb l)]
    exact b2g_lt _ k (Nat.div_lt_of_lt_mul hl)
  · intro l hl
    rw [qamPos, qamPos_div (hb l), qamPos_mod (hb l), g2b_b2g k _ (Nat.lt_trans (Nat.div_lt_of_lt_mul hl) hkk),
      g2b_b2g k _ (Nat.lt_trans (Nat.mod_lt l hk) hkk), Nat.shiftLeft_eq, Nat.div_add_mod']

end PyPhysim.C01
