import PyPhysim.Proofs.C18Est

/-!
C18 — the estimator on the sequences the code builds (phases → `seqValues` → `ueSequence`, whose stored
rows are `rowOf` / `rowsOf`): the product of two users' rows is a phase divided by the estimator's own
scaling (`row_prod`), hence exactness; the cover-code (OCC) estimator averages a block of rows
(`occMean`, additive; on a user's block, which has rank one, a multiple of the user's observation), which
reduces it to the plain estimator (`estimateOcc1_rowsOf`, `estimateOcc1_add`).  For the histories of calls:
the response determines the taps (`taps_of_response_eq`), and the one-tap channel `[1]` is observed as the
reference itself (`observe_flat`).
-/
set_option linter.unusedSectionVars false
namespace PyPhysim.C18P
open PyPhysim.Cazac PyPhysim.Proto Finset
open CisOps (cis conj)

variable {F : Type} [Field F] [CisOps F]

/-- the stored 1-D user sequence: `x` or `x / ‖x‖` -/
def rowOf (x : List F) (nrm : Bool) (nu : F) : List F :=
  if nrm then x.map (fun v => v / nu) else x

theorem ueSequence_plain (x : List F) (nrm : Bool) (nu : F) :
    ueSequence x none nrm nu = .ok ⟨nrm, [rowOf x nrm nu], none⟩ := by
  cases nrm <;> rfl

theorem rowOf_length (x : List F) (nrm : Bool) (nu : F) : (rowOf x nrm nu).length = x.length := by
  cases nrm
  · rfl
  · exact List.length_map _

theorem rowOf_getD (x : List F) (nrm : Bool) (nu : F) {n : ℕ} (hn : n < x.length) :
    (rowOf x nrm nu).getD n 0 = if nrm then x.getD n 0 / nu else x.getD n 0 := by
  cases nrm
  · rfl
  · exact getD_map x hn 0 0

theorem rowOf_seq_length (p : List ℚ) (nrm : Bool) (nu : F) :
    (rowOf (seqValues p : List F) nrm nu).length = p.length := by
  rw [rowOf_length, seqValues_length]

section
variable (L : CisLaws F)
include L

/-- two users' stored rows, element by element: a phase, divided by the factor `N` (or `1`) by which
    the estimator scales its result -/
theorem row_prod (p0 pu : List ℚ) (nrm : Bool) (nu : F) {N : ℕ} (h0 : p0.length = N) (hu : pu.length = N)
    (hnu : nrm = true → conj nu = nu ∧ nu * nu = (N : F)) {n : ℕ} (hn : n < N) :
    conj ((rowOf (seqValues p0 : List F) nrm nu).getD n 0) * (rowOf (seqValues pu : List F) nrm nu).getD n 0
      = (if nrm then (N : F) else 1)⁻¹ * cis (pu.getD n 0 - p0.getD n 0) := by
  rw [rowOf_getD _ _ _ (by rw [seqValues_length, h0]; exact hn),
    rowOf_getD _ _ _ (by rw [seqValues_length, hu]; exact hn),
    seqValues_getD _ (h0 ▸ hn), seqValues_getD _ (hu ▸ hn), sub_eq_neg_add, L.cis_add, ← L.conj_cis]
  by_cases hb : nrm = true
  · obtain ⟨h1, h2⟩ := hnu hb
    rw [if_pos hb, if_pos hb, if_pos hb, L.conj_div, h1, div_mul_div_comm, h2, div_eq_inv_mul]
  · rw [if_neg hb, if_neg hb, if_neg hb, inv_one, one_mul]

theorem fftPad_one_getD (M f : ℕ) (hf : f < M) : (fftPad [(1 : F)] M).getD f 0 = 1 := by
  rw [fftPad_getD [(1 : F)] hf (Nat.succ_le_of_lt (Nat.zero_lt_of_lt hf)), List.length_singleton,
    Finset.sum_range_one, List.getD_cons_zero, Nat.mul_zero, Nat.cast_zero, zero_div, neg_zero, L.cis_zero,
    mul_one]

theorem observe_flat (r : List F) (m : ℕ) (hm : 0 < m) :
    observe (fftPad [(1 : F)] (m * r.length)) m r = r := by
  refine (map_range_congr fun n hn => ?_).trans (list_eq_map_range r 0).symm
  rw [fftPad_one_getD L _ _ (Nat.mul_lt_mul_of_pos_left hn hm), one_mul]

variable [CharZero F]

theorem ue_estimate_exact (ph : List ℚ) (nrm : Bool) (nu : F) (h : List F) (m K : ℕ) {N : ℕ}
    (hph : ph.length = N) (hm : 0 < m) (hN : 0 < N)
    (hnu : nrm = true → conj nu = nu ∧ nu * nu = (N : F))
    (hfit : h.length ≤ K + 1) (hlen : h.length ≤ N) :
    estimate1 (rowOf (seqValues ph : List F) nrm nu) nrm m
        (observe (fftPad h (m * N)) m (rowOf (seqValues ph : List F) nrm nu)) K
      = .ok (fftPad h (m * N)) :=
  estimate_exact_core L _ h _ nrm m K ((rowOf_seq_length ph nrm nu).trans hph) hm hN
    (fun n hn => by rw [mul_comm, row_prod L ph ph nrm nu hph hph hnu hn, sub_self, L.cis_zero, mul_one])
    (inv_mul_cancel₀ (by cases nrm; exacts [one_ne_zero, Nat.cast_ne_zero.mpr hN.ne'])) hfit hlen

/-- `r` is not in the conclusion: it only serves to read the taps back through `tapEst_own` -/
theorem taps_of_response_eq (r h1 h2 : List F) (c : F) (m : ℕ) {N : ℕ} (hrN : r.length = N) (hm : 0 < m)
    (hr : ∀ n, n < N → r.getD n 0 * conj (r.getD n 0) = c) (hc : c ≠ 0)
    (hl1 : h1.length ≤ N) (hl2 : h2.length ≤ N)
    (heq : fftPad h1 (m * N) = fftPad h2 (m * N)) (k : ℕ) :
    h1.getD k 0 = h2.getD k 0 := by
  subst hrN
  by_cases hk : k < r.length
  · have e1 := tapEst_own L r h1 c m k hm hl1 hk hr
    rw [heq, tapEst_own L r h2 c m k hm hl2 hk hr] at e1
    exact (mul_left_cancel₀ hc e1).symm
  · have hk' := Nat.le_of_not_lt hk
    rw [List.getD_eq_default _ _ (hl1.trans hk'), List.getD_eq_default _ _ (hl2.trans hk')]

end

theorem foldl_zipWith_add (rows : List (List F)) (n : ℕ) (hlen : ∀ row ∈ rows, row.length = n)
    (acc : List F) (hacc : acc.length = n) :
    rows.foldl (fun a row => List.zipWith (· + ·) a row) acc
      = (List.range n).map (fun i => acc.getD i 0 + ∑ c ∈ range rows.length, (rows.getD c []).getD i 0) := by
  induction rows generalizing acc with
  | nil =>
    simp only [List.foldl_nil, List.length_nil, Finset.range_zero, Finset.sum_empty, add_zero]
    exact hacc ▸ list_eq_map_range acc 0
  | cons R rest ih =>
    have hR : R.length = n := hlen R List.mem_cons_self
    rw [List.foldl_cons, ih (fun row hrow => hlen row (List.mem_cons_of_mem _ hrow)) _
      (by rw [List.length_zipWith, hacc, hR, Nat.min_self])]
    refine map_range_congr fun i hi => ?_
    rw [getD_zipWith acc R (hacc.symm ▸ hi) (hR.symm ▸ hi) 0 0, List.length_cons, Finset.sum_range_succ',
      add_assoc, add_comm (R.getD i 0)]
    rfl

theorem sumRows_closed (rows : List (List F)) (n : ℕ) (hlen : ∀ row ∈ rows, row.length = n) :
    sumRows n rows = (List.range n).map (fun i => ∑ c ∈ range rows.length, (rows.getD c []).getD i 0) := by
  refine (foldl_zipWith_add rows n hlen _ List.length_replicate).trans (map_range_congr fun i hi => ?_)
  rw [List.getD_replicate _ hi, zero_add]

def IsBlock (Y : List (List F)) (nc n : ℕ) : Prop := Y.length = nc ∧ ∀ row ∈ Y, row.length = n

theorem IsBlock.getD_length {Y : List (List F)} {nc n c : ℕ} (hb : IsBlock Y nc n) (hc : c < nc) :
    (Y.getD c []).length = n := by
  have hc' : c < Y.length := hb.1.symm ▸ hc
  rw [List.getD_eq_getElem _ _ hc']
  exact hb.2 _ (List.getElem_mem hc')

theorem occMean_closed (cc : List F) (Y : List (List F)) (n : ℕ) (hcc : cc ≠ [])
    (hb : IsBlock Y cc.length n) :
    occMean cc Y = .ok ((List.range n).map (fun i =>
      (∑ c ∈ range cc.length, (Y.getD c []).getD i 0 * cc.getD c 0) / ((cc.length : ℕ) : F))) := by
  cases Y with
  | nil => exact absurd (List.length_eq_zero_iff.mp hb.1.symm) hcc
  | cons row0 rest =>
    have h0 : row0.length = n := hb.2 row0 List.mem_cons_self
    dsimp only [occMean]
    rw [if_neg (not_not.mpr hb.1), if_neg]
    · rw [h0, sumRows_closed _ n, List.map_map, List.length_zipWith, hb.1, Nat.min_self]
      · refine congrArg Except.ok (map_range_congr fun i hi => ?_)
        rw [Function.comp_apply]
        refine congrArg (· / _) (Finset.sum_congr rfl fun c hc => ?_)
        have hc' := Finset.mem_range.mp hc
        rw [getD_zipWith cc _ hc' (hb.1.symm ▸ hc') 0 [] [], getD_map _ ((hb.getD_length hc').symm ▸ hi) 0 0]
      · intro row hrow
        obtain ⟨c, hc, rfl⟩ := List.mem_iff_getElem.mp hrow
        rw [List.getElem_zipWith, List.length_map]
        exact hb.2 _ (List.getElem_mem _)
    · -- the shape test of the code: no row differs in length from the first
      rw [Bool.not_eq_true, List.any_eq_false]
      exact fun row hrow hne => bne_iff_ne.mp hne ((hb.2 row hrow).trans h0.symm)

def addRows (Y0 Y1 : List (List F)) : List (List F) := List.zipWith addL Y0 Y1

theorem addRows_isBlock {Y0 Y1 : List (List F)} {nc n : ℕ} (h0 : IsBlock Y0 nc n) (h1 : IsBlock Y1 nc n) :
    IsBlock (addRows Y0 Y1) nc n := by
  unfold addRows
  refine ⟨by rw [List.length_zipWith, h0.1, h1.1, Nat.min_self], fun row hrow => ?_⟩
  obtain ⟨c, hc, rfl⟩ := List.mem_iff_getElem.mp hrow
  rw [List.getElem_zipWith, addL_length, h0.2 _ (List.getElem_mem _), h1.2 _ (List.getElem_mem _),
    Nat.min_self]

/-- the cover-code average is additive on blocks of one shape (on which it succeeds) -/
theorem occMean_add (cc : List F) (Y0 Y1 : List (List F)) (n : ℕ) (hcc : cc ≠ [])
    (hb0 : IsBlock Y0 cc.length n) (hb1 : IsBlock Y1 cc.length n) :
    ∃ M0 M1, occMean cc Y0 = .ok M0 ∧ occMean cc Y1 = .ok M1 ∧ M0.length = n ∧ M1.length = n ∧
      occMean cc (addRows Y0 Y1) = .ok (addL M0 M1) := by
  refine ⟨_, _, occMean_closed cc Y0 n hcc hb0, occMean_closed cc Y1 n hcc hb1,
    by rw [List.length_map, List.length_range], by rw [List.length_map, List.length_range], ?_⟩
  rw [occMean_closed cc _ n hcc (addRows_isBlock hb0 hb1), addL_map_range]
  refine congrArg Except.ok (map_range_congr fun i hi => ?_)
  rw [← add_div, ← Finset.sum_add_distrib]
  refine congrArg (· / _) (Finset.sum_congr rfl fun c hc => ?_)
  have hc' := Finset.mem_range.mp hc
  dsimp only [addRows]
  rw [getD_zipWith Y0 Y1 (hb0.1.symm ▸ hc') (hb1.1.symm ▸ hc') [] [],
    addL_getD _ _ (by rw [hb0.getD_length hc']; exact hi) (by rw [hb1.getD_length hc']; exact hi), add_mul]

/-- cover-code average of a block of rank one, `ccu ⊗ y`: `y` scaled by the normalised inner product
    `γ` of `ccu` with the cover code (`γ = 1` for a `±1` code with itself, `γ = 0` for an orthogonal one) -/
theorem occMean_rankOne (cc ccu y : List F) (hcc : cc ≠ []) (hlen : ccu.length = cc.length) :
    occMean cc (ccu.map fun c => y.map fun v => c * v)
      = .ok (y.map fun v => (∑ c ∈ range cc.length, ccu.getD c 0 * cc.getD c 0) / ((cc.length : ℕ) : F) * v) := by
  rw [occMean_closed cc _ y.length hcc ⟨by rw [List.length_map, hlen], fun row hrow => by
    obtain ⟨c, _, rfl⟩ := List.mem_map.mp hrow
    exact List.length_map _⟩]
  conv_rhs => rw [list_eq_map_range y 0, List.map_map]
  refine congrArg Except.ok (map_range_congr fun i hi => ?_)
  rw [Function.comp_apply, div_mul_eq_mul_div, Finset.sum_mul]
  refine congrArg (· / _) (Finset.sum_congr rfl fun c hc => ?_)
  rw [getD_map ccu (hlen ▸ Finset.mem_range.mp hc) 0 [], getD_map y hi 0 0, mul_right_comm]

/-- the stored 2-D user sequence (cover-code rows) -/
def rowsOf (x : List F) (cc : List F) (nrm : Bool) (nu : F) : List (List F) :=
  cc.map (fun c => (rowOf x nrm nu).map (fun v => v * c))

theorem ueSequence_cover (x cc : List F) (nrm : Bool) (nu : F) (hcc : cc ≠ []) :
    ueSequence x (some cc) nrm nu = .ok ⟨nrm, rowsOf x cc nrm nu, some cc⟩ := by
  cases nrm
  · rfl
  · dsimp only [ueSequence]
    rw [if_pos rfl, if_neg (by rw [List.isEmpty_map, List.isEmpty_iff]; exact hcc), List.map_map]
    -- the code multiplies by the cover code first and divides then, `rowsOf` the other way round
    refine congrArg (fun rows => Except.ok (⟨true, rows, some cc⟩ : UeSeq F)) (List.map_congr_left fun c _ => ?_)
    rw [Function.comp_apply, List.map_map, rowOf, if_pos rfl, List.map_map]
    refine List.map_congr_left fun v _ => ?_
    exact mul_div_right_comm v c nu

theorem occReference_rowsOf (x : List F) (c0 : F) (cs : List F) (nrm : Bool) (nu : F) (hc0 : c0 * c0 = 1) :
    occReference (⟨nrm, rowsOf x (c0 :: cs) nrm nu, some (c0 :: cs)⟩ : UeSeq F)
      = .ok (rowOf x nrm nu, c0 :: cs) := by
  -- the reference is the first stored row, `(rowOf x).map (· * c0)`, multiplied by `c0` once more
  refine congrArg (fun row => Except.ok (row, c0 :: cs)) ((List.map_map ..).trans ?_)
  refine (List.map_congr_left fun v _ => ?_).trans (List.map_id _)
  rw [Function.comp_apply, mul_assoc, hc0, mul_one, id]

/-- a user's observed block has rank one -/
theorem rowsOf_observe (x cc H : List F) (nrm : Bool) (nu : F) (m : ℕ) :
    (rowsOf x cc nrm nu).map (fun row => observe H m row)
      = cc.map fun c => (observe H m (rowOf x nrm nu)).map fun v => c * v :=
  (List.map_map ..).trans (List.map_congr_left fun c _ => observe_map_mul H m _ c)

theorem rowsOf_obs_isBlock (x cc H : List F) (nrm : Bool) (nu : F) {nc n : ℕ} (hc : cc.length = nc)
    (hx : x.length = n) : IsBlock ((rowsOf x cc nrm nu).map (fun row => observe H 1 row)) nc n := by
  rw [rowsOf_observe]
  refine ⟨(List.length_map _).trans hc, fun row hrow => ?_⟩
  obtain ⟨c, _, rfl⟩ := List.mem_map.mp hrow
  rw [List.length_map, observe_length, rowOf_length, hx]

/-- the cover-code estimator, given any user's block, returns `γ` times what the plain estimator
    returns on that user's own sequence -/
theorem estimateOcc1_rowsOf {x xu : List F} (k0 : F) (ks ccu : List F) {H E : List F} (nrm : Bool) (nu : F) (K : ℕ)
    {n : ℕ} (hk0 : k0 * k0 = 1) (hlen : ccu.length = (k0 :: ks).length) (hx : x.length = n)
    (hxu : xu.length = n) (hn : 0 < n)
    (h : estimate1 (rowOf x nrm nu) nrm 1 (observe H 1 (rowOf xu nrm nu)) K = .ok E) :
    estimateOcc1 ⟨nrm, rowsOf x (k0 :: ks) nrm nu, some (k0 :: ks)⟩
        ((rowsOf xu ccu nrm nu).map (fun row => observe H 1 row)) K
      = .ok (E.map (fun v => ((∑ c ∈ range (k0 :: ks).length, ccu.getD c 0 * (k0 :: ks).getD c 0)
          / (((k0 :: ks).length : ℕ) : F)) * v)) := by
  simp only [estimateOcc1, occReference_rowsOf _ k0 ks nrm nu hk0, rowsOf_observe,
    occMean_rankOne (k0 :: ks) ccu _ (List.cons_ne_nil _ _) hlen]
  exact estimate1_smul _ _ E _ nrm 1 K Nat.one_pos (by rw [rowOf_length, hx]; exact hn)
    (by rw [observe_length, rowOf_length, rowOf_length, hxu, hx]) h

theorem estimateOcc1_add (ue : UeSeq F) (ref cc : List F) (Y0 Y1 : List (List F)) (E0 E1 : List F) (K : ℕ)
    {n : ℕ} (href : occReference ue = .ok (ref, cc)) (hcc : cc ≠ []) (hrn : ref.length = n) (hN : 0 < n)
    (hb0 : IsBlock Y0 cc.length n) (hb1 : IsBlock Y1 cc.length n)
    (h0 : estimateOcc1 ue Y0 K = .ok E0) (h1 : estimateOcc1 ue Y1 K = .ok E1) :
    estimateOcc1 ue (addRows Y0 Y1) K = .ok (addL E0 E1) := by
  obtain ⟨M0, M1, hm0, hm1, hl0, hl1, hadd⟩ := occMean_add cc Y0 Y1 n hcc hb0 hb1
  simp only [estimateOcc1, href, hm0, hm1, hadd] at h0 h1 ⊢
  exact estimate1_add ref M0 M1 E0 E1 ue.normalized 1 K hrn Nat.one_pos hN hl0 hl1 h0 h1

section
variable (L : CisLaws F) [CharZero F]
include L

theorem occ_estimate_exact (ph : List ℚ) (c0 : F) (cs : List F) (nrm : Bool) (nu : F) (h : List F) (K : ℕ)
    {N : ℕ} (hph : ph.length = N) (hN : 0 < N) (hcov : ∀ c ∈ c0 :: cs, c * c = 1)
    (hnu : nrm = true → conj nu = nu ∧ nu * nu = (N : F))
    (hfit : h.length ≤ K + 1) (hlen : h.length ≤ N) :
    estimateOcc1 ⟨nrm, rowsOf (seqValues ph : List F) (c0 :: cs) nrm nu, some (c0 :: cs)⟩
        ((rowsOf (seqValues ph : List F) (c0 :: cs) nrm nu).map (fun row => observe (fftPad h N) 1 row)) K
      = .ok (fftPad h N) := by
  have hown := ue_estimate_exact L ph nrm nu h 1 K hph Nat.one_pos hN hnu hfit hlen
  rw [Nat.one_mul] at hown
  -- the cover code has inner product `Nc` with itself: `γ = 1`
  rw [estimateOcc1_rowsOf c0 cs _ nrm nu K (hcov c0 List.mem_cons_self) rfl
      ((seqValues_length ph).trans hph) ((seqValues_length ph).trans hph) hN hown,
    Finset.sum_eq_card_nsmul fun c hc => by
      have hc' := Finset.mem_range.mp hc
      rw [List.getD_eq_getElem _ _ hc']
      exact hcov _ (List.getElem_mem hc'),
    Finset.card_range, nsmul_one, div_self (Nat.cast_ne_zero.mpr (Nat.succ_ne_zero _))]
  simp only [one_mul, List.map_id']

end

end PyPhysim.C18P
