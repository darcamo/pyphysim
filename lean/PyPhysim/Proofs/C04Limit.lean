import Mathlib.Topology.Instances.Matrix
import Mathlib.Analysis.Complex.Basic
import Mathlib.Topology.Algebra.GroupWithZero
import PyPhysim.Proofs.C04Filters

/-!
The MMSE filter tends to the zero-forcing filter as the noise variance tends to
zero from above: any family of solutions of the regularised systems of a full-column-rank channel
converges, as matrices and entry by entry, to the solution of the normal equation.
-/
namespace PyPhysim.C04
open Matrix Filter Topology
open scoped ComplexOrder

namespace Pf
variable {m n : Nat}

theorem mmseLhs_continuous (H : Mat ℂ m n) : Continuous fun s : ℝ => toM (mmseLhs H (s : ℂ)) := by
  simp only [toM_mmseLhs]
  exact continuous_const.add ((Complex.continuous_ofReal).smul continuous_const)

theorem mmse_tendsto {H : Mat ℂ m n} (hr : FullColRank H) {G : Mat ℂ n m}
    (hG : matMul (matMul (cT H) H) G = cT H) (W : ℝ → Mat ℂ n m)
    (hW : ∀ s : ℝ, 0 < s → matMul (mmseLhs H (s : ℂ)) (W s) = cT H) :
    Tendsto (fun s => toM (W s)) (𝓝[>] 0) (𝓝 (toM G)) := by
  -- the normal equation is the system at `s = 0`
  rw [← mmseLhs_zero, ← Complex.ofReal_zero] at hG
  have hu : IsUnit (toM (mmseLhs H ((0 : ℝ) : ℂ))) := by
    rw [Complex.ofReal_zero, mmseLhs_zero]; exact fullColRank_iff.mp hr
  have hd0 := (Matrix.isUnit_iff_isUnit_det _).mp hu
  -- `G` and every `W s` are `(mmseLhs H s)⁻¹ Hᴴ`, at `s = 0` and at `s > 0`; the inverse is
  -- continuous at the invertible `mmseLhs H 0`
  have hinv : ContinuousAt (fun s : ℝ => (toM (mmseLhs H (s : ℂ)))⁻¹) 0 :=
    (continuousAt_matrix_inv _
      (by rw [Ring.inverse_eq_inv']; exact continuousAt_inv₀ hd0.ne_zero)).comp
      (mmseLhs_continuous H).continuousAt
  have hG' := Matrix.nonsing_inv_mul_cancel_left _ (toM G) hd0
  rw [← toM_matMul, hG] at hG'
  rw [← hG']
  refine (tendsto_nhdsWithin_of_tendsto_nhds
    ((continuous_id.matrix_mul continuous_const).continuousAt.comp hinv).tendsto).congr'
    (eventually_nhdsWithin_of_forall fun s h0 => ?_)
  rw [← hW s h0, toM_matMul]
  exact Matrix.nonsing_inv_mul_cancel_left _ _
    ((Matrix.isUnit_iff_isUnit_det _).mp (mmseLhs_isUnit H h0))

theorem mmse_tendsto_entry {H : Mat ℂ m n} (hr : FullColRank H) {Gp : Mat ℂ n m}
    (hp : IsPinv H Gp) (W : ℝ → Mat ℂ n m)
    (hs : ∀ s : ℝ, 0 < s → IsSolve (mmseLhs H (s : ℂ)) (mmseRhs H) (W s)) (i : Fin n) (j : Fin m) :
    Tendsto (fun s => W s i j) (𝓝[>] 0) (𝓝 (Gp i j)) :=
  tendsto_pi_nhds.mp (tendsto_pi_nhds.mp (mmse_tendsto hr hp.normal W hs) i) j

end Pf
end PyPhysim.C04
