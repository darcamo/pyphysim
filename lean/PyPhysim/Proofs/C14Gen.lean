/-
C14 — bridge lemmas between the module regenerated from the source
(`Generated/C14Jakes.lean`: symbolic execution of `generate_more_samples` /
`skip_samples_for_next_generation`, the time scale, the Jakes formula) and the
hand model (`Model/C14.lean`).

The only proofs that look at the generated text are the normal forms
(`steps_nf` for the bookkeeping, `timeOfIndex_eq`, `rayPhaseGen_eq`,
`amplitudeGen_eq`, `free…` for the formula): `rfl` where the emitted text reduces
to the model's by computation, else case analysis + linear integer arithmetic / `ring`.
On the emitted text `rfl` closes every arm of `steps_nf` except the two refused
negative sizes, which need the split on the sign test: the branch taken is the normal form,
`omega` refutes the other.  The same split serves, on every arm, the other spellings of
that guard (`-z > 0`, `z ≥ 0` with the branches exchanged, `z + 1 ≤ 0`): the translator
canonicalises linear forms, `math.tau` and extracted helpers, not the guard of the sign test.
A semantic change (other first index / count / step, another counter update, a counter that
moves before a refusal, a refusal at another bound, another time scale, phase, amplitude)
leaves a normal form false.  Everything else is derived from the normal forms.
-/
import Mathlib.Tactic.Ring
import PyPhysim.Proofs.C14
import PyPhysim.Generated.C14Jakes

-- an alternative after `rfl` (and `Int.ofNat_eq_natCast` in `steps_nf`) is deliberate: the emitted text does not
-- reach it, an equivalent spelling of the source does
set_option linter.unusedTactic false
set_option linter.unreachableTactic false
set_option linter.unusedSimpArgs false

namespace PyPhysim.C14
open PyPhysim.Proto
open PyPhysim.Generated.C14 (genStep skipStep timeOfIndex)

/-- The regenerated bookkeeping in normal form, every kind of request at once: first sample number, count, step
    and the counter after the call, also when it raises.  `Int.ofNat_eq_natCast` lets `omega` see the size of
    an accepted request as a cast when the guard is spelt with it (`-z > 0`). -/
theorem steps_nf (k : Int) (a : SizeArg) :
    genStep k a = (match a with
      | .default => (k + 1, .ok (k, 1, 1))
      | .notInt => (k, .error .TypeError)
      | .int (.ofNat n) => (k + (n : Int), .ok (k, (n : Int), 1))
      | .int (.negSucc _) => (k, .error .ValueError)) ∧
    skipStep k a = (match a with
      | .default => (k, some .TypeError)
      | .notInt => (k, some .TypeError)
      | .int (.ofNat n) => (k + (n : Int), none)
      | .int (.negSucc _) => (k, some .ValueError)) := by
  rcases a with _ | (n | m) | _ <;> constructor <;>
    first
    | rfl
    | (simp only [genStep, skipStep, Int.ofNat_eq_natCast]
       split <;> first
         | (exfalso; omega)
         | rfl)

/-- what the MODEL says about `generate_more_samples(a)` in state `s`: the counter
    after the call and either the exception or (first sample number, count, 1) of
    the produced block -/
def modelGenStep (s : State) (a : SizeArg) : Int × Except PyErr (Int × Int × Int) :=
  (((stepR s (.gen a)).1.k : Int),
    match (RawOp.gen a).check with
    | .error e => .error e
    | .ok op => match produced s op with
      | some b => .ok ((b.first : Int), (b.count : Int), 1)
      | none => .ok (0, 0, 0))  -- not reached: `produced s (.gen _)` is `some`

/-- what the MODEL says about `skip_samples_for_next_generation(a)` -/
def modelSkipStep (s : State) (a : SizeArg) : Int × Option PyErr :=
  (((stepR s (.skip a)).1.k : Int), (stepR s (.skip a)).2)

theorem genStep_eq_model (s : State) (a : SizeArg) : genStep (s.k : Int) a = modelGenStep s a := by
  rw [(steps_nf _ a).1]
  rcases a with _ | (n | m) | _ <;> rfl

theorem skipStep_eq_model (s : State) (a : SizeArg) : skipStep (s.k : Int) a = modelSkipStep s a := by
  rw [(steps_nf _ a).2]
  rcases a with _ | (n | m) | _ <;> rfl

/-- the sample indexes a regenerated request evaluates: `first + step * j`, `j < count` -/
def genIndexes (k : Int) (a : SizeArg) : List Int :=
  match (genStep k a).2 with
  | .ok (f, c, st) => (List.range c.toNat).map fun (j : Nat) => f + st * (j : Int)
  | .error _ => []

theorem indexes_of_block (s : State) (n : Option Nat) :
    (List.range ((reqCount n : Nat) : Int).toNat).map (fun j : Nat => (s.k : Int) + 1 * (j : Int)) =
      ((genBlock s n).samples id).map Int.ofNat := by
  rw [Int.toNat_natCast, Block.samples, List.map_map]
  exact List.map_congr_left fun j _ => (congrArg _ (Int.one_mul _)).trans (Int.natCast_add ..).symm

theorem genIndexes_eq_block (s : State) (a : SizeArg) (op : Op) (h : (RawOp.gen a).check = .ok op) :
    ∃ n, op = .gen n ∧
      genIndexes (s.k : Int) a = ((genBlock s n).samples id).map Int.ofNat := by
  unfold genIndexes
  rw [(steps_nf _ a).1]
  rcases a with _ | (n | m) | _
  · exact ⟨none, (Except.ok.inj h).symm, indexes_of_block s none⟩
  · exact ⟨some n, (Except.ok.inj h).symm, indexes_of_block s (some n)⟩
  · cases h
  · cases h

theorem genIndexes_refused (s : State) (a : SizeArg) (e : PyErr) (h : (RawOp.gen a).check = .error e) :
    genIndexes (s.k : Int) a = [] := by
  rw [genIndexes, genStep_eq_model, modelGenStep, h]

theorem timeOfIndex_eq (Ts : ℝ) (i : Nat) : timeOfIndex Ts i = sampleTime Ts i := by
  unfold Generated.C14.timeOfIndex sampleTime
  first | rfl | ring

theorem rayPhaseGen_eq (Fd t : ℝ) (r : ℝ × ℝ) : Generated.C14.rayPhase Fd t r = rayPhase Fd t r := by
  unfold Generated.C14.rayPhase rayPhase
  first | rfl | ring

theorem amplitudeGen_eq (L : Nat) :
    (Generated.C14.amplitude L : ℝ) = Transc.sqrt (((1 : Nat) : ℝ) / ((L : Nat) : ℝ)) := by
  unfold Generated.C14.amplitude
  first | rfl | (congr 1; ring)

theorem freeRayPhase_eq (Fd t : ℝ) (r : ℝ × ℝ) : Generated.C14.freeRayPhase Fd t r = rayPhase Fd t r := by
  unfold Generated.C14.freeRayPhase rayPhase
  first | rfl | ring

theorem freeAmplitude_eq (L : Nat) :
    (Generated.C14.freeAmplitude L : ℝ) = Transc.sqrt (((1 : Nat) : ℝ) / ((L : Nat) : ℝ)) := by
  unfold Generated.C14.freeAmplitude
  first | rfl | (congr 1; ring)

theorem isEmpty_eq_length_beq (rays : List (ℝ × ℝ)) : rays.isEmpty = (rays.length == 0) := by
  cases rays <;> rfl

theorem jakesGen_eq (Fd : ℝ) (rays : List (ℝ × ℝ)) (t : ℝ) :
    Generated.C14.jakes Fd rays.length rays t = jakes Fd rays t := by
  simp only [Generated.C14.jakes, jakes, isEmpty_eq_length_beq, amplitudeGen_eq,
    funext (rayPhaseGen_eq Fd t)]

theorem freeJakes_eq (Fd : ℝ) (rays : List (ℝ × ℝ)) (t : ℝ) :
    Generated.C14.freeJakes Fd rays.length rays t = jakes Fd rays t := by
  simp only [Generated.C14.freeJakes, jakes, isEmpty_eq_length_beq, freeAmplitude_eq,
    funext (freeRayPhase_eq Fd t)]

end PyPhysim.C14
