import PyPhysim.Proofs.C05Grid

/-!
C05 — exact look-ups (R15).  The model compares parameter values with `==` only: it
sees the *equality pattern* of the values, never a distance.  Formally every look-up
commutes with any INJECTIVE relabelling `f` of the values (`relabel f`): however close
the images of two distinct values are, they stay distinct and each one is looked up
exactly.  Instantiated in the harness with `f` = base integer ↦ member of a cluster of
close floats (`close_value`).
-/
namespace PyPhysim.C05

def relabel {V W : Type} (f : V → W) (ps : List (Param V)) : List (Param W) :=
  ps.map (fun p => (p.1, p.2.map f))

def relabelFixed {V W : Type} (f : V → W) (fixed : List (String × V)) : List (String × W) :=
  fixed.map (fun q => (q.1, f q.2))

section exact
variable {V W : Type}

theorem lookup_relabelFixed (f : V → W) (name : String) (fixed : List (String × V)) :
    (relabelFixed f fixed).lookup name = (fixed.lookup name).map f := by
  induction fixed with
  | nil => rfl
  | cons q rest ih =>
    show ((q.1, f q.2) :: relabelFixed f rest).lookup name = _
    rw [List.lookup_cons, List.lookup_cons, ih]
    cases name == q.1 <;> rfl

theorem sortParams_relabel (f : V → W) (ps : List (Param V)) :
    sortParams (relabel f ps) = relabel f (sortParams ps) :=
  (List.map_mergeSort (f := fun p : Param V => (p.1, p.2.map f)) fun _ _ _ _ => rfl).symm

theorem dimsOf_relabel (f : V → W) (ps : List (Param V)) : dimsOf (relabel f ps) = dimsOf ps := by
  rw [dimsOf, sortParams_relabel, relabel, List.map_map]
  exact List.map_congr_left fun p _ => List.length_map f

theorem product_map (f : V → W) (vals : List (List V)) :
    product (vals.map (List.map f)) = (product vals).map (List.map f) := by
  induction vals with
  | nil => rfl
  | cons vs rest ih =>
    rw [List.map_cons, product, ih, product, List.flatMap_map, List.map_flatMap]
    simp only [List.map_map]
    rfl

theorem combos_relabel (f : V → W) (ps : List (Param V)) :
    combos (relabel f ps) = (combos ps).map (List.map f) := by
  rw [combos, sortParams_relabel, combos, ← product_map, relabel, List.map_map, List.map_map]
  rfl

theorem packIndexes_single [BEq V] (name : String) (vals : List V) (v : V) (k : Nat)
    (h : indexOf v vals = some k) : packIndexes [(name, vals)] [(name, v)] = .ok [k] := by
  simp only [packIndexes_eq, dimsOf, sortParams, List.mergeSort_singleton, selectors,
    List.lookup_cons, (beq_iff_eq.mpr rfl : (name == name) = true), h, Except.map, List.map, slice, prod,
    Nat.zero_add, Nat.mul_one]

variable [BEq V] [LawfulBEq V] [BEq W] [LawfulBEq W]

theorem indexOf_relabel (f : V → W) (hf : ∀ a b, f a = f b → a = b) (v : V) (l : List V) :
    indexOf (f v) (l.map f) = indexOf v l := by
  induction l with
  | nil => rfl
  | cons x xs ih =>
    rw [List.map_cons]
    unfold indexOf
    rw [ih, Function.Injective.beq_eq (fun a b => hf a b)]

theorem selectors_relabel (f : V → W) (hf : ∀ a b, f a = f b → a = b) (fixed : List (String × V))
    (sp : List (Param V)) : selectors (relabelFixed f fixed) (relabel f sp) = selectors fixed sp := by
  induction sp with
  | nil => rfl
  | cons p rest ih =>
    show selectors _ ((p.1, p.2.map f) :: relabel f rest) = _
    unfold selectors
    rw [ih, lookup_relabelFixed]
    cases fixed.lookup p.1 with
    | none => rfl
    | some v => simp only [Option.map_some, indexOf_relabel f hf]

theorem packIndexes_relabel (f : V → W) (hf : ∀ a b, f a = f b → a = b) (ps : List (Param V))
    (fixed : List (String × V)) :
    packIndexes (relabel f ps) (relabelFixed f fixed) = packIndexes ps fixed := by
  rw [packIndexes_eq, packIndexes_eq, sortParams_relabel, selectors_relabel f hf, dimsOf_relabel]

theorem resultValues_relabel {X : Type} (f : V → W) (hf : ∀ a b, f a = f b → a = b)
    (ps : List (Param V)) (results : List X) (fixed : List (String × V)) :
    resultValues (relabel f ps) results (relabelFixed f fixed) = resultValues ps results fixed := by
  rw [resultValues, packIndexes_relabel f hf, relabelFixed, List.isEmpty_map]
  rfl

theorem indexOf_separates (v w : V) (l : List V) (k : Nat) (hv : indexOf v l = some k)
    (hw : indexOf w l = some k) : v = w := by
  -- both are the entry of `l` at `k`
  exact Option.some.inj ((indexOf_some v l k hv).1.symm.trans (indexOf_some w l k hw).1)

end exact

end PyPhysim.C05
