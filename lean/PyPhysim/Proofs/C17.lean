import PyPhysim.Model.C17
import PyPhysim.Proofs.Common
/-!
C17, value layer: `dec (enc v) = ok (norm v)` by mutual structural recursion over values, lists and
dictionaries (`dec_enc_aux`, with `leaves_plain` / `dec_enc_ndarray` for arrays and `mkSet_distinct` / `pyEq_norm`
for sets; `dec_enc_bind` is the form the classes use); `norm` is idempotent (`norm_norm`), `enc ∘ norm = enc`
(`enc_norm_aux`), and `norm v` is the same value as `v` (`sameValue_norm_aux`).  The three `_aux` results carry
the mutual recursions; Properties/C17 states them again under the names of the property.
-/
namespace PyPhysim.C17

@[simp] theorem bind_ok {α β : Type} (a : α) (f : α → R β) : (Except.ok a : R α).bind f = f a := rfl

mutual
  theorem leaves_plain (k : Leaf) (v : PyVal) (h : leavesOk k v = true) : norm v = v ∧ dec (enc v) = .ok v := by
    cases v with
    | int _ | float _ | bool _ => exact ⟨rfl, rfl⟩
    | list xs =>
      obtain ⟨hn, hd⟩ := leavesList_plain k xs h
      exact ⟨congrArg PyVal.list hn, by simp only [enc, dec]; rw [hd]; rfl⟩
    | _ => simp [leavesOk] at h
  theorem leavesList_plain (k : Leaf) :
      ∀ xs : List PyVal, leavesOkList k xs = true → normList xs = xs ∧ decList (encList xs) = .ok xs
    | [], _ => ⟨rfl, rfl⟩
    | x :: xs, h => by
      simp only [leavesOkList, Bool.and_eq_true] at h
      obtain ⟨hn, hd⟩ := leaves_plain k x h.1
      obtain ⟨hns, hds⟩ := leavesList_plain k xs h.2
      simp only [normList, encList, decList]
      rw [hn, hns, hd, hds]
      exact ⟨rfl, rfl⟩
end

theorem norm_leaves (k : Leaf) : ∀ v : PyVal, leavesOk k v = true → norm v = v :=
  fun v h => (leaves_plain k v h).1

theorem normList_leaves (k : Leaf) : ∀ xs : List PyVal, leavesOkList k xs = true → normList xs = xs :=
  fun xs h => (leavesList_plain k xs h).1

theorem decList_encList_leaves (k : Leaf) :
    ∀ xs : List PyVal, leavesOkList k xs = true → decList (encList xs) = .ok xs :=
  fun xs h => (leavesList_plain k xs h).2

theorem decList_shape (sh : List Nat) :
    decList (sh.map (fun (n : Nat) => Json.int (n : Int))) = .ok (sh.map (fun (n : Nat) => PyVal.int (n : Int))) := by
  induction sh with
  | nil => rfl
  | cons n sh ih => rw [List.map, decList, dec, ih]; rfl

theorem natList_shape (sh : List Nat) :
    natList (sh.map (fun (n : Nat) => PyVal.int (n : Int))) = some sh := by
  induction sh with
  | nil => rfl
  | cons n sh ih => rw [List.map, natList, if_neg (Int.not_lt.2 (Int.natCast_nonneg n)), ih, Int.toNat_natCast]; rfl

/- Looking literal keys up.  `simp -iota` rewrites every `lookup` by its equations before the `match` that consumes
   it is touched, and `String.reduceEq` proves two literal keys different by pointing at the first position where
   they differ.  With `iota` on, `simp` reduces the `match` first, by evaluating its discriminants, and the elaborator
   and then the kernel compare the keys by unfolding `String.decEq`, at several times the price; a plain `rfl` does
   the same. -/
theorem objHook_array (data dt sh : PyVal) :
    objHook [("data", data), ("dtype", dt), ("_is_numpy_array", .bool true), ("shape", sh)] = mkArray data dt sh := by
  rw [objHook]
  simp -iota only [lookup, beq_iff_eq, String.reduceEq, ↓reduceIte]
  rfl

theorem objHook_set (data : PyVal) : objHook [("data", data), ("_is_set", .bool true)] = mkSet data := by
  rw [objHook]
  simp -iota only [lookup, beq_iff_eq, String.reduceEq, ↓reduceIte]
  rfl

theorem dec_enc_ndarray (dt : String) (sh : List Nat) (data : PyVal)
    (h : wf (.ndarray dt sh data) = true) :
    dec (enc (.ndarray dt sh data)) = .ok (.ndarray dt sh data) := by
  rw [wf] at h
  split at h
  · next k hk =>
    rw [Bool.and_eq_true, beq_iff_eq] at h
    obtain ⟨hl, hs⟩ := h
    simp only [enc, dec, decKVs, (leaves_plain k data hl).2, decList_shape, Except.bind]
    rw [objHook_array]
    simp [mkArray, hk, natList_shape, hl, hs]
  · cases h

/-- `pyEq` sees a number only through `numOf`; it looks at the argument itself only where there is no number -/
theorem pyEq_congr_right (a : PyVal) {b b' : PyVal} {y : Num} (hb : numOf b = some y) (hb' : numOf b' = some y) :
    pyEq a b = pyEq a b' := by
  unfold pyEq
  rw [hb, hb']
  split
  · rfl
  · rfl
  · rfl
  · next h => cases h
  · rfl

/-- `norm` changes numpy scalars only, into the Python scalar with the same `numOf` -/
theorem pyEq_norm (a b : PyVal) (ha : hashable a = true) (hb : hashable b = true) :
    pyEq (norm a) (norm b) = pyEq a b := by
  have left : pyEq (norm a) (norm b) = pyEq a (norm b) := by
    cases a with
    | list xs | set xs | ndarray dt sh d | dict kvs => cases ha
    | _ => rfl
  rw [left]
  cases b with
  | list xs | set xs | ndarray dt sh d | dict kvs => cases hb
  | npint s w i | npfloat w f | npbool c => exact pyEq_congr_right a rfl rfl
  | _ => rfl

theorem hashable_norm (v : PyVal) : hashable (norm v) = hashable v := by
  cases v <;> rfl

theorem normList_eq_map (xs : List PyVal) : normList xs = xs.map norm := by
  induction xs <;> simp_all [normList]

theorem pairwiseDistinct_iff (xs : List PyVal) :
    pairwiseDistinct xs = true ↔ xs.Pairwise (fun x y => pyEq x y = false) := by
  induction xs <;> simp_all [pairwiseDistinct]

theorem foldl_setAdd_distinct (xs acc : List PyVal)
    (h : (acc ++ xs).Pairwise (fun x y => pyEq x y = false)) : xs.foldl setAdd acc = acc ++ xs := by
  induction xs generalizing acc with
  | nil => exact (List.append_nil acc).symm
  | cons x xs ih =>
    have hx : acc.any (fun y => pyEq y x) = false :=
      List.any_eq_false.2 fun y hy => ne_true_of_eq_false ((List.pairwise_append.1 h).2.2 y hy x List.mem_cons_self)
    rw [List.foldl_cons, setAdd, if_neg (ne_true_of_eq_false hx), ih (acc ++ [x]) (by rwa [List.append_assoc]),
      List.append_assoc]
    rfl

theorem mkSet_distinct (xs : List PyVal) (hh : xs.all hashable = true) (hd : pairwiseDistinct xs = true) :
    mkSet (.list xs) = .ok (.set xs) := by
  simp only [mkSet, hh, if_true]
  rw [foldl_setAdd_distinct xs [] ((pairwiseDistinct_iff xs).1 hd), List.nil_append]

theorem all_hashable_norm (xs : List PyVal) : (normList xs).all hashable = xs.all hashable := by
  rw [normList_eq_map, List.all_map]
  exact congrArg xs.all (funext hashable_norm)

theorem pairwiseDistinct_norm (xs : List PyVal) (hh : xs.all hashable = true)
    (hd : pairwiseDistinct xs = true) : pairwiseDistinct (normList xs) = true := by
  rw [pairwiseDistinct_iff] at hd ⊢
  rw [normList_eq_map, List.pairwise_map]
  refine hd.imp_of_mem fun {x y} hx hy h => ?_
  rw [pyEq_norm x y (List.all_eq_true.1 hh x hx) (List.all_eq_true.1 hh y hy), h]

theorem lookup_reserved_none (k : String) (hk : reserved k = true) (kvs : List (String × PyVal))
    (h : wfKVs kvs = true) : lookup k (normKVs kvs) = .none := by
  induction kvs with
  | nil => rfl
  | cons p kvs ih =>
    simp only [wfKVs, Bool.and_eq_true, Bool.not_eq_eq_eq_not, Bool.not_true] at h
    have : (p.1 == k) = false := beq_false_of_ne fun e => by rw [e, hk] at h; simp at h
    simp only [normKVs, lookup, this]
    exact ih h.2

theorem lookup_normKVs (k : String) (kvs : List (String × PyVal)) :
    lookup k (normKVs kvs) = (lookup k kvs).map norm := by
  induction kvs with
  | nil => rfl
  | cons p kvs ih =>
    simp only [normKVs, lookup]
    split
    · rfl
    · exact ih

mutual
  theorem dec_enc_aux (v : PyVal) (h : wf v = true) : dec (enc v) = .ok (norm v) := by
    cases v with
    | list xs =>
      simp only [enc, dec, norm]; rw [dec_enc_list xs h]; rfl
    | set xs =>
      simp only [wf, Bool.and_eq_true] at h
      obtain ⟨⟨hh, hd⟩, hw⟩ := h
      simp only [enc, dec, decKVs, norm]
      rw [dec_enc_list xs hw]
      simp only [Except.bind]
      rw [objHook_set]
      exact mkSet_distinct _ ((all_hashable_norm xs).trans hh) (pairwiseDistinct_norm xs hh hd)
    | ndarray dt sh data => exact dec_enc_ndarray dt sh data h
    | dict kvs =>
      simp only [enc, dec, norm]
      rw [dec_enc_kvs kvs h]
      simp only [bind_ok, objHook]
      rw [lookup_reserved_none "_is_numpy_array" (Bool.or_eq_true_iff.2 (.inr (beq_self_eq_true _))) kvs h,
          lookup_reserved_none "_is_set" (Bool.or_eq_true_iff.2 (.inl (beq_self_eq_true _))) kvs h]
    | _ => rfl
  theorem dec_enc_list : ∀ xs : List PyVal, wfList xs = true → decList (encList xs) = .ok (normList xs)
    | [], _ => rfl
    | x :: xs, h => by
      simp only [wfList, Bool.and_eq_true] at h
      simp only [encList, decList, normList]; rw [dec_enc_aux x h.1, dec_enc_list xs h.2]; rfl
  theorem dec_enc_kvs : ∀ kvs : List (String × PyVal), wfKVs kvs = true →
      decKVs (encKVs kvs) = .ok (normKVs kvs)
    | [], _ => rfl
    | (k, v) :: kvs, h => by
      simp only [wfKVs, Bool.and_eq_true] at h
      simp only [encKVs, decKVs, normKVs]; rw [dec_enc_aux v h.1.2, dec_enc_kvs kvs h.2]; rfl
end

theorem dec_enc_bind {α : Type} (f : PyVal → R α) (v : PyVal) (h : wf v = true) :
    (dec (enc v)).bind f = f (norm v) := by
  rw [dec_enc_aux v h, bind_ok]

mutual
  theorem norm_norm (v : PyVal) : norm (norm v) = norm v := by
    cases v with
    | list xs => exact congrArg PyVal.list (normList_normList xs)
    | set xs => exact congrArg PyVal.set (normList_normList xs)
    | dict kvs => exact congrArg PyVal.dict (normKVs_normKVs kvs)
    | _ => rfl
  theorem normList_normList : ∀ xs : List PyVal, normList (normList xs) = normList xs
    | [] => rfl
    | x :: xs => by simp only [normList]; rw [norm_norm x, normList_normList xs]
  theorem normKVs_normKVs : ∀ kvs : List (String × PyVal), normKVs (normKVs kvs) = normKVs kvs
    | [] => rfl
    | (k, v) :: kvs => by simp only [normKVs]; rw [norm_norm v, normKVs_normKVs kvs]
end

mutual
  theorem enc_norm_aux (v : PyVal) : enc (norm v) = enc v := by
    cases v with
    | list xs => exact congrArg Json.arr (encList_norm xs)
    | set xs => simp only [norm, enc]; rw [encList_norm xs]
    | dict kvs => exact congrArg Json.obj (encKVs_norm kvs)
    | _ => rfl
  theorem encList_norm : ∀ xs : List PyVal, encList (normList xs) = encList xs
    | [] => rfl
    | x :: xs => by simp only [normList, encList]; rw [enc_norm_aux x, encList_norm xs]
  theorem encKVs_norm : ∀ kvs : List (String × PyVal), encKVs (normKVs kvs) = encKVs kvs
    | [] => rfl
    | (k, v) :: kvs => by simp only [normKVs, encKVs]; rw [enc_norm_aux v, encKVs_norm kvs]
end

mutual
  theorem sameValue_refl (v : PyVal) : sameValue v v = true := by
    cases v with
    | none => rfl
    | str s => simp only [sameValue, beq_self_eq_true]
    | list xs => exact sameValueList_refl xs
    | set xs => exact sameValueList_refl xs
    | ndarray dt sh d => simp only [sameValue, beq_self_eq_true, Bool.true_and]; exact sameValue_refl d
    | dict kvs => exact sameValueKVs_refl kvs
    | _ => simp only [sameValue, numOf, beq_self_eq_true, Bool.and_self]
  theorem sameValueList_refl : ∀ xs : List PyVal, sameValueList xs xs = true
    | [] => rfl
    | x :: xs => by simp only [sameValueList, sameValue_refl x, sameValueList_refl xs, Bool.and_self]
  theorem sameValueKVs_refl : ∀ kvs : List (String × PyVal), sameValueKVs kvs kvs = true
    | [] => rfl
    | (k, v) :: kvs => by
      simp only [sameValueKVs, beq_self_eq_true, sameValue_refl v, sameValueKVs_refl kvs, Bool.and_self]
end

theorem isNegZero_npfloat (w : Nat) (f : PyFloat) : isNegZero (.npfloat w f) = isNegZero (.float f) := by
  cases f <;> rfl

mutual
  theorem sameValue_norm_aux (v : PyVal) : sameValue v (norm v) = true := by
    cases v with
    | npint _ _ _ | npbool _ => simp only [norm, sameValue, numOf, isNegZero, beq_self_eq_true, Bool.and_self]
    | npfloat w f => simp only [norm, sameValue, numOf, isNegZero_npfloat, beq_self_eq_true, Bool.and_self]
    | list xs => exact sameValueList_norm xs
    | set xs => exact sameValueList_norm xs
    | dict kvs => exact sameValueKVs_norm kvs
    | _ => exact sameValue_refl _
  theorem sameValueList_norm : ∀ xs : List PyVal, sameValueList xs (normList xs) = true
    | [] => rfl
    | x :: xs => by
      simp only [normList, sameValueList, sameValue_norm_aux x, sameValueList_norm xs, Bool.and_self]
  theorem sameValueKVs_norm : ∀ kvs : List (String × PyVal), sameValueKVs kvs (normKVs kvs) = true
    | [] => rfl
    | (k, v) :: kvs => by
      simp only [normKVs, sameValueKVs, beq_self_eq_true, sameValue_norm_aux v, sameValueKVs_norm kvs,
        Bool.and_self]
end

end PyPhysim.C17
