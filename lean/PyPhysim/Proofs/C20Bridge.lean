import Mathlib.Data.Matrix.Mul
import Mathlib.Algebra.BigOperators.Fin
import Mathlib.LinearAlgebra.Matrix.ConjTranspose
import Mathlib.Algebra.Star.Basic
import Mathlib.LinearAlgebra.Matrix.Trace
import PyPhysim.Model.C20

/-!
Bridge between the core-only matrix model (`PyPhysim.LinAlg`, `Fin`-indexed
functions with an own `sumFin`) and Mathlib's `Matrix`: `Matrix.of` of every
model operation is the corresponding Mathlib operation.  The tactic `to_matrix` carries an equation
between model matrices across; `orthonormal_toM`, `mul_eq_one_toM` do so for `Qᴴ Q = 1` and `A B = 1`.
-/
namespace PyPhysim.LinAlg
open Matrix

instance instConjOfStar {K : Type} [Star K] : Conj K := ⟨star⟩

theorem sumFin_eq {β : Type} [AddCommMonoid β] : ∀ (n : Nat) (f : Fin n → β), sumFin n f = ∑ i, f i
  | 0, f => (Fin.sum_univ_zero f).symm
  | n+1, f => by rw [sumFin, sumFin_eq n, Fin.sum_univ_castSucc]

abbrev toM {K : Type} {m n : Nat} (A : Mat K m n) : Matrix (Fin m) (Fin n) K := Matrix.of A

theorem toM_inj {K : Type} {m n : Nat} {A B : Mat K m n} (h : toM A = toM B) : A = B :=
  Matrix.of.injective h

section
variable {K : Type} [CommRing K] {m k n : Nat}

theorem toM_matMul (A : Mat K m k) (B : Mat K k n) : toM (matMul A B) = toM A * toM B := by
  ext i j
  exact (sumFin_eq k _).trans (Matrix.mul_apply ..).symm

theorem toM_eye : toM (eye : Mat K n n) = 1 := by
  ext i j
  simp [eye, Matrix.one_apply]

theorem toM_msub (A B : Mat K m n) : toM (msub A B) = toM A - toM B := rfl

theorem toM_madd (A B : Mat K m n) : toM (madd A B) = toM A + toM B := rfl

theorem toM_smul (c : K) (A : Mat K m n) : toM (smul c A) = c • toM A := rfl

theorem toM_diagM (d : Fin n → K) : toM (diagM d) = Matrix.diagonal d := by
  ext i j; simp [diagM, Matrix.diagonal_apply]

end

section
variable {K : Type} [CommRing K] [StarRing K] {m k n : Nat}

theorem toM_cT (A : Mat K m n) : toM (cT A) = (toM A)ᴴ := rfl

theorem frobSq_eq (D : Mat K m n) : frobSq D = Matrix.trace (toM D * (toM D)ᴴ) := by
  simp only [frobSq, sumFin_eq]
  -- both sides are `∑ i, ∑ j, D i j * star (D i j)`: `trace`, `diag`, `mul_apply`, `conjTranspose_apply` unfold
  rfl

end
/-! The derived operations are unfolded to `matMul` / `cT` / `msub` / `eye` / `smul` under `toM`. -/
section
variable {K : Type} [CommRing K] {m k n : Nat}

theorem toM_project (Q : Mat K m m) (M : Mat K m n) : toM (project Q M) = toM (matMul Q M) := rfl

theorem toM_reflect (Q : Mat K m m) (M : Mat K m n) :
    toM (reflect Q M) = toM (matMul (msub eye (smul 2 Q)) M) := by
  rw [reflect, one_add_one_eq_two]

variable [StarRing K]

theorem toM_gram (A : Mat K m k) : toM (gram A) = toM (matMul (cT A) A) := rfl

theorem toM_projWith (G : Mat K k k) (A : Mat K m k) :
    toM (projWith G A) = toM (matMul (matMul A G) (cT A)) := rfl

theorem toM_oprojWith (G : Mat K k k) (A : Mat K m k) :
    toM (oprojWith G A) = toM (msub eye (projWith G A)) := rfl

theorem toM_pangleArg (Q1 : Mat K m k) (Q2 : Mat K m n) :
    toM (pangleArg Q1 Q2) = toM (matMul (cT Q1) Q2) := rfl

end

/-- `toM` applied to both sides of the hypothesis `h` and pushed through the model operations (the `toM_*`
    lemmas): `h` becomes an equation between Mathlib matrices. -/
macro "to_matrix" " at " h:ident : tactic =>
  `(tactic| (replace $h := congrArg toM $h
             simp only [toM_matMul, toM_gram, toM_eye, toM_cT, toM_msub, toM_madd, toM_smul, toM_projWith,
               toM_oprojWith, toM_project, toM_reflect, toM_diagM, toM_pangleArg] at $h:ident))
/-- The same for a goal that is an equation between model matrices (`toM_inj`). -/
macro "to_matrix" : tactic =>
  `(tactic| (apply toM_inj
             simp only [toM_matMul, toM_gram, toM_eye, toM_cT, toM_msub, toM_madd, toM_smul, toM_projWith,
               toM_oprojWith, toM_project, toM_reflect, toM_diagM, toM_pangleArg]))


section
variable {K : Type} [CommRing K] [StarRing K] {m k n : Nat}

theorem orthonormal_toM {Q : Mat K m k} (h : matMul (cT Q) Q = eye) : (toM Q)ᴴ * toM Q = 1 := by
  to_matrix at h
  exact h

/-- `cT_eye` with `eye_matMul` of `C20Alg`; here for `C20GmdInvTop`, which is below `C20Alg` -/
theorem eye_orthonormal : matMul (cT (eye : Mat K n n)) eye = eye := by
  to_matrix
  rw [conjTranspose_one, Matrix.one_mul]

end

theorem mul_eq_one_toM {K : Type} [CommRing K] {n : Nat} {A B : Mat K n n} (h : matMul A B = eye) :
    toM A * toM B = 1 := by
  to_matrix at h
  exact h

end PyPhysim.LinAlg
