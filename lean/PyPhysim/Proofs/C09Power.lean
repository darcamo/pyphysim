import PyPhysim.Proofs.C09Bridge

/-!
Power clauses: Frobenius norms under real scaling, the running maximum of
`_perform_normalized_waterfilling_power_scaling`, orthonormal columns of the
selected singular vectors; from these the power of every transmitter's block after normalised
water-filling (`normalizedWF_power`) and without water-filling (`noWF_power`).
-/
namespace PyPhysim.BD
namespace Pf
open Matrix

/-- the loop `max_sqrt_P = init; for c in xs: if c > max_sqrt_P: max_sqrt_P = c` -/
theorem foldl_max_spec (xs : List ℝ) (a r : ℝ) (hr : xs.foldl (fun mx c => if mx < c then c else mx) a = r) :
    a ≤ r ∧ (∀ x ∈ xs, x ≤ r) ∧ (r = a ∨ r ∈ xs) := by
  induction xs generalizing a with
  | nil => exact ⟨hr.le, fun x hx => absurd hx List.not_mem_nil, Or.inl hr.symm⟩
  | cons y ys ih =>
    rw [List.foldl_cons] at hr
    simp only [List.mem_cons, forall_eq_or_imp]
    split at hr
    · rename_i h
      obtain ⟨h1, h2, h3⟩ := ih y hr
      exact ⟨le_trans h.le h1, ⟨h1, h2⟩, Or.inr (h3.elim Or.inl Or.inr)⟩
    · rename_i h
      obtain ⟨h1, h2, h3⟩ := ih a hr
      exact ⟨h1, ⟨le_trans (not_lt.mp h) h1, h2⟩, h3.elim Or.inl (fun e => Or.inr (Or.inr e))⟩

theorem maxLoop_ge (xs : List ℝ) (x : ℝ) (hx : x ∈ xs) : x ≤ maxLoop xs := (foldl_max_spec xs 0 _ rfl).2.1 x hx

theorem maxLoop_nonneg (xs : List ℝ) : 0 ≤ maxLoop xs := (foldl_max_spec xs 0 _ rfl).1

theorem maxLoop_attained (xs : List ℝ) (x : ℝ) (hx : x ∈ xs) (hpos : 0 < x) :
    maxLoop xs ∈ xs ∧ 0 < maxLoop xs := by
  have hp : 0 < maxLoop xs := lt_of_lt_of_le hpos (maxLoop_ge xs x hx)
  exact ⟨(foldl_max_spec xs 0 _ rfl).2.2.resolve_left hp.ne', hp⟩

section frob
variable {m n : Nat}

theorem frobSq_scale (A : Mat ℂ m n) (s c : ℝ) :
    frobSq (fun i j => A i j * Cx.ofReal s / Cx.ofReal c : Mat ℂ m n) = frobSq A * (s * s) / (c * c) := by
  simp only [frobSq_eq, Cx.ofReal, Complex.normSq_div, Complex.normSq_mul, Complex.normSq_ofReal, Finset.sum_mul,
    Finset.sum_div]

theorem frobSq_div (A : Mat ℂ m n) (c : ℝ) :
    frobSq (fun i j => A i j / Cx.ofReal c : Mat ℂ m n) = frobSq A / (c * c) := by
  simp only [frobSq_eq, Cx.ofReal, Complex.normSq_div, Complex.normSq_ofReal, Finset.sum_div]

theorem frobNorm_sq (A : Mat ℂ m n) : frobNorm A * frobNorm A = frobSq A :=
  Real.mul_self_sqrt (frobSq_nonneg A)

theorem frobNorm_nonneg (A : Mat ℂ m n) : 0 ≤ frobNorm A := Real.sqrt_nonneg _

theorem frobNorm_pos_iff (A : Mat ℂ m n) : 0 < frobNorm A ↔ 0 < frobSq A := Real.sqrt_pos

theorem frobSq_normalised (A : Mat ℂ m n) (P : ℝ) (hP : 0 ≤ P) (hA : 0 < frobSq A) :
    frobSq (fun i j => A i j * Cx.ofReal (RFun.sqrt P) / Cx.ofReal (frobNorm A) : Mat ℂ m n) = P := by
  rw [frobSq_scale, frobNorm_sq]
  show frobSq A * (Real.sqrt P * Real.sqrt P) / frobSq A = P
  rw [Real.mul_self_sqrt hP]
  exact mul_div_cancel_left₀ _ hA.ne'

end frob

section ortho
variable {T n : Nat}

theorem revIdx_injective (h : n ≤ T) : Function.Injective (revIdx h) := by
  intro a b hab
  have le : ∀ c : Fin n, c.val ≤ T - 1 := fun c => Nat.le_sub_one_of_lt (Nat.lt_of_lt_of_le c.isLt h)
  have hv : T - 1 - a.val = T - 1 - b.val := congrArg Fin.val hab
  exact Fin.ext (by rw [← Nat.sub_sub_self (le a), hv, Nat.sub_sub_self (le b)])

theorem submatrix_orthonormal {l m : Type} [Fintype m] [DecidableEq m] [DecidableEq l]
    {V : Matrix m m ℂ} (hV : Vᴴ * V = 1) {f : l → m} (hf : Function.Injective f) :
    (V.submatrix id f)ᴴ * V.submatrix id f = 1 := by
  rw [conjTranspose_submatrix, ← submatrix_mul _ _ _ _ _ Function.bijective_id, hV, submatrix_one _ hf]

theorem leastCols_orthonormal (VH : Mat ℂ T T) (h : n ≤ T) (hU : matMul VH (cT VH) = eye) :
    matMul (cT (leastCols VH n h)) (leastCols VH n h) = eye := by
  -- by definition column `j` of `leastCols VH n h` is column `revIdx h j` of `V_Hᴴ`, so the entries of its Gram matrix are
  -- entries of `(V_Hᴴ)ᴴ · V_Hᴴ = V_H · V_Hᴴ`
  have e : matMul (cT (cT VH)) (cT VH) = eye := by rw [cT_cT, hU]
  funext a b
  exact (congrFun (congrFun e (revIdx h a)) (revIdx h b)).trans (if_congr (revIdx_injective h).eq_iff rfl rfl)

theorem col_normSq_of_orthonormal {m : Nat} (A : Mat ℂ m n) (hA : matMul (cT A) A = eye) (c : Fin n) :
    ∑ i, Complex.normSq (A i c) = 1 := by
  have h := congrFun (congrFun hA c) c
  simp only [matMul_apply, cT, Cx.conj, eye, if_true] at h
  have h2 := congrArg Complex.re h
  simp only [Complex.re_sum, Complex.one_re] at h2
  rw [← h2]
  refine Finset.sum_congr rfl (fun i _ => ?_)
  rw [Complex.star_def, ← Complex.normSq_eq_conj_mul_self, Complex.ofReal_re]

theorem orthonormal_mul {m k : Nat} (A : Mat ℂ m k) (B : Mat ℂ k n) (hA : matMul (cT A) A = eye)
    (hB : matMul (cT B) B = eye) : matMul (cT (matMul A B)) (matMul A B) = eye := by
  rw [cT_matMul, matMul_assoc, ← matMul_assoc (cT A), hA, eye_matMul, hB]

theorem frobSq_of_orthonormal {m : Nat} (A : Mat ℂ m n) (hA : matMul (cT A) A = eye) : frobSq A = n := by
  rw [frobSq_cols]
  simp only [col_normSq_of_orthonormal A hA, Finset.sum_const, Finset.card_univ, Fintype.card_fin, nsmul_eq_mul,
    mul_one]

theorem frobSq_pos_of_orthonormal {m : Nat} (A : Mat ℂ m n) (hA : matMul (cT A) A = eye) (hn : 0 < n) :
    0 < frobSq A := by
  rw [frobSq_of_orthonormal A hA]
  exact Nat.cast_pos.mpr hn

end ortho

section wf
variable {K N T : Nat}

theorem globalWF_apply {n : Nat} (MsBad : Mat ℂ T n) (p : Fin n → ℝ) (i : Fin T) (j : Fin n) :
    globalWF MsBad p i j = MsBad i j * ((Real.sqrt (p j) : ℝ) : ℂ) := by
  simp only [globalWF, matMul_diagM]
  rfl

theorem frobSq_colBlock_globalWF (MsBad : Mat ℂ T (K * N)) (p : Fin (K * N) → ℝ) (hp : ∀ j, 0 ≤ p j) (k : Fin K) :
    frobSq (colBlock (globalWF MsBad p) k) =
      ∑ c : Fin N, p (join k c) * ∑ i, Complex.normSq (MsBad i (join k c)) := by
  rw [frobSq_cols]
  refine Finset.sum_congr rfl (fun c _ => ?_)
  simp only [colBlock, globalWF_apply, Complex.normSq_mul, Complex.normSq_ofReal, Real.mul_self_sqrt (hp _)]
  rw [Finset.mul_sum]
  exact Finset.sum_congr rfl (fun i _ => mul_comm _ _)

theorem globalWF_block_pos (MsBad : Mat ℂ T (K * N)) (p : Fin (K * N) → ℝ) (hp : ∀ j, 0 ≤ p j)
    (hp1 : ∃ j, 0 < p j) (hcol : ∀ c, ∑ i, Complex.normSq (MsBad i c) = 1) :
    ∃ k : Fin K, 0 < frobSq (colBlock (globalWF MsBad p) k) := by
  obtain ⟨j, hj⟩ := hp1
  refine ⟨userOf j, ?_⟩
  rw [frobSq_colBlock_globalWF MsBad p hp]
  simp only [hcol, mul_one]
  have hle := Finset.single_le_sum (f := fun c => p (join (userOf j) c)) (fun c _ => hp _) (Finset.mem_univ (within j))
  rw [join_userOf_within] at hle
  exact hj.trans_le hle

theorem frobSq_colBlock_scaleBy (A : Mat ℂ T (K * N)) (P c : ℝ) (hP : 0 ≤ P) (k : Fin K) :
    frobSq (colBlock (scaleBy A (Real.sqrt P) c) k) = frobSq (colBlock A k) * P / (c * c) :=
  (frobSq_scale (colBlock A k) (Real.sqrt P) c).trans (by rw [Real.mul_self_sqrt hP])

theorem blockNorms_mem (G : Mat ℂ T (K * N)) (k : Fin K) : frobNorm (colBlock G k) ∈ blockNorms G :=
  List.mem_map.mpr ⟨k, List.mem_finRange k, rfl⟩

theorem maxLoop_blockNorms (G : Mat ℂ T (K * N)) (h : ∃ k : Fin K, 0 < frobSq (colBlock G k)) :
    0 < maxLoop (blockNorms G) ∧ ∃ k : Fin K, frobNorm (colBlock G k) = maxLoop (blockNorms G) := by
  obtain ⟨k₁, h₁⟩ := h
  obtain ⟨hmem, hpos⟩ := maxLoop_attained _ _ (blockNorms_mem G k₁) ((frobNorm_pos_iff _).mpr h₁)
  obtain ⟨k, _, hk⟩ := List.mem_map.mp hmem
  exact ⟨hpos, k, hk⟩

theorem normalizedWF_eq_scaleBy (iPu : ℝ) (MsBad : Mat ℂ T (K * N)) (p : Fin (K * N) → ℝ) :
    normalizedWF iPu MsBad p =
      scaleBy (globalWF MsBad p) (Real.sqrt iPu) (maxLoop (blockNorms (K := K) (N := N) (globalWF MsBad p))) := rfl

/-- the power clause of `block_diagonalize` (normalised water-filling) for a precoder
    with unit-norm columns -/
theorem normalizedWF_power (iPu : ℝ) (hP : 0 ≤ iPu) (MsBad : Mat ℂ T (K * N)) (p : Fin (K * N) → ℝ)
    (hp : ∀ j, 0 ≤ p j) (hp1 : ∃ j, 0 < p j) (hcol : ∀ c, ∑ i, Complex.normSq (MsBad i c) = 1) :
    (∀ k, frobSq (colBlock (normalizedWF iPu MsBad p) k) ≤ iPu) ∧
      ∃ k, frobSq (colBlock (normalizedWF iPu MsBad p) k) = iPu := by
  obtain ⟨hmx, k0, hk0⟩ := maxLoop_blockNorms _ (globalWF_block_pos MsBad p hp hp1 hcol)
  have hle := fun k => maxLoop_ge _ _ (blockNorms_mem (globalWF MsBad p) k)
  rw [normalizedWF_eq_scaleBy]
  generalize maxLoop (blockNorms (K := K) (N := N) (globalWF MsBad p)) = mx at hmx hk0 hle ⊢
  have hmm := mul_pos hmx hmx
  simp only [frobSq_colBlock_scaleBy _ _ _ hP]
  refine ⟨fun k => ?_, k0, ?_⟩
  · rw [div_le_iff₀ hmm, mul_comm, ← frobNorm_sq]
    exact mul_le_mul_of_nonneg_left
      (mul_self_le_mul_self (frobNorm_nonneg _) (hle k)) hP
  · rw [← frobNorm_sq, hk0]
    exact mul_div_cancel_left₀ _ hmm.ne'

/-- the power clause of `block_diagonalize_no_waterfilling` -/
theorem noWF_power (iPu : ℝ) (hP : 0 ≤ iPu) (MsBad : Mat ℂ T (K * N)) (k : Fin K)
    (hk : 0 < frobSq (colBlock MsBad k)) : frobSq (colBlock (noWF iPu MsBad) k) = iPu := by
  -- entry by entry the block is `colBlock MsBad k` normalised: `userOf (join k c) = k`
  refine (congrArg frobSq (funext fun i => funext fun c => ?_)).trans (frobSq_normalised _ iPu hP hk)
  simp only [colBlock, noWF, userOf_join]

end wf
end Pf
end PyPhysim.BD
