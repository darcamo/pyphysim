import Mathlib.RingTheory.RootsOfUnity.PrimitiveRoots
import Mathlib.Algebra.Field.GeomSum
import Mathlib.Algebra.BigOperators.Field
import Mathlib.Data.List.GetD
import PyPhysim.Model.C02
import PyPhysim.Proofs.Common

/-!
C02 — the textbook DFT over a field with a primitive `N`-th root of unity:
list ↔ finite-sum bridge, orthogonality, inversion — the parts of `dft_contract` in `Properties/C02.lean` (the
textbook pair satisfies `KernelPair`) — and the shift theorem behind the one-tap equaliser.
-/
namespace PyPhysim.C02
open PyPhysim.Proto Finset

variable {K : Type} [Field K]

/-- `Finset.range n` is, by definition, the list `List.range n` seen as a multiset, and `Finset.sum` the
    sum of the mapped multiset: both sides unfold to the same list sum -/
theorem list_sum_range (f : ℕ → K) (n : ℕ) : ((List.range n).map f).sum = ∑ i ∈ range n, f i := rfl

theorem list_ext_getD {l₁ l₂ : List K} (hl : l₁.length = l₂.length)
    (h : ∀ i, i < l₁.length → l₁.getD i 0 = l₂.getD i 0) : l₁ = l₂ := by
  apply List.ext_getElem hl
  intro i h1 h2
  rw [← List.getD_eq_getElem l₁ 0 h1, ← List.getD_eq_getElem l₂ 0 h2]
  exact h i h1

theorem getD_map_zero (f : K → K) (hf : f 0 = 0) (v : List K) (m : ℕ) :
    (v.map f).getD m 0 = f (v.getD m 0) := by
  have h := List.getD_map (l := v) (d := 0) (n := m) f
  rwa [hf] at h

theorem getD_replicate_zero (n m : ℕ) : (List.replicate n (0 : K)).getD m 0 = 0 :=
  List.getElem?_getD_replicate_default_eq (d := (0 : K)) n m

theorem getD_zipWith_mul (a b : List K) (k : ℕ) :
    (List.zipWith (· * ·) a b).getD k 0 = a.getD k 0 * b.getD k 0 := by
  simp only [List.getD_eq_getElem?_getD, List.getElem?_zipWith]
  -- a missing entry on either side reads `0`, and `0 * x = x * 0 = 0`: no length hypothesis
  cases a[k]? <;> cases b[k]? <;> simp only [Option.getD_some, Option.getD_none, zero_mul, mul_zero]

theorem getD_zipWith_add (a b : List K) (h : a.length = b.length) (k : ℕ) :
    (List.zipWith (· + ·) a b).getD k 0 = a.getD k 0 + b.getD k 0 := by
  have hl : (List.zipWith (· + ·) a b).length = a.length := by rw [List.length_zipWith, ← h, Nat.min_self]
  by_cases hk : k < a.length
  · rw [List.getD_eq_getElem _ 0 (hl ▸ hk), List.getElem_zipWith, List.getD_eq_getElem _ 0 hk,
      List.getD_eq_getElem _ 0 (h ▸ hk)]
  · rw [not_lt] at hk
    rw [List.getD_eq_default _ 0 (hl ▸ hk), List.getD_eq_default _ 0 hk, List.getD_eq_default _ 0 (h ▸ hk),
      add_zero]

theorem dft_length (w : ℕ → K) (N : ℕ) (a : List K) : (dft w N a).length = N :=
  (List.length_map _).trans List.length_range

theorem idft_length (w : ℕ → K) (N : ℕ) (a : List K) : (idft w N a).length = N :=
  (List.length_map _).trans List.length_range

theorem dft_getD {w : ℕ → K} {N : ℕ} {a : List K} {k : ℕ} (hk : k < N) :
    (dft w N a).getD k 0 = ∑ m ∈ range N, a.getD m 0 * w (m * k) :=
  getD_map_range hk

theorem idft_getD {w : ℕ → K} {N : ℕ} {a : List K} {m : ℕ} (hm : m < N) :
    (idft w N a).getD m 0 = (∑ k ∈ range N, a.getD k 0 * w (m * k)) / (N : K) :=
  getD_map_range hm

theorem dft_homog (w : ℕ → K) (N : ℕ) (c : K) (v : List K) :
    dft w N (v.map (fun a => c * a)) = (dft w N v).map (fun a => c * a) :=
  (List.map_congr_left fun k _ => by
    rw [list_sum_range, Function.comp, list_sum_range, Finset.mul_sum]
    exact Finset.sum_congr rfl fun m _ => by rw [getD_map_zero _ (mul_zero c), mul_assoc]).trans
  (List.map_map ..).symm

theorem orthogonality (ω : K) (N : ℕ) (hω : IsPrimitiveRoot ω N) (j k : ℕ) (hj : j < N) (hk : k < N) :
    ∑ m ∈ range N, ω⁻¹ ^ (m * j) * ω ^ (m * k) = if j = k then (N : K) else 0 := by
  have hω0 : ω ≠ 0 := hω.ne_zero (Nat.ne_of_gt (Nat.zero_lt_of_lt hj))
  -- a geometric sum with ratio `ω^{-j}·ω^k`, which is `1` only if `j = k` and whose `N`-th power is `1`
  simp only [pow_mul', ← mul_pow]
  split
  · next h =>
    rw [h, ← mul_pow, inv_mul_cancel₀ hω0, one_pow]
    simp only [one_pow, sum_const, card_range, nsmul_one]
  · next h =>
    rw [geom_sum_eq fun h1 => h (hω.pow_inj hj hk
        ((inv_mul_eq_one₀ (pow_ne_zero j hω0)).mp (inv_pow ω j ▸ h1))),
      mul_pow, pow_right_comm, hω.inv.pow_eq_one, one_pow, pow_right_comm, hω.pow_eq_one, one_pow, one_mul,
      sub_self, zero_div]

theorem dft_idft (ω : K) (N : ℕ) (hω : IsPrimitiveRoot ω N) (hN : (N : K) ≠ 0) (v : List K)
    (hv : v.length = N) :
    dft (fun m => ω ^ m) N (idft (fun m => ω⁻¹ ^ m) N v) = v := by
  apply list_ext_getD (by rw [dft_length, hv])
  intro k hk
  rw [dft_length] at hk
  rw [dft_getD hk]
  calc ∑ m ∈ range N, (idft (fun m => ω⁻¹ ^ m) N v).getD m 0 * ω ^ (m * k)
      = (∑ j ∈ range N, v.getD j 0 * ∑ m ∈ range N, ω⁻¹ ^ (m * j) * ω ^ (m * k)) / N := by
        rw [sum_congr rfl fun m hm => by
            rw [idft_getD (mem_range.mp hm), div_mul_eq_mul_div, sum_mul],
          ← sum_div, sum_comm, sum_congr rfl fun j _ => by
            rw [sum_congr rfl fun m _ => mul_assoc _ _ _, ← mul_sum]]
    _ = (∑ j ∈ range N, if j = k then v.getD j 0 * N else 0) / N := by
        rw [sum_congr rfl fun j hj => by
          rw [orthogonality ω N hω j k (mem_range.mp hj) hk, mul_ite, mul_zero]]
    _ = v.getD k 0 := by
        rw [sum_ite_eq', if_pos (mem_range.mpr hk), mul_div_cancel_right₀ _ hN]

theorem sum_range_shift (N : ℕ) (h : ℕ → K) (hper : ∀ n, h (n + N) = h n) (c : ℕ) :
    ∑ n ∈ range N, h (n + c) = ∑ n ∈ range N, h n := by
  induction c with
  | zero => rfl
  | succ c ih =>
    -- `Σ_{n<N+1} h(n+c)`, once without its first and once without its last term
    have e := (Finset.sum_range_succ' (fun n => h (n + c)) N).symm.trans
      (Finset.sum_range_succ (fun n => h (n + c)) N)
    rw [Nat.zero_add, Nat.add_comm N c, hper] at e
    rw [← ih, ← add_right_cancel e]
    exact Finset.sum_congr rfl fun n _ => by rw [Nat.add_right_comm, Nat.add_assoc]

theorem dft_shift (ω : K) (N : ℕ) (hω : ω ^ N = 1) (f : ℕ → K) (c : K) (d k : ℕ) (hd : d ≤ N) :
    ∑ n ∈ range N, c * f ((n + N - d) % N) * ω ^ (n * k)
      = c * ω ^ (d * k) * ∑ m ∈ range N, f m * ω ^ (m * k) := by
  have hN : ∀ a, ω ^ ((a + N) * k) = ω ^ (a * k) := fun a => by
    rw [Nat.add_mul, pow_add, pow_mul ω N, hω, one_pow, mul_one]
  -- `j ↦ c·f(j mod N)·ω^{(d+j)k}` is `N`-periodic; the left side sums it from `N - d`, the right from `0`
  rw [mul_sum]
  refine Eq.trans (sum_congr rfl fun n _ => ?_)
    ((sum_range_shift N (fun j => c * f (j % N) * ω ^ ((d + j) * k)) (fun j => by
        rw [Nat.add_mod_right, ← Nat.add_assoc, hN]) (N - d)).trans
      (sum_congr rfl fun n hn => ?_))
  · rw [← Nat.add_sub_assoc hd, Nat.add_sub_of_le (Nat.le_add_left_of_le hd), hN]
  · rw [Nat.mod_eq_of_lt (mem_range.mp hn), Nat.add_mul, pow_add, mul_mul_mul_comm]

theorem dft_circ (ω : K) (N : ℕ) (hω : ω ^ N = 1) (f : ℕ → K) (tv : List (ℕ × K))
    (hd : ∀ dv ∈ tv, dv.1 ≤ N) (k : ℕ) :
    ∑ n ∈ range N, (tv.map (fun dv => dv.2 * f ((n + N - dv.1) % N))).sum * ω ^ (n * k)
      = (tv.map (fun dv => dv.2 * ω ^ (dv.1 * k))).sum * ∑ m ∈ range N, f m * ω ^ (m * k) := by
  induction tv with
  | nil => simp only [List.map_nil, List.sum_nil, zero_mul, Finset.sum_const_zero]
  | cons dv t ih =>
    simp only [List.map_cons, List.sum_cons, add_mul, Finset.sum_add_distrib]
    rw [ih fun e he => hd e (List.mem_cons_of_mem dv he),
      dft_shift ω N hω f dv.2 dv.1 k (hd dv List.mem_cons_self)]

end PyPhysim.C02
