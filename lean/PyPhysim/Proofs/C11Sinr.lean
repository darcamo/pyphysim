import PyPhysim.Proofs.C11Spec

/-!
The quotient of `_calc_SINR_k` (all copies) in first-principles terms: the quadratic forms `uᴴ M u` of the covariance
matrices the code builds are sums of squared moduli of scalar amplitudes (the Gram identity
`uᴴ (A Aᴴ) u = Σ_d |uᴴ a_d|²`) — the numerator too, which is the same form taken of the own stream's covariance
(`sinrNum_eq_sinrDen`), so that one form is evaluated and one homogeneity law (`sinrDen_smul`) carries the rescaling;
then the reported value, its behaviour under rescaling, and the agreement of the channel-object and solver code paths.

The code multiplies with a pair (`Ukl_H`, `Ukl`).  The linearity lemmas of `qf` and the `sinrCore_*` lemmas hold for
any pair `(uH, u)`; from `qf_link` on the lemmas are about the channel object's pair `(cT u, u)`, for which `qf` is
Mathlib's `star w ⬝ᵥ M *ᵥ w` (the form `gram` is stated in); the solver's pair `(rowOf WH l, cT (rowOf WH l))` is that
pair for `u = colOf (cT WH) l` (`solSinr_eq_chSinr`), so a fact about the solver is the fact about the channel object
read at `U = cT WH`.
-/
namespace PyPhysim.Sinr.Pf
open Matrix PyPhysim.Proto PyPhysim.Sinr PyPhysim.Sinr.Spec

variable {K n t s e : Nat} {T S : Fin K → Nat}

/-- `uᴴ M u` as the code evaluates it -/
noncomputable def qf (uH : Mat ℂ 1 n) (u : Mat ℂ n 1) (M : Matrix (Fin n) (Fin n) ℂ) : ℂ :=
  (toM uH * (M * toM u)) 0 0

theorem sinrDen_eq (uH : Mat ℂ 1 n) (u : Mat ℂ n 1) (B : Mat ℂ n n) :
    sinrDen uH u B = qf uH u (toM B) := by
  simp only [sinrDen, item_eq, toM_matMul, qf]

theorem qf_add (uH : Mat ℂ 1 n) (u : Mat ℂ n 1) (M N : Matrix (Fin n) (Fin n) ℂ) :
    qf uH u (M + N) = qf uH u M + qf uH u N := by
  simp only [qf, Matrix.add_mul, Matrix.mul_add, Matrix.add_apply]

theorem qf_sub (uH : Mat ℂ 1 n) (u : Mat ℂ n 1) (M N : Matrix (Fin n) (Fin n) ℂ) :
    qf uH u (M - N) = qf uH u M - qf uH u N := by
  simp only [qf, Matrix.sub_mul, Matrix.mul_sub, Matrix.sub_apply]

theorem qf_sum {ι : Type} (I : Finset ι) (uH : Mat ℂ 1 n) (u : Mat ℂ n 1)
    (M : ι → Matrix (Fin n) (Fin n) ℂ) :
    qf uH u (∑ j ∈ I, M j) = ∑ j ∈ I, qf uH u (M j) := by
  simp only [qf, Matrix.sum_mul, Matrix.mul_sum, Matrix.sum_apply]

theorem qf_smul (uH : Mat ℂ 1 n) (u : Mat ℂ n 1) (c : ℂ) (M : Matrix (Fin n) (Fin n) ℂ) :
    qf uH u (c • M) = c * qf uH u M := by
  simp only [qf, Matrix.smul_mul, Matrix.mul_smul, Matrix.smul_apply, smul_eq_mul]

theorem qf_zero (uH : Mat ℂ 1 n) (u : Mat ℂ n 1) : qf uH u 0 = 0 := by
  simp only [qf, Matrix.zero_mul, Matrix.mul_zero, Matrix.zero_apply]

/-- the numerator is the denominator's quadratic form, taken of the own stream's covariance with the pair `(uH, uHᴴ)` -/
theorem sinrNum_eq_sinrDen (uH : Mat ℂ 1 n) (G : Mat ℂ n t) (v : Mat ℂ t 1) :
    sinrNum uH G v = sinrDen uH (cT uH) (covTermS G v) := by
  simp only [sinrNum, sinrDen, covTermS, item_eq, toM_matMul, toM_cT, conjTranspose_mul, Matrix.mul_assoc]

theorem sinrDen_smul (a c : ℂ) (uH : Mat ℂ 1 n) (u : Mat ℂ n 1) (B : Mat ℂ n n) :
    sinrDen (smul a uH) (smul c u) B = (a * c) * sinrDen uH u B := by
  simp only [sinrDen, item_eq, toM_matMul, toM_smul, Matrix.smul_mul, Matrix.mul_smul, Matrix.smul_apply, smul_eq_mul]
  exact (mul_left_comm _ _ _).trans (mul_assoc _ _ _).symm

theorem cT_smul {a b : Nat} (c : ℂ) (A : Mat ℂ a b) : cT (smul c A) = smul (star c) (cT A) := by
  funext i j
  exact star_mul' _ _

theorem colOf_scaleCol (U : Mat ℂ n s) (l l' : Fin s) (c : ℂ) :
    colOf (scaleCol U l c) l' = smul (if l' = l then c else 1) (colOf U l') := by
  funext a b
  simp only [colOf, scaleCol, smul]
  split <;> simp only [one_mul]

theorem cT_scaleRow (WH : Mat ℂ s n) (l : Fin s) (c : ℂ) : cT (scaleRow WH l c) = scaleCol (cT WH) l (star c) := by
  funext a b
  simp only [cT, scaleRow, scaleCol]
  split
  · exact star_mul' _ _
  · rfl

theorem cT_cT {a b : Nat} (A : Mat ℂ a b) : cT (cT A) = A := by
  funext i j
  exact star_star _

theorem cT_colOf_cT (WH : Mat ℂ s n) (l : Fin s) : cT (colOf (cT WH) l) = rowOf WH l := by
  funext a b
  exact star_star _

/-- the Gram identity `wᴴ (A Aᴴ) w = Σ_d |wᴴ a_d|²`, said of Mathlib's vector form `star w ⬝ᵥ M *ᵥ w` of the quadratic
    form: `qf (cT u) u M` unfolds to it for `w = fun a => u a 0` -/
theorem gram (w : Fin n → ℂ) (A : Matrix (Fin n) (Fin s) ℂ) :
    star w ⬝ᵥ (A * Aᴴ) *ᵥ w = ((∑ d, Complex.normSq (∑ a, star (w a) * A a d) : ℝ) : ℂ) := by
  rw [← mulVec_mulVec, dotProduct_mulVec, mulVec_conjTranspose]
  exact dot_star_self _

theorem toM_covTermS (G : Mat ℂ n t) (V : Mat ℂ t s) : toM (covTermS G V) = linkCov G V := by
  simp only [covTermS, toM_matMul, toM_cT, linkCov]

/-- the channel object's association `H (V Vᴴ) Hᴴ` and the solver's `(H V)(H V)ᴴ` are the same matrix; from here on
    only the second is spoken of -/
theorem covTerm_eq_covTermS (G : Mat ℂ n t) (V : Mat ℂ t s) : covTerm G V = covTermS G V :=
  toM_inj (by simp only [covTerm, covTermS, toM_matMul, toM_cT, conjTranspose_mul, Matrix.mul_assoc])

/-- `amp` is the Gram sum of `A = H V`, unfolded -/
theorem qf_link (u : Mat ℂ n 1) (G : Mat ℂ n t) (V : Mat ℂ t s) :
    qf (cT u) u (toM (covTermS G V)) =
      ((∑ d, Complex.normSq (amp (fun a => u a 0) G (fun b => V b d)) : ℝ) : ℂ) := by
  rw [toM_covTermS]
  exact gram (fun a => u a 0) (toM G * toM V)

theorem qf_one (u : Mat ℂ n 1) : qf (cT u) u 1 = ((∑ a, Complex.normSq (u a 0) : ℝ) : ℂ) := by
  rw [qf, Matrix.one_mul]
  exact (dotProduct_comm _ _).trans (dot_star_self fun a => u a 0)

theorem qf_noiseCov (u : Mat ℂ n 1) (c : ℝ) :
    qf (cT u) u (toM (noiseCov n c)) = ((noisePow c (fun a => u a 0) : ℝ) : ℂ) := by
  rw [toM_noiseCov, qf_smul, qf_one, noisePow, Complex.ofReal_mul]

theorem qf_extCov (u : Mat ℂ n 1) (He : Mat ℂ n e) (pe : ℝ) :
    qf (cT u) u (toM (extCov He pe)) = ((extPow He pe (fun a => u a 0) : ℝ) : ℂ) := by
  rw [toM_extCov, qf_smul, extPow, Complex.ofReal_mul]
  exact congrArg _ (gram (fun a => u a 0) (toM He))

theorem baseRek_eq (noise : Option ℝ) : (baseRek n noise : Mat ℂ n n) = noiseCov n (noiseVar noise) := by
  cases noise <;> rfl

/-- `noise_var = None`: adding no noise matrix is adding `0 · I` -/
theorem extRek_eq (He : Mat ℂ n e) (pe : ℝ) (noise : Option ℝ) :
    (extRek He pe noise : Mat ℂ n n) = madd (extCov He pe) (noiseCov n (noiseVar noise)) := by
  cases noise with
  | none =>
    apply toM_inj
    rw [toM_madd, toM_noiseCov, noiseVar, Complex.ofReal_zero, zero_smul, add_zero]
    rfl
  | some v => rfl

/-- the solver adds the noise first, the channel object last -/
theorem solRek_some_eq_extRek (He : Mat ℂ n e) (σ2 : ℝ) :
    (solRek n σ2 (some He) : Mat ℂ n n) = extRek He 1 (some σ2) :=
  funext fun a => funext fun b => add_comm (noiseCov n σ2 a b) (extCov He 1 a b)

theorem solNoiseVar_eq (noise : Option ℝ) : solNoiseVar noise = noiseVar noise := by
  cases noise <;> rfl

theorem extRek_some_noiseVar (He : Mat ℂ n e) (pe : ℝ) (noise : Option ℝ) :
    (extRek He pe (some (noiseVar noise)) : Mat ℂ n n) = extRek He pe noise :=
  (extRek_eq He pe (some (noiseVar noise))).trans (extRek_eq He pe noise).symm

theorem extRek_zero (He : Mat ℂ n e) (noise : Option ℝ) : (extRek He 0 noise : Mat ℂ n n) = baseRek n noise := by
  rw [extRek_eq, baseRek_eq]
  exact toM_inj (by rw [toM_madd, toM_extCov, Complex.ofReal_zero, zero_smul, zero_add])

theorem sinrNum_eq (u : Mat ℂ n 1) (G : Mat ℂ n t) (v : Mat ℂ t 1) :
    sinrNum (cT u) G v = ((Complex.normSq (amp (fun a => u a 0) G (fun b => v b 0)) : ℝ) : ℂ) := by
  rw [sinrNum_eq_sinrDen, cT_cT, sinrDen_eq, qf_link, Fin.sum_univ_one]

/-- the outcome of one pass of `_calc_SINR_k` on a real numerator and a real denominator: no value when the
    denominator is exactly zero, else `|N / D|` -/
noncomputable def quot (N D : ℝ) : Except PyErr ℝ :=
  if D = 0 then .error .ZeroDivisionError else .ok |N / D|

theorem quot_zero (N : ℝ) : quot N 0 = .error .ZeroDivisionError := if_pos rfl

theorem quot_of_ne {N D : ℝ} (hN : 0 ≤ N) (hD : 0 ≤ D) (h : D ≠ 0) : quot N D = .ok (N / D) := by
  rw [quot, if_neg h, abs_of_nonneg (div_nonneg hN hD)]

theorem quot_mul_left {g : ℝ} (hg : g ≠ 0) (N D : ℝ) : quot (g * N) (g * D) = quot N D := by
  simp only [quot, mul_eq_zero, hg, false_or, mul_div_mul_left _ _ hg]

theorem quot_ne {N D D' : ℝ} (hN : 0 < N) (hD : 0 ≤ D) (hD' : 0 ≤ D') (h : D ≠ D') : quot N D ≠ quot N D' := by
  intro hc
  rcases hD.eq_or_lt with rfl | hpos <;> rcases hD'.eq_or_lt with rfl | hpos'
  · exact h rfl
  · rw [quot_zero, quot_of_ne hN.le hpos'.le hpos'.ne'] at hc
    cases hc
  · rw [quot_zero, quot_of_ne hN.le hpos.le hpos.ne'] at hc
    cases hc
  · rw [quot_of_ne hN.le hpos.le hpos.ne', quot_of_ne hN.le hpos'.le hpos'.ne'] at hc
    have hq := Except.ok.inj hc
    rw [div_eq_mul_inv, div_eq_mul_inv] at hq
    exact h (inv_injective (mul_left_cancel₀ hN.ne' hq))

theorem sinrCore_real (uH : Mat ℂ 1 n) (u : Mat ℂ n 1) (G : Mat ℂ n t) (v : Mat ℂ t 1) (B : Mat ℂ n n)
    (sN sD : ℝ) (hn : sinrNum uH G v = (sN : ℂ)) (hd : sinrDen uH u B = (sD : ℂ)) :
    (sinrCore uH u G v B : Except PyErr ℝ) = quot sN sD := by
  simp only [sinrCore, hn, hd, beq_iff_eq, Complex.ofReal_eq_zero, quot, RC.abs, ← Complex.ofReal_div,
    Complex.norm_real, Real.norm_eq_abs]

theorem sinrCore_ok_nonneg (uH : Mat ℂ 1 n) (u : Mat ℂ n 1) (G : Mat ℂ n t) (v : Mat ℂ t 1) (B : Mat ℂ n n)
    (x : ℝ) (h : (sinrCore uH u G v B : Except PyErr ℝ) = .ok x) : 0 ≤ x := by
  unfold sinrCore at h
  split at h
  · cases h
  · cases h
    exact norm_nonneg _

theorem sinrCore_scale (uH : Mat ℂ 1 n) (u : Mat ℂ n 1) (G : Mat ℂ n t) (v : Mat ℂ t 1) (B : Mat ℂ n n)
    (c : ℂ) (hc : c ≠ 0) :
    (sinrCore (smul (star c) uH) (smul c u) G v B : Except PyErr ℝ) = sinrCore uH u G v B := by
  have hz : star c * c ≠ 0 := mul_ne_zero (star_ne_zero.mpr hc) hc
  -- numerator and denominator are quadratic forms in the pair: both take the factor `c̄ c`
  simp only [sinrCore, sinrNum_eq_sinrDen, cT_smul, star_star, sinrDen_smul, beq_iff_eq, mul_eq_zero, hz, false_or,
    mul_div_mul_left _ _ hz]

theorem extPow_nonneg (He : Mat ℂ n e) {pe : ℝ} (h : 0 ≤ pe) (w : Fin n → ℂ) : 0 ≤ extPow He pe w :=
  mul_nonneg h (Finset.sum_nonneg (fun _ _ => Complex.normSq_nonneg _))

theorem extPow_eq_mul (He : Mat ℂ n e) (pe : ℝ) (w : Fin n → ℂ) : extPow He pe w = pe * extPow He 1 w := by
  rw [extPow, extPow, one_mul]

theorem noisePow_nonneg {σ2 : ℝ} (h : 0 ≤ σ2) (w : Fin n → ℂ) : 0 ≤ noisePow σ2 w :=
  mul_nonneg h (Finset.sum_nonneg (fun _ _ => Complex.normSq_nonneg _))

theorem noiseVar_nonneg {noise : Option ℝ} (h : ∀ v, noise = some v → 0 ≤ v) : 0 ≤ noiseVar noise := by
  cases noise with
  | none => exact le_refl _
  | some v => exact h v rfl

theorem noisePow_zero (w : Fin n → ℂ) : noisePow 0 w = 0 := zero_mul _

section receiver
variable (G : (j : Fin K) → Mat ℂ n (T j)) (V : (j : Fin K) → Mat ℂ (T j) (S j))

theorem qf_total (u : Mat ℂ n 1) :
    qf (cT u) u (toM (solFirst G V)) =
      ((∑ x : (j : Fin K) × Fin (S j), streamPow G V (fun a => u a 0) x.1 x.2 : ℝ) : ℂ) := by
  rw [solFirst, toM_sumMat, qf_sum, Fintype.sum_sigma, Complex.ofReal_sum]
  exact Finset.sum_congr rfl (fun j _ => qf_link u (G j) (V j))

theorem chBkl_eq (Rek : Mat ℂ n n) (k : Fin K) (l : Fin (S k)) :
    chBkl G V Rek k l = msub (madd (solFirst G V) Rek) (solSecond (G k) (V k) l) := by
  simp only [chBkl, chFirst, chSecond, covTerm_eq_covTermS]
  rfl

theorem total_sub_own (w : Fin n → ℂ) (k : Fin K) (l : Fin (S k)) :
    (∑ x : (j : Fin K) × Fin (S j), streamPow G V w x.1 x.2) - streamPow G V w k l = intfPow G V w k l := by
  rw [intfPow, Finset.sum_erase_eq_sub (Finset.mem_univ _)]

/-- the report of the channel object for ANY `Rek` whose quadratic form is a real number `q` (noise, external
    interference, both, or anything else) -/
theorem chSinr_eq (k : Fin K) (Uk : Mat ℂ n (S k)) (Rek : Mat ℂ n n) (l : Fin (S k)) (q : ℝ)
    (hq : qf (cT (colOf Uk l)) (colOf Uk l) (toM Rek) = (q : ℂ)) :
    (chSinr G V k Uk Rek l : Except PyErr ℝ) =
      quot (sigPow G V (filt Uk l) k l) (intfPow G V (filt Uk l) k l + q) := by
  -- `filt Uk l` is `fun a => colOf Uk l a 0`, and column `l` of `V k` is `fun b => colOf (V k) l b 0`, by unfolding
  refine sinrCore_real _ _ _ _ _ _ _ (sinrNum_eq (colOf Uk l) (G k) (colOf (V k) l)) ?_
  -- all streams + rest − own stream
  rw [sinrDen_eq, chBkl_eq, toM_msub, toM_madd, qf_sub, qf_add, qf_total, hq, solSecond, qf_link, Fin.sum_univ_one,
    ← total_sub_own, Complex.ofReal_add, Complex.ofReal_sub]
  exact add_sub_right_comm _ _ _

theorem streamPow_nonneg (w : Fin n → ℂ) (j : Fin K) (d : Fin (S j)) : 0 ≤ streamPow G V w j d :=
  Complex.normSq_nonneg _

theorem sigPow_nonneg (w : Fin n → ℂ) (k : Fin K) (l : Fin (S k)) : 0 ≤ sigPow G V w k l :=
  Complex.normSq_nonneg _

theorem intfPow_nonneg (w : Fin n → ℂ) (k : Fin K) (l : Fin (S k)) : 0 ≤ intfPow G V w k l :=
  Finset.sum_nonneg (fun _ _ => streamPow_nonneg _ _ _ _ _)

/-- the report of the plain channel object in first-principles terms, with no side condition: what the theorems say
    about reported values is then arithmetic on `quot` (`quot_of_ne`, `quot_zero`, `quot_ne`, `quot_mul_left`) -/
theorem chSinr_base (k : Fin K) (Uk : Mat ℂ n (S k)) (noise : Option ℝ) (l : Fin (S k)) :
    (chSinr G V k Uk (baseRek n noise) l : Except PyErr ℝ) =
      quot (sigPow G V (filt Uk l) k l) (intfPow G V (filt Uk l) k l + noisePow (noiseVar noise) (filt Uk l)) := by
  refine chSinr_eq G V k Uk _ l _ ?_
  rw [baseRek_eq]
  exact qf_noiseCov _ _

theorem chSinr_ext (k : Fin K) (Uk : Mat ℂ n (S k)) (He : Mat ℂ n e) (pe : ℝ) (noise : Option ℝ) (l : Fin (S k)) :
    (chSinr G V k Uk (extRek He pe noise) l : Except PyErr ℝ) =
      quot (sigPow G V (filt Uk l) k l)
        (intfPow G V (filt Uk l) k l + (extPow He pe (filt Uk l) + noisePow (noiseVar noise) (filt Uk l))) := by
  refine chSinr_eq G V k Uk _ l _ ?_
  rw [extRek_eq, toM_madd, qf_add, qf_extCov, qf_noiseCov, Complex.ofReal_add]
  rfl

theorem solBkl_eq_chBkl (R : Mat ℂ n n) (k : Fin K) (l : Fin (S k)) : solBkl G V R k l = chBkl G V R k l := by
  rw [chBkl_eq]
  exact funext fun _ => funext fun _ => sub_add_eq_add_sub _ _ _

theorem solSinr_eq_chSinr (k : Fin K) (WHk : Mat ℂ (S k) n) (R : Mat ℂ n n) (l : Fin (S k)) :
    (solSinr G V k WHk R l : Except PyErr ℝ) = chSinr G V k (cT WHk) R l := by
  rw [solSinr, chSinr, cT_colOf_cT, solBkl_eq_chBkl]
  -- `cT (rowOf WHk l)` and `colOf (cT WHk) l` unfold to the same function
  rfl

end receiver

/-- the scenario of the non-vacuity examples: all ones, single antennas -/
theorem streamPow_ones (j : Fin K) (d : Fin 1) :
    streamPow (n := 1) (T := fun _ => 1) (S := fun _ => 1) (fun _ _ _ => (1 : ℂ)) (fun _ _ _ => 1) (fun _ => 1) j d = 1 := by
  simp only [streamPow, amp, Fin.sum_univ_one, star_one, mul_one, Complex.normSq_one]

end PyPhysim.Sinr.Pf
