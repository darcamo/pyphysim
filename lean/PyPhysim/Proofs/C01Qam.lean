import Mathlib.Algebra.BigOperators.Group.List.Basic
import Mathlib.Algebra.BigOperators.Ring.List
import Mathlib.Data.List.Nodup
import Mathlib.Tactic.Ring
import Mathlib.Tactic.LinearCombination
import PyPhysim.Model.C01
import PyPhysim.Proofs.Common

/-! QAM integer grid: points pairwise distinct, total energy `2·L²·(L²−1)/3`. -/
namespace PyPhysim.C01
open List

theorem qamGridPoint_mul_add (L i j : Nat) (hj : j < L) :
    qamGridPoint L (i * L + j) = (-((L : Int) - 1) + 2 * (j : Int), ((L : Int) - 1) - 2 * (i : Int)) := by
  rw [qamGridPoint, (mul_add_divMod hj).1, (mul_add_divMod hj).2]

theorem qam_grid_inj (L : Nat) : Function.Injective (qamGridPoint L) := by
  intro a b h
  obtain ⟨hx, hy⟩ := Prod.mk.inj h
  rw [← Nat.div_add_mod a L, ← Nat.div_add_mod b L,
    Nat.cast_injective (mul_left_cancel₀ two_ne_zero (add_left_cancel hx)),
    Nat.cast_injective (mul_left_cancel₀ two_ne_zero (sub_right_inj.mp hy))]

theorem qam_grid_nodup (L : Nat) : (qamGrid L).Nodup :=
  nodup_range.map (qam_grid_inj L)

/-- Telescoping: `6v² + (v−2)(v−1)v = v(v+1)(v+2)`. -/
theorem sum_sq_step (y : Nat → Int) (h : ∀ j, y (j + 1) = y j - 2) (n : Nat) :
    ((range n).map fun j => y j * y j).sum * 6 + y n * (y n + 1) * (y n + 2) = y 0 * (y 0 + 1) * (y 0 + 2) := by
  induction n with
  | zero => exact zero_add _
  | succ n ih =>
    rw [sum_range_succ, h n, ← ih]
    ring

/-- Row by row the grid is a double sum of `x_j² + y_i²`, and `x_j = −y_j`: row and column contribute
    the same sum of squares, which `sum_sq_step` telescopes from `L−1` down to `−L−1`.  The right side
    is `L²` times the `(L²−1)·2/3` whose root `qamNatural` divides by. -/
theorem qam_energy (L : Nat) :
    qamGridEnergy L * 3 = (L : Int) * L * (((L : Int) * L - 1) * 2) := by
  have flip (a b : Int) : (-a + b) * (-a + b) = (a - b) * (a - b) := by ring
  have col := sum_sq_step (fun i : Nat => (L : Int) - 1 - 2 * i)
    (fun i => by rw [Nat.cast_succ, mul_add, mul_one, ← sub_sub]) L
  rw [qamGridEnergy, qamGrid, map_range_mul (qamGridPoint_mul_add L), map_flatMap, flatMap_def, sum_flatten]
  simp only [map_map, Function.comp_def, sum_map_add, map_const', sum_replicate, length_range, nsmul_eq_mul,
    sum_map_mul_left, flip]
  linear_combination (L : Int) * col

end PyPhysim.C01
