import PyPhysim.Proofs.C13Real
import Mathlib.Analysis.Real.Pi.Bounds

/-! # C13 — free space with exponent 2 against the Friis formula

`FSPL = 20·log10(4π·d·f / c)` with `d` in metres, `f` in Hz, `c = 299 792 458 m/s`.
The code works with `d` in km and `fc` in MHz and the literal `4.377911390697565`
(which is `log10(3·10⁸ / 4π) − 3`).  The difference is the constant
`20·(log10(c/4π) − 3 − 4.3779…)`; it is enclosed with `π ∈ (3.141592, 3.141593)`, hence
`23856722 ≤ c/4π ≤ 23856732` (`friisK_bounds`), and the integer comparisons `10^723 ≤ 23856722^98`,
`23856732^45 ≤ 10^332`.
-/
namespace PyPhysim.C13
open Real

/-- a comparison of integer powers, read as one of logarithms -/
theorem mul_log10_le {a b p q : ℕ} (ha : 0 < a) (h : a ^ p ≤ b ^ q) :
    (p : ℝ) * logb 10 a ≤ q * logb 10 b := by
  rw [← logb_pow, ← logb_pow, ← Nat.cast_pow, ← Nat.cast_pow]
  exact logb_le_logb_of_le one_lt_ten (Nat.cast_pos.2 (Nat.pow_pos ha)) (Nat.cast_le.2 h)

/-- speed of light over `4π` -/
noncomputable def friisK : ℝ := 299792458 / (4 * π)

theorem friisK_bounds : (23856722 : ℝ) ≤ friisK ∧ friisK ≤ 23856732 := by
  rw [friisK, div_mul_eq_div_div, le_div_iff₀ pi_pos, div_le_iff₀ pi_pos]
  exact ⟨(mul_le_mul_of_nonneg_left pi_lt_d6.le (by norm_num)).trans (by norm_num),
    le_trans (by norm_num) (mul_le_mul_of_nonneg_left pi_gt_d6.le (by norm_num))⟩

theorem friisK_pos : 0 < friisK := lt_of_lt_of_le (by norm_num) friisK_bounds.1

/-- `7.37755… ≤ log10(c/4π) ≤ 7.37777…` -/
theorem log10_friisK_bounds :
    (723 : ℝ) / 98 ≤ logb 10 friisK ∧ logb 10 friisK ≤ (332 : ℝ) / 45 := by
  obtain ⟨lo, hi⟩ := friisK_bounds
  have l := mul_log10_le (a := 10) (b := 23856722) (p := 723) (q := 98) (by decide)
    (by decide +kernel)
  have u := mul_log10_le (a := 23856732) (b := 10) (p := 45) (q := 332) (by decide)
    (by decide +kernel)
  simp only [Nat.cast_ofNat, logb_self_eq_one one_lt_ten, mul_one] at l u
  -- `l : 723 ≤ 98 * logb 10 23856722`, `u : 45 * logb 10 23856732 ≤ 332`
  exact ⟨((div_le_iff₀' (by norm_num)).2 l).trans (logb_le_logb_of_le one_lt_ten (by norm_num) lo),
    (logb_le_logb_of_le one_lt_ten friisK_pos hi).trans ((le_div_iff₀' (by norm_num)).2 u)⟩

/-- the Friis free-space loss in dB for `d` km and `fc` MHz -/
noncomputable def friisDb (d fc : ℝ) : ℝ :=
  20 * logb 10 (4 * π * (d * 1000) * (fc * 1000000) / 299792458)

theorem fs_minus_friis {d fc : ℝ} (hd : 0 < d) (hfc : 0 < fc) :
    Gen.generalDb 2 (Gen.fsCalcC fc 2) d - friisDb d fc
      = 20 * (logb 10 friisK - 3 - 4.377911390697565) := by
  have h3 : logb 10 (1000 : ℝ) = 3 := by
    rw [show (1000 : ℝ) = (10 : ℝ) ^ (3 : ℝ) by norm_num, log10_pow10]
  have h1000 : (1000 : ℝ) ≠ 0 := by norm_num
  have hd3 := mul_ne_zero hd.ne' h1000
  have h6 := mul_ne_zero hfc.ne' (by norm_num : (1000000 : ℝ) ≠ 0)
  -- the argument of the Friis logarithm is `d * 1000 * (fc * 1000000) / friisK`
  rw [friisDb, mul_assoc, mul_comm (4 * π), ← div_div_eq_mul_div, ← friisK,
    logb_div (mul_ne_zero hd3 h6) friisK_pos.ne', logb_mul hd3 h6,
    logb_mul hd.ne' h1000, h3, generalDb_real, fsCalcC_real]
  ring

theorem fs_friis_abs {d fc : ℝ} (hd : 0 < d) (hfc : 0 < fc) :
    |Gen.generalDb 2 (Gen.fsCalcC fc 2) d - friisDb d fc| ≤ 0.01 := by
  obtain ⟨lo, hi⟩ := log10_friisK_bounds
  rw [fs_minus_friis hd hfc, sub_sub, abs_le]
  have h20 : (0 : ℝ) ≤ 20 := by norm_num
  exact ⟨le_trans (by norm_num) (mul_le_mul_of_nonneg_left (sub_le_sub_right lo _) h20),
    le_trans (mul_le_mul_of_nonneg_left (sub_le_sub_right hi _) h20) (by norm_num)⟩

end PyPhysim.C13
