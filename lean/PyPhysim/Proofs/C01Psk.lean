import Mathlib.Analysis.SpecialFunctions.Trigonometric.Angle
import PyPhysim.Model.C01

/-! PSK natural constellation over ℝ: unit modulus, and when two of its points coincide. -/
namespace PyPhysim.C01
open Real

noncomputable instance realTrig : Trig ℝ := ⟨Real.pi, Real.cos, Real.sin, Real.sqrt⟩

theorem pskNaturalPoint_eq_iff (M k k' : Nat) (φ φ' : ℝ) :
    pskNaturalPoint M k φ = pskNaturalPoint M k' φ' ↔
      ∃ n : ℤ, 2 * π / M * ((k : ℝ) - k') + (φ - φ') = 2 * π * n := by
  -- the right side says that the two phases are the same `Real.Angle`
  rw [mul_sub, ← add_sub_add_comm, ← Real.Angle.angle_eq_iff_two_pi_dvd_sub]
  simp only [pskNaturalPoint, Nat.cast_ofNat, Prod.mk.injEq]
  exact ⟨fun h => Real.Angle.cos_sin_inj h.1 h.2,
    fun h => ⟨congrArg Real.Angle.cos h, congrArg Real.Angle.sin h⟩⟩

theorem eq_zero_of_eq_mul_int {c x : ℝ} (hc : 0 < c) {n : ℤ} (hx : x = c * n) (h : |x| < c) :
    x = 0 := by
  -- `|n| • c < 1 • c`, so `|n| < 1` in ℤ
  rw [hx, ← zsmul_eq_mul', abs_zsmul, abs_of_pos hc] at h
  have hn := Int.abs_lt_one_iff.mp ((zsmul_lt_zsmul_iff_left hc).mp (h.trans_eq (one_zsmul c).symm))
  rw [hx, hn, Int.cast_zero, mul_zero]

theorem psk_point_inj (M : Nat) (φ : ℝ) (k₁ k₂ : Nat) (h₁ : k₁ < M) (h₂ : k₂ < M)
    (h : pskNaturalPoint M k₁ φ = pskNaturalPoint (α := ℝ) M k₂ φ) : k₁ = k₂ := by
  obtain ⟨n, hn⟩ := (pskNaturalPoint_eq_iff M k₁ k₂ φ φ).mp h
  have hM' : (0 : ℝ) < M := Nat.cast_pos.mpr (Nat.zero_lt_of_lt h₁)
  -- `k₁ − k₂ = n * M` is a multiple of `M` smaller than `M`
  rw [sub_self, add_zero, mul_comm_div] at hn
  have hk := (div_eq_iff hM'.ne').mp (mul_left_cancel₀ two_pi_pos.ne' hn)
  have h0 := eq_zero_of_eq_mul_int hM' (hk.trans (mul_comm _ _)) (abs_sub_lt_of_nonneg_of_lt
    k₁.cast_nonneg (Nat.cast_lt.mpr h₁) k₂.cast_nonneg (Nat.cast_lt.mpr h₂))
  exact Nat.cast_injective (sub_eq_zero.mp h0)

theorem psk_offset_inj (M k : Nat) {φ φ' : ℝ} (hclose : |φ - φ'| < 2 * π)
    (h : pskNaturalPoint M k φ = pskNaturalPoint (α := ℝ) M k φ') : φ = φ' := by
  obtain ⟨n, hn⟩ := (pskNaturalPoint_eq_iff M k k φ φ').mp h
  -- the offsets differ by `n` turns and by less than one
  rw [sub_self, mul_zero, zero_add] at hn
  exact sub_eq_zero.mp (eq_zero_of_eq_mul_int two_pi_pos hn hclose)

theorem psk_natural_nodup (M : Nat) (φ : ℝ) : (pskNatural M φ).Nodup := by
  apply List.Nodup.map_on _ List.nodup_range
  intro a ha b hb hab
  exact psk_point_inj M φ a b (List.mem_range.mp ha) (List.mem_range.mp hb) hab

theorem psk_natural_unit (M : Nat) (φ : ℝ) : ∀ p ∈ pskNatural M φ, p.1 ^ 2 + p.2 ^ 2 = 1 :=
  List.forall_mem_map.mpr fun _ _ => Real.cos_sq_add_sin_sq _

end PyPhysim.C01
