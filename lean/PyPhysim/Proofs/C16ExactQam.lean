import PyPhysim.Proofs.C16Exact

/-!
# C16 — square QAM: the formula `1 − (1 − 2(1−1/√M)·Q(d_min/2σ))²` is the exact AWGN symbol error rate

The emitted constellation (`Model/C01.qamNatural`) is an `L × L` grid of equally spaced levels
(half spacing `h = 1/e`).  With independent Gaussian noise of standard deviation `σ` per real
dimension the nearest-point detector `demod` decides correctly with probability
`(1 − c_j Q)(1 − c_i Q)`, `Q = Qg(h/σ)`, where `c = 1` for an edge level and `2` for an inner
one; averaging over the `L²` points gives `(1 − 2(1 − 1/L) Q)²`.  Both are proved for any table that holds the
points of the grid, each once, in any order (`prob_correct_any_labelling`, `avg_correct`); `qamNatural_getElem?` and
`mem_qamNatural` say that the emitted table is one.
-/
namespace PyPhysim.C16
open MeasureTheory ProbabilityTheory Set
open PyPhysim.C01

noncomputable def lev (h : ℝ) (L k : Nat) : ℝ := (2 * (k:ℝ) - ((L:ℝ) - 1)) * h

/-- number of neighbours of level `k` on an `L`-level axis -/
def cnt (L k : Nat) : Nat := (if k = 0 then 0 else 1) + (if k + 1 = L then 0 else 1)

/-- noise values that keep level `k` the (weakly) nearest one: no bound on the side where there is no level -/
def Jc (L : Nat) (h : ℝ) (k : Nat) : Set ℝ := {t | (k ≠ 0 → -h ≤ t) ∧ (k + 1 ≠ L → t ≤ h)}
/-- noise values that keep level `k` the strictly nearest one -/
def Jo (L : Nat) (h : ℝ) (k : Nat) : Set ℝ := {t | (k ≠ 0 → -h < t) ∧ (k + 1 ≠ L → t < h)}

/-- the level `m` steps on from the nearest one is `t − 2hm` away from a sample at offset `t`; in the square that
    is further by `4h·m(hm − t)` (`dist2_gpt_sub`), so the 1-D cells are described through the sign of `m(hm − t)`.
    Closed cell ⊆ interval: only the two neighbouring levels, `m = ∓1`, are needed -/
theorem Jc_of_nearest {h : ℝ} {L k : Nat} (hk : k < L) {t : ℝ}
    (ht : ∀ k' < L, 0 ≤ ((k':ℝ) - k) * (h * ((k':ℝ) - k) - t)) : t ∈ Jc L h k := by
  refine ⟨fun h0 => ?_, fun h1 => ?_⟩
  · have := ht (k - 1) (by omega)
    rwa [Nat.cast_pred (Nat.pos_of_ne_zero h0), sub_sub_cancel_left, neg_one_mul, mul_neg_one, neg_sub,
      sub_nonneg] at this
  · have := ht (k + 1) (by omega)
    rwa [Nat.cast_succ, add_sub_cancel_left, one_mul, mul_one, sub_nonneg] at this

/-- interval ⊆ open cell: every other level is strictly further -/
theorem nearest_of_Jo {h : ℝ} (hh : 0 < h) {L k : Nat} {t : ℝ} (ht : t ∈ Jo L h k)
    {k' : Nat} (hk' : k' < L) (hne : k' ≠ k) :
    0 < ((k':ℝ) - k) * (h * ((k':ℝ) - k) - t) := by
  rcases hne.lt_or_gt with hlt | hgt
  · -- `m ≤ −1` steps: `hm ≤ −h < t`
    have h1 : -h < t := ht.1 (Nat.ne_zero_of_lt hlt)
    have hm : (k':ℝ) - k ≤ -1 := by
      rw [sub_le_iff_le_add, neg_add_eq_sub, le_sub_iff_add_le]; exact_mod_cast hlt
    exact mul_pos_of_neg_of_neg (hm.trans_lt neg_one_lt_zero)
      (sub_neg.mpr (((mul_le_mul_of_nonneg_left hm hh.le).trans_eq (mul_neg_one h)).trans_lt h1))
  · -- `m ≥ 1` steps: `t < h ≤ hm`
    have h2 : t < h := ht.2 (Nat.lt_of_le_of_lt hgt hk').ne
    have hm : 1 ≤ (k':ℝ) - k := le_sub_iff_add_le'.mpr (by exact_mod_cast hgt)
    exact mul_pos (one_pos.trans_le hm) (sub_pos.mpr (h2.trans_le (le_mul_of_one_le_right hh.le hm)))

/-- a cell that is bounded below by `A` unless `p` and above by `B` unless `q`: when each bound alone costs
    probability `x` and no point violates both, every bound that is present costs `x` -/
theorem prob_cell {μ : Measure ℝ} [IsProbabilityMeasure μ] {A B : Set ℝ} (hB : MeasurableSet B)
    (hAB : A ∪ B = univ) {x : ℝ} (pA : μ.real A = 1 - x) (pB : μ.real B = 1 - x)
    (p q : Prop) [Decidable p] [Decidable q] :
    μ.real {t | (¬p → t ∈ A) ∧ (¬q → t ∈ B)} =
      1 - (((if p then 0 else 1) + (if q then 0 else 1) : Nat) : ℝ) * x := by
  have hAB' : μ.real (A ∩ B) = 1 - 2 * x := by
    have := measureReal_union_add_inter (μ := μ) (s := A) hB
    rw [hAB, probReal_univ, pA, pB] at this
    linarith
  by_cases hp : p <;> by_cases hq : q
  · simp [hp, hq]  -- no bound: the whole line
  · simp [hp, hq, pB]  -- above only: `B`
  · simp [hp, hq, pA]  -- below only: `A`
  · simp [hp, hq, hAB', one_add_one_eq_two]  -- both: `A ∩ B`

theorem prob_Jc {σ h : ℝ} (hσ : 0 < σ) (hh : 0 < h) (L k : Nat) :
    (noise σ).real (Jc L h k) = 1 - (cnt L k : ℝ) * Qg (h / σ) :=
  prob_cell measurableSet_Iic ((union_comm _ _).trans (Iic_union_Ici_of_le (by linarith)))
    (by rw [gauss_Ici hσ, neg_div, Qg_neg]) (gauss_Iic hσ h) _ _

theorem prob_Jo {σ h : ℝ} (hσ : 0 < σ) (hh : 0 < h) (L k : Nat) :
    (noise σ).real (Jo L h k) = 1 - (cnt L k : ℝ) * Qg (h / σ) :=
  prob_cell measurableSet_Iio ((union_comm _ _).trans (Iio_union_Ioi_of_lt (by linarith)))
    (by rw [gauss_Ioi hσ, neg_div, Qg_neg]) (by rw [gauss_Iio hσ, neg_div, Qg_neg]) _ _

/-- grid point in column `j`, row `i` (rows count downwards, as in `_createConstellation`) -/
noncomputable def gpt (h : ℝ) (L j i : Nat) : ℝ × ℝ := (lev h L j, -(lev h L i))

/-- how much further from the sample `(j,i) + n` the point `(j',i')` is than `(j,i)` (rows count downwards, hence `−n.2`) -/
theorem dist2_gpt_sub (h : ℝ) (L j i j' i' : Nat) (n : ℝ × ℝ) :
    dist2 ((gpt h L j i).1 + n.1, (gpt h L j i).2 + n.2) (gpt h L j' i') -
        dist2 ((gpt h L j i).1 + n.1, (gpt h L j i).2 + n.2) (gpt h L j i) =
      4 * h * (((j':ℝ) - j) * (h * ((j':ℝ) - j) - n.1) + ((i':ℝ) - i) * (h * ((i':ℝ) - i) - -n.2)) := by
  simp only [dist2, gpt, lev]; ring

/-- independent coordinates, the second one seen through the reflection `y ↦ −y`, which leaves the noise as it is
    (`noise_neg`) -/
theorem prob_prod_neg (σ : ℝ) (S T : Set ℝ) :
    (noise2 σ).real (S ×ˢ ((fun y => -y) ⁻¹' T)) = (noise σ).real S * (noise σ).real T := by
  rw [noise2, measureReal_prod_prod, noise_neg]

/-- **probability of a correct decision** for the point of column `j`, row `i`, carried at label `l` by a table `c`
    whose points are those of the `L × L` grid, each once, in any order (the emitted order, the Gray relabelling of
    C15).  The event lies between the products of the 1-D cells `Jo` and of the `Jc`, which have the same probability. -/
theorem prob_correct_any_labelling {σ h : ℝ} (hσ : 0 < σ) (hh : 0 < h) {L j i : Nat} (hj : j < L) (hi : i < L)
    (c : List (ℝ × ℝ)) (hmem : ∀ q, q ∈ c ↔ ∃ j' i', j' < L ∧ i' < L ∧ q = gpt h L j' i') (hnd : c.Nodup) (l : Nat)
    (hl : c[l]? = some (gpt h L j i)) :
    (noise2 σ).real (correctNoise c (gpt h L j i) l) =
      (1 - (cnt L j : ℝ) * Qg (h / σ)) * (1 - (cnt L i : ℝ) * Qg (h / σ)) := by
  have h4 : 0 < 4 * h := mul_pos four_pos hh
  apply le_antisymm
  · -- correct ⊆ closed cell ⊆ `Jc j × −Jc i`: the points of the same row bound the horizontal offset, those of the
    -- same column the vertical one
    rw [← prob_Jc hσ hh L j, ← prob_Jc hσ hh L i, ← prob_prod_neg]
    refine measureReal_mono fun n hn => ?_
    have hn := decided_subset_closed _ _ _ hl (mem_correctNoise.mp hn)
    constructor
    · refine Jc_of_nearest hj fun j' hj' => ?_
      have := sub_nonneg.mpr (hn _ ((hmem _).mpr ⟨j', i, hj', hi, rfl⟩))
      rwa [dist2_gpt_sub, sub_self, zero_mul, add_zero, mul_nonneg_iff_of_pos_left h4] at this
    · refine Jc_of_nearest hi fun i' hi' => ?_
      have := sub_nonneg.mpr (hn _ ((hmem _).mpr ⟨j, i', hj, hi', rfl⟩))
      rwa [dist2_gpt_sub, sub_self, zero_mul, zero_add, mul_nonneg_iff_of_pos_left h4] at this
  · -- `Jo j × −Jo i` ⊆ open cell ⊆ correct: a point of another column is strictly further horizontally and not
    -- nearer vertically, and vice versa
    rw [← prob_Jo hσ hh L j, ← prob_Jo hσ hh L i, ← prob_prod_neg]
    refine measureReal_mono fun n hn => mem_correctNoise.mpr (open_subset_decided _ hnd _ _ hl fun q hq hne => ?_)
    obtain ⟨j', i', hj', hi', rfl⟩ := (hmem q).mp hq
    rw [← sub_pos, dist2_gpt_sub]
    refine mul_pos h4 ?_
    by_cases hjj : j' = j
    · have hii : i' ≠ i := fun e => hne (by rw [hjj, e])
      rw [hjj, sub_self, zero_mul, zero_add]
      exact nearest_of_Jo hh hn.2 hi' hii
    · have hx := nearest_of_Jo hh hn.1 hj' hjj
      by_cases hii : i' = i
      · rw [hii, sub_self, zero_mul, add_zero]
        exact hx
      · exact add_pos hx (nearest_of_Jo hh hn.2 hi' hii)

theorem sum_cnt (L : Nat) : ∑ k ∈ Finset.range L, cnt L k = 2 * (L - 1) := by
  cases L with
  | zero => rfl
  | succ n =>
    have h1 : ∀ k ∈ Finset.range n, (if k + 1 = 0 then 0 else 1) = 1 := fun k _ => if_neg k.succ_ne_zero
    have h2 : ∀ k ∈ Finset.range n, (if k + 1 = n + 1 then 0 else 1) = 1 := fun k hk =>
      if_neg (by have := Finset.mem_range.mp hk; omega)
    simp only [cnt, Finset.sum_add_distrib]
    rw [Finset.sum_range_succ', Finset.sum_range_succ, Finset.sum_congr rfl h1, Finset.sum_congr rfl h2,
      Finset.sum_const, Finset.card_range, if_pos rfl, if_pos rfl, smul_eq_mul, mul_one, add_zero, two_mul,
      Nat.add_sub_cancel]

theorem avg_correct {σ h : ℝ} (hσ : 0 < σ) (hh : 0 < h) {L : Nat} (hL : 1 ≤ L)
    (c : List (ℝ × ℝ)) (hmem : ∀ q, q ∈ c ↔ ∃ j' i', j' < L ∧ i' < L ∧ q = gpt h L j' i') (hnd : c.Nodup)
    (l : Nat → Nat → Nat) (hl : ∀ i < L, ∀ j < L, c[l i j]? = some (gpt h L j i)) :
    (∑ i ∈ Finset.range L, ∑ j ∈ Finset.range L, (noise2 σ).real (correctNoise c (gpt h L j i) (l i j))) /
        ((L:ℝ) * L) =
      (1 - 2 * (1 - 1 / (L:ℝ)) * Qg (h / σ)) ^ 2 := by
  have hL0 : (L:ℝ) ≠ 0 := Nat.cast_ne_zero.mpr (Nat.pos_iff_ne_zero.mp hL)
  -- the sum over the grid is the square of the sum over one axis
  rw [Finset.sum_congr rfl fun i hi => Finset.sum_congr rfl fun j hj =>
      prob_correct_any_labelling hσ hh (Finset.mem_range.mp hj) (Finset.mem_range.mp hi) c hmem hnd _
        (hl i (Finset.mem_range.mp hi) j (Finset.mem_range.mp hj)),
    Finset.sum_comm, ← Finset.sum_mul_sum, mul_div_mul_comm, ← sq]
  -- on which the levels have `2(L − 1)` neighbours in all
  rw [Finset.sum_sub_distrib, ← Finset.sum_mul, ← Nat.cast_sum, sum_cnt, Finset.sum_const, Finset.card_range,
    nsmul_one, Nat.cast_mul, Nat.cast_ofNat, Nat.cast_pred hL, one_sub_div hL0, sub_div, div_self hL0]
  ring

/-- the emitted table carries the point of column `j`, row `i` at index `i·L + j` -/
theorem qamNatural_getElem? (L : Nat) {j i : Nat} (hj : j < L) (hi : i < L) :
    (qamNatural (α := ℝ) L)[i * L + j]? = some (gpt (1 / qamE L) L j i) := by
  rw [qamNatural, qamGrid, List.map_map, List.getElem?_map, List.getElem?_range (mul_add_lt_mul hi hj),
    Option.map_some, Function.comp, qamGridPoint_mul_add _ _ _ hj]
  simp only [gpt, lev, qamE, Trig.sqrt, Int.cast_add, Int.cast_sub, Int.cast_neg,
    Int.cast_mul, Int.cast_natCast, Int.cast_one, Int.cast_ofNat]
  congr 1
  ext <;> ring

/-- the emitted table holds exactly the points of the grid (each once: `C01.qam_natural_nodup`) -/
theorem mem_qamNatural {L : Nat} {q : ℝ × ℝ} :
    q ∈ qamNatural (α := ℝ) L ↔ ∃ j i, j < L ∧ i < L ∧ q = gpt (1 / qamE L) L j i := by
  constructor
  · intro hq
    obtain ⟨n, hn⟩ := List.getElem?_of_mem hq
    have hlt : n < L * L := by
      have := (List.getElem?_eq_some_iff.mp hn).1
      rwa [qamNatural, List.length_map, qamGrid, List.length_map, List.length_range] at this
    have hL : 0 < L := Nat.pos_of_ne_zero fun h0 => by simp [h0] at hlt
    have hj := Nat.mod_lt n hL
    have hi : n / L < L := Nat.div_lt_of_lt_mul hlt
    rw [← Nat.div_add_mod' n L, qamNatural_getElem? L hj hi] at hn
    exact ⟨_, _, hj, hi, (Option.some.inj hn).symm⟩
  · rintro ⟨j, i, hj, hi, rfl⟩
    exact List.mem_of_getElem? (qamNatural_getElem? L hj hi)

end PyPhysim.C16
