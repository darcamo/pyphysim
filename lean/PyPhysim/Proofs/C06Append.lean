import PyPhysim.Model.C06Heap

/-! C06: `append_result` / `append_all_results` never touch a Result object (what they do to the
lists is `append_extends_list` and `append_new_name_creates_list` of Properties/C06). -/
namespace PyPhysim.C06M
open PyPhysim.Proto

theorem addResult_res (m : Mach) (s a : Nat) : (addResult m s a).1.res = m.res := by
  unfold addResult
  split
  · rfl
  · rfl

theorem appendResult_res (m : Mach) (s a : Nat) : (appendResult m s a).1.res = m.res := by
  unfold appendResult
  split
  · rfl
  · split
    · exact addResult_res m s a
    · split
      · rfl
      · split
        · rfl
        · split
          · rfl
          · rfl

theorem appendElems_res (s : Nat) (m : Mach) (as : List Nat) : (appendElems s m as).1.res = m.res := by
  induction as generalizing m with
  | nil => rfl
  | cons a rest ih =>
    unfold appendElems
    have h := appendResult_res m s a
    split
    · rename_i m' hm; rw [hm] at h; rw [ih m']; exact h
    · rename_i m' e hm; rw [hm] at h; exact h

theorem appendLists_res (s : Nat) (m : Mach) (d : List (String × Nat)) :
    (appendLists s m d).1.res = m.res := by
  induction d generalizing m with
  | nil => rfl
  | cons e rest ih =>
    obtain ⟨nm, l⟩ := e
    unfold appendLists
    split
    · rfl
    · have h := appendElems_res s m (listAt m l)
      split
      · rename_i m' hm; rw [hm] at h; rw [ih m']; exact h
      · rename_i m' e hm; rw [hm] at h; exact h

end PyPhysim.C06M
