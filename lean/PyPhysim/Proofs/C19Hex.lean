import PyPhysim.Proofs.C19Geom
import PyPhysim.Proofs.C19Trig
import PyPhysim.Model.C19Spec
import Mathlib.Tactic.Linarith
import Mathlib.Tactic.Positivity

/-! C19 — the hexagon of `Hexagon._get_vertex_positions`, exactly, over ℝ: vertices, edges, apothem. -/
namespace PyPhysim.C19

theorem cisDeg_mul60 (k : ℕ) : (Circ.cisDeg (((60 * k : ℕ)) : ℝ) : Pt ℝ) = E (2 * k) := by
  rw [← cisDeg_mul30]
  congr 2
  ring

theorem sqrt3_pos : 0 < Real.sqrt 3 := Real.sqrt_pos.mpr (by norm_num)

/-- the walk from `(-R/2, -height) = R·exp(-j120°)` adds `R·exp(j60°k)`; in the coordinates of `emb` that
    is addition of integers -/
theorem hexVerts_eq (R : ℝ) :
    hexVerts R = [smul R (E 8), smul R (E 10), smul R (E 0), smul R (E 2), smul R (E 4), smul R (E 6)] := by
  have h0 : ((-(R / ((2 : ℕ) : ℝ)), -(hexHeight R)) : Pt ℝ) = smul R (emb (e30 8)) := by
    simp only [hexHeight, Circ.sqrt, e30, emb, smul, Nat.cast_ofNat]
    push_cast
    congr 1 <;> ring
  simp only [hexVerts, hexStep, cisDeg_mul60, h0, E_eq, padd_smul, emb_add]
  -- what is left are sums of integer pairs, `e30 8 + e30 0 = e30 10` and so on along the walk
  rfl

theorem hex_norm2 (R : ℝ) : ∀ v ∈ hexVerts R, norm2 v = R * R := by
  simp only [hexVerts_eq, List.forall_mem_cons, norm2_smul, E_norm2, mul_one, true_and]
  exact List.forall_mem_nil _

theorem E_chord (a : ℕ) : dist2 (E a) (E (a + 2)) = 1 ∧ cross (E a) (E (a + 2)) = Real.sqrt 3 / 2 := by
  rw [dist2_E_add, cross_E_add, E_two]
  norm_num

theorem hex_cyc (R : ℝ) : ∀ e ∈ cyc (hexVerts R),
    dist2 e.1 e.2 = R * R ∧ cross e.1 e.2 = R * R * (Real.sqrt 3 / 2) := by
  have wrap : dist2 (E 10) (E 0) = 1 ∧ cross (E 10) (E 0) = Real.sqrt 3 / 2 := E_period 0 ▸ E_chord 10
  simp only [hexVerts_eq, cyc, List.cons_append, List.nil_append, adjPairs, List.forall_mem_cons, dist2_smul,
    cross_smul, E_chord, wrap, mul_one, and_self, true_and]
  exact List.forall_mem_nil _

theorem hex_star (R : ℝ) (hR : 0 < R) : StarCCW (hexVerts R) := by
  intro e he
  rw [(hex_cyc R e he).2]
  simp only [Nat.cast_zero]
  have := sqrt3_pos
  positivity

/-- a direction at an odd and one at an even multiple of 30° have `|cos| ≤ √3/2` between them: three
    times their angle is an odd multiple of 90°, where the cosine vanishes, so `c = cos x` satisfies
    `4c³ - 3c = 0`, that is `c = 0` or `c² = 3/4` -/
theorem abs_dot_E_odd_even (k m : ℕ) : |dot (E (2 * k + 1)) (E (2 * m))| ≤ Real.sqrt 3 / 2 := by
  rw [dot_E]
  generalize hx : (_ - _ : ℝ) = x
  have h3 : Real.cos (3 * x) = 0 := by
    rw [show 3 * x = (((k : ℤ) - m : ℤ) : ℝ) * Real.pi + Real.pi / 2 by rw [← hx]; push_cast; ring,
      Real.cos_add_pi_div_two, Real.sin_int_mul_pi, neg_zero]
  rw [Real.cos_three_mul] at h3
  generalize Real.cos x = c at h3 ⊢
  apply abs_le_of_sq_le_sq _ (by positivity)
  rw [div_pow, Real.sq_sqrt (by norm_num : (0 : ℝ) ≤ 3)]
  rcases mul_eq_zero.mp (show c * (4 * c ^ 2 - 3) = 0 by linear_combination h3) with h | h
  · rw [h]
    norm_num
  · linarith

/-- the apothem: vertices `R·exp(j60°m)` and edge normals `exp(j(30° + 60°k))` are an odd multiple
    of 30° apart -/
theorem hex_support (R : ℝ) (hR : 0 ≤ R) (k : ℕ) : ∀ v ∈ hexVerts R,
    |dot (E (2 * k + 1)) v| ≤ R * Real.sqrt 3 / 2 := by
  have key : ∀ m : ℕ, |dot (E (2 * k + 1)) (smul R (E (2 * m)))| ≤ R * Real.sqrt 3 / 2 := by
    intro m
    rw [dot_smul, abs_mul, abs_of_nonneg hR]
    exact (mul_le_mul_of_nonneg_left (abs_dot_E_odd_even k m) hR).trans_eq (mul_div_assoc _ _ _).symm
  simp only [hexVerts_eq, List.forall_mem_cons]
  exact ⟨key 4, key 5, key 0, key 1, key 2, key 3, List.forall_mem_nil _⟩

end PyPhysim.C19
