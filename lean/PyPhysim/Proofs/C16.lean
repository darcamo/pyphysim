import Mathlib.Analysis.SpecialFunctions.Pow.Real
import Mathlib.Analysis.SpecialFunctions.Pow.Asymptotics
import Mathlib.Analysis.SpecialFunctions.Trigonometric.Basic
import Mathlib.Analysis.SpecialFunctions.Log.Base
import Mathlib.Tactic.Ring
import Mathlib.Tactic.Linarith
import Mathlib.Tactic.Positivity
import PyPhysim.Model.C16
import PyPhysim.Proofs.C01Psk

/-! Real-analytic lemmas for C16. `Q` is abstract (Mathlib has no `erfc`).

Every curve of the model is `c · Q(√(a·γ)·b)` (`argShape`), or a polynomial in such a term; the order, limit
and strictness facts are proved once for that shape and once for `x ↦ 1 − (1 − x)ⁿ`, which QAM (`n = 2`) and the packet error rate share.
Between `db2lin` and `argShape` stand the signs of `sin (π/M · j)` for `0 < j < M`
(`sin_step_pos`, `sin_pi_div_pos`, `sin_pi_div_nonneg`).
`Proofs/C01Psk` is imported for the instance `realTrig : Trig ℝ` alone. -/
namespace PyPhysim.C16
open PyPhysim.C01 Filter Topology Set

noncomputable instance realFn : Fn ℝ := ⟨fun x => (10:ℝ) ^ x, Real.logb 2⟩

/-- what the proofs assume of the Gaussian tail function -/
structure IsQ (Q : ℝ → ℝ) : Prop where
  anti : Antitone Q
  zero : Q 0 = 1 / 2
  nonneg : ∀ x, 0 ≤ Q x
  lim : Tendsto Q atTop (𝓝 0)

theorem db2lin_eq (s : ℝ) : db2lin s = (10:ℝ) ^ (s / 10) := by
  simp only [db2lin, Fn.pow10, Nat.cast_ofNat]

theorem pskSER_eq (Q : ℝ → ℝ) (M : Nat) (s : ℝ) : pskSER Q M s = 2 * Q (pskArg M s) := by
  simp only [pskSER, Nat.cast_ofNat]

theorem pskBER_eq (Q : ℝ → ℝ) (M k : Nat) (s : ℝ) : pskBER Q M k s = pskSER Q M s / k := by
  rw [pskBER, Nat.cast_one, one_div_mul_eq_div]

theorem qamSER_eq (Q : ℝ → ℝ) (M : Nat) (s : ℝ) :
    qamSER Q M s = 1 - (1 - qamPsc Q M s) ^ 2 := by
  simp only [qamSER, Nat.cast_one, sq]

theorem qamBER_eq (Q : ℝ → ℝ) (M k : Nat) (s : ℝ) : qamBER Q M k s = 2 * qamPsc Q M s / k := by
  simp only [qamBER, Nat.cast_ofNat]

theorem powNat_eq (x : ℝ) (n : Nat) : powNat x n = x ^ n := by
  induction n with
  | zero => simp only [powNat, Nat.cast_one, pow_zero]
  | succ n ih => simp only [powNat, ih, pow_succ]

theorem per_eq (b : ℝ) (L : Nat) : per b L = 1 - (1 - b) ^ L := by
  rw [per, powNat_eq, Nat.cast_one]

theorem db2lin_pos (s : ℝ) : 0 < db2lin s := by
  rw [db2lin_eq]; positivity

theorem db2lin_strictMono : StrictMono (db2lin (α := ℝ)) := fun a b h => by
  rw [db2lin_eq, db2lin_eq]
  exact Real.rpow_lt_rpow_of_exponent_lt (by norm_num) (div_lt_div_of_pos_right h (by norm_num))

theorem db2lin_tendsto : Tendsto (db2lin (α := ℝ)) atTop atTop := by
  rw [funext db2lin_eq]
  exact (tendsto_rpow_atTop_of_base_gt_one 10 (by norm_num)).comp (tendsto_id.atTop_div_const (by norm_num))

/-- fewer than `M` half steps `π/M` stay inside the upper half circle -/
theorem sin_step_pos {M j : Nat} (hj : 0 < j) (hjM : j < M) : 0 < Real.sin (Real.pi / (M:ℝ) * (j:ℝ)) := by
  have hM0 : (0:ℝ) < M := Nat.cast_pos.mpr (hj.trans hjM)
  have hδ := div_pos Real.pi_pos hM0
  exact Real.sin_pos_of_pos_of_lt_pi (mul_pos hδ (Nat.cast_pos.mpr hj))
    ((mul_lt_mul_of_pos_left (Nat.cast_lt.mpr hjM) hδ).trans_eq (div_mul_cancel₀ _ hM0.ne'))

theorem sin_pi_div_pos (M : Nat) (hM : 2 ≤ M) : 0 < Real.sin (Real.pi / (M:ℝ)) := by
  have := sin_step_pos one_pos hM
  rwa [Nat.cast_one, mul_one] at this

/-- `M = 1`: `sin π = 0`; from `M = 2` on the sine is positive -/
theorem sin_pi_div_nonneg (M : Nat) (hM : 1 ≤ M) : 0 ≤ Real.sin (Real.pi / (M:ℝ)) := by
  obtain rfl | h := hM.eq_or_lt
  · rw [Nat.cast_one, div_one, Real.sin_pi]
  · exact (sin_pi_div_pos M h).le

noncomputable def argShape (a b : ℝ) (s : ℝ) : ℝ := Real.sqrt (a * db2lin s) * b

theorem argShape_nonneg (a b : ℝ) (hb : 0 ≤ b) (s : ℝ) : 0 ≤ argShape a b s :=
  mul_nonneg (Real.sqrt_nonneg _) hb

theorem argShape_mono (a b : ℝ) (ha : 0 ≤ a) (hb : 0 ≤ b) : Monotone (argShape a b) := fun _ _ h =>
  mul_le_mul_of_nonneg_right
    (Real.sqrt_le_sqrt (mul_le_mul_of_nonneg_left (db2lin_strictMono.monotone h) ha)) hb

theorem argShape_strictMono (a b : ℝ) (ha : 0 < a) (hb : 0 < b) : StrictMono (argShape a b) := fun s _ h =>
  mul_lt_mul_of_pos_right
    (Real.sqrt_lt_sqrt (mul_nonneg ha.le (db2lin_pos s).le) (mul_lt_mul_of_pos_left (db2lin_strictMono h) ha)) hb

theorem argShape_tendsto (a b : ℝ) (ha : 0 < a) (hb : 0 < b) : Tendsto (argShape a b) atTop atTop :=
  (Real.tendsto_sqrt_atTop.comp (db2lin_tendsto.const_mul_atTop ha)).atTop_mul_const hb

theorem pskArg_eq (M : Nat) (s : ℝ) : pskArg M s = argShape 2 (Real.sin (Real.pi / (M:ℝ))) s := by
  simp only [pskArg, argShape, Trig.sqrt, Trig.sin, Trig.pi, Nat.cast_ofNat]

theorem bpskArg_eq (s : ℝ) : bpskArg s = argShape 2 1 s := by
  simp only [bpskArg, argShape, Trig.sqrt, Nat.cast_ofNat, mul_one]

theorem qamArg_eq (M : Nat) (s : ℝ) : qamArg M s = argShape (3 / ((M:ℝ) - 1)) 1 s := by
  simp only [qamArg, argShape, Trig.sqrt, mul_one, Nat.cast_ofNat, Nat.cast_one]
  rw [mul_div_assoc, mul_comm]

theorem qamArg_coef_pos (M : Nat) (hM : 2 ≤ M) : (0:ℝ) < 3 / ((M:ℝ) - 1) :=
  div_pos three_pos (sub_pos.mpr (Nat.one_lt_cast.mpr hM))

theorem Q_bounds {Q : ℝ → ℝ} (hQ : IsQ Q) (x : ℝ) (hx : 0 ≤ x) : 0 ≤ Q x ∧ Q x ≤ 1 / 2 :=
  ⟨hQ.nonneg x, by rw [← hQ.zero]; exact hQ.anti hx⟩

theorem Q_arg_antitone {Q : ℝ → ℝ} (hQ : IsQ Q) {a b : ℝ} (ha : 0 ≤ a) (hb : 0 ≤ b) :
    Antitone fun s => Q (argShape a b s) :=
  hQ.anti.comp_monotone (argShape_mono a b ha hb)

theorem Q_arg_tendsto {Q : ℝ → ℝ} (hQ : IsQ Q) {a b : ℝ} (ha : 0 < a) (hb : 0 < b) :
    Tendsto (fun s => Q (argShape a b s)) atTop (𝓝 0) :=
  hQ.lim.comp (argShape_tendsto a b ha hb)

theorem Q_arg_strictAnti {Q : ℝ → ℝ} (hs : StrictAntiOn Q (Ici 0)) {a b : ℝ} (ha : 0 < a) (hb : 0 < b) :
    StrictAnti fun s => Q (argShape a b s) := fun s t h =>
  hs (argShape_nonneg a b hb.le s) (argShape_nonneg a b hb.le t) (argShape_strictMono a b ha hb h)

theorem pskSER_fun (Q : ℝ → ℝ) (M : Nat) :
    pskSER Q M = fun s => 2 * Q (argShape 2 (Real.sin (Real.pi / (M:ℝ))) s) :=
  funext fun s => by rw [pskSER_eq, pskArg_eq]

theorem bpskSER_fun (Q : ℝ → ℝ) : bpskSER Q = fun s => Q (argShape 2 1 s) :=
  funext fun s => by rw [bpskSER, bpskArg_eq]

theorem qamCoef_eq (M : Nat) : qamCoef (α := ℝ) M = 2 * (1 - 1 / Real.sqrt M) := by
  simp only [qamCoef, Trig.sqrt, Nat.cast_ofNat, Nat.cast_one]

theorem qamCoef_sq (L : Nat) : qamCoef (α := ℝ) (L * L) = 2 * (1 - 1 / (L:ℝ)) := by
  rw [qamCoef_eq, Nat.cast_mul, Real.sqrt_mul_self L.cast_nonneg]

theorem qamCoef_bounds (M : Nat) (hM : 2 ≤ M) : 0 < qamCoef (α := ℝ) M ∧ qamCoef (α := ℝ) M < 2 := by
  have h1 := Real.lt_sqrt_of_sq_lt ((one_pow 2).trans_lt (Nat.one_lt_cast.mpr hM))
  rw [qamCoef_eq, one_div]
  exact ⟨mul_pos two_pos (sub_pos.mpr (inv_lt_one_of_one_lt₀ h1)),
    mul_lt_of_lt_one_right two_pos (sub_lt_self 1 (inv_pos.mpr (zero_lt_one.trans h1)))⟩

theorem qamPsc_eq (Q : ℝ → ℝ) (M : Nat) :
    qamPsc Q M = fun s => qamCoef (α := ℝ) M * Q (argShape (3 / ((M:ℝ) - 1)) 1 s) :=
  funext fun s => by rw [qamPsc, qamArg_eq]

/-- by definition `Psc = coef · Q(√…)`: the argument is a square root, so `Q ≤ 1/2`, and `coef < 2` -/
theorem qamPsc_bounds {Q : ℝ → ℝ} (hQ : IsQ Q) (M : Nat) (hM : 2 ≤ M) (s : ℝ) :
    0 ≤ qamPsc Q M s ∧ qamPsc Q M s < 1 :=
  have hb := Q_bounds hQ (qamArg M s) (Real.sqrt_nonneg _)
  have hc := qamCoef_bounds M hM
  ⟨mul_nonneg hc.1.le hb.1,
    (mul_lt_mul_of_lt_of_le_of_nonneg_of_pos hc.2 hb.2 hc.1.le one_half_pos).trans_eq (mul_one_div_cancel two_ne_zero)⟩

theorem qamPsc_antitone {Q : ℝ → ℝ} (hQ : IsQ Q) (M : Nat) (hM : 2 ≤ M) : Antitone (qamPsc Q M) := by
  rw [qamPsc_eq]
  exact (Q_arg_antitone hQ (qamArg_coef_pos M hM).le zero_le_one).const_mul (qamCoef_bounds M hM).1.le

theorem qamPsc_strictAnti {Q : ℝ → ℝ} (hs : StrictAntiOn Q (Ici 0)) (M : Nat) (hM : 2 ≤ M) :
    StrictAnti (qamPsc Q M) := by
  rw [qamPsc_eq]
  exact (Q_arg_strictAnti hs (qamArg_coef_pos M hM) one_pos).const_mul (qamCoef_bounds M hM).1

theorem qamPsc_tendsto {Q : ℝ → ℝ} (hQ : IsQ Q) (M : Nat) (hM : 2 ≤ M) : Tendsto (qamPsc Q M) atTop (𝓝 0) := by
  have := (Q_arg_tendsto hQ (qamArg_coef_pos M hM) one_pos).const_mul (qamCoef (α := ℝ) M)
  rwa [mul_zero, ← qamPsc_eq] at this

/-! `1 − (1 − x)ⁿ`: at least one of `n` independent trials fails, each failing with probability `x`.  The QAM
symbol error rate is the case of the two carriers (`qamSER_eq`), the packet error rate that of the `L` bits (`per_eq`). -/

theorem one_sub_pow_zero (n : Nat) : 1 - (1 - (0:ℝ)) ^ n = 0 := by
  rw [sub_zero, one_pow, sub_self]

theorem one_sub_pow_mono {x y : ℝ} (hxy : x ≤ y) (hy : y ≤ 1) (n : Nat) :
    1 - (1 - x) ^ n ≤ 1 - (1 - y) ^ n :=
  sub_le_sub_left (pow_le_pow_left₀ (sub_nonneg.mpr hy) (sub_le_sub_left hxy 1) n) 1

theorem one_sub_pow_unit {x : ℝ} (h0 : 0 ≤ x) (h1 : x ≤ 1) (n : Nat) :
    0 ≤ 1 - (1 - x) ^ n ∧ 1 - (1 - x) ^ n ≤ 1 :=
  ⟨(one_sub_pow_zero n).symm.trans_le (one_sub_pow_mono h0 h1 n), sub_le_self 1 (pow_nonneg (sub_nonneg.mpr h1) n)⟩

theorem one_sub_pow_strictMono {x y : ℝ} (hxy : x < y) (hy : y ≤ 1) {n : Nat} (hn : n ≠ 0) :
    1 - (1 - x) ^ n < 1 - (1 - y) ^ n :=
  sub_lt_sub_left (pow_lt_pow_left₀ (sub_lt_sub_left hxy 1) (sub_nonneg.mpr hy) hn) 1

theorem one_sub_pow_tendsto {ι : Type} {l : Filter ι} {p : ι → ℝ} (hp : Tendsto p l (𝓝 0)) (n : Nat) :
    Tendsto (fun s => 1 - (1 - p s) ^ n) l (𝓝 0) := by
  have := ((hp.const_sub 1).pow n).const_sub 1
  rwa [one_sub_pow_zero] at this

/-- `2p/k ≤ p ≤ 2p − p² ≤ 2p` for `p ∈ [0, 1]` and `k ≥ 2` bits -/
theorem ber_ser_of_psc {p k : ℝ} (h0 : 0 ≤ p) (h1 : p ≤ 1) (hk : 2 ≤ k) :
    2 * p / k ≤ 1 - (1 - p) ^ 2 ∧ 1 - (1 - p) ^ 2 ≤ k * (2 * p / k) := by
  have hk0 := two_pos.trans_le hk
  have e : 1 - (1 - p) ^ 2 = 2 * p - p * p := by ring
  rw [mul_div_cancel₀ _ hk0.ne', e]
  exact ⟨((div_le_iff₀' hk0).mpr (mul_le_mul_of_nonneg_right hk h0)).trans
      (le_sub_iff_add_le.mpr ((add_le_add_right (mul_le_of_le_one_right h0 h1) p).trans_eq (two_mul p).symm)),
    sub_le_self _ (mul_nonneg h0 h0)⟩

end PyPhysim.C16
