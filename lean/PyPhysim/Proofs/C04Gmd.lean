import Mathlib.LinearAlgebra.Matrix.Notation
import PyPhysim.Proofs.C20GmdStep

/-!
One step of the Givens sweep inside `pyphysim.util.misc.gmd` (the geometric mean
decomposition), as 2×2 real matrices: the two rotations `G1`, `G2` the code builds from
`δ1 = d[k]`, `δ2 = d[k+1]` and the geometric mean `σ̄` are orthogonal and turn
`diag(δ1, δ2)` into `[[σ̄, x], [0, y]]` with exactly the `x`, `y` the code stores.
The identities between the entries are those of `Proofs/C20GmdStep.lean` (any field, the tuples of
the executable model); this file only reads them as matrix products.  The whole sweep is proved
for the executable model `PyPhysim.LinAlg.gmd` in `Proofs/C20GmdInv*.lean`.
-/
namespace PyPhysim.C04.Pf
open Matrix

theorem mat2_congr {a b c d a' b' c' d' : ℝ} (ha : a = a') (hb : b = b') (hc : c = c') (hd : d = d') :
    !![a, b; c, d] = !![a', b'; c', d'] := by rw [ha, hb, hc, hd]

theorem rot_transpose (a b : ℝ) : !![a, -b; b, a]ᵀ = !![a, b; -b, a] := Matrix.eta_fin_two _

theorem rot_orthogonal (a b : ℝ) (h : a * a + b * b = 1) : !![a, -b; b, a]ᵀ * !![a, -b; b, a] = 1 := by
  obtain ⟨h00, h11, h01⟩ := LinAlg.GmdInv.gmdG1_orth a b h
  rw [rot_transpose, Matrix.mul_fin_two, Matrix.one_fin_two]
  exact mat2_congr h00 h01 (by ring) h11

/-- the rotation parameters the code computes, `c = sqrt((σ̄² − δ2²)/(δ1² − δ2²))` and
    `s = sqrt(1 − c²)`, are a cosine / sine pair that splits `σ̄²` as `c² δ1² + s² δ2²`, when
    `σ̄²` lies between `δ2²` and `δ1²` (`a`, `b`, `t` stand for `δ1²`, `δ2²`, `σ̄²`) -/
theorem gmd_cs (a b t : ℝ) (hab : b < a) (hbt : b ≤ t) (hta : t ≤ a) :
    let c := Real.sqrt ((t - b) / (a - b))
    let s := Real.sqrt (1 - c ^ 2)
    c ^ 2 * a + s ^ 2 * b = t ∧ c ^ 2 + s ^ 2 = 1 := by
  intro c s
  obtain ⟨h0, h1, hden⟩ := LinAlg.Pf.div_sub_mem_unit a b t (Or.inl ⟨hbt, hta, hab⟩)
  have hc2 : c ^ 2 = (t - b) / (a - b) := Real.sq_sqrt h0
  have hc : c ^ 2 * (a - b) = t - b := by rw [hc2, div_mul_cancel₀ _ hden]
  have hs : s ^ 2 = 1 - c ^ 2 := Real.sq_sqrt (by rw [hc2]; exact sub_nonneg.mpr h1)
  exact ⟨by linear_combination hc + b * hs, by linear_combination hs⟩

/-- the step on the 2×2 block, for any cosine / sine pair satisfying the two identities
    of `gmd_cs` (so it also covers the mirrored case `δ1 < σ̄ < δ2`) -/
theorem gmd_step (d1 d2 sb c s : ℝ) (hsb : sb ≠ 0)
    (hk : c ^ 2 * d1 ^ 2 + s ^ 2 * d2 ^ 2 = sb ^ 2) (hcs : c ^ 2 + s ^ 2 = 1) :
    let G1 : Matrix (Fin 2) (Fin 2) ℝ := !![c, -s; s, c]
    let G2 : Matrix (Fin 2) (Fin 2) ℝ := (1 / sb) • !![c * d1, -s * d2; s * d2, c * d1]
    G2ᵀ * !![d1, 0; 0, d2] * G1 = !![sb, s * c * (d2 ^ 2 - d1 ^ 2) / sb; 0, d1 * d2 / sb] ∧
    G1ᵀ * G1 = 1 ∧ G2ᵀ * G2 = 1 := by
  intro G1 G2
  -- `a² + b² = 1` for the parameters `a`, `b` of `G2`, and the four entries of the product
  obtain ⟨hab, t00, t01, t10, t11⟩ := LinAlg.GmdInv.gmd_step_triangular sb d1 d2 c s hsb hcs hk
  -- `G2` is the rotation with cosine `c δ1 / σ̄` and sine `s δ2 / σ̄`
  have hG2 : G2 = !![1 / sb * (c * d1), -(1 / sb * (s * d2)); 1 / sb * (s * d2), 1 / sb * (c * d1)] :=
    (Matrix.eta_fin_two _).trans (mat2_congr rfl (by show 1 / sb * (-s * d2) = _; rw [neg_mul, mul_neg]) rfl rfl)
  refine ⟨?_, rot_orthogonal c s (by linear_combination hcs), ?_⟩
  · rw [hG2, rot_transpose, Matrix.mul_fin_two, Matrix.mul_fin_two]
    simp only [mul_zero, zero_add, add_zero]
    exact mat2_congr t00 (t01.trans (by rw [LinAlg.gmdX, sq, sq])) t10 t11
  · rw [hG2]
    exact rot_orthogonal _ _ hab

/-- the degenerate branch `flag = 1` of the code (`c = 1, s = 0`): it is exact precisely
    when `δ1` already equals the geometric mean -/
theorem gmd_step_flag (d2 sb : ℝ) (hsb : sb ≠ 0) :
    let G1 : Matrix (Fin 2) (Fin 2) ℝ := !![1, -0; 0, 1]
    let G2 : Matrix (Fin 2) (Fin 2) ℝ := (1 / sb) • !![1 * sb, -0 * d2; 0 * d2, 1 * sb]
    G2ᵀ * !![sb, 0; 0, d2] * G1 = !![sb, 0 * 1 * (d2 ^ 2 - sb ^ 2) / sb; 0, sb * d2 / sb] :=
  (gmd_step sb d2 sb 1 0 hsb (by ring) (by ring)).1

end PyPhysim.C04.Pf
