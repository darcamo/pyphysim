import Mathlib.LinearAlgebra.Matrix.NonsingularInverse
import PyPhysim.Proofs.C20Bridge

/-!
The inverse of an updated element of a ring, `(A + E)⁻¹ = B - B E' B` for a left inverse `B` of `A` and any `E'`
with `E' + E' B E = E` (Sherman–Morrison for `E = u vᵀ`, `E' = (1 + vᵀ B u)⁻¹ E`; Woodbury for `E = U C V`,
`E' = U (C⁻¹ + V B U)⁻¹ V`: `inv_update`), and its converse (`pivot_ne_zero`, from
`mul_eq_zero_of_inv_update`, which takes a RIGHT inverse `A B = 1`); the step of `update_inv_sum_diag` as the case `E = d eᵢeᵢᵀ`,
`E' = (1 + d Bᵢᵢ)⁻¹ E`, over any field. Only the step is carried over to `Matrix`; the induction over the
diagonal stays with the model's own operations.
-/
namespace PyPhysim.LinAlg.Pf
open Matrix

theorem inv_update {R : Type} [Ring R] {B A E E' : R} (h : B * A = 1) (hE : E' + E' * B * E = E) :
    (B - B * E' * B) * (A + E) = 1 := by
  rw [sub_mul, mul_add, mul_add, h, mul_assoc _ B A, h, mul_one, mul_assoc B E' B, mul_assoc B (E' * B) E, ← mul_add,
    hE, add_sub_cancel_right]

/-- `B E = C (A + E) B E = C (E + E B E)`: where the update has a left inverse and `E + E B E = 0`, already
    `B E = 0`. -/
theorem mul_eq_zero_of_inv_update {R : Type} [Ring R] {B A C E : R} (h : A * B = 1) (hC : C * (A + E) = 1)
    (hz : E + E * B * E = 0) : B * E = 0 := by
  rw [← one_mul (B * E), ← hC, mul_assoc, add_mul, ← mul_assoc A, h, one_mul, ← mul_assoc E, hz, mul_zero]

section ops
-- no law of the scalar is used below: stated for the model's own classes
variable {K : Type} [One K] [Add K] [Sub K] [Mul K] [Div K] {n : Nat}

theorem uisdGo_cons (inv : Mat K n n) {i : Nat} (h : i < n) (d : K) (ds : List K) :
    uisdGo i (d :: ds) inv = uisdGo (i + 1) ds (smStep inv ⟨i, h⟩ d) := by
  rw [uisdGo, dif_pos h]

theorem uisdPivots_cons (inv : Mat K n n) {i : Nat} (h : i < n) (d : K) (ds : List K) :
    uisdPivots i (d :: ds) inv
      = (1 + d * inv ⟨i, h⟩ ⟨i, h⟩) :: uisdPivots (i + 1) ds (smStep inv ⟨i, h⟩ d) := by
  rw [uisdPivots, dif_pos h]

theorem uisdGo_error : ∀ (ds : List K) (i : Nat) (inv : Mat K n n),
    i ≤ n → n < i + ds.length → uisdGo i ds inv = .error .IndexError := by
  intro ds i inv
  -- the definition's three cases: no entry left; `h : i < n`, the step taken; the index beyond the matrix
  fun_induction uisdGo i ds inv with
  | case1 => exact fun h1 h2 => absurd h2 (Nat.not_lt.mpr h1)
  | case2 i d ds inv h ih => exact fun _ h2 => ih h (h2.trans_eq (Nat.succ_add_eq_add_succ i ds.length).symm)
  | case3 => exact fun _ _ => rfl

end ops

variable {K : Type} [Field K] {n : Nat}

section step
variable (A inv : Mat K n n) (i : Fin n) (d : K)

theorem toM_smStep : toM (smStep inv i d) = toM inv - toM inv * single i i (d / (1 + d * inv i i)) * toM inv := by
  ext r c
  rw [Matrix.sub_apply, Matrix.mul_apply, Finset.sum_eq_single i
    (fun l _ hl => by rw [mul_single_apply_of_ne _ _ _ _ _ hl, zero_mul]) (fun h => absurd (Finset.mem_univ i) h),
    mul_single_apply_same, mul_div_assoc', mul_comm (toM inv r i), div_mul_eq_mul_div, mul_assoc]
  rfl

theorem single_add_mul_single (x : K) :
    single i i x + single i i x * toM inv * single i i d = single i i (x * (1 + d * inv i i)) := by
  rw [single_mul_mul_single, ← single_add, mul_assoc, ← mul_one_add, mul_comm (toM inv i i)]
  rfl

theorem toM_madd_diagM_single : toM (madd A (diagM fun j => if j = i then d else 0)) = toM A + single i i d := by
  rw [← diagonal_single, toM_madd, toM_diagM]
  exact congrArg (fun v => toM A + diagonal v) (funext fun j => (Pi.single_apply i d j).symm)

theorem sm_step (h : matMul inv A = eye) (hp : 1 + d * inv i i ≠ 0) :
    matMul (smStep inv i d) (madd A (diagM fun j => if j = i then d else 0)) = eye := by
  apply toM_inj
  rw [toM_matMul, toM_smStep, toM_madd_diagM_single, toM_eye]
  refine inv_update (mul_eq_one_toM h) ?_
  rw [single_add_mul_single, div_mul_cancel₀ d hp]

/-- a vanishing pivot gives `inv eᵢ d = 0`, whose entry `i i` is `invᵢᵢ d`: the pivot is `1` -/
theorem pivot_ne_zero (B : Mat K n n) (h : matMul inv A = eye)
    (hB : matMul B (madd A (diagM fun j => if j = i then d else 0)) = eye) : 1 + d * inv i i ≠ 0 := by
  intro hp
  have hB' := mul_eq_one_toM hB
  rw [toM_madd_diagM_single] at hB'
  have hz : toM inv * single i i d = 0 := by
    refine mul_eq_zero_of_inv_update (mul_eq_one_comm.mp (mul_eq_one_toM h)) hB' ?_
    rw [single_add_mul_single, hp, mul_zero, single_zero]
  have e : inv i i * d = 0 := (mul_single_apply_same d i i i (toM inv)).symm.trans (by rw [hz, Matrix.zero_apply])
  rw [mul_comm, e, add_zero] at hp
  exact one_ne_zero hp

end step

theorem madd_diagFrom_nil (A : Mat K n n) (i : Nat) : madd A (diagFrom i []) = A := by
  funext r c
  simp [madd, diagFrom]

theorem madd_diagFrom_cons (A : Mat K n n) (i : Nat) (h : i < n) (d : K) (ds : List K) :
    madd A (diagFrom i (d :: ds))
      = madd (madd A (diagM fun j => if j = ⟨i, h⟩ then d else 0)) (diagFrom (i + 1) ds) := by
  funext r c
  simp only [madd, diagFrom, diagM, add_assoc]
  congr 1
  by_cases hrc : r = c
  · subst hrc
    simp only [if_true]
    by_cases hri : r = ⟨i, h⟩
    · subst hri
      -- the entry `i` itself: `(d :: ds)[0] = d`, and `i + 1 ≤ i` is false
      simp
    · have hne : r.val ≠ i := fun e => hri (Fin.ext e)
      rw [if_neg hri, zero_add]
      by_cases hle : i ≤ r.val
      · have hlt : i + 1 ≤ r.val := Nat.lt_of_le_of_ne hle (Ne.symm hne)
        have e : r.val - i = r.val - (i + 1) + 1 := (Nat.sub_one_add_one_eq_of_pos (Nat.sub_pos_of_lt hlt)).symm
        rw [if_pos hle, if_pos hlt, e, List.getElem?_cons_succ]
      · rw [if_neg hle, if_neg fun h => hle (Nat.le_of_succ_le h)]
  · simp only [hrc, ↓reduceIte, add_zero]

theorem uisdGo_correct : ∀ (ds : List K) (i : Nat) (inv A : Mat K n n),
    matMul inv A = eye → i + ds.length ≤ n → (∀ p ∈ uisdPivots i ds inv, p ≠ 0) →
    ∃ B : Mat K n n, uisdGo i ds inv = .ok B ∧ matMul B (madd A (diagFrom i ds)) = eye := by
  intro ds i inv
  fun_induction uisdGo i ds inv with
  | case1 i inv => exact fun A h _ _ => ⟨inv, rfl, by rw [madd_diagFrom_nil]; exact h⟩
  | case2 i d ds inv hi ih =>
    intro A h hlen hp
    rw [uisdPivots_cons inv hi, List.forall_mem_cons] at hp
    rw [madd_diagFrom_cons A i hi]
    exact ih _ (sm_step A inv ⟨i, hi⟩ d h hp.1) ((Nat.succ_add_eq_add_succ i ds.length).trans_le hlen) hp.2
  | case3 i d ds inv hi =>
    exact fun A _ hlen _ => absurd (Nat.lt_of_lt_of_le (Nat.lt_add_of_pos_right (Nat.succ_pos _)) hlen) hi

theorem uisdPivots_of_partial : ∀ (ds : List K) (i : Nat) (inv A : Mat K n n),
    matMul inv A = eye → i + ds.length ≤ n →
    (∀ k, k < ds.length → ∃ B : Mat K n n, matMul B (madd A (diagFrom i (ds.take (k + 1)))) = eye) →
    ∀ p ∈ uisdPivots i ds inv, p ≠ 0 := by
  intro ds i inv
  fun_induction uisdPivots i ds inv with
  | case1 => exact fun _ _ _ _ => List.forall_mem_nil _
  | case2 i d ds inv hi ih =>
    intro A h hlen hpart
    obtain ⟨B, hB⟩ := hpart 0 (Nat.succ_pos _)
    rw [List.take_succ_cons, List.take_zero, madd_diagFrom_cons A i hi, madd_diagFrom_nil] at hB
    have hpiv := pivot_ne_zero A inv ⟨i, hi⟩ d B h hB
    refine List.forall_mem_cons.mpr ⟨hpiv, ih _ (sm_step A inv ⟨i, hi⟩ d h hpiv)
      ((Nat.succ_add_eq_add_succ i ds.length).trans_le hlen) fun k hk => ?_⟩
    obtain ⟨B, hB⟩ := hpart (k + 1) (Nat.succ_lt_succ hk)
    rw [List.take_succ_cons, madd_diagFrom_cons A i hi] at hB
    exact ⟨B, hB⟩
  | case3 => exact fun _ _ _ _ => List.forall_mem_nil _

end PyPhysim.LinAlg.Pf
