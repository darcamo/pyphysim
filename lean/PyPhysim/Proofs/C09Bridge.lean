import Mathlib.Data.Matrix.Mul
import Mathlib.Algebra.BigOperators.Fin
import Mathlib.LinearAlgebra.Matrix.ConjTranspose
import Mathlib.LinearAlgebra.Matrix.DotProduct
import Mathlib.Algebra.Star.Basic
import Mathlib.Data.Complex.Basic
import Mathlib.Analysis.Real.Sqrt
import Mathlib.Analysis.SpecialFunctions.Log.Base
import PyPhysim.Proofs.C09Index

/-!
Bridge between the core-only model `PyPhysim.BD` (`Fin`-indexed functions, own
`sumFin`, scalar classes `Cx` / `RFun`) and Mathlib: the scalar classes at
`ℝ` / `ℂ`, `Matrix.of` of every model operation is the Mathlib operation, the laws of `matMul` with
`eye`, `diagM`, scalar factors and `cT` that the proofs below calculate with,
sums over `Fin (K * N)` as sums over users and antennas (`sum_blocks`: `join` with `userOf`, `within`
is a bijection `Fin K × Fin N → Fin (K * N)`); `covExtInt` in Mathlib terms and the vectors it only scales
by the noise variance (`Pf.extCov_mulVec_eq_smul_iff`).
-/
namespace PyPhysim.BD
open Matrix

/-- the model's scalars in the proofs: `ρ = ℝ`, `α = ℂ` -/
noncomputable instance instCxRC : Cx ℝ ℂ := ⟨Complex.ofReal, Complex.normSq, Complex.re, star⟩
noncomputable instance instRFunR : RFun ℝ := ⟨Real.sqrt, Real.logb 2⟩

theorem sumFin_eq {β : Type} [AddCommMonoid β] : ∀ (n : Nat) (f : Fin n → β), sumFin n f = ∑ i, f i
  | 0, f => (Fin.sum_univ_zero f).symm
  | n+1, f => by rw [sumFin, sumFin_eq n, Fin.sum_univ_castSucc]

section index
variable {K N : Nat}

theorem join_injective {k k' : Fin K} {i i' : Fin N} (h : join k i = join k' i') : k = k' ∧ i = i' := by
  have h1 := congrArg userOf h
  have h2 := congrArg within h
  simp only [userOf_join, within_join] at h1 h2
  exact ⟨h1, h2⟩

theorem sum_blocks {β : Type} [AddCommMonoid β] (f : Fin (K * N) → β) :
    ∑ x, f x = ∑ k : Fin K, ∑ i : Fin N, f (join k i) := by
  rw [← Fintype.sum_prod_type']
  let e : Fin K × Fin N ≃ Fin (K * N) :=
    ⟨fun p => join p.1 p.2, fun x => (userOf x, within x),
      fun p => Prod.ext (userOf_join _ _) (within_join _ _), join_userOf_within⟩
  exact (Fintype.sum_equiv e _ _ (fun p => rfl)).symm

theorem sum_eq_sum_block {β : Type} [AddCommMonoid β] (f : Fin (K * N) → β) (u : Fin K)
    (h : ∀ x, userOf x ≠ u → f x = 0) : ∑ x, f x = ∑ i : Fin N, f (join u i) := by
  rw [sum_blocks, Finset.sum_eq_single u (fun b _ hb => Finset.sum_eq_zero fun i _ => h _ (by rwa [userOf_join]))
    (fun hu => absurd (Finset.mem_univ u) hu)]

end index

abbrev toM {R : Type} {m n : Nat} (A : Mat R m n) : Matrix (Fin m) (Fin n) R := Matrix.of A

theorem toM_eq_iff {R : Type} {m n : Nat} {A B : Mat R m n} : toM A = toM B ↔ A = B :=
  Matrix.of.injective.eq_iff

theorem toM_zero {R : Type} [Zero R] {m n : Nat} : toM (fun _ _ => 0 : Mat R m n) = 0 := rfl

section ring
variable {R : Type} [Ring R] {m k n : Nat}

theorem matMul_apply (A : Mat R m k) (B : Mat R k n) (i : Fin m) (j : Fin n) :
    matMul A B i j = ∑ l, A i l * B l j := sumFin_eq _ _

theorem toM_matMul (A : Mat R m k) (B : Mat R k n) : toM (matMul A B) = toM A * toM B := by
  ext i j
  exact matMul_apply A B i j

theorem toM_eye : toM (eye : Mat R n n) = 1 := by
  ext i j
  exact (Matrix.one_apply).symm

theorem toM_diagM (d : Fin n → R) : toM (diagM d) = Matrix.diagonal d := by
  ext i j
  exact (Matrix.diagonal_apply d i j).symm

theorem matMul_eq_eye_iff {A : Mat R n k} {B : Mat R k n} : matMul A B = eye ↔ toM A * toM B = 1 := by
  rw [← toM_eq_iff, toM_matMul, toM_eye]

theorem matMul_eq_zero_iff {A : Mat R m k} {B : Mat R k n} :
    matMul A B = (fun _ _ => 0) ↔ toM A * toM B = 0 := by
  rw [← toM_eq_iff, toM_matMul, toM_zero]

theorem matMul_eq_iff_cols {A : Mat R m k} {B : Mat R k n} {C : Mat R m n} :
    matMul A B = C ↔ ∀ j, toM A *ᵥ (fun l => B l j) = fun i => C i j := by
  simp only [funext_iff, matMul_apply]
  exact forall_comm

theorem zero_matMul (B : Mat R k n) : matMul (fun _ _ => 0 : Mat R m k) B = fun _ _ => 0 := by
  rw [matMul_eq_zero_iff, toM_zero, Matrix.zero_mul]

theorem matMul_zero (A : Mat R m k) : matMul A (fun _ _ => 0 : Mat R k n) = fun _ _ => 0 := by
  rw [matMul_eq_zero_iff, toM_zero, Matrix.mul_zero]

theorem matMul_assoc {p : Nat} (A : Mat R m k) (B : Mat R k n) (C : Mat R n p) :
    matMul (matMul A B) C = matMul A (matMul B C) := by
  rw [← toM_eq_iff, toM_matMul, toM_matMul, toM_matMul, toM_matMul, Matrix.mul_assoc]

theorem matMul_diagM (A : Mat R m n) (d : Fin n → R) (i : Fin m) (j : Fin n) :
    matMul A (diagM d) i j = A i j * d j := by
  have h := congrFun (congrFun (toM_matMul A (diagM d)) i) j
  rwa [toM_diagM, Matrix.mul_diagonal] at h

theorem diagM_matMul (d : Fin m → R) (A : Mat R m n) (i : Fin m) (j : Fin n) :
    matMul (diagM d) A i j = d i * A i j := by
  have h := congrFun (congrFun (toM_matMul (diagM d) A) i) j
  rwa [toM_diagM, Matrix.diagonal_mul] at h

theorem matMul_eye (A : Mat R m n) : matMul A eye = A := by
  rw [← toM_eq_iff, toM_matMul, toM_eye, Matrix.mul_one]

theorem eye_matMul (A : Mat R m n) : matMul eye A = A := by
  rw [← toM_eq_iff, toM_matMul, toM_eye, Matrix.one_mul]

theorem smul_matMul (c : R) (A : Mat R m k) (B : Mat R k n) :
    matMul (fun i j => c * A i j) B = fun i j => c * matMul A B i j := by
  funext i j
  simp only [matMul_apply, Finset.mul_sum, mul_assoc]

theorem matMul_smul {R : Type} [CommRing R] (c : R) (A : Mat R m k) (B : Mat R k n) :
    matMul A (fun i j => c * B i j) = fun i j => c * matMul A B i j := by
  funext i j
  simp only [matMul_apply, Finset.mul_sum, mul_left_comm]

end ring

section complex
variable {m k n : Nat}

theorem toM_cT (A : Mat ℂ m n) : toM (cT A) = (toM A)ᴴ := rfl

theorem cT_eye : cT (eye : Mat ℂ n n) = eye := by
  rw [← toM_eq_iff, toM_cT, toM_eye, conjTranspose_one]

theorem cT_matMul (A : Mat ℂ m k) (B : Mat ℂ k n) : cT (matMul A B) = matMul (cT B) (cT A) := by
  rw [← toM_eq_iff, toM_matMul, toM_cT, toM_cT, toM_cT, toM_matMul, conjTranspose_mul]

theorem cT_cT (A : Mat ℂ m n) : cT (cT A) = A := funext fun _ => funext fun _ => star_star _

theorem cT_zero : cT (fun _ _ => 0 : Mat ℂ m n) = fun _ _ => 0 := funext fun _ => funext fun _ => star_zero _

theorem toM_gram (A : Mat ℂ m k) : toM (gram A) = (toM A)ᴴ * toM A := by
  simp only [gram, toM_matMul, toM_cT]

theorem toM_projWith (G : Mat ℂ k k) (A : Mat ℂ m k) :
    toM (projWith G A) = toM A * toM G * (toM A)ᴴ := by
  simp only [projWith, toM_matMul, toM_cT]

namespace Pf
variable {N r : Nat}

theorem toM_covExtInt (pe nv : ℝ) (E : Mat ℂ N r) :
    toM (covExtInt pe nv E) = (pe : ℂ) • (toM E * (toM E)ᴴ) + (nv : ℂ) • (1 : Matrix (Fin N) (Fin N) ℂ) := by
  ext i j
  rw [Matrix.add_apply, Matrix.smul_apply, Matrix.smul_apply, ← toM_cT, ← toM_matMul, ← toM_eye, smul_eq_mul,
    smul_eq_mul, mul_comm (nv : ℂ)]
  rfl

/-- `R v = σ² v` iff `pe·E Eᴴ v = 0`, and `E Eᴴ v = 0` forces `‖Eᴴ v‖² = 0` -/
theorem extCov_mulVec_eq_smul_iff (pe nv : ℂ) (E : Matrix (Fin N) (Fin r) ℂ) (v : Fin N → ℂ) :
    (pe • (E * Eᴴ) + nv • (1 : Matrix (Fin N) (Fin N) ℂ)) *ᵥ v = nv • v ↔ pe = 0 ∨ Eᴴ *ᵥ v = 0 := by
  open scoped ComplexOrder in
  rw [add_mulVec, smul_mulVec, smul_mulVec, one_mulVec, add_eq_right, smul_eq_zero,
    self_mul_conjTranspose_mulVec_eq_zero]

end Pf

theorem frobSq_eq (A : Mat ℂ m n) : frobSq A = ∑ i, ∑ j, Complex.normSq (A i j) := by
  simp only [frobSq, sumFin_eq]
  rfl

theorem frobSq_nonneg (A : Mat ℂ m n) : 0 ≤ frobSq A := by
  rw [frobSq_eq]
  exact Finset.sum_nonneg (fun i _ => Finset.sum_nonneg (fun j _ => Complex.normSq_nonneg _))

theorem frobSq_cols (A : Mat ℂ m n) : frobSq A = ∑ j, ∑ i, Complex.normSq (A i j) := by
  rw [frobSq_eq, Finset.sum_comm]

theorem frobSq_eq_zero_iff (A : Mat ℂ m n) : frobSq A = 0 ↔ A = fun _ _ => 0 := by
  rw [frobSq_eq, Fintype.sum_eq_zero_iff_of_nonneg (fun i => Finset.sum_nonneg fun j _ => Complex.normSq_nonneg _)]
  constructor
  · intro h
    funext i j
    have hi := (Fintype.sum_eq_zero_iff_of_nonneg fun j => Complex.normSq_nonneg (A i j)).mp (congrFun h i)
    exact Complex.normSq_eq_zero.mp (congrFun hi j)
  · rintro rfl
    funext i
    simp only [map_zero, Finset.sum_const_zero, Pi.zero_apply]

end complex

/-- rewrite a model-level hypothesis into Mathlib matrix vocabulary -/
macro "to_matrix" " at " h:ident : tactic =>
  `(tactic| (replace $h := congrArg toM $h
             simp only [toM_matMul, toM_gram, toM_eye, toM_cT, toM_projWith, toM_diagM] at $h:ident))

end PyPhysim.BD
