import Mathlib.Tactic.SplitIfs
import Mathlib.Algebra.Group.Nat.Defs
import PyPhysim.Model.C19Users

set_option linter.unusedSectionVars false

/-! C19 — random placement: the rejection loop on a stream of draws, and every argument of the
user-placement entry points having its documented effect.  No law of the scalar is used: the facts
are stated over the operations the model is written with, so they hold for every scalar it runs on. -/
namespace PyPhysim.C19
open PyPhysim.Proto

section draws
variable {α : Type}

theorem firstAccepted_spec {acc : Pt α → Bool} {mk : α × α → Pt α} :
    ∀ (us : List (α × α)) (n : ℕ) (p : Pt α) (m : ℕ), firstAccepted acc mk us n = some (p, m) →
      ∃ k, m = n + k + 1 ∧ us[k]?.map mk = some p ∧ acc p = true ∧
        ∀ j, j < k → ∃ uj, us[j]? = some uj ∧ acc (mk uj) = false := by
  intro us n p m h
  fun_induction firstAccepted acc mk us n with
  | case1 => cases h
  | case2 u us n ha =>
    obtain ⟨rfl, rfl⟩ := Prod.mk.inj (Option.some.inj h)
    exact ⟨0, rfl, rfl, ha, fun j hj => absurd hj (Nat.not_lt_zero j)⟩
  | case3 u us n ha ih =>
    obtain ⟨k, hm, hp, hacc, hrej⟩ := ih h
    refine ⟨k + 1, by omega, hp, hacc, ?_⟩
    intro j hj
    cases j with
    | zero => exact ⟨u, rfl, Bool.not_eq_true _ ▸ ha⟩
    | succ j => exact hrej j (Nat.lt_of_succ_lt_succ hj)
end draws

section scalar
variable {α : Type} [Add α] [Sub α] [Mul α] [Div α] [NatCast α] [LT α] [DecidableLT α] [Circ α]

/-- the acceptance test of `add_random_user`: inside the cell, and not closer to its centre than `ratio · radius` -/
def UserOk (c : CellGeom α) (ratio : α) (p : Pt α) : Prop :=
  c.inside p = true ∧ ¬ (dist c.pos p < ratio * c.radius)

theorem addRandomUser_ok {c : CellGeom α} {ratio : α} {us : List (α × α)} {p : Pt α} {m : ℕ}
    (h : addRandomUser c.inside c.pos c.radius ratio us = some (p, m)) : UserOk c ratio p := by
  obtain ⟨_, _, _, hacc, _⟩ := firstAccepted_spec us 0 p m h
  simp only [acceptable, Bool.and_eq_true, Bool.not_eq_true', decide_eq_false_iff_not] at hacc
  exact hacc

theorem addRandomUsers_spec (c : CellGeom α) (ratio : α) : ∀ (n : ℕ) (us : List (α × α)) (ps : List (Pt α))
    (rest : List (α × α)), addRandomUsers c ratio n us = some (ps, rest) →
    ps.length = n ∧ ∀ p ∈ ps, UserOk c ratio p := by
  intro n us ps rest h
  fun_induction addRandomUsers c ratio n us generalizing ps rest with
  | case1 us =>
    obtain ⟨rfl, _⟩ := Prod.mk.inj (Option.some.inj h)
    exact ⟨rfl, fun p hp => absurd hp List.not_mem_nil⟩
  | case2 => cases h
  | case3 => cases h
  | case4 n us p m h1 qs r' h2 ih =>
    obtain ⟨rfl, _⟩ := Prod.mk.inj (Option.some.inj h)
    obtain ⟨hl, hq⟩ := ih qs r' h2
    exact ⟨congrArg (· + 1) hl, List.forall_mem_cons.mpr ⟨addRandomUser_ok h1, hq⟩⟩

/-- a user placed for request `r`: in cell number `r.id` (counted from 1), with the request's colour, at a point that cell accepts -/
def PlacedOk (cells : List (CellGeom α)) (r : Req α) (u : Placed α) : Prop :=
  ∃ c, cells[r.id - 1]? = some c ∧ u.cell = r.id - 1 ∧ u.color = r.color ∧ UserOk c r.ratio u.pos

theorem clusterPlaceOne_spec {cells : List (CellGeom α)} {r : Req α} {us rest : List (α × α)}
    {pl : List (Placed α)} (h : clusterPlaceOne cells r us = .ok (some (pl, rest))) :
    pl.length = r.num ∧ ∀ u ∈ pl, PlacedOk cells r u := by
  unfold clusterPlaceOne at h
  split_ifs at h
  split at h
  · cases h
  · rename_i c hc
    obtain ⟨⟨ps, r'⟩, ha, hf⟩ := Option.map_eq_some_iff.mp (Except.ok.inj h)
    obtain ⟨rfl, _⟩ := Prod.mk.inj hf
    obtain ⟨hl, hp⟩ := addRandomUsers_spec c r.ratio r.num us ps r' ha
    refine ⟨(List.length_map _).trans hl, fun u hu => ?_⟩
    obtain ⟨p, hp', rfl⟩ := List.mem_map.mp hu
    exact ⟨c, hc, rfl, rfl, hp p hp'⟩

theorem PlacedOk.cell_eq {cells : List (CellGeom α)} {r : Req α} {u : Placed α} (h : PlacedOk cells r u) :
    u.cell = r.id - 1 :=
  let ⟨_, _, hc, _⟩ := h
  hc

theorem clusterPlace_spec (cells : List (CellGeom α)) : ∀ (reqs : List (Req α)) (us rest : List (α × α))
    (pl : List (Placed α)), clusterPlace cells reqs us = .ok (some (pl, rest)) →
    pl.length = (reqs.map (·.num)).sum ∧ (∀ u ∈ pl, ∃ r ∈ reqs, PlacedOk cells r u) ∧
    ∀ i, (pl.filter (fun u => u.cell = i)).length = ((reqs.filter (fun r => r.id - 1 = i)).map (·.num)).sum := by
  intro reqs us rest pl h
  fun_induction clusterPlace cells reqs us generalizing pl rest with
  | case1 us =>
    obtain ⟨rfl, _⟩ := Prod.mk.inj (Option.some.inj (Except.ok.inj h))
    exact ⟨rfl, fun u hu => absurd hu List.not_mem_nil, fun _ => rfl⟩
  | case2 => cases h
  | case3 => cases h
  | case4 => cases h
  | case5 => cases h
  | case6 r rs us ps r1 h1 qs r2 h2 ih =>
    obtain ⟨rfl, rfl⟩ := Prod.mk.inj (Option.some.inj (Except.ok.inj h))
    obtain ⟨l1, p1⟩ := clusterPlaceOne_spec h1
    obtain ⟨l2, p2, c2⟩ := ih _ _ h2
    refine ⟨?_, fun u hu => ?_, fun i => ?_⟩
    · rw [List.length_append, l1, l2, List.map_cons, List.sum_cons]
    · rcases List.mem_append.mp hu with hu | hu
      · exact ⟨r, List.mem_cons_self, p1 u hu⟩
      · obtain ⟨r', hr', hok⟩ := p2 u hu
        exact ⟨r', List.mem_cons_of_mem _ hr', hok⟩
    · -- the users of the first request are all in its cell
      rw [List.filter_append, List.length_append, c2 i]
      by_cases hi : r.id - 1 = i
      · rw [List.filter_eq_self.mpr fun u hu => decide_eq_true ((p1 u hu).cell_eq.trans hi), l1,
          List.filter_cons_of_pos (p := fun r : Req α => decide (r.id - 1 = i)) (decide_eq_true hi), List.map_cons, List.sum_cons]
      · rw [List.filter_eq_nil_iff.mpr fun u hu h => hi ((p1 u hu).cell_eq.symm.trans (of_decide_eq_true h)),
          List.filter_cons_of_neg (p := fun r : Req α => decide (r.id - 1 = i)) fun h => hi (of_decide_eq_true h),
          List.length_nil, zero_add]

theorem expand_one {β : Type} {x y : β} {n k : ℕ} (h : ((Arg.one x).expand n)[k]? = some y) : y = x := by
  simp only [Arg.expand] at h
  have := List.mem_of_getElem? h
  exact (List.mem_replicate.mp this).2
end scalar

end PyPhysim.C19
