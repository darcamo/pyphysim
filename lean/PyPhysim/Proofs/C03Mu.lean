import PyPhysim.Proofs.C03Conv
import PyPhysim.Proofs.Common

/-!
# C03 — `MuChannel` / `MuMimoChannel`: per-link superposition

What a receiver superposes is a sum of tables, row by row and entry by entry (`sumOutputs_range`, by the loop lemmas
of `Proofs/C03Conv`).  `mu_transmit_tables_dest` reads `Mu.transmit` for links given as a table; `mu_transmit_pairs` is the same
with the per-link results indexed by (destination, source), the form in which the four transmissions
(time / frequency domain, SISO / MIMO links) are instances, proved in `Properties/C03`.  At the end, the
dimensions of a single link in either direction (`mu_link_dims`), which `mu_freq_mimo_spec` needs.
Of a link only its direction and its dimensions are read, so the module rests on the tables of `Proofs/C03Conv` alone.
-/
namespace PyPhysim.C03
open PyPhysim.Proto

section
variable {β : Type}

theorem mapM_tab_zipIdx {κ : Type} (N : Nat) (Lk : Nat → β) (f : β × Nat → Except PyErr κ) (g : Nat → κ)
    (h : ∀ i, i < N → f (Lk i, i) = .ok (g i)) : (tab N Lk).zipIdx.mapM f = .ok (tab N g) := by
  rw [tab_zipIdx, mapM_ok f (fun li => g li.2) _ (fun x hx => by
    obtain ⟨i, hi, rfl⟩ := List.mem_map.mp hx
    exact h i (List.mem_range.mp hi)), tab_map]

end

variable {α : Type} [CommSemiring α]

theorem sumOutputs_range (R len n : Nat) (hn : 0 < n) (F : Nat → Nat → Nat → α) :
    sumOutputs ((List.range n).map (fun t => tab R (fun r => tab len (F t r))))
      = .ok (tab R (fun r => tab len (fun m => ((List.range n).map (fun t => F t r m)).sum))) := by
  obtain ⟨k, rfl⟩ := Nat.exists_eq_add_one.mpr hn
  rw [List.range_succ_eq_map, List.map_cons, List.map_map, sumOutputs, List.foldl_map]
  -- the tables are added row by row, and in each row entry by entry
  refine congrArg Except.ok ((foldl_tab_rows _ (fun t r row => List.zipWith (· + ·) row (tab len (F (t + 1) r))) R
    (fun A t => zipWith_map_same _ _ _ _) _ _).trans (tab_congr fun r _ => ?_))
  refine (foldl_tab_add _ (fun t m => F (t + 1) r m) len (fun f t => zipWith_map_same _ _ _ _) _ _).trans
    (tab_congr fun m _ => ?_)
  rw [List.map_cons, List.sum_cons, List.map_map]
  rfl

/-- link index of (receiver j, source a) in the two directions -/
def muLink (sw : Bool) (nTx j a : Nat) : Nat := if sw then a * nTx + j else j * nTx + a

/-- source / destination of link `idx` in the two directions -/
def muSrc (sw : Bool) (nTx idx : Nat) : Nat := if sw then idx / nTx else idx % nTx
def muDst (sw : Bool) (nTx idx : Nat) : Nat := if sw then idx % nTx else idx / nTx

theorem muLink_lt (sw : Bool) (nRx nTx j a : Nat)
    (hj : j < (if sw then nTx else nRx)) (ha : a < (if sw then nRx else nTx)) :
    muLink sw nTx j a < nRx * nTx := by
  cases sw
  · exact mul_add_lt_mul hj ha
  · exact mul_add_lt_mul ha hj

/-- destination and source of the link `muLink j a` are `j` and `a` -/
theorem muDst_muSrc_muLink (sw : Bool) (nRx nTx j a : Nat)
    (hj : j < (if sw then nTx else nRx)) (ha : a < (if sw then nRx else nTx)) :
    muDst sw nTx (muLink sw nTx j a) = j ∧ muSrc sw nTx (muLink sw nTx j a) = a := by
  cases sw
  · exact mul_add_divMod ha
  · exact (mul_add_divMod hj).symm

/-- every link is the `muLink` of its destination and its source, and both are in range -/
theorem muLink_muDst_muSrc (sw : Bool) (nRx nTx idx : Nat) (hT : 0 < nTx) (hidx : idx < nRx * nTx) :
    muDst sw nTx idx < (if sw then nTx else nRx) ∧ muSrc sw nTx idx < (if sw then nRx else nTx) ∧
      muLink sw nTx (muDst sw nTx idx) (muSrc sw nTx idx) = idx := by
  have hdiv : idx / nTx < nRx := Nat.div_lt_of_lt_mul (Nat.mul_comm nRx nTx ▸ hidx)
  cases sw
  · exact ⟨hdiv, Nat.mod_lt _ hT, Nat.div_add_mod' idx nTx⟩
  · exact ⟨Nat.mod_lt _ hT, hdiv, Nat.div_add_mod' idx nTx⟩

/-- the two superposition loops of `Mu.transmit` (one per direction) are one loop over destinations and sources -/
theorem superpose_eq {κ ρ τ : Type} (sw : Bool) (nRx nTx : Nat) (ys : List κ) (f : List κ → Except PyErr ρ)
    (k : List ρ → Except PyErr τ) :
    (if sw then (List.range nTx).mapM (fun j => f ((List.range nRx).filterMap (fun r => ys[r * nTx + j]?))) >>= k
      else (List.range nRx).mapM (fun j => f ((List.range nTx).filterMap (fun t => ys[j * nTx + t]?))) >>= k)
      = (List.range (if sw then nTx else nRx)).mapM (fun j =>
          f ((List.range (if sw then nRx else nTx)).filterMap (fun a => ys[muLink sw nTx j a]?))) >>= k := by
  cases sw <;> rfl

theorem mu_transmit_tables_dest (nRx nTx : Nat) (hR : 0 < nRx) (hT : 0 < nTx) (Lk L' : Nat → Su α) (sw : Bool)
    (hsw : (Lk 0).tdl.switched = sw)
    (x : List (List (List α))) (hx : x.length = (if sw then nRx else nTx))
    (send : Su α → List (List α) → Except PyErr (Su α × List (List α)))
    (R : Nat → Nat) (len : Nat) (F : Nat → Nat → Nat → α)
    (hsend : ∀ idx, idx < nRx * nTx → ∃ s, x[muSrc sw nTx idx]? = some s ∧
        send (Lk idx) s = .ok (L' idx, tab (R (muDst sw nTx idx)) (fun r => tab len (F idx r)))) :
    Mu.transmit { nRx := nRx, nTx := nTx, links := tab (nRx * nTx) Lk } x send
      = .ok ({ nRx := nRx, nTx := nTx, links := tab (nRx * nTx) L' },
             tab (if sw then nTx else nRx) (fun j => tab (R j) (fun r => tab len (fun m =>
               ((List.range (if sw then nRx else nTx)).map (fun a => F (muLink sw nTx j a) r m)).sum)))) := by
  have hswitch : Mu.switched ({ nRx := nRx, nTx := nTx, links := tab (nRx * nTx) Lk } : Mu α) = .ok sw := by
    obtain ⟨N', hN'⟩ := Nat.exists_eq_add_one.mpr (Nat.mul_pos hR hT)
    rw [Mu.switched, hN', tab_succ]
    exact congrArg Except.ok hsw
  unfold Mu.transmit
  refine bind_eq_ok.mpr ⟨sw, hswitch, guard_eq_ok.mpr ⟨hT.ne', guard_eq_ok.mpr ⟨not_not.mpr hx, ?_⟩⟩⟩
  refine bind_eq_ok.mpr ⟨_, mapM_tab_zipIdx (nRx * nTx) Lk _
    (fun idx => (L' idx, tab (R (muDst sw nTx idx)) (fun r => tab len (F idx r)))) (fun idx hidx => ?_), ?_⟩
  · obtain ⟨s, hs1, hs2⟩ := hsend idx hidx
    simp only [muSrc] at hs1
    simp only [hs1, hs2]
  rw [tab_map, tab_map]
  -- destination `j` superposes the outputs of the links `muLink sw nTx j a`, whose destination is `j`
  refine (superpose_eq sw nRx nTx _ _ _).trans (bind_eq_ok.mpr ⟨_, mapM_ok _ _ _ fun j hj => ?_, rfl⟩)
  have hj := List.mem_range.mp hj
  refine (congrArg sumOutputs ((List.filterMap_eq_map_iff_forall_eq_some).mpr fun a ha => ?_)).trans
    (sumOutputs_range (R j) len _ (by cases sw <;> assumption) fun a => F (muLink sw nTx j a))
  have ha := List.mem_range.mp ha
  rw [getElem?_tab, if_pos (muLink_lt sw nRx nTx j a hj ha), (muDst_muSrc_muLink sw nRx nTx j a hj ha).1]

theorem mu_transmit_pairs (nRx nTx : Nat) (hR : 0 < nRx) (hT : 0 < nTx) (Lk L' : Nat → Su α) (sw : Bool)
    (hsw : (Lk 0).tdl.switched = sw) (X : Nat → List (List α))
    (send : Su α → List (List α) → Except PyErr (Su α × List (List α)))
    {R : Nat → Nat} {len : Nat} {G : Nat → Nat → Nat → Nat → α}
    (hsend : ∀ j a, j < (if sw then nTx else nRx) → a < (if sw then nRx else nTx) →
        send (Lk (muLink sw nTx j a)) (X a)
          = .ok (L' (muLink sw nTx j a), tab (R j) (fun r => tab len (G j a r)))) :
    Mu.transmit { nRx := nRx, nTx := nTx, links := tab (nRx * nTx) Lk } (tab (if sw then nRx else nTx) X) send
      = .ok ({ nRx := nRx, nTx := nTx, links := tab (nRx * nTx) L' },
             tab (if sw then nTx else nRx) (fun j => tab (R j) (fun r => tab len (fun m =>
               ((List.range (if sw then nRx else nTx)).map (fun a => G j a r m)).sum)))) := by
  rw [mu_transmit_tables_dest nRx nTx hR hT Lk L' sw hsw _ (tab_length _ _) send R len
    (fun idx => G (muDst sw nTx idx) (muSrc sw nTx idx))]
  · refine congrArg (fun z => Except.ok (_, z)) (tab_congr fun j hj => tab_congr fun r _ => tab_congr fun m _ =>
      congrArg List.sum (List.map_congr_left fun a ha => ?_))
    obtain ⟨hd, hs⟩ := muDst_muSrc_muLink sw nRx nTx j a hj (List.mem_range.mp ha)
    rw [hd, hs]
  · intro idx hidx
    obtain ⟨hd, hs, hl⟩ := muLink_muDst_muSrc sw nRx nTx idx hT hidx
    refine ⟨X (muSrc sw nTx idx), by rw [getElem?_tab, if_pos hs], ?_⟩
    have := hsend _ _ hd hs
    rwa [hl] at this

omit [CommSemiring α] in
theorem mu_link_dims (c : Tdl α) (Nr Nt : Nat → Nat) (sw : Bool) (hsw : c.switched = sw) (nRx nTx j a : Nat)
    (hj : j < (if sw then nTx else nRx)) (ha : a < (if sw then nRx else nTx)) :
    c.dims (Nr (muLink sw nTx j a / nTx)) (Nt (muLink sw nTx j a % nTx))
      = (if sw then Nt j else Nr j, if sw then Nr a else Nt a) := by
  rw [Tdl.dims, hsw]
  cases sw
  · exact congrArg₂ Prod.mk (congrArg Nr ((mul_add_divMod ha).1)) (congrArg Nt (Nat.mul_add_mod_of_lt ha))
  · exact congrArg₂ Prod.mk (congrArg Nt (Nat.mul_add_mod_of_lt hj)) (congrArg Nr ((mul_add_divMod hj).1))

end PyPhysim.C03
