import PyPhysim.Proofs.C08Frame
/-!
C08 — the views as the property states them, from the stored inputs alone (`specBigH`, `specH`,
`specBigW`), and the invariant `Coherent` of the lazy caches: whatever a cache holds is the view it
stands for.  Every operation keeps it (`step_coherent`, `run_coherent`); in a coherent state a lazy read
returns the view (`readBigH_spec`, `readH_spec`, `readBigW_spec`).  No Mathlib needed.
-/
set_option linter.unusedSectionVars false
namespace PyPhysim.C08

variable {α : Type} [Add α] [Mul α] [Zero α]

def specBigH (F : Fns α) (st : State α) : Mat α :=
  match st.pl with
  | none => st.raw
  | some p => scaleEl F.sqrt st.raw (expand p st.nr st.nt)

def specHFull (F : Fns α) (st : State α) : MoM α :=
  match st.pl with
  | none => st.hNoPL
  | some p => scaleMom F.sqrt st.hNoPL p

def specH (F : Fns α) (st : State α) : MoM α :=
  if st.isExt then
    match st.pl with
    | none => st.hNoPL.take st.userK
    | some p => scaleMom F.sqrt (st.hNoPL.take st.userK) p
  else specHFull F st

def specBigW (st : State α) : Option (Mat α) := st.w.map blockDiag

structure Coherent (F : Fns α) (st : State α) : Prop where
  plBig : st.plBig = st.pl.map fun p => expand p st.nr st.nt
  bigH : ∀ M, st.bigHc = some M → M = specBigH F st
  h : ∀ H, st.hc = some H → H = specHFull F st
  bigW : ∀ B, st.bigWc = some B → ∃ ws, st.w = some ws ∧ blockDiag ws = B

theorem coherent_init (F : Fns α) (e : Bool) : Coherent F (State.init α e) := ⟨rfl, nofun, nofun, nofun⟩

/-- no cached attribute is computed from `extK`, `noiseVar`, `lastNoise` -/
theorem Coherent.of_other {F : Fns α} {st : State α} (h : Coherent F st) (e : Nat) (nv : Option α)
    (ln : Option (Mat α)) : Coherent F { st with extK := e, noiseVar := nv, lastNoise := ln } :=
  ⟨h.plBig, h.bigH, h.h, h.bigW⟩

/-- the shape `init_from_channel_matrix`, `randomize` and `set_pathloss` share: whatever becomes of the
    inputs of the channel views, the path loss is re-expanded for them and both channel caches are reset -/
theorem Coherent.reset {F : Fns α} {st : State α} (h : Coherent F st) (M : Mat α) (nr nt : List Nat) (K : Nat)
    (pl : Option (Mat α)) :
    Coherent F { st with raw := M, nr := nr, nt := nt, k := K, pl := pl, plBig := pl.map fun p => expand p nr nt,
                         bigHc := none, hc := none } :=
  ⟨rfl, nofun, nofun, h.bigW⟩

theorem reinit_coherent {F : Fns α} {st : State α} (h : Coherent F st) (M : Mat α) (nr nt : List Nat) (K : Nat)
    (ntE : List Nat) : Coherent F (reinit st M nr nt K ntE) := by
  unfold reinit
  rw [install_eq]
  exact (h.of_other _ st.noiseVar st.lastNoise).reset ..

theorem doSetPL_coherent {F : Fns α} {st : State α} (h : Coherent F st) (p : Option (Mat α)) (pe : Mat α) :
    Coherent F (doSetPL Cfg.fixed st p pe) := by
  rw [doSetPL_eq]
  exact h.reset st.raw st.nr st.nt st.k _

/-- in a coherent state `big_H` returns the view and at most fills its cache -/
theorem readBigH_spec (F : Fns α) (st : State α) (h : Coherent F st) :
    readBigH F st = ({ st with bigHc := (readBigH F st).1.bigHc }, .ok (specBigH F st))
    ∧ Coherent F (readBigH F st).1 := by
  obtain ⟨e, raw, nr, nt, k, x, pl, plBig, bigHc, hc, w, bigWc, nv, ln⟩ := st
  cases pl with
  | none => exact ⟨rfl, h⟩
  | some p =>
    cases bigHc with
    | some M => exact ⟨congrArg (fun B => (_, Except.ok B)) (h.bigH M rfl), h⟩
    | none =>
      obtain rfl : plBig = some (expand p nr nt) := h.plBig
      exact ⟨rfl, rfl, fun M hM => (Option.some.inj hM).symm, h.h, h.bigW⟩

theorem readH_spec (F : Fns α) (st : State α) (h : Coherent F st) :
    (readH F st).2 = specH F st ∧ Coherent F (readH F st).1 := by
  obtain ⟨e, raw, nr, nt, k, x, pl, plBig, bigHc, hc, w, bigWc, nv, ln⟩ := st
  cases e with
  | true => cases pl <;> exact ⟨rfl, h⟩
  | false =>
    cases pl with
    | none => exact ⟨rfl, h⟩
    | some p =>
      cases hc with
      | some H => exact ⟨h.h H rfl, h⟩
      | none => exact ⟨rfl, h.plBig, h.bigH, fun H hH => (Option.some.inj hH).symm, h.bigW⟩

theorem readBigW_spec (F : Fns α) (st : State α) (h : Coherent F st) :
    (readBigW st).2 = specBigW st ∧ Coherent F (readBigW st).1 := by
  obtain ⟨e, raw, nr, nt, k, x, pl, plBig, bigHc, hc, w, bigWc, nv, ln⟩ := st
  cases bigWc with
  | some B =>
    obtain ⟨ws, hw, hB⟩ := h.bigW B rfl
    cases (hw : w = some ws)
    exact ⟨congrArg some hB.symm, h⟩
  | none =>
    cases w with
    | none => exact ⟨rfl, h⟩
    | some ws => exact ⟨rfl, h.plBig, h.bigH, h.h, fun B hB => ⟨ws, rfl, Option.some.inj hB⟩⟩

theorem transmit_coherent (F : Fns α) (st : State α) (noise : Option (Mat α)) (h : Coherent F st) :
    Coherent F (transmit F st noise) := by
  have hB := (readBigH_spec F st h).2
  unfold transmit
  split
  · exact (readBigW_spec F _ (hB.of_other _ _ none)).2
  · exact (readBigW_spec F _ (hB.of_other _ _ (some _))).2
  · exact hB

theorem step_coherent (F : Fns α) (st : State α) (op : Op α) (h : Coherent F st) :
    Coherent F (step Cfg.fixed F st op).1 := by
  rw [step_fst]
  cases op with
  | init M nr nt K ntE => exact of_ite (P := Coherent F) (reinit_coherent h M nr nt K ntE) h
  | randomize M nr nt K ntE => exact of_ite (P := Coherent F) h (reinit_coherent h M nr nt K ntE)
  | setPL p pe => exact of_ite (P := Coherent F) h (doSetPL_coherent h p pe)
  | setNoise v => exact of_ite (P := Coherent F) (h.of_other st.extK v st.lastNoise) h
  | setW w => exact ⟨h.plBig, h.bigH, h.h, nofun⟩
  | readH | readHkl _ _ => exact (readH_spec F st h).2
  | readBigH | readHk _ => exact (readBigH_spec F st h).2
  | readBigHNoExt | readHkNoExt _ => exact of_ite (P := Coherent F) (readBigH_spec F st h).2 h
  | readHNoExt => exact of_ite (P := Coherent F) (readH_spec F st h).2 h
  | corrupt _ _ noise | corruptCat _ noise => exact transmit_coherent F st noise h
  | readBigWView => exact (readBigW_spec F st h).2
  | _ => exact h

theorem run_coherent (F : Fns α) (ops : List (Op α)) (st : State α) (h : Coherent F st) :
    Coherent F (run Cfg.fixed F st ops).1 := by
  induction ops generalizing st with
  | nil => exact h
  | cons op ops ih => exact ih (step Cfg.fixed F st op).1 (step_coherent F st op h)

end PyPhysim.C08
