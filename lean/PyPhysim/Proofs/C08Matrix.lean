import Mathlib.Data.Matrix.Mul
import Mathlib.Algebra.BigOperators.Fin
import PyPhysim.Model.C08
/-!
C08 — the list-of-rows matrix operations of the model are the mathematical
ones: bridge to Mathlib's `Matrix` over an arbitrary semiring.  Both products of the model are folds
over zipped rows; `foldl_zip_ofFn` says where such a fold ends, entry by entry, and the comparisons with
the matrix product and the product with the conjugate transpose (`matMul_is_matrix_product`,
`conjTMul_is_conjTranspose_product`, `Properties/C08.lean`) are its two instances.
-/
set_option linter.unusedSectionVars false

namespace PyPhysim.C08
open Matrix

section Bridge
variable {R : Type} [Semiring R]

def toLists {m n : Nat} (A : Matrix (Fin m) (Fin n) R) : Mat R :=
  List.ofFn fun i => List.ofFn fun j => A i j

theorem zipWith_ofFn {β γ δ : Type} (f : β → γ → δ) {p : Nat} (u : Fin p → β) (v : Fin p → γ) :
    List.zipWith f (List.ofFn u) (List.ofFn v) = List.ofFn fun j => f (u j) (v j) := by
  apply List.ext_getElem
  · simp
  · intro i h1 h2
    simp

theorem vecAdd_ofFn {p : Nat} (u v : Fin p → R) :
    vecAdd (List.ofFn u) (List.ofFn v) = List.ofFn fun j => u j + v j :=
  zipWith_ofFn _ u v

theorem matAdd_ofFn {q p : Nat} (U V : Fin q → Fin p → R) :
    matAdd (List.ofFn fun j => List.ofFn (U j)) (List.ofFn fun j => List.ofFn (V j))
      = List.ofFn fun j => List.ofFn fun k => U j k + V j k :=
  (zipWith_ofFn vecAdd _ _).trans (congrArg List.ofFn (funext fun j => vecAdd_ofFn (U j) (V j)))

/-- Both products of the model fold over the zipped rows of two matrices and add one term per row to an
    accumulator.  When the accumulator type represents families of scalars (`rep`, with `add` for the
    entrywise `+`) and the term of row `i` represents `t i`, the fold from `rep u` ends at the family of the
    entrywise sums. -/
theorem foldl_zip_ofFn {β γ δ ι : Type} (rep : (ι → R) → δ) (add : δ → δ → δ)
    (hadd : ∀ a b, add (rep a) (rep b) = rep fun z => a z + b z) (f : β → γ → δ) {n : Nat} (x : Fin n → β)
    (y : Fin n → γ) (t : Fin n → ι → R) (hf : ∀ i, f (x i) (y i) = rep (t i)) (u : ι → R) :
    ((List.ofFn x).zip (List.ofFn y)).foldl (fun acc xy => add acc (f xy.1 xy.2)) (rep u)
      = rep fun z => u z + ∑ i, t i z := by
  induction n generalizing u with
  | zero => simp
  | succ n ih =>
    simp only [List.ofFn_succ, List.zip_cons_cons, List.foldl_cons]
    rw [hf 0, hadd, ih (fun i => x i.succ) (fun i => y i.succ) (fun i => t i.succ) (fun i => hf i.succ)]
    simp only [Fin.sum_univ_succ, add_assoc]

theorem cols_toLists {n p : Nat} (B : Matrix (Fin (n + 1)) (Fin p) R) : cols (toLists B) = p := by
  simp [cols, toLists, List.ofFn_succ]

end Bridge
end PyPhysim.C08
