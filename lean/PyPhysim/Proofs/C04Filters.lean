import Mathlib.LinearAlgebra.Matrix.PosDef
import Mathlib.LinearAlgebra.Matrix.NonsingularInverse
import Mathlib.Analysis.Complex.Order
import PyPhysim.Proofs.C04Bridge

/-!
The specification predicates (`FullColRank`, `IsPinv`, `IsSolve`) used by the property
theorems, and what they give: the Gram matrix of a full-column-rank channel and the
regularised Gram matrix of any channel cancel on the left, a Moore–Penrose inverse solves the
normal equation `(Hᴴ H) G = Hᴴ` (under full column rank it is a left inverse, and the equation
conversely gives the four conditions), and both kernels' contracts are satisfiable.
-/
namespace PyPhysim.C04
open Matrix
open scoped ComplexOrder

variable {m n k : Nat}

/-- full column rank of the channel: the Gram matrix `Hᴴ H` is invertible -/
def FullColRank (H : Mat ℂ m n) : Prop := IsUnit ((toM H)ᴴ * toM H)

/-- contract of `np.linalg.pinv`: the four Moore–Penrose conditions -/
structure IsPinv (H : Mat ℂ m n) (G : Mat ℂ n m) : Prop where
  hgh : matMul (matMul H G) H = H
  ghg : matMul (matMul G H) G = G
  hg_herm : cT (matMul H G) = matMul H G
  gh_herm : cT (matMul G H) = matMul G H

/-- contract of `np.linalg.solve(A, B)`: the result `W` satisfies `A · W = B` -/
def IsSolve (A : Mat ℂ n n) (B : Mat ℂ n m) (W : Mat ℂ n m) : Prop := matMul A W = B

namespace Pf

/-- the MMSE filter applied to the channel: `W H = 1 − s (Hᴴ H + s I)⁻¹` in inverse-free form -/
theorem mmse_mul_channel (A : Matrix (Fin m) (Fin n) ℂ) (W : Matrix (Fin n) (Fin m) ℂ) (s : ℂ)
    (hW : (Aᴴ * A + s • (1 : Matrix (Fin n) (Fin n) ℂ)) * W = Aᴴ) :
    (Aᴴ * A + s • (1 : Matrix (Fin n) (Fin n) ℂ)) * (1 - W * A) = s • 1 := by
  rw [Matrix.mul_sub, ← Matrix.mul_assoc, hW, Matrix.mul_one]
  exact add_sub_cancel_left _ _

end Pf

theorem cancel_of_isUnit {A : Mat ℂ n n} (hu : IsUnit (toM A)) {X Y : Mat ℂ n k}
    (h : matMul A X = matMul A Y) : X = Y := by
  c04_matrix at h
  have := hu.invertible
  exact toM_inj (Matrix.mul_right_injective_of_invertible _ h)

theorem exists_solution {A : Mat ℂ n n} (hu : IsUnit (toM A)) (B : Mat ℂ n k) :
    ∃ W, matMul A W = B := by
  obtain ⟨Ai, hAi⟩ : ∃ Ai : Mat ℂ n n, toM A * toM Ai = 1 := hu.exists_right_inv
  refine ⟨matMul Ai B, ?_⟩
  rw [← matMul_assoc, toM_inj ((toM_matMul A Ai).trans (hAi.trans toM_eye.symm)), eye_matMul]

/-- `FullColRank` read in the vocabulary of the model -/
theorem fullColRank_iff {H : Mat ℂ m n} : FullColRank H ↔ IsUnit (toM (matMul (cT H) H)) := by
  rw [toM_matMul, toM_cT, FullColRank]

/-- `Hᴴ H + s · 1` is positive definite for `s > 0`, whatever the channel -/
theorem mmseLhs_isUnit (H : Mat ℂ m n) {s : ℝ} (hs : 0 < s) : IsUnit (toM (mmseLhs H (s : ℂ))) := by
  rw [toM_mmseLhs, Matrix.smul_one_eq_diagonal]
  exact (Matrix.PosDef.posSemidef_add (posSemidef_conjTranspose_mul_self _)
    (PosDef.diagonal fun _ => Complex.zero_lt_real.mpr hs)).isUnit

theorem FullColRank.cancel {H : Mat ℂ m n} (hr : FullColRank H) {X Y : Mat ℂ n k}
    (h : matMul (matMul (cT H) H) X = matMul (matMul (cT H) H) Y) : X = Y :=
  cancel_of_isUnit (fullColRank_iff.mp hr) h

variable {H : Mat ℂ m n} {G : Mat ℂ n m}

/-- the normal-equation form of the pseudo-inverse: `(Hᴴ H) G = Hᴴ (H G)ᴴ = (H G H)ᴴ = Hᴴ` -/
theorem IsPinv.normal (hp : IsPinv H G) : matMul (matMul (cT H) H) G = cT H := by
  rw [matMul_assoc, ← hp.hg_herm, ← cT_matMul, hp.hgh]

theorem IsPinv.left_inv (hp : IsPinv H G) (hr : FullColRank H) : matMul G H = eye :=
  hr.cancel (by rw [matMul_eye, matMul_assoc, ← matMul_assoc H, hp.hgh])

theorem isPinv_of_left_inv (hGH : matMul G H = eye) (hh : cT (matMul H G) = matMul H G) :
    IsPinv H G where
  hgh := by rw [matMul_assoc, hGH, matMul_eye]
  ghg := by rw [hGH, eye_matMul]
  hg_herm := hh
  gh_herm := by rw [hGH, cT_eye]

/-- with `IsPinv.normal`: under full column rank the contract is satisfied exactly by
    `(Hᴴ H)⁻¹ Hᴴ` -/
theorem isPinv_of_normal (hr : FullColRank H) (hN : matMul (matMul (cT H) H) G = cT H) :
    IsPinv H G := by
  have hGH : matMul G H = eye := hr.cancel (by rw [← matMul_assoc, hN, matMul_eye])
  -- `H = Gᴴ (Hᴴ H)`, hence `(H G)ᴴ = Gᴴ Hᴴ = Gᴴ (Hᴴ H) G = H G`
  have hH : matMul (cT G) (matMul (cT H) H) = H := by
    have e := congrArg cT hN
    rwa [cT_cT, cT_matMul, cT_matMul, cT_cT] at e
  refine isPinv_of_left_inv hGH ?_
  rw [cT_matMul, ← hN, ← matMul_assoc, hH]

theorem exists_isPinv (hr : FullColRank H) : ∃ G, IsPinv H G :=
  (exists_solution (fullColRank_iff.mp hr) (cT H)).imp fun _ hG => isPinv_of_normal hr hG

theorem fullColRank_of_gram_smul {g : ℂ} (hg : g ≠ 0) (h : matMul (cT H) H = smul g eye) :
    FullColRank H := by
  rw [fullColRank_iff, h, toM_smul, toM_eye, Matrix.isUnit_iff_isUnit_det, det_smul, det_one,
    mul_one]
  exact (isUnit_iff_ne_zero.mpr hg).pow _

theorem isPinv_of_gram_smul {g : ℂ} (hg : g ≠ 0) (h : matMul (cT H) H = smul g eye) :
    IsPinv H (smul g⁻¹ (cT H)) :=
  isPinv_of_normal (fullColRank_of_gram_smul hg h)
    (by rw [h, smul_matMul, eye_matMul, smul_smul_inv hg])

theorem fullColRank_col {H : Mat ℂ m 1} (hne : ∃ r, H r 0 ≠ 0) : FullColRank H := by
  obtain ⟨r, hr⟩ := hne
  have hpos : 0 < ∑ r, Complex.normSq (H r 0) :=
    Finset.sum_pos' (fun q _ => Complex.normSq_nonneg _) ⟨r, Finset.mem_univ r, Complex.normSq_pos.mpr hr⟩
  -- the Gram matrix of a single column is the 1×1 matrix `Σ_r |h_r|²`
  refine fullColRank_of_gram_smul (g := ((∑ r, Complex.normSq (H r 0) : ℝ) : ℂ))
    (Complex.ofReal_ne_zero.mpr hpos.ne') ?_
  funext i j
  rw [matMul, sumFin_eq, smul, eye, if_pos (Subsingleton.elim i j), mul_one, Complex.ofReal_sum,
    Subsingleton.elim i 0, Subsingleton.elim j 0]
  exact Finset.sum_congr rfl fun r _ => by rw [cT, conj_def, Complex.star_def, mul_comm, Complex.mul_conj]

theorem mmseLhs_matMul (H : Mat ℂ m n) (v : ℂ) (W : Mat ℂ n k) :
    matMul (mmseLhs H v) W = madd (matMul (matMul (cT H) H) W) (smul v W) := by
  rw [mmseLhs, madd_matMul, smul_matMul, eye_matMul]

theorem mmseLhs_zero (H : Mat ℂ m n) : mmseLhs H 0 = matMul (cT H) H :=
  funext fun i => funext fun j => by rw [mmseLhs, madd, smul, zero_mul, add_zero]

theorem mmseLhs_cancel (H : Mat ℂ m n) {s : ℝ} (hs : 0 < s) {X Y : Mat ℂ n k}
    (h : matMul (mmseLhs H (s : ℂ)) X = matMul (mmseLhs H (s : ℂ)) Y) : X = Y :=
  cancel_of_isUnit (mmseLhs_isUnit H hs) h

theorem exists_isSolve (H : Mat ℂ m n) {s : ℝ} (hs : 0 < s) :
    ∃ W, IsSolve (mmseLhs H (s : ℂ)) (mmseRhs H) W :=
  exists_solution (mmseLhs_isUnit H hs) (mmseRhs H)

end PyPhysim.C04
