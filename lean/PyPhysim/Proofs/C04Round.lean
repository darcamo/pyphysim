import PyPhysim.Proofs.C04Filters

/-!
Round trips of the linear schemes (Blast / MRC, SVD, GMD).  Every precoder and receive filter
of these schemes is a scalar multiple (`1/√Nt`, `√Nt`) of a matrix of the kernels, `encode`
returns the precoded reshaped block when it succeeds, and `decode (H · encode x) = x` is
"the scalings cancel and filter · channel · precoder = 1" followed by a reshape index lemma.
The lemmas at the end are what the `svd` and `gmd` factorisations contribute to that premise:
invertible factors on the right and isometries on the left keep full column rank, and
`diag(1/S) Uᴴ · H · V_Hᴴ = 1`.
-/
namespace PyPhysim.C04
open Matrix PyPhysim.Proto

namespace Pf
variable {Nr Nt n L : Nat}

theorem flattenF_reshapeF {α : Type} (Nt : Nat) (x : Vec α n) (h : n % Nt = 0)
    (j : Nat) (hj : j < n) (hj' : j < Nt * (n / Nt)) :
    flattenF (reshapeF Nt x h) ⟨j, hj'⟩ = x ⟨j, hj⟩ :=
  congrArg x (Fin.ext (Nat.div_add_mod' j Nt))

theorem flattenC_reshapeC {α : Type} (Nt : Nat) (x : Vec α n) (h : n % Nt = 0)
    (j : Nat) (hj : j < n) (hj' : j < Nt * (n / Nt)) :
    flattenC (reshapeC Nt x h) ⟨j, hj'⟩ = x ⟨j, hj⟩ :=
  congrArg x (Fin.ext (Nat.div_add_mod' j (n / Nt)))

theorem blastFilter_zf (nv : ℂ) (h : ¬ 0 < nv.re) (Gp Ws : Mat ℂ Nt Nr) :
    blastFilter nv Gp Ws = smul (sqrtNat Nt) Gp := by
  funext i j
  rw [blastFilter, posB_def, decide_eq_false h, mul_comm]
  rfl

theorem blastFilter_mmse (nv : ℂ) (h : 0 < nv.re) (Gp Ws : Mat ℂ Nt Nr) :
    blastFilter nv Gp Ws = smul (sqrtNat Nt) Ws := by
  funext i j
  rw [blastFilter, posB_def, decide_eq_true h, mul_comm]
  rfl

theorem blastPrecoder_eq : (blastPrecoder Nt : Mat ℂ Nt Nt) = smul (sqrtNat Nt)⁻¹ eye :=
  funext fun _ => funext fun _ => div_eq_inv_mul _ _

theorem svdPrecoder_eq (VH : Mat ℂ Nt Nt) : svdPrecoder VH = smul (sqrtNat Nt)⁻¹ (cT VH) :=
  funext fun _ => funext fun _ => div_eq_inv_mul _ _

theorem gmdPrecoder_eq (P : Mat ℂ Nt Nt) : gmdPrecoder P = smul (sqrtNat Nt)⁻¹ P :=
  funext fun _ => funext fun _ => div_eq_inv_mul _ _

theorem svdFilter_eq {K : Nat} (U : Mat ℂ Nr K) (S : Vec ℂ K) :
    svdFilter Nt U S = smul (sqrtNat Nt) (matMul (diagM (fun a => 1 / S a)) (cT U)) :=
  funext fun _ => funext fun _ => mul_comm _ _

/-- the block-length guard `Blast.encode` and `SVDMimo.encode` / `GMDMimo.encode` share
    (`blastEncode` and `precodeC` unfold to it) -/
def lengthGuard {β : Type} (Nt n : Nat) (f : n % Nt = 0 → β) : Except PyErr β :=
  if Nt = 0 then .error .ZeroDivisionError
  else if h : n % Nt = 0 then .ok (f h)
  else .error .ValueError

section guard
variable {β : Type} {f : n % Nt = 0 → β}

theorem lengthGuard_accepts (hNt : 0 < Nt) (h : n % Nt = 0) : lengthGuard Nt n f = .ok (f h) := by
  rw [lengthGuard, if_neg hNt.ne', dif_pos h]

theorem lengthGuard_error (hNt : 0 < Nt) :
    n % Nt ≠ 0 ↔ lengthGuard Nt n f = .error .ValueError := by
  refine ⟨fun h => by rw [lengthGuard, if_neg hNt.ne', dif_neg h], fun hE h => ?_⟩
  rw [lengthGuard_accepts hNt h] at hE
  cases hE

theorem lengthGuard_ok {E : β} (hE : lengthGuard Nt n f = .ok E) :
    0 < Nt ∧ ∃ h : n % Nt = 0, E = f h := by
  rcases Nat.eq_zero_or_pos Nt with rfl | hNt
  · cases hE
  · by_cases h : n % Nt = 0
    · rw [lengthGuard_accepts hNt h] at hE
      cases hE
      exact ⟨hNt, h, rfl⟩
    · rw [(lengthGuard_error hNt).mp h] at hE
      cases hE

end guard

theorem blastEncode_ok {x : Vec ℂ n} {E : Mat ℂ Nt (n / Nt)} (hE : blastEncode Nt x = .ok E) :
    0 < Nt ∧ ∃ h : n % Nt = 0, E = matMul (smul (sqrtNat Nt)⁻¹ eye) (reshapeF Nt x h) := by
  obtain ⟨hNt, h, rfl⟩ := lengthGuard_ok hE
  refine ⟨hNt, h, ?_⟩
  rw [smul_matMul, eye_matMul]
  exact funext fun _ => funext fun _ => div_eq_inv_mul _ _

variable {K : Nat}

theorem precoded_roundtrip {G : Mat ℂ K Nr} {H : Mat ℂ Nr Nt} {W : Mat ℂ Nt K}
    (hGHW : matMul G (matMul H W) = eye) {c : ℂ} (hc : c ≠ 0) (X : Mat ℂ K L) :
    matMul (smul c G) (matMul H (matMul (smul c⁻¹ W) X)) = X := by
  rw [smul_matMul c⁻¹, matMul_smul, smul_matMul, matMul_smul, smul_smul_inv hc, ← matMul_assoc H,
    ← matMul_assoc, hGHW, eye_matMul]

theorem blast_decode_encode {H : Mat ℂ Nr Nt} {Gp : Mat ℂ Nt Nr} (hGH : matMul Gp H = eye)
    (Ws : Mat ℂ Nt Nr) {nv : ℂ} (hnv : ¬ 0 < nv.re) {x : Vec ℂ n} {E : Mat ℂ Nt (n / Nt)}
    (hE : blastEncode Nt x = .ok E) (j : Nat) (hj : j < n) (hj' : j < Nt * (n / Nt)) :
    blastDecode (blastFilter nv Gp Ws) (matMul H E) ⟨j, hj'⟩ = x ⟨j, hj⟩ := by
  obtain ⟨hNt, h, rfl⟩ := blastEncode_ok hE
  rw [blastDecode, blastFilter_zf nv hnv,
    precoded_roundtrip (by rw [matMul_eye, hGH]) (sqrtNat_ne_zero hNt)]
  exact flattenF_reshapeF Nt x h j hj hj'

theorem precoded_decode_encode {H : Mat ℂ Nr Nt} {G : Mat ℂ Nt Nr} {W : Mat ℂ Nt Nt}
    (hGHW : matMul G (matMul H W) = eye) {x : Vec ℂ n} {E : Mat ℂ Nt (n / Nt)}
    (hE : precodeC (smul (sqrtNat Nt)⁻¹ W) x = .ok E) (j : Nat) (hj : j < n)
    (hj' : j < Nt * (n / Nt)) :
    decodeC (smul (sqrtNat Nt) G) (matMul H E) ⟨j, hj'⟩ = x ⟨j, hj⟩ := by
  obtain ⟨hNt, h, rfl⟩ := lengthGuard_ok hE
  rw [decodeC, precoded_roundtrip hGHW (sqrtNat_ne_zero hNt)]
  exact flattenC_reshapeC Nt x h j hj hj'

variable {m : Nat}

/-- the Gram matrix of `H P` is `Pᴴ (Hᴴ H) P`, a product of three units -/
theorem fullColRank_mul_isUnit {H : Mat ℂ m n} {P : Mat ℂ n n} (hr : FullColRank H)
    (hP : IsUnit (toM P)) : FullColRank (matMul H P) := by
  rw [fullColRank_iff, cT_matMul, matMul_assoc, ← matMul_assoc (cT H), toM_matMul, toM_matMul,
    toM_cT]
  exact hP.star.mul ((fullColRank_iff.mp hr).mul hP)

theorem fullColRank_mul_unitary {H : Mat ℂ m n} {P : Mat ℂ n n} (hr : FullColRank H)
    (hP : matMul (cT P) P = eye) : FullColRank (matMul H P) := by
  c04_matrix at hP
  exact fullColRank_mul_isUnit hr (IsUnit.of_mul_eq_one_right _ hP)

theorem fullColRank_isometry_mul {k : Nat} {U : Mat ℂ m k} {X : Mat ℂ k n}
    (hU : matMul (cT U) U = eye) (hr : FullColRank X) : FullColRank (matMul U X) := by
  rw [fullColRank_iff, cT_matMul, matMul_assoc, ← matMul_assoc (cT U), hU, eye_matMul]
  exact fullColRank_iff.mp hr

theorem eq_matMul_of_matMul_cT {X H : Mat ℂ m n} {P : Mat ℂ n n} (hf : matMul X (cT P) = H)
    (hP : matMul (cT P) P = eye) : X = matMul H P := by
  rw [← hf, matMul_assoc, hP, matMul_eye]

theorem sing_ne_zero {H U : Mat ℂ m n} {S : Vec ℂ n} {VH : Mat ℂ n n}
    (hf : matMul (matMul U (diagM S)) VH = H) (hr : FullColRank H) (i : Fin n) : S i ≠ 0 := by
  intro hi
  have hu := fullColRank_iff.mp hr
  -- `det(Hᴴ H)` has the factor `∏ S`
  rw [← hf, matMul_assoc U, ← matMul_assoc, toM_matMul, toM_matMul (diagM S), toM_diagM,
    Matrix.isUnit_iff_isUnit_det, det_mul, det_mul, det_diagonal,
    Finset.prod_eq_zero (Finset.mem_univ i) hi, zero_mul, mul_zero] at hu
  exact not_isUnit_zero hu

theorem svd_filter_channel_precoder {H U : Mat ℂ m n} {S : Vec ℂ n} {VH : Mat ℂ n n}
    (hf : matMul (matMul U (diagM S)) VH = H) (hU : matMul (cT U) U = eye)
    (hV : matMul VH (cT VH) = eye) (hS : ∀ i, S i ≠ 0) :
    matMul (matMul (diagM (fun a => 1 / S a)) (cT U)) (matMul H (cT VH)) = eye := by
  have hd : matMul (diagM (fun a => 1 / S a)) (diagM S) = eye := toM_inj (by
    rw [toM_matMul, toM_diagM, toM_diagM, toM_eye, diagonal_mul_diagonal, ← diagonal_one]
    exact congrArg _ (funext fun a => one_div_mul_cancel (hS a)))
  rw [← hf, matMul_assoc (matMul U _), hV, matMul_eye, matMul_assoc (diagM _),
    ← matMul_assoc (cT U), hU, eye_matMul, hd]

end Pf
end PyPhysim.C04
