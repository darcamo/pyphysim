import PyPhysim.Model.C05Result

/-! What one `RVal.merge` (`Result.merge` of the source) does to each field, and what a fold of merges keeps
(type, flag) and accumulates (the value and total lists). -/
namespace PyPhysim.C05

theorem merge_ty (a b : RVal) : (a.merge b).ty = a.ty := by
  unfold RVal.merge; cases a.ty <;> rfl

theorem merge_acc (a b : RVal) : (a.merge b).acc = a.acc := by
  unfold RVal.merge; cases a.ty <;> rfl

theorem merge_vlist (a b : RVal) :
    (a.merge b).vlist = if a.acc then a.vlist ++ b.vlist else a.vlist := by
  unfold RVal.merge; cases a.ty <;> rfl

theorem merge_tlist (a b : RVal) :
    (a.merge b).tlist = if a.acc then a.tlist ++ b.tlist else a.tlist := by
  unfold RVal.merge; cases a.ty <;> rfl

theorem foldl_merge_ty_acc (rs : List RVal) (a : RVal) :
    (rs.foldl RVal.merge a).ty = a.ty ∧ (rs.foldl RVal.merge a).acc = a.acc := by
  induction rs generalizing a with
  | nil => exact ⟨rfl, rfl⟩
  | cons b rs ih => exact ⟨(ih (a.merge b)).1.trans (merge_ty a b), (ih (a.merge b)).2.trans (merge_acc a b)⟩

theorem foldl_merge_lists_acc (rs : List RVal) (a : RVal) (h : a.acc = true) :
    (rs.foldl RVal.merge a).vlist = a.vlist ++ rs.flatMap (·.vlist) ∧
    (rs.foldl RVal.merge a).tlist = a.tlist ++ rs.flatMap (·.tlist) := by
  induction rs generalizing a with
  | nil => simp
  | cons b rs ih =>
    obtain ⟨h1, h2⟩ := ih (a.merge b) ((merge_acc a b).trans h)
    rw [List.foldl_cons, h1, h2, merge_vlist, merge_tlist]
    simp [h]

theorem merge_scalars_add (a b : RVal) (h : a.ty ≠ .misc) :
    (a.merge b).n = a.n + b.n ∧ (a.merge b).value = a.value + b.value ∧
    (a.merge b).total = a.total + b.total ∧ (a.merge b).rsum = a.rsum + b.rsum ∧
    (a.merge b).rsq = a.rsq + b.rsq ∧
    (a.merge b).choice = List.zipWith (· + ·) a.choice b.choice := by
  unfold RVal.merge
  cases hty : a.ty
  case misc => exact absurd hty h
  all_goals exact ⟨rfl, rfl, rfl, rfl, rfl, rfl⟩

theorem merge_scalars_misc (a b : RVal) (h : a.ty = .misc) :
    (a.merge b).n = b.n ∧ (a.merge b).value = b.value ∧ (a.merge b).total = b.total ∧
    (a.merge b).rsum = b.rsum ∧ (a.merge b).rsq = b.rsq := by
  unfold RVal.merge
  simp [h]

end PyPhysim.C05
