/-!
What several properties' proofs need about `Except` programs and lists (core Lean only).  A `do` block that ended in
`.ok c` is read backwards with `bind_eq_ok`, `guard_eq_ok`, `pure_eq_ok`, `throw_eq_ok`: a guard `if p then throw e`
followed by the rest `jp` of the block elaborates to `if p then throw e >>= jp else jp ()`.  `List.mapM` succeeds exactly
when the function does on every element, with the results in order (`mapM_eq_ok_iff`); `ite_ok_iff`, `ite_error_imp`
read a comparison `if x = y then r else .error e`, `exceptMap_eq_ok`, `exceptMap_eq_error` an `Except.map`.  Then list
facts (`zipWith` against a constant list and of an associative operation, a fold whose step keeps the length) and an
`m × n` array stored row by row: its index `i * n + j` in range, under div/mod, under `getElem?` of a `flatMap`, as a
`map` over `range (m * n)`, and the length of its `flatten`.
-/
namespace PyPhysim
variable {ε β γ : Type}

theorem bind_eq_ok {x : Except ε β} {f : β → Except ε γ} {c : γ} :
    (x >>= f) = .ok c ↔ ∃ b, x = .ok b ∧ f b = .ok c := by
  cases x with
  | error e => exact ⟨fun h => (nomatch h), fun ⟨_, h, _⟩ => (nomatch h)⟩
  | ok a => exact ⟨fun h => ⟨a, rfl, h⟩, fun ⟨_, h, h'⟩ => Except.ok.inj h ▸ h'⟩

theorem guard_eq_ok {p : Prop} [Decidable p] {e : ε} {jp : PUnit → Except ε γ} {c : γ} :
    (if p then throw e >>= jp else jp ()) = .ok c ↔ ¬ p ∧ jp () = .ok c := by
  by_cases h : p
  · rw [if_pos h]; exact ⟨fun h' => (nomatch h'), fun h' => absurd h h'.1⟩
  · rw [if_neg h]; exact ⟨fun h' => ⟨h, h'⟩, fun h' => h'.2⟩

theorem pure_eq_ok {a c : γ} : (pure a : Except ε γ) = .ok c ↔ a = c :=
  ⟨Except.ok.inj, congrArg _⟩

theorem throw_eq_ok {e : ε} {c : γ} : (throw e : Except ε γ) = .ok c ↔ False :=
  ⟨fun h => (nomatch h), False.elim⟩

/-- a comparison `if x = y then r else .error e` that ended in `.ok c` -/
theorem ite_ok_iff {τ : Type} [DecidableEq τ] (x y : τ) (r : Except ε γ) (e : ε) (c : γ) :
    (if x = y then r else .error e) = .ok c ↔ x = y ∧ r = .ok c := by
  by_cases h : x = y
  · rw [if_pos h]; exact (and_iff_right h).symm
  · rw [if_neg h]; exact ⟨fun h' => (nomatch h'), fun h' => absurd h'.1 h⟩

theorem ite_error_imp {τ : Type} [DecidableEq τ] (x y : τ) (r : Except ε γ) (e0 e : ε)
    (hr : r = .error e → e = e0) : (if x = y then r else .error e0) = .error e → e = e0 := by
  by_cases h : x = y
  · rw [if_pos h]
    exact hr
  · rw [if_neg h]
    exact fun h' => (Except.error.inj h').symm

/-- "every given value satisfies `q`" as a case distinction on the option, without binders -/
theorem forall_eq_some_imp {τ : Type} (o : Option τ) (q : τ → Prop) : (∀ x, o = some x → q x) ↔ o.elim True q := by
  cases o with
  | none => exact iff_true_intro fun _ => nofun
  | some v => exact ⟨fun h => h v rfl, fun h _ hx => Option.some.inj hx ▸ h⟩

theorem exceptMap_eq_ok {f : β → γ} {x : Except ε β} {c : γ} (h : x.map f = .ok c) :
    ∃ b, x = .ok b ∧ c = f b := by
  cases x with
  | error e => cases h
  | ok b => exact ⟨b, rfl, (Except.ok.inj h).symm⟩

theorem exceptMap_eq_error {f : β → γ} {x : Except ε β} {e : ε} (h : x.map f = .error e) :
    x = .error e := by
  cases x with
  | error e' => cases h; rfl
  | ok b => cases h

theorem mapM_eq_ok_iff {f : β → Except ε γ} {l : List β} {r : List γ} :
    l.mapM f = .ok r ↔ r.length = l.length ∧ ∀ (i : Nat) (a : β), l[i]? = some a → ∃ b, f a = .ok b ∧ r[i]? = some b := by
  induction l generalizing r with
  | nil =>
    refine ⟨fun h => ?_, fun h => ?_⟩
    · cases h; exact ⟨rfl, fun _ _ h => (nomatch h)⟩
    · rw [List.eq_nil_of_length_eq_zero h.1]; rfl
  | cons x xs ih =>
    rw [List.mapM_cons, bind_eq_ok]
    constructor
    · rintro ⟨b, hx, h⟩
      obtain ⟨bs, hbs, h⟩ := bind_eq_ok.1 h
      cases pure_eq_ok.1 h
      obtain ⟨hlen, hall⟩ := ih.1 hbs
      refine ⟨congrArg (· + 1) hlen, fun i a hi => ?_⟩
      cases i with
      | zero => cases hi; exact ⟨b, hx, rfl⟩
      | succ i => exact hall i a hi
    · rintro ⟨hlen, hall⟩
      obtain ⟨b, hx, hb⟩ := hall 0 x rfl
      cases r with
      | nil => cases hb
      | cons b' bs =>
        cases hb
        exact ⟨b, hx, bind_eq_ok.2 ⟨bs, ih.2 ⟨Nat.succ.inj hlen, fun i a hi => hall (i + 1) a hi⟩, rfl⟩⟩

theorem mapM_ok (f : β → Except ε γ) (g : β → γ) (l : List β) (h : ∀ a ∈ l, f a = .ok (g a)) :
    l.mapM f = .ok (l.map g) :=
  mapM_eq_ok_iff.2 ⟨List.length_map g, fun i a hi =>
    ⟨g a, h a (List.mem_of_getElem? hi), by rw [List.getElem?_map, hi]; rfl⟩⟩

theorem mapM_ok_map {ι : Type} {f : ι → Except ε β} {g : β → ι} (hfg : ∀ i p, f i = .ok p → g p = i)
    (l : List ι) (ps : List β) (h : l.mapM f = .ok ps) : ps.map g = l := by
  obtain ⟨hlen, hall⟩ := mapM_eq_ok_iff.mp h
  refine List.ext_getElem (by rw [List.length_map, hlen]) fun k _ hk => ?_
  obtain ⟨p, hp, hpk⟩ := hall k l[k] (List.getElem?_eq_getElem hk)
  rw [List.getElem_map, (List.getElem?_eq_some_iff.mp hpk).2, hfg _ p hp]

theorem getD_map_range {f : Nat → β} {N i : Nat} (hi : i < N) {d : β} :
    ((List.range N).map f).getD i d = f i := by
  rw [List.getD_eq_getElem?_getD, List.getElem?_map, List.getElem?_range hi]
  rfl

theorem zipWith_replicate_right {δ : Type} (f : β → γ → δ) (xs : List β) (n : Nat) (q : γ) (h : xs.length ≤ n) :
    List.zipWith f xs (List.replicate n q) = xs.map (fun x => f x q) := by
  induction xs generalizing n with
  | nil => rfl
  | cons x xs ih =>
    cases n with
    | zero => exact absurd h (Nat.not_succ_le_zero _)
    | succ n =>
      rw [List.replicate_succ, List.zipWith_cons_cons, List.map_cons, ih n (Nat.le_of_succ_le_succ h)]

theorem zipWith_replicate_left {δ : Type} (f : γ → β → δ) (xs : List β) (n : Nat) (q : γ) (h : xs.length ≤ n) :
    List.zipWith f (List.replicate n q) xs = xs.map (f q) := by
  rw [List.zipWith_comm]
  exact zipWith_replicate_right _ xs n q h

theorem zipWith_map_same {ι ζ : Type} (f : β → γ → ζ) (g : ι → β) (h : ι → γ) (l : List ι) :
    List.zipWith f (l.map g) (l.map h) = l.map (fun x => f (g x) (h x)) := by
  rw [List.zipWith_map, List.zipWith_self]

theorem zipWith_assoc (f : β → β → β) (hf : ∀ x y z, f (f x y) z = f x (f y z)) (a b c : List β) :
    List.zipWith f (List.zipWith f a b) c = List.zipWith f a (List.zipWith f b c) := by
  induction a generalizing b c with
  | nil => rfl
  | cons x xs ih =>
    cases b with
    | nil => rfl
    | cons y ys =>
      cases c with
      | nil => rfl
      | cons z zs => simp only [List.zipWith_cons_cons, hf, ih]

theorem foldl_length (step : List β → ε → List β) (h : ∀ acc e, (step acc e).length = acc.length)
    (es : List ε) (acc : List β) : (es.foldl step acc).length = acc.length := by
  induction es generalizing acc with
  | nil => rfl
  | cons e es ih => rw [List.foldl_cons, ih, h]

/-- entry `(i, j)` of an `m × n` grid stored row by row sits at index `i * n + j` -/
theorem mul_add_lt_mul {m n i j : Nat} (hi : i < m) (hj : j < n) : i * n + j < m * n :=
  calc i * n + j < i * n + n := Nat.add_lt_add_left hj _
    _ = (i + 1) * n := (Nat.succ_mul i n).symm
    _ ≤ m * n := Nat.mul_le_mul_right _ hi

theorem mul_add_divMod {n x y : Nat} (hy : y < n) : (x * n + y) / n = x ∧ (x * n + y) % n = y :=
  (Nat.div_mod_unique (Nat.zero_lt_of_lt hy)).mpr ⟨by rw [Nat.add_comm, Nat.mul_comm], hy⟩

theorem getElem?_flatMap_block {α β : Type} (f : α → List β) {m j : Nat} (hj : j < m) (l : List α) :
    ∀ (k : Nat), (∀ x ∈ l, (f x).length = m) →
      (l.flatMap f)[k * m + j]? = (l[k]?).bind (fun x => (f x)[j]?) := by
  induction l with
  | nil => exact fun _ _ => rfl
  | cons x xs ih =>
    intro k h
    have hx : (f x).length = m := h x List.mem_cons_self
    cases k with
    | zero =>
      rw [List.flatMap_cons, Nat.zero_mul, Nat.zero_add, List.getElem?_append_left (hx ▸ hj)]
      rfl
    | succ k =>
      have hk : (k + 1) * m + j = k * m + j + m := by rw [Nat.succ_mul, Nat.add_right_comm]
      rw [List.flatMap_cons, hk, List.getElem?_append_right (hx ▸ Nat.le_add_left _ _), hx,
        Nat.add_sub_cancel, ih k (fun y hy => h y (List.mem_cons_of_mem _ hy))]
      rfl

theorem map_range_mul {α : Type} {p : Nat → α} {q : Nat → Nat → α} {n : Nat}
    (h : ∀ i j, j < n → p (i * n + j) = q i j) (m : Nat) :
    (List.range (m * n)).map p = (List.range m).flatMap fun i => (List.range n).map (q i) := by
  induction m with
  | zero => rw [Nat.zero_mul]; rfl
  | succ m ih =>
    rw [Nat.succ_mul, List.range_add, List.map_append, ih, List.range_succ, List.flatMap_append, List.flatMap_singleton,
      List.map_map]
    exact congrArg _ (List.map_congr_left fun j hj => h m j (List.mem_range.mp hj))

theorem length_flatten_uniform {α : Type} (w : Nat) (bs : List (List α)) (h : ∀ b ∈ bs, b.length = w) :
    bs.flatten.length = bs.length * w := by
  rw [List.length_flatten, List.map_eq_replicate_iff.mpr h, List.sum_replicate_nat]

end PyPhysim
