import Mathlib.Algebra.Field.Basic
import Mathlib.Tactic.SplitIfs
import PyPhysim.Model.C20Gmd

/-!
Array layer of the refinement proof of `gmd`.  Total *views* of the arrays of the executable model
(`entryCols`, `entryRows` for a matrix stored by columns / by rows, as `colsOf` packs it; `vget`, `nget`,
`cget`), and for every array primitive of `Model/C20Gmd.lean` a lemma saying: inside the bounds the
primitive returns `.ok`, and the sizes and the view of the result are the stated functions of those of
the arguments.  Programs are composed in the form `∃ a, prog = .ok a ∧ P a` by `bind_ok` (sequencing;
`bind_ok_eq` when the first statement is known by an equation `x = .ok a`) and `foldlM_range_ok` (a loop
over `range n`).  `sw a b` is the transposition of two indices: it fixes what is neither (`sw_of_ne`)
and maps every set that holds both to itself (`sw_mem`); the order lemmas are instances of these two.
-/
-- here and in the modules on top of this one a lemma takes the scalar context of its file whole, read or not
set_option linter.unusedSectionVars false
namespace PyPhysim.LinAlg
/-- columns of a model matrix, as the `gmd` model takes them -/
def colsOf {α : Type} {r c : Nat} (M : Mat α r c) : Array (Array α) :=
  Array.ofFn (fun j : Fin c => Array.ofFn (fun i : Fin r => M i j))
/-- entry `(i, j)` of a matrix stored by columns, `0` outside: `vget (cget M j) i` (`entryCols_eq`) -/
def entryCols {α : Type} [Zero α] (M : Array (Array α)) (i j : Nat) : α := ((M[j]?).getD #[])[i]?.getD 0
/-- the same for a matrix stored by rows: `vget (cget M i) j` (`entryRows_eq`) -/
def entryRows {α : Type} [Zero α] (M : Array (Array α)) (i j : Nat) : α := ((M[i]?).getD #[])[j]?.getD 0
end PyPhysim.LinAlg

namespace PyPhysim.LinAlg.GmdInv
open PyPhysim.Proto PyPhysim.LinAlg

def sw (a b : Nat) (x : Nat) : Nat := if x = b then a else if x = a then b else x

theorem apply_sw {β : Type} (f : Nat → β) (a b x : Nat) :
    f (sw a b x) = if x = b then f a else if x = a then f b else f x :=
  (apply_ite f _ _ _).trans (congrArg _ (apply_ite f _ _ _))

theorem sw_right (a b : Nat) : sw a b b = a := if_pos rfl

theorem sw_left (a b : Nat) : sw a b a = b :=
  if h : a = b then (if_pos h).trans h else (if_neg h).trans (if_pos rfl)

theorem sw_of_ne {a b x : Nat} (ha : x ≠ a) (hb : x ≠ b) : sw a b x = x := (if_neg hb).trans (if_neg ha)

/-- `sw a b` maps every set that holds `a` and `b` to itself -/
theorem sw_mem (P : Nat → Prop) {a b x : Nat} (ha : P a) (hb : P b) (hx : P x) : P (sw a b x) := by
  rw [apply_sw P]
  split_ifs <;> assumption

theorem sw_self (a x : Nat) : sw a a x = x :=
  if h : x = a then (if_pos h).trans h.symm else sw_of_ne h h

theorem sw_sw (a b x : Nat) : sw a b (sw a b x) = x := by
  rw [apply_sw (sw a b), sw_left, sw_right]
  split_ifs with h1 h2
  · exact h1.symm
  · exact h2.symm
  · exact sw_of_ne h2 h1

theorem sw_inj (a b x y : Nat) : sw a b x = sw a b y ↔ x = y :=
  ⟨fun h => by rw [← sw_sw a b x, h, sw_sw], congrArg _⟩

theorem sw_of_lt (a b x k : Nat) (ha : k < a) (hb : k < b) (hx : x ≤ k) : sw a b x = x :=
  sw_of_ne (hx.trans_lt ha).ne (hx.trans_lt hb).ne

theorem sw_of_ge (a b x p : Nat) (ha : a < p) (hb : b < p) (hx : p ≤ x) : sw a b x = x :=
  sw_of_ne (ha.trans_le hx).ne' (hb.trans_le hx).ne'

theorem sw_lt (a b x p : Nat) (ha : a < p) (hb : b < p) (hx : x < p) : sw a b x < p := sw_mem (· < p) ha hb hx

theorem sw_gt (a b x k : Nat) (ha : k < a) (hb : k < b) (hx : k < x) : k < sw a b x := sw_mem (k < ·) ha hb hx

variable {K : Type} [Field K]

def vget (a : Array K) (i : Nat) : K := (a[i]?).getD 0
def nget (a : Array Nat) (i : Nat) : Nat := (a[i]?).getD 0
def cget (M : Array (Array K)) (j : Nat) : Array K := (M[j]?).getD #[]

theorem entryCols_eq (M : Array (Array K)) (i j : Nat) : entryCols M i j = vget (cget M j) i := rfl
theorem entryRows_eq (M : Array (Array K)) (i j : Nat) : entryRows M i j = vget (cget M i) j := rfl

@[simp] theorem ok_bind {ε β γ : Type} (a : β) (f : β → Except ε γ) : (Except.ok a >>= f) = f a := rfl
@[simp] theorem ok_map {ε β γ : Type} (a : β) (f : β → γ) :
    (f <$> (Except.ok a : Except ε β)) = .ok (f a) := rfl
@[simp] theorem pure_eq_ok {ε β : Type} (a : β) : (pure a : Except ε β) = .ok a := rfl

theorem idx_ok {β : Type} (a : Array β) (i : Nat) (d : β) (h : i < a.size) :
    idx a i = .ok ((a[i]?).getD d) := by
  simp [idx, h]
theorem idx_v (a : Array K) (i : Nat) (h : i < a.size) : idx a i = .ok (vget a i) := idx_ok a i 0 h
theorem idx_n (a : Array Nat) (i : Nat) (h : i < a.size) : idx a i = .ok (nget a i) := idx_ok a i 0 h
theorem idx_c (M : Array (Array K)) (i : Nat) (h : i < M.size) : idx M i = .ok (cget M i) :=
  idx_ok M i #[] h
theorem upd_ok {β : Type} (a : Array β) (i : Nat) (x : β) (h : i < a.size) :
    upd a i x = .ok (a.set! i x) :=
  if_pos h

@[simp] theorem size_set' {β : Type} (a : Array β) (i : Nat) (x : β) : (a.set! i x).size = a.size :=
  Array.size_setIfInBounds

theorem getD_set {β : Type} (a : Array β) (i : Nat) (x : β) (q : Nat) (d : β) (h : i < a.size) :
    ((a.set! i x)[q]?).getD d = if q = i then x else (a[q]?).getD d := by
  rw [Array.set!_eq_setIfInBounds, Array.getElem?_setIfInBounds, if_pos h]
  by_cases hq : q = i
  · rw [if_pos hq, if_pos hq.symm]; rfl
  · rw [if_neg hq, if_neg (Ne.symm hq)]

theorem vget_set (a : Array K) (i : Nat) (x : K) (q : Nat) (h : i < a.size) :
    vget (a.set! i x) q = if q = i then x else vget a q := getD_set a i x q 0 h
theorem nget_set (a : Array Nat) (i : Nat) (x : Nat) (q : Nat) (h : i < a.size) :
    nget (a.set! i x) q = if q = i then x else nget a q := getD_set a i x q 0 h
theorem cget_set (M : Array (Array K)) (i : Nat) (x : Array K) (q : Nat) (h : i < M.size) :
    cget (M.set! i x) q = if q = i then x else cget M q := getD_set M i x q #[] h

/-- `a[i] = x` inside the bounds: the result through its size and its view -/
theorem upd_v (a : Array K) (i : Nat) (x : K) (h : i < a.size) :
    ∃ a', upd a i x = .ok a' ∧ a'.size = a.size ∧ ∀ q, vget a' q = if q = i then x else vget a q :=
  ⟨_, upd_ok a i x h, size_set' a i x, fun q => vget_set a i x q h⟩

theorem vget_of_le (a : Array K) (i : Nat) (h : a.size ≤ i) : vget a i = 0 := by
  simp [vget, h]

theorem vget_zipmap {ca cb : Array K} {g g' : K} (h : ca.size = cb.size) (i : Nat) :
    vget ((ca.zip cb).map (fun (x, y) => x * g + y * g')) i = vget ca i * g + vget cb i * g' := by
  rw [vget, vget, vget, Array.map_zip_eq_zipWith, Array.getElem?_zipWith']
  by_cases hi : i < ca.size
  · rw [Array.getElem?_eq_getElem hi, Array.getElem?_eq_getElem (h ▸ hi)]
    rfl
  · rw [Array.getElem?_eq_none (Nat.le_of_not_lt hi), Array.getElem?_eq_none (h ▸ Nat.le_of_not_lt hi)]
    rw [Option.getD_none, zero_mul, zero_mul, add_zero]
    rfl

theorem size_zipmap (ca cb : Array K) (f : K × K → K) (h : ca.size = cb.size) :
    ((ca.zip cb).map f).size = ca.size := by
  simp [h]

theorem foldlM_range_ok {σ ε : Type} (f : σ → Nat → Except ε σ) (P : Nat → σ → Prop) (s0 : σ)
    (h0 : P 0 s0) :
    ∀ n, (∀ t s, t < n → P t s → ∃ s', f s t = .ok s' ∧ P (t + 1) s') →
      ∃ s, (List.range n).foldlM f s0 = .ok s ∧ P n s
  | 0, _ => ⟨s0, rfl, h0⟩
  | n + 1, hstep => by
    obtain ⟨s, hs, hP⟩ := foldlM_range_ok f P s0 h0 n (fun t s ht => hstep t s (Nat.lt_succ_of_lt ht))
    obtain ⟨s', hs', hP'⟩ := hstep n s (Nat.lt_succ_self n) hP
    refine ⟨s', ?_, hP'⟩
    rw [List.range_succ, List.foldlM_append, hs, ok_bind, List.foldlM_cons, hs', ok_bind]
    rfl

/-- A block that is an `if` or a loop is run by itself (`hx`); in what follows its result is a variable,
    known only through `Q`. -/
theorem bind_ok {ε α β : Type} {x : Except ε α} {f : α → Except ε β} (Q : α → Prop) {P : β → Prop}
    (hx : ∃ a, x = .ok a ∧ Q a) (hf : ∀ a, Q a → ∃ b, f a = .ok b ∧ P b) :
    ∃ b, (x >>= f) = .ok b ∧ P b := by
  obtain ⟨a, rfl, ha⟩ := hx
  exact hf a ha

/-- a statement that returns `.ok a`, in front of the rest of the program -/
theorem bind_ok_eq {ε α β : Type} {x : Except ε α} {a : α} {f : α → Except ε β} {P : β → Prop}
    (hx : x = .ok a) (H : ∃ b, f a = .ok b ∧ P b) : ∃ b, (x >>= f) = .ok b ∧ P b :=
  hx ▸ H

/-- `M` holds `r` arrays of length `c`: the `r` rows of an `r × c` matrix stored by rows (`R`), or the
    `r` columns of a `c × r` matrix stored by columns (`P`, `Q`; there `r` bounds the column index) -/
def Rect (r c : Nat) (M : Array (Array K)) : Prop := M.size = r ∧ ∀ i, i < r → (cget M i).size = c

theorem Rect.set {r c : Nat} {M : Array (Array K)} (h : Rect r c M) (i : Nat) (x : Array K)
    (hi : i < r) (hx : x.size = c) : Rect r c (M.set! i x) := by
  refine ⟨by rw [size_set', h.1], fun j hj => ?_⟩
  rw [cget_set _ _ _ _ (by rw [h.1]; exact hi)]
  split
  · exact hx
  · exact h.2 j hj

/-- `R[a, b] = v` on a matrix stored by rows -/
def setE (R : Array (Array K)) (a b : Nat) (v : K) : Array (Array K) := R.set! a ((cget R a).set! b v)

theorem Rect.setE {r c : Nat} {R : Array (Array K)} (h : Rect r c R) (a b : Nat) (v : K) (ha : a < r) :
    Rect r c (setE R a b v) :=
  h.set a _ ha (by rw [size_set', h.2 a ha])

theorem entryRows_setE {r c : Nat} {R : Array (Array K)} (h : Rect r c R) {a b : Nat} (ha : a < r)
    (hb : b < c) (v : K) (i j : Nat) :
    entryRows (setE R a b v) i j = if i = a ∧ j = b then v else entryRows R i j := by
  rw [entryRows_eq, setE, cget_set _ _ _ _ (by rw [h.1]; exact ha)]
  by_cases hi : i = a
  · rw [if_pos hi, vget_set _ _ _ _ (by rw [h.2 a ha]; exact hb), hi]
    exact if_congr ⟨fun h => ⟨rfl, h⟩, And.right⟩ rfl rfl
  · rw [if_neg hi, if_neg (fun h => hi h.1)]
    rfl

/-- filling column `k` from the top: writing `X t` at `(t, k)` extends the filled part of the column
    from the rows `< t` to the rows `< t + 1` (step of the inner loop of `gmdStep` and of `lastColM`) -/
theorem ite_row_succ {β : Type} (X : Nat → β) (Y : β) (a b k t : Nat) :
    (if a = t ∧ b = k then X t else if b = k ∧ a < t then X a else Y)
      = if b = k ∧ a < t + 1 then X a else Y := by
  by_cases ha : a = t
  · by_cases hb : b = k
    · rw [if_pos ⟨ha, hb⟩, if_pos ⟨hb, ha ▸ Nat.lt_succ_self a⟩, ha]
    · rw [if_neg (fun h => hb h.2), if_neg (fun h => hb h.1), if_neg (fun h => hb h.1)]
  · rw [if_neg (fun h => ha h.1)]
    exact if_congr (and_congr_right fun _ => ⟨Nat.lt_succ_of_lt, fun h => Nat.lt_of_le_of_ne (Nat.le_of_lt_succ h) ha⟩)
      rfl rfl

theorem setE_ok {r c : Nat} {R : Array (Array K)} (h : Rect r c R) {a b : Nat} (ha : a < r) (hb : b < c)
    (v : K) : (idx R a >>= fun row => upd row b v >>= fun row => upd R a row) = .ok (setE R a b v) := by
  rw [idx_c _ _ (by rw [h.1]; exact ha), ok_bind, upd_ok _ _ _ (by rw [h.2 a ha]; exact hb), ok_bind,
    upd_ok _ _ _ (by rw [h.1]; exact ha)]
  rfl

theorem setE_bind {γ : Type} {r c : Nat} {R : Array (Array K)} (h : Rect r c R) {a b : Nat} (ha : a < r)
    (hb : b < c) (v : K) (f : Array (Array K) → Except PyErr γ) :
    (idx R a >>= fun row => upd row b v >>= fun row => upd R a row >>= f) = f (setE R a b v) := by
  simpa only [bind_assoc, ok_bind] using congrArg (· >>= f) (setE_ok h ha hb v)

/-- the view of `rotCols`: columns `a`, `b` replaced by their combinations with the entries of `g` -/
def rotF (M : Nat → Nat → K) (a b : Nat) (g : K × K × K × K) : Nat → Nat → K :=
  fun i j => if j = a then M i a * g.1 + M i b * g.2.2.1
    else if j = b then M i a * g.2.1 + M i b * g.2.2.2 else M i j

theorem rotCols_ok (M : Array (Array K)) (a b r : Nat) (g : K × K × K × K) (hab : a ≠ b)
    (ha : a < M.size) (hb : b < M.size) (hca : (cget M a).size = r) (hcb : (cget M b).size = r) :
    ∃ M', rotCols M a b g = .ok M' ∧ M'.size = M.size ∧
      (∀ j, (cget M' j).size = if j = a ∨ j = b then r else (cget M j).size) ∧
      ∀ i j, entryCols M' i j =
        if j = a then entryCols M i a * g.1 + entryCols M i b * g.2.2.1
        else if j = b then entryCols M i a * g.2.1 + entryCols M i b * g.2.2.2
        else entryCols M i j := by
  obtain ⟨g00, g01, g10, g11⟩ := g
  dsimp only
  have hsz : (cget M a).size = (cget M b).size := by rw [hca, hcb]
  have hb' : ∀ x, b < (M.set! a x).size := fun x => by rw [size_set']; exact hb
  refine ⟨?_, ?run, ?_, fun j => ?_, fun i j => ?_⟩
  case run =>
    simp only [rotCols, idx_c M a ha, idx_c M b hb, ok_bind]
    rw [upd_ok _ _ _ ha, ok_bind, upd_ok _ _ _ (hb' _)]
  · rw [size_set', size_set']
  · rw [cget_set _ _ _ _ (hb' _), cget_set _ _ _ _ ha]
    by_cases hjb : j = b
    · rw [if_pos hjb, if_pos (Or.inr hjb), size_zipmap _ _ _ hsz, hca]
    · rw [if_neg hjb]
      by_cases hja : j = a
      · rw [if_pos hja, if_pos (Or.inl hja), size_zipmap _ _ _ hsz, hca]
      · rw [if_neg hja, if_neg (not_or.mpr ⟨hja, hjb⟩)]
  · -- both sides through `vget (cget …)`, as `vget_zipmap` speaks
    simp only [entryCols_eq]
    rw [cget_set _ _ _ _ (hb' _), cget_set _ _ _ _ ha]
    by_cases hjb : j = b
    · rw [if_pos hjb, hjb, if_neg (Ne.symm hab), if_pos rfl]
      exact vget_zipmap hsz i
    · rw [if_neg hjb, if_neg hjb]
      by_cases hja : j = a
      · rw [if_pos hja, if_pos hja]
        exact vget_zipmap hsz i
      · rw [if_neg hja, if_neg hja]

theorem Rect.rotCols {r c : Nat} {M : Array (Array K)} (h : Rect r c M) (a b : Nat) (g : K × K × K × K)
    (hab : a ≠ b) (ha : a < r) (hb : b < r) :
    ∃ M', rotCols M a b g = .ok M' ∧ Rect r c M' ∧ entryCols M' = rotF (entryCols M) a b g := by
  obtain ⟨M', h1, h2, h3, h4⟩ := rotCols_ok M a b c g hab (h.1.symm ▸ ha) (h.1.symm ▸ hb) (h.2 a ha) (h.2 b hb)
  refine ⟨M', h1, ⟨h2.trans h.1, fun j hj => ?_⟩, funext fun i => funext fun j => h4 i j⟩
  rw [h3]
  split
  · rfl
  · exact h.2 j hj

theorem swapCols_ok (M : Array (Array K)) (a b : Nat) (ha : a < M.size) (hb : b < M.size) :
    ∃ M', swapCols M a b = .ok M' ∧ M'.size = M.size ∧
      (∀ j, cget M' j = if j = b then cget M a else if j = a then cget M b else cget M j) := by
  have hb' : b < (M.set! a (cget M b)).size := by rw [size_set']; exact hb
  refine ⟨?_, ?run, ?_, fun j => ?_⟩
  case run =>
    simp only [swapCols, idx_c M a ha, idx_c M b hb, ok_bind]
    rw [upd_ok _ _ _ ha, ok_bind, upd_ok _ _ _ hb']
  · rw [size_set', size_set']
  · rw [cget_set _ _ _ _ hb', cget_set _ _ _ _ ha]

theorem Rect.swapCols {r c : Nat} {M : Array (Array K)} (h : Rect r c M) (a b : Nat) (ha : a < r)
    (hb : b < r) :
    ∃ M', swapCols M a b = .ok M' ∧ Rect r c M' ∧ entryCols M' = fun i j => entryCols M i (sw a b j) := by
  obtain ⟨M', h1, h2, h3⟩ := swapCols_ok M a b (h.1.symm ▸ ha) (h.1.symm ▸ hb)
  have h4 : ∀ j, cget M' j = cget M (sw a b j) := fun j => (h3 j).trans (apply_sw (cget M) a b j).symm
  exact ⟨M', h1, ⟨h2.trans h.1, fun j hj => by rw [h4]; exact h.2 _ (sw_lt a b j r ha hb hj)⟩,
    funext fun i => funext fun j => by rw [entryCols_eq, entryCols_eq, h4]⟩

end PyPhysim.LinAlg.GmdInv
