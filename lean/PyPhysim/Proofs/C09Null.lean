import PyPhysim.Proofs.C09Bridge

/-!
Null-space algebra of block diagonalisation: the rows of the other users are
all present in the tilde channel, a precoder built inside the null space
(`M_k = V0_k · X_k`, any `X_k`) is invisible to every other user, stacking and
per-column scaling keep the product block diagonal, the diagonal blocks of a product with a block
diagonal factor (`diagBlock_mul_of_blockDiagonal`, `diagBlock_eye`), and a block diagonal matrix inverted block
by block (`blockDiag_matMul_eq_eye`).
-/
namespace PyPhysim.BD
open Matrix

/-- `A` has no entry outside its diagonal user blocks -/
def IsBlockDiagonal {R : Type} [Zero R] {K N : Nat} (A : Mat R (K * N) (K * N)) : Prop :=
  ∀ x y, userOf x ≠ userOf y → A x y = 0

namespace Pf

theorem colBlock_stackCols {α : Type} {K N T : Nat} (M : Fin K → Mat α T N) (k : Fin K) :
    colBlock (stackCols M) k = M k := by
  funext i c
  show M (userOf (join k c)) i (within (join k c)) = M k i c
  rw [userOf_join, within_join]

section ring
variable {R : Type} [CommRing R] {K N T n : Nat}

theorem matMul_rowBlock (H : Mat R (K * N) T) (V : Mat R T n) (j : Fin K) (r : Fin N) (c : Fin n) :
    matMul (rowBlock H j) V r c = matMul H V (join j r) c := rfl

theorem rowBlock_null_of_tilde (H : Mat R (K * N) T) (k : Fin K) (V : Mat R T n)
    (h : matMul (tildeChannel H k) V = fun _ _ => 0) (j : Fin K) (hjk : j ≠ k) :
    matMul (rowBlock H j) V = fun _ _ => 0 := by
  funext r c
  obtain ⟨pos, hpos⟩ := List.mem_iff_get.mp ((mem_tildeIdx k (join j r)).mpr (by rwa [userOf_join]))
  rw [matMul_rowBlock, ← hpos]
  exact congrFun (congrFun h pos) c

theorem tilde_null_of_rowBlocks (H : Mat R (K * N) T) (k : Fin K) (V : Mat R T n)
    (h : ∀ j, j ≠ k → matMul (rowBlock H j) V = fun _ _ => 0) :
    matMul (tildeChannel H k) V = fun _ _ => 0 := by
  funext r c
  have hx := (mem_tildeIdx k _).mp (List.get_mem (tildeIdx (N := N) k) r)
  have := congrFun (congrFun (h _ hx) (within ((tildeIdx (N := N) k).get r))) c
  rwa [matMul_rowBlock, join_userOf_within] at this

theorem null_mul {m s : Nat} (Hj : Mat R m T) (V0 : Mat R T n) (X : Mat R n s)
    (h : matMul Hj V0 = fun _ _ => 0) : matMul Hj (matMul V0 X) = fun _ _ => 0 := by
  rw [← matMul_assoc, h, zero_matMul]

theorem matMul_stackCols (H : Mat R (K * N) T) (M : Fin K → Mat R T N) (x y : Fin (K * N)) :
    matMul H (stackCols M) x y = matMul (rowBlock H (userOf x)) (M (userOf y)) (within x) (within y) := by
  simp only [matMul_apply, stackCols, rowBlock, join_userOf_within]

theorem blockDiagonal_stack (H : Mat R (K * N) T) (M : Fin K → Mat R T N)
    (h : ∀ j k, j ≠ k → matMul (rowBlock H j) (M k) = fun _ _ => 0) :
    IsBlockDiagonal (matMul H (stackCols M)) := by
  intro x y hxy
  rw [matMul_stackCols, h _ _ hxy]

theorem rowBlock_colBlock_of_blockDiagonal (H : Mat R (K * N) T) (Ms : Mat R T (K * N))
    (h : IsBlockDiagonal (matMul H Ms)) (j k : Fin K) (hjk : j ≠ k) :
    matMul (rowBlock H j) (colBlock Ms k) = fun _ _ => 0 := by
  funext r c
  exact h (join j r) (join k c) (by rwa [userOf_join, userOf_join])

/-- covers water-filling, normalisation and per-transmitter normalisation: each scales every column by
    its own scalar -/
theorem blockDiagonal_mul_diagM (H : Mat R (K * N) T) (A : Mat R T (K * N)) (t : Fin (K * N) → R)
    (hA : IsBlockDiagonal (matMul H A)) : IsBlockDiagonal (matMul H (matMul A (diagM t))) := by
  intro x y hxy
  rw [← matMul_assoc, matMul_diagM, hA x y hxy, zero_mul]

theorem rowBlock_blockDiag_mul (F : Fin K → Mat R N N) (H : Mat R (K * N) T) (j : Fin K) :
    rowBlock (matMul (blockDiag F) H) j = matMul (F j) (rowBlock H j) := by
  funext r c
  simp only [rowBlock, matMul_apply, blockDiag, userOf_join, within_join]
  rw [sum_eq_sum_block _ j (fun x hx => by rw [if_neg (Ne.symm hx), zero_mul])]
  simp only [userOf_join, within_join, if_true]

theorem diagBlock_mul_of_blockDiagonal (A B : Mat R (K * N) (K * N)) (hB : IsBlockDiagonal B) (k : Fin K) :
    diagBlock (matMul A B) k = matMul (diagBlock A k) (diagBlock B k) := by
  funext r c
  simp only [diagBlock, matMul_apply]
  exact sum_eq_sum_block _ k (fun x hx => by rw [hB x (join k c) (by rwa [userOf_join]), mul_zero])

theorem diagBlock_eye (k : Fin K) : diagBlock (eye : Mat R (K * N) (K * N)) k = eye := by
  funext r c
  exact if_congr ⟨fun e => (join_injective e).2, congrArg (join k)⟩ rfl rfl

/-- only the rows of user `k` of `H V` are non-zero: a product with `H V` sees block `k` alone -/
theorem colBlock_matMul_rowBlock (G : Mat R n (K * N)) (H : Mat R (K * N) T) {m : Nat} (V : Mat R T m) (k : Fin K)
    (h : ∀ j, j ≠ k → matMul (rowBlock H j) V = fun _ _ => 0) :
    matMul (colBlock G k) (matMul (rowBlock H k) V) = matMul G (matMul H V) := by
  funext i c
  rw [matMul_apply, matMul_apply]
  symm
  refine sum_eq_sum_block _ k fun y hy => ?_
  have := congrFun (congrFun (h _ hy) (within y)) c
  rw [matMul_rowBlock, join_userOf_within] at this
  rw [this, mul_zero]

theorem blockDiag_matMul_eq_eye (F : Fin K → Mat R N N) (A : Mat R (K * N) (K * N)) (hA : IsBlockDiagonal A)
    (h : ∀ k, matMul (F k) (diagBlock A k) = eye) : matMul (blockDiag F) A = eye := by
  funext x y
  obtain ⟨u, r, rfl⟩ : ∃ u r, x = join u r := ⟨_, _, (join_userOf_within x).symm⟩
  obtain ⟨v, c, rfl⟩ : ∃ v c, y = join v c := ⟨_, _, (join_userOf_within y).symm⟩
  refine (congrFun (congrFun (rowBlock_blockDiag_mul F A u) r) (join v c)).trans ?_
  by_cases huv : u = v
  · subst huv
    exact (congrFun (congrFun (h u) r) c).trans (congrFun (congrFun (diagBlock_eye u) r) c).symm
  · rw [matMul_apply, eye, if_neg fun e => huv (join_injective e).1]
    exact Finset.sum_eq_zero fun i _ => mul_eq_zero_of_right _ (hA _ _ (by rwa [userOf_join, userOf_join]))

end ring
end Pf
end PyPhysim.BD
