import PyPhysim.Proofs.C19Place

set_option linter.unusedSectionVars false

/-! C19 — rectangles: what `Rectangle.__init__` stores (ordered corners, the centre strictly between
them when the corners differ, the corners of a `CellSquare`), and the repaired containment test as
membership in the convex hull of the placed vertices (the hull of the corners of a box is the box;
hulls commute with placing). -/
namespace PyPhysim.C19

section
variable {α : Type} [Field α] [LinearOrder α] [IsStrictOrderedRing α]

theorem pmin_le_pmax {a b : α} : pmin a b ≤ pmax a b := by
  rw [pmin_eq_min, pmax_eq_max]
  exact min_le_max

theorem mkRect_lower_le_upper (f s : Pt α) :
    (mkRect f s).lower.1 ≤ (mkRect f s).upper.1 ∧ (mkRect f s).lower.2 ≤ (mkRect f s).upper.2 :=
  ⟨pmin_le_pmax, pmin_le_pmax⟩

theorem pmin_lt_mid_lt_pmax {a b : α} (h : a ≠ b) : pmin a b < (a + b) / 2 ∧ (a + b) / 2 < pmax a b := by
  rw [pmin_eq_min, pmax_eq_max, ← min_add_max a b]
  exact ⟨left_lt_add_div_two.mpr (min_lt_max.mpr h), add_div_two_lt_right.mpr (min_lt_max.mpr h)⟩

theorem mkRect_centre_inside (f s : Pt α) (h1 : f.1 ≠ s.1) (h2 : f.2 ≠ s.2) :
    (mkRect f s).lower.1 < (mkRect f s).pos.1 ∧ (mkRect f s).pos.1 < (mkRect f s).upper.1 ∧
    (mkRect f s).lower.2 < (mkRect f s).pos.2 ∧ (mkRect f s).pos.2 < (mkRect f s).upper.2 := by
  simp only [mkRect, Nat.cast_ofNat]
  exact ⟨(pmin_lt_mid_lt_pmax h1).1, (pmin_lt_mid_lt_pmax h1).2, (pmin_lt_mid_lt_pmax h2).1,
    (pmin_lt_mid_lt_pmax h2).2⟩

/-- each edge spans with the centre a triangle of positive area: a side times the distance to it -/
theorem rect_star {r : Rect α} (h1 : r.lower.1 < r.pos.1) (h2 : r.pos.1 < r.upper.1)
    (h3 : r.lower.2 < r.pos.2) (h4 : r.pos.2 < r.upper.2) : StarCCW (rectVerts r) := by
  have w := h1.trans h2
  have h := h3.trans h4
  simp only [StarCCW, rectVerts, cyc, List.cons_append, List.nil_append, adjPairs, List.forall_mem_cons, cross, psub,
    Nat.cast_zero]
  exact ⟨lt_of_sub_eq_mul h3 w (by ring), lt_of_sub_eq_mul h2 h (by ring), lt_of_sub_eq_mul h4 w (by ring),
    lt_of_sub_eq_mul h1 h (by ring), List.forall_mem_nil _⟩

/-- `Rectangle.__init__` orders the corners `centre ∓ h·(1+j)`, `h = side/2`, as they are given -/
theorem squareCell_corners {side h : α} (e : side / 2 = h) (h0 : 0 ≤ h) (c : Pt α) :
    (squareCell side c).lower = (c.1 - h, c.2 - h) ∧ (squareCell side c).upper = (c.1 + h, c.2 + h) := by
  have hle : ∀ x : α, x - h ≤ x + h := fun x => (sub_le_self x h0).trans (le_add_of_nonneg_right h0)
  simp only [squareCell, mkSquare, mkRect, Nat.cast_ofNat, e, pmin_eq_min, pmax_eq_max, min_eq_left (hle _),
    max_eq_right (hle _), and_self]

theorem squareCell_verts {side h : α} (e : side / 2 = h) (h0 : 0 ≤ h) (c : Pt α) :
    rectVerts (squareCell side c) = [(-h, -h), (h, -h), (h, h), (-h, h)] := by
  obtain ⟨hl, hu⟩ := squareCell_corners e h0 c
  rw [rectVerts, hl, hu]
  simp only [squareCell, psub, sub_sub_cancel_left, add_sub_cancel_left]

theorem rectInside_iff (r : Rect α) (u p : Pt α) :
    rectInside r u p = true ↔
      (psub r.lower r.pos).1 ≤ (rot (conj u) (psub p r.pos)).1 ∧
      (rot (conj u) (psub p r.pos)).1 ≤ (psub r.upper r.pos).1 ∧
      (psub r.lower r.pos).2 ≤ (rot (conj u) (psub p r.pos)).2 ∧
      (rot (conj u) (psub p r.pos)).2 ≤ (psub r.upper r.pos).2 := by
  simp only [rectInside, Bool.ite_eq_true_distrib, Bool.false_eq_true, if_false_left, not_lt, and_true]

theorem interval_param {A B x : α} (h1 : A ≤ x) (h2 : x ≤ B) :
    ∃ a, 0 ≤ a ∧ 0 ≤ 1 - a ∧ x = A + a * (B - A) := by
  have hx := sub_nonneg.mpr h1
  have hxB := sub_le_sub_right h2 A
  have hB := hx.trans hxB
  -- when `B = A` the quotient is `0`, and then `x = A` as well
  exact ⟨(x - A) / (B - A), div_nonneg hx hB, sub_nonneg.mpr (div_le_one_of_le₀ hxB hB),
    by rw [div_mul_cancel_of_imp fun hz => le_antisymm (hz ▸ hxB) hx, add_sub_cancel]⟩

theorem inHull_box (A B q : Pt α) (hx : A.1 ≤ B.1) (hy : A.2 ≤ B.2) :
    InHull [A, (B.1, A.2), B, (A.1, B.2)] q ↔ A.1 ≤ q.1 ∧ q.1 ≤ B.1 ∧ A.2 ≤ q.2 ∧ q.2 ≤ B.2 := by
  constructor
  · -- the weights of the two right corners give the abscissa, those of the two upper ones the ordinate
    rintro ⟨ws, hl, hnn, hs, rfl⟩
    obtain ⟨a, b, c, d, rfl⟩ := List.length_eq_four.mp hl
    simp only [List.forall_mem_cons, sumL, combo, padd, smul, Nat.cast_zero, Nat.cast_one, add_zero] at hnn hs ⊢
    obtain ⟨ha, hb, hc, hd, -⟩ := hnn
    obtain rfl := eq_sub_of_add_eq hs
    exact ⟨le_of_sub_eq_mul (add_nonneg hb hc) hx (by ring), le_of_sub_eq_mul (add_nonneg ha hd) hx (by ring),
      le_of_sub_eq_mul (add_nonneg hc hd) hy (by ring), le_of_sub_eq_mul (add_nonneg ha hb) hy (by ring)⟩
  · rintro ⟨a1, a2, a3, a4⟩
    obtain ⟨s, hs0, hs1, hsx⟩ := interval_param a1 a2
    obtain ⟨t, ht0, ht1, hty⟩ := interval_param a3 a4
    refine ⟨[(1 - s) * (1 - t), s * (1 - t), s * t, (1 - s) * t], rfl, ?_, ?_, ?_⟩ <;>
      simp only [List.forall_mem_cons, sumL, combo, padd, smul, Nat.cast_zero, Nat.cast_one, add_zero]
    · exact ⟨mul_nonneg hs1 ht1, mul_nonneg hs0 ht1, mul_nonneg hs0 ht0, mul_nonneg hs1 ht0, nofun⟩
    · ring
    · exact Prod.ext (by rw [hsx]; ring) (by rw [hty]; ring)

theorem rectInside_iff_inHull (r : Rect α) (u : Pt α) (hu : norm2 u = 1)
    (hx : r.lower.1 ≤ r.upper.1) (hy : r.lower.2 ≤ r.upper.2) (p : Pt α) :
    rectInside r u p = true ↔ InHull (place r.pos u (rectVerts r)) p := by
  rw [rectInside_iff, inHull_place _ _ hu]
  exact (inHull_box (psub r.lower r.pos) (psub r.upper r.pos) _ (sub_le_sub_right hx _)
    (sub_le_sub_right hy _)).symm
end

end PyPhysim.C19
