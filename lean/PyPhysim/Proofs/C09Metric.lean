import PyPhysim.Model.C09

/-!
The configuration state machine of `EnhancedBD.set_ext_int_handling_metric` (R4 / R7), core Lean only:
a request is accepted or rejected whatever the state (`setMetric_cases`), so rejected calls change nothing,
an accepted call determines the state completely, and rejected calls can be dropped from a history.
-/
namespace PyPhysim.BD
namespace Pf

theorem setMetric_cases (r : MetricReq) (a : ExtraArgs) :
    (∃ t, ∀ s, setMetric s r a = (t, none)) ∨ ∀ s, setMetric s r a = (s, some .AttributeError) := by
  cases r
  case none => exact Or.inl ⟨_, fun _ => rfl⟩
  case capacity => exact Or.inl ⟨_, fun _ => rfl⟩
  case unknown => exact Or.inr fun _ => rfl
  case naive | fixed =>
    cases h : a.numStreams
    · exact Or.inr fun s => by simp only [setMetric, h]
    · exact Or.inl ⟨_, fun s => by simp only [setMetric, h]; rfl⟩
  case effectiveThroughput =>
    cases hm : a.modulator <;> cases hl : a.packetLength
    · exact Or.inr fun s => by simp only [setMetric, hm, hl]
    · exact Or.inr fun s => by simp only [setMetric, hm, hl]
    · exact Or.inr fun s => by simp only [setMetric, hm, hl]
    · exact Or.inl ⟨_, fun s => by simp only [setMetric, hm, hl]; rfl⟩

theorem setMetric_rejected (s : MetricState) (r : MetricReq) (a : ExtraArgs)
    (h : (setMetric s r a).2 ≠ none) : (setMetric s r a).1 = s := by
  rcases setMetric_cases r a with ⟨t, ht⟩ | hr
  · rw [ht] at h; exact absurd rfl h
  · rw [hr]

theorem setMetric_error_indep (s s' : MetricState) (r : MetricReq) (a : ExtraArgs) :
    (setMetric s r a).2 = (setMetric s' r a).2 := by
  rcases setMetric_cases r a with ⟨t, ht⟩ | hr
  · rw [ht, ht]
  · rw [hr, hr]

theorem setMetric_accepted_indep (s s' : MetricState) (r : MetricReq) (a : ExtraArgs)
    (h : (setMetric s r a).2 = none) : (setMetric s r a).1 = (setMetric s' r a).1 := by
  rcases setMetric_cases r a with ⟨t, ht⟩ | hr
  · rw [ht, ht]
  · rw [hr] at h; cases h

/-- the request is accepted (a property of the request alone) -/
def accepted (ra : MetricReq × ExtraArgs) : Bool := (setMetric default ra.1 ra.2).2.isNone

theorem accepted_iff (s : MetricState) (ra : MetricReq × ExtraArgs) :
    accepted ra = true ↔ (setMetric s ra.1 ra.2).2 = none := by
  unfold accepted
  rw [setMetric_error_indep default s, Option.isNone_iff_eq_none]

theorem runMetricHistory_filter (s : MetricState) (ops : List (MetricReq × ExtraArgs)) :
    runMetricHistory s ops = runMetricHistory s (ops.filter accepted) := by
  induction ops generalizing s with
  | nil => rfl
  | cons ra rest ih =>
    obtain ⟨r, a⟩ := ra
    by_cases hacc : accepted (r, a) = true
    · rw [List.filter_cons_of_pos hacc]
      simp only [runMetricHistory]
      exact ih _
    · rw [List.filter_cons_of_neg hacc]
      simp only [runMetricHistory]
      have hne : (setMetric s r a).2 ≠ none := fun h => hacc ((accepted_iff s (r, a)).mpr h)
      rw [setMetric_rejected s r a hne]
      exact ih s

theorem runMetricHistory_last (s : MetricState) (ops : List (MetricReq × ExtraArgs)) (r : MetricReq) (a : ExtraArgs)
    (tail : List (MetricReq × ExtraArgs)) (hacc : accepted (r, a) = true)
    (htail : ∀ x ∈ tail, accepted x = false) :
    runMetricHistory s (ops ++ (r, a) :: tail) = (setMetric default r a).1 := by
  induction ops generalizing s with
  | nil =>
    simp only [List.nil_append, runMetricHistory]
    rw [runMetricHistory_filter]
    have : tail.filter accepted = [] := List.filter_eq_nil_iff.mpr fun x hx => Bool.eq_false_iff.mp (htail x hx)
    rw [this]
    simp only [runMetricHistory]
    exact setMetric_accepted_indep s default r a ((accepted_iff s (r, a)).mp hacc)
  | cons x rest ih =>
    simp only [List.cons_append, runMetricHistory]
    exact ih _

end Pf
end PyPhysim.BD
