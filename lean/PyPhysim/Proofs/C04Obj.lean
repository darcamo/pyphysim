import PyPhysim.Model.C04Obj
import PyPhysim.Proofs.C04Bridge

/-!
The scheme objects as state machines: the state after any history is the
configuration the history leaves behind (`cfgChan`, `cfgNv`) and nothing else
(`run_state`); what each setter and the constructor store.
-/
namespace PyPhysim.C04
open PyPhysim.Proto

namespace Pf
section
variable {α : Type}

theorem storeChan_mat_ok {s : Scheme} {nr nt : Nat} {X : Mat α nr nt} {c : Chan α}
    (hc : storeChan s (.mat nr nt X) = .ok c) : c = ⟨nr, nt, X⟩ := by
  cases s
  case mrt | alamouti =>
    simp only [storeChan] at hc
    split at hc <;> cases hc
    rfl
  -- the other four classes store the matrix as it is
  all_goals exact (Except.ok.inj hc).symm

theorem outOfExcept_mat {m n : Nat} {r : Except PyErr (Mat α m n)} {E : Mat α m n}
    (h : outOfExcept r = .mat m n E) : r = .ok E := by
  cases r with
  | error e => cases h
  | ok A =>
    simp only [outOfExcept] at h
    cases h
    rfl

variable [Zero α]

theorem construct_ok {s : Scheme} {c : ChanArg α} {o : Obj α} (h : construct s c = .ok o) :
    o.scheme = s ∧ o.nv = 0 ∧ ∃ ch, storeChan s c = .ok ch ∧ o.chan = some ch := by
  unfold construct at h
  cases hc : storeChan s c with
  | ok ch =>
    rw [hc] at h
    cases h
    exact ⟨rfl, rfl, ch, rfl, rfl⟩
  | error e => rw [hc] at h; cases h

variable [CScalar α]

theorem cfgNv_of_not_blastFamily (s : Scheme) (hs : s.blastFamily = false) (v0 : α) :
    ∀ ops : List (Op α), cfgNv s v0 ops = v0
  | [] => rfl
  | op :: ops => by
    cases op
    case setNoiseVar v =>
      exact (if_neg (ne_true_of_eq_false hs)).trans (cfgNv_of_not_blastFamily s hs v0 ops)
    all_goals exact cfgNv_of_not_blastFamily s hs v0 ops

variable [One α] [Add α] [Sub α] [Mul α] [Div α] [Neg α] [NatCast α]

theorem run_state (K : Kernels α) : ∀ (ops : List (Op α)) (o : Obj α),
    run K o ops = ⟨o.scheme, cfgChan o.scheme o.chan ops, cfgNv o.scheme o.nv ops⟩
  | [], o => by cases o; rfl
  | op :: ops, o => by
    rw [run, run_state K ops]
    cases op with
    | setChannel c =>
      dsimp only [step, cfgChan, cfgNv]
      cases storeChan o.scheme c <;> rfl
    | setNoiseVar v =>
      dsimp only [step, cfgChan, cfgNv]
      cases o.scheme.blastFamily
      · rfl
      · cases setNoiseVar v <;> rfl
    | _ => rfl

theorem run_append_one (K : Kernels α) : ∀ (ops : List (Op α)) (o : Obj α) (op : Op α),
    run K o (ops ++ [op]) = (step K (run K o ops) op).1
  | [], _, _ => rfl
  | a :: ops, o, op => run_append_one K ops (step K o a).1 op

theorem step_setChannel_ok (K : Kernels α) (o : Obj α) (c : ChanArg α) (ch : Chan α)
    (h : storeChan o.scheme c = .ok ch) :
    step K o (.setChannel c) = ({ o with chan := some ch }, .done) := by
  simp only [step, h]

theorem step_setNoiseVar_ok (K : Kernels α) (o : Obj α) (hb : o.scheme.blastFamily = true) {v : Option α} {x : α}
    (h : setNoiseVar v = .ok x) : step K o (.setNoiseVar v) = ({ o with nv := x }, .done) := by
  simp only [step, hb, h, if_true]

end

theorem setNoiseVar_ofReal {s : ℝ} (hs : 0 ≤ s) : setNoiseVar (some (s : ℂ)) = .ok (s : ℂ) :=
  if_pos (decide_eq_true hs)

theorem step_setNoiseVar_real (K : Kernels ℂ) (o : Obj ℂ) (hb : o.scheme.blastFamily = true) (s : ℝ) (hs : 0 ≤ s) :
    (step K o (.setNoiseVar (some (s : ℂ)))).1 = { o with nv := (s : ℂ) } :=
  congrArg Prod.fst (step_setNoiseVar_ok K o hb (setNoiseVar_ofReal hs))

theorem step_setNoiseVar_none (K : Kernels ℂ) (o : Obj ℂ) (hb : o.scheme.blastFamily = true) :
    (step K o (.setNoiseVar none)).1 = { o with nv := 0 } :=
  congrArg Prod.fst (step_setNoiseVar_ok K o hb rfl)

end Pf
end PyPhysim.C04
