import PyPhysim.Proofs.C05Loop

/-! `simulate()` over the list of variations: what is done with one variation (`oneVar`, shared with
`simulate(index)`), the split of the stream into one complete run per variation, the store of partial
results, the call log, repeated calls. -/
namespace PyPhysim.C05

variable {R : Type}

theorem RunsSpec.induction {cfg : Cfg R} {load : Nat → Option (R × Nat)}
    {motive : ∀ is segs sts, RunsSpec cfg load is segs sts → Prop}
    (nil : motive [] [] [] trivial)
    (cons : ∀ i is seg segs st sts (hrun : IsVarRun cfg.merge cfg.repMax (cfg.keep i) (load i) seg st)
      (h : RunsSpec cfg load is segs sts), motive is segs sts h →
      motive (i :: is) (seg :: segs) (st :: sts) ⟨hrun, h⟩) :
    ∀ is segs sts (h : RunsSpec cfg load is segs sts), motive is segs sts h := by
  intro is
  induction is with
  | nil => exact fun | [], [], _ => nil
  | cons i is ih =>
    exact fun | seg :: segs, st :: sts, h => cons i is seg segs st sts h.1 h.2 (ih segs sts h.2)

theorem RunsSpec_congr (cfg : Cfg R) (load load' : Nat → Option (R × Nat)) (is : List Nat)
    (segs : List (List (Outcome R))) (sts : List (VarState R)) (hl : ∀ j ∈ is, load j = load' j)
    (h : RunsSpec cfg load is segs sts) : RunsSpec cfg load' is segs sts := by
  induction is, segs, sts, h using RunsSpec.induction with
  | nil => trivial
  | cons i is seg segs st sts hrun _ ih =>
    exact ⟨hl i List.mem_cons_self ▸ hrun, ih (fun j hj => hl j (List.mem_cons_of_mem _ hj))⟩

theorem RunsSpec_lengths (cfg : Cfg R) (load : Nat → Option (R × Nat)) (is : List Nat)
    (segs : List (List (Outcome R))) (sts : List (VarState R)) (h : RunsSpec cfg load is segs sts) :
    segs.length = is.length ∧ sts.length = is.length := by
  induction is, segs, sts, h using RunsSpec.induction with
  | nil => exact ⟨rfl, rfl⟩
  | cons _ _ _ _ _ _ _ _ ih => exact ⟨congrArg (· + 1) ih.1, congrArg (· + 1) ih.2⟩

theorem lookup_filter_ne {α : Type} (l : List (Nat × α)) {i j : Nat} (h : j ≠ i) :
    (l.filter (fun p => p.1 != i)).lookup j = l.lookup j := by
  induction l with
  | nil => rfl
  | cons p l ih =>
    obtain ⟨k, v⟩ := p
    by_cases hk : k = i
    · rw [List.filter_cons, if_neg (fun hne => bne_iff_ne.mp hne hk), ih, List.lookup_cons, hk,
        beq_false_of_ne h]
    · rw [List.filter_cons, if_pos (bne_iff_ne.mpr hk), List.lookup_cons, List.lookup_cons, ih]

theorem save_of_file {r : Runner R} (hf : r.file = true) (i : Nat) (s : VarState R) :
    r.save i s = { r with store := (i, s.saved) :: r.store.filter (fun p => p.1 != i) } :=
  if_pos hf

theorem save_of_nofile {r : Runner R} (hf : r.file = false) (i : Nat) (s : VarState R) :
    r.save i s = r :=
  if_neg (Bool.eq_false_iff.mp hf)

theorem save_fields (r : Runner R) (i : Nat) (s : VarState R) :
    (r.save i s).file = r.file ∧ (r.save i s).results = r.results ∧ (r.save i s).reps = r.reps ∧
    (r.save i s).resultsReps = r.resultsReps := by
  cases hf : r.file
  · rw [save_of_nofile hf]; exact ⟨hf, rfl, rfl, rfl⟩
  · rw [save_of_file hf]; exact ⟨hf, rfl, rfl, rfl⟩

theorem lookup_save (r : Runner R) (i j : Nat) (s : VarState R) :
    (r.save i s).store.lookup j
      = if r.file = true ∧ j = i then some s.saved else r.store.lookup j := by
  cases hf : r.file
  · rw [save_of_nofile hf, if_neg (fun h => Bool.false_ne_true h.1)]
  · rw [save_of_file hf]
    by_cases hj : j = i
    · rw [if_pos ⟨rfl, hj⟩, List.lookup_cons, beq_iff_eq.mpr hj]
    · rw [if_neg (fun h => hj h.2), List.lookup_cons, beq_false_of_ne hj]
      exact lookup_filter_ne _ hj

theorem load_nofile (r : Runner R) (i : Nat) (h : r.file = false) : r.load i = none :=
  if_neg (Bool.eq_false_iff.mp h)

def stepRunner (r : Runner R) (i : Nat) (s : VarState R) : Runner R :=
  { (r.save i s) with reps := r.reps.push s.rep, results := r.results ++ [⟨s.acc, s.skipped⟩] }

theorem stepRunner_file (r : Runner R) (i : Nat) (s : VarState R) : (stepRunner r i s).file = r.file :=
  (save_fields r i s).1

theorem stepRunner_load (r : Runner R) (i : Nat) (s : VarState R) {j : Nat} (h : j ≠ i) :
    (stepRunner r i s).load j = r.load j := by
  have hl : (stepRunner r i s).store.lookup j = r.store.lookup j :=
    (lookup_save r i j s).trans (if_neg (fun hji => h hji.2))
  unfold Runner.load
  rw [stepRunner_file, hl]

/-- what `simulate()` does with one variation: run it from what its partial file holds, give up when the
    stream ran out, otherwise go on with `next` -/
def oneVar (cfg : Cfg R) (i : Nat) (r : Runner R) (outs : List (Outcome R))
    (next : VarEnd R → SimEnd R) : SimEnd R :=
  match runVariation cfg.merge cfg.repMax (cfg.keep i) (r.load i) outs with
  | .starved c => ⟨r, List.replicate c i, [], some .Exhausted⟩
  | .done e => if e.exhausted then ⟨r, List.replicate e.st.calls i, [], some .Exhausted⟩ else next e

theorem oneVar_of_status_none {cfg : Cfg R} {i : Nat} {r : Runner R} {outs : List (Outcome R)}
    {next : VarEnd R → SimEnd R} (h : (oneVar cfg i r outs next).status = none) :
    ∃ e seg, oneVar cfg i r outs next = next e ∧ outs = seg ++ e.rest ∧
      IsVarRun cfg.merge cfg.repMax (cfg.keep i) (r.load i) seg e.st ∧ e.st.calls = seg.length := by
  unfold oneVar at h ⊢
  split at h
  · cases h
  · next e hrv =>
    split at h
    · cases h
    · next hex =>
      obtain ⟨seg, h1, h2⟩ := runVariation_isVarRun _ _ _ _ outs e hrv (Bool.eq_false_iff.mpr hex)
      exact ⟨e, seg, if_neg hex, h1, h2, stateOf_calls _ _ _ _ h2.1⟩

theorem simVars_cons (cfg : Cfg R) (i : Nat) (is : List Nat) (r : Runner R) (outs : List (Outcome R)) :
    simVars cfg (i :: is) r outs = oneVar cfg i r outs (fun e =>
      { simVars cfg is (stepRunner r i e.st) e.rest with
        log := List.replicate e.st.calls i ++ (simVars cfg is (stepRunner r i e.st) e.rest).log }) :=
  rfl

theorem simulateSingle_eq (cfg : Cfg R) (r : Runner R) (idx : Int) (outs : List (Outcome R))
    (hf : r.file = true) (h0 : 0 ≤ idx) (hn : idx.toNat < cfg.nvar) :
    simulateSingle cfg r idx outs = oneVar cfg idx.toNat r.clear outs (fun e =>
      ⟨{ (r.clear.save idx.toNat e.st) with reps := .single e.st.rep },
        List.replicate e.st.calls idx.toNat, e.rest, none⟩) := by
  unfold simulateSingle
  rw [hf, if_neg (by decide), if_pos ⟨h0, hn⟩]
  rfl

theorem simVars_spec (cfg : Cfg R) :
    ∀ (is : List Nat) (r : Runner R) (outs : List (Outcome R)), is.Nodup →
      (simVars cfg is r outs).status = none →
      ∃ segs sts, RunsSpec cfg r.load is segs sts ∧
        outs = segs.flatten ++ (simVars cfg is r outs).rest ∧
        (simVars cfg is r outs).log = logOf is segs ∧
        (simVars cfg is r outs).runner.results = r.results ++ sts.map VarState.stored ∧
        (∀ l, r.reps = .list l →
            (simVars cfg is r outs).runner.reps = .list (l ++ sts.map (·.rep))) ∧
        (∀ j, j ∉ is → (simVars cfg is r outs).runner.store.lookup j = r.store.lookup j) ∧
        (r.file = true → ∀ j st, (j, st) ∈ is.zip sts →
            (simVars cfg is r outs).runner.store.lookup j = some st.saved) ∧
        (r.file = false → (simVars cfg is r outs).runner.store = r.store) := by
  intro is
  induction is with
  | nil =>
    exact fun r outs _ _ => ⟨[], [], trivial, rfl, rfl, (List.append_nil _).symm,
      fun l hl => hl.trans (congrArg Reps.list (List.append_nil l).symm), fun _ _ => rfl,
      fun _ _ _ h => absurd h List.not_mem_nil, fun _ => rfl⟩
  | cons i is ih =>
    intro r outs hnd hst
    obtain ⟨e, seg, heq, hseg, hrun, hcalls⟩ := oneVar_of_status_none ((simVars_cons cfg i is r outs) ▸ hst)
    obtain ⟨hi, hnd'⟩ := List.nodup_cons.mp hnd
    rw [(simVars_cons cfg i is r outs).trans heq] at hst ⊢
    obtain ⟨segs, sts, h1, h2, h3, h4, h5, h8, h9, h10⟩ :=
      ih (stepRunner r i e.st) e.rest hnd' hst
    have hfile := stepRunner_file r i e.st
    have hlook := fun j hj => (h8 j hj).trans (lookup_save r i j e.st)
    refine ⟨seg :: segs, e.st :: sts, ⟨hrun, ?_⟩, ?_, ?_, ?_, ?_, ?_, ?_, ?_⟩
    · exact RunsSpec_congr cfg _ _ is segs sts
        (fun j hj => stepRunner_load r i e.st (fun h => hi (h ▸ hj))) h1
    · rw [List.flatten_cons, List.append_assoc, ← h2, ← hseg]
    · show _ ++ _ = _
      rw [h3, hcalls]; rfl
    · exact h4.trans (List.append_assoc _ _ _)
    · intro l hl
      exact (h5 _ (congrArg (Reps.push · e.st.rep) hl)).trans
        (congrArg Reps.list (List.append_assoc _ _ _))
    · intro j hj
      rw [List.mem_cons, not_or] at hj
      exact (hlook j hj.2).trans (if_neg (fun h => hj.1 h.2))
    · intro hf j st hmem
      rcases List.mem_cons.mp hmem with hjs | hmem
      · cases hjs
        exact (hlook i hi).trans (if_pos ⟨hf, rfl⟩)
      · exact h9 (hfile.trans hf) j st hmem
    · intro hf
      exact (h10 (hfile.trans hf)).trans
        (show (r.save i e.st).store = r.store from congrArg Runner.store (save_of_nofile hf i e.st))

theorem mem_logOf (is : List Nat) (segs : List (List (Outcome R))) (x : Nat)
    (h : x ∈ logOf is segs) : x ∈ is := by
  induction is generalizing segs with
  | nil => exact absurd h List.not_mem_nil
  | cons i is ih =>
    cases segs with
    | nil => exact absurd h List.not_mem_nil
    | cons seg segs =>
      rcases List.mem_append.mp h with h | h
      · exact (List.mem_replicate.mp h).2 ▸ List.mem_cons_self
      · exact List.mem_cons_of_mem _ (ih segs h)

theorem logOf_sorted (is : List Nat) (segs : List (List (Outcome R)))
    (h : is.Pairwise (· < ·)) : (logOf is segs).Pairwise (· ≤ ·) := by
  induction is generalizing segs with
  | nil => exact List.Pairwise.nil
  | cons i is ih =>
    cases segs with
    | nil => exact List.Pairwise.nil
    | cons seg segs =>
      obtain ⟨h1, h2⟩ := List.pairwise_cons.mp h
      refine List.pairwise_append.mpr ⟨List.pairwise_replicate.mpr (Or.inr (Nat.le_refl i)),
        ih segs h2, fun a ha b hb => ?_⟩
      rw [(List.mem_replicate.mp ha).2]
      exact Nat.le_of_lt (h1 b (mem_logOf is segs b hb))

theorem mem_logOf_of_ne_nil (cfg : Cfg R) (load : Nat → Option (R × Nat)) (is : List Nat)
    (segs : List (List (Outcome R))) (sts : List (VarState R)) (h : RunsSpec cfg load is segs sts)
    (hne : ∀ seg ∈ segs, seg ≠ []) : ∀ i ∈ is, i ∈ logOf is segs := by
  induction is, segs, sts, h using RunsSpec.induction with
  | nil => exact fun _ hi => absurd hi List.not_mem_nil
  | cons j is seg segs st sts _ _ ih =>
    intro i hi
    refine List.mem_append.mpr ?_
    rcases List.mem_cons.mp hi with rfl | hi'
    · exact Or.inl (List.mem_replicate.mpr
        ⟨fun h0 => hne seg List.mem_cons_self (List.length_eq_zero_iff.mp h0), rfl⟩)
    · exact Or.inr (ih (fun s hs => hne s (List.mem_cons_of_mem _ hs)) i hi')

theorem RunsSpec_fresh_ne_nil (cfg : Cfg R) (is : List Nat) (segs : List (List (Outcome R)))
    (sts : List (VarState R)) (h : RunsSpec cfg (fun _ => none) is segs sts) :
    ∀ seg ∈ segs, seg ≠ [] := by
  induction is, segs, sts, h using RunsSpec.induction with
  | nil => exact fun _ hs => absurd hs List.not_mem_nil
  | cons j is s0 segs st sts hrun _ ih =>
    intro seg hs
    rcases List.mem_cons.mp hs with rfl | hs'
    · exact isVarRun_fresh_ne_nil _ _ _ _ _ hrun
    · exact ih seg hs'

/-- without a results file the store is neither read nor written: it is carried along -/
theorem simVars_nofile_store (cfg : Cfg R) :
    ∀ (is : List Nat) (r : Runner R) (outs : List (Outcome R)) (st : List (Nat × Saved R)),
      r.file = false →
      simVars cfg is { r with store := st } outs =
        { simVars cfg is r outs with runner := { (simVars cfg is r outs).runner with store := st } } := by
  intro is
  induction is with
  | nil => exact fun _ _ _ _ => rfl
  | cons i is ih =>
    intro r outs st hf
    have hstep : ∀ s, stepRunner { r with store := st } i s = { stepRunner r i s with store := st } := by
      intro s
      rw [stepRunner, stepRunner, save_of_nofile hf, save_of_nofile (r := { r with store := st }) hf]
    rw [simVars_cons, simVars_cons, oneVar, oneVar, load_nofile r i hf, load_nofile { r with store := st } i hf]
    cases runVariation cfg.merge cfg.repMax (cfg.keep i) none outs with
    | starved c => rfl
    | done e =>
      obtain ⟨s, rest, ex⟩ := e
      cases ex with
      | true => rfl
      | false =>
        show SimEnd.mk _ _ _ _ = _
        rw [hstep, ih _ rest st ((stepRunner_file r i s).trans hf)]
        rfl

theorem simulateAll_eq (cfg : Cfg R) (r : Runner R) (outs : List (Outcome R)) :
    simulateAll cfg r outs =
      { simVars cfg (List.range cfg.nvar) r.clear outs with
        runner := { (simVars cfg (List.range cfg.nvar) r.clear outs).runner with
          resultsReps := match (simVars cfg (List.range cfg.nvar) r.clear outs).status with
            | none => some (simVars cfg (List.range cfg.nvar) r.clear outs).runner.reps
            | some _ => (simVars cfg (List.range cfg.nvar) r.clear outs).runner.resultsReps } } := by
  unfold simulateAll
  generalize simVars cfg (List.range cfg.nvar) r.clear outs = t
  obtain ⟨_, _, _, status⟩ := t
  cases status <;> rfl

end PyPhysim.C05
