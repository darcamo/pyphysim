import PyPhysim.Proofs.C10Inv
/-!
Observational equivalence of solver states (repaired code).

Two states are `ObsEq` when they hold the same primaries (`_F`, `_P`, `_Ns`) and the
getters `W`, `W_H`, `full_F` return the same values, both being coherent.  Which of the
lazily derived attributes happen to be populated — i.e. which getters / queries were
called before — is NOT part of it.  Every operation maps equivalent states to equivalent
states with equal outputs, so no sequence of later calls can tell them apart: getters
and queries never change a later result (class R11), and a copy / twin that skipped them
behaves identically.
-/
namespace PyPhysim.C10
open PyPhysim.Proto

variable {μ ρ : Type}

structure ObsEq (O : Ops μ ρ) (K : Nat) (s t : State μ ρ) : Prop where
  f : s.f = t.f
  p : s.p = t.p
  ns : s.ns = t.ns
  gw : getW O s = getW O t
  gwh : getWH O s = getWH O t
  gff : getFullF O K s = getFullF O K t
  cs : Coherent O K s
  ct : Coherent O K t

theorem ObsEq.symm {O : Ops μ ρ} {K : Nat} {s t : State μ ρ} (h : ObsEq O K s t) : ObsEq O K t s :=
  ⟨h.f.symm, h.p.symm, h.ns.symm, h.gw.symm, h.gwh.symm, h.gff.symm, h.ct, h.cs⟩

theorem ObsEq.trans {O : Ops μ ρ} {K : Nat} {s t u : State μ ρ} (h : ObsEq O K s t) (g : ObsEq O K t u) :
    ObsEq O K s u :=
  ⟨h.f.trans g.f, h.p.trans g.p, h.ns.trans g.ns, h.gw.trans g.gw, h.gwh.trans g.gwh, h.gff.trans g.gff,
   h.cs, g.ct⟩

theorem CacheFill.obs {O : Ops μ ρ} {K : Nat} {s t : State μ ρ} (h : CacheFill O K s t)
    (hc : Coherent O K s) : ObsEq O K t s :=
  ⟨h.f, h.p, h.ns, h.getW_same, h.getWH_same, h.getFullF_same, h.coherent hc, hc⟩

/-- what the write stores is the same in both states, and a getter value it does not overwrite is
    computed from fields it leaves alone -/
theorem Upd.Wf.obs {O : Ops μ ρ} {K : Nat} {u : Upd μ ρ} (hu : u.Wf) {s t : State μ ρ}
    (h : ObsEq O K s t) : ObsEq O K (u.apply s) (u.apply t) := by
  have cs := hu.coherent h.cs
  have ct := hu.coherent h.ct
  obtain ⟨_, _, hw, hfF⟩ := hu
  obtain ⟨uns, up, uf, ufF, uw, uwH, ufWH, ufW⟩ := u
  have hf : uf.getD s.f = uf.getD t.f := congrArg uf.getD h.f
  have hp : up.getD s.p = up.getD t.p := congrArg up.getD h.p
  refine ⟨hf, hp, congrArg uns.getD h.ns, ?_, ?_, ?_, cs, ct⟩
  · rcases hw with ⟨e1, e2⟩ | ⟨a, b, e1, e2, _⟩ <;> cases e1 <;> cases e2
    · refine (getW_congr O ?_ ?_).trans (h.gw.trans (getW_congr O ?_ ?_)) <;> rfl
    · exact getW_congr O rfl rfl
  · rcases hw with ⟨e1, e2⟩ | ⟨a, b, e1, e2, _⟩ <;> cases e1 <;> cases e2
    · refine (getWH_congr O ?_ ?_).trans (h.gwh.trans (getWH_congr O ?_ ?_)) <;> rfl
    · exact getWH_congr O rfl rfl
  · cases ufF with
    | some v => exact getFullF_congr O K hf rfl hp
    | none =>
      obtain ⟨e1, e2⟩ := hfF rfl
      cases e1; cases e2
      refine (getFullF_congr O K ?_ ?_ ?_).trans (h.gff.trans (getFullF_congr O K ?_ ?_ ?_)) <;> rfl

theorem step_obs (O : Ops μ ρ) (K : Nat) (s t : State μ ρ) (op : Op μ ρ) (h : ObsEq O K s t) :
    ObsEq O K (step Cfg.fixed O K s op).1 (step Cfg.fixed O K t op).1
    ∧ (step Cfg.fixed O K s op).2 = (step Cfg.fixed O K t op).2 := by
  cases hm : op.isMutator with
  | true =>
    -- a blind write: the same verdict and the same fields written in both states
    rw [step_mutator O K s op hm, step_mutator O K t op hm]
    cases ha : op.err O K with
    | some _ => exact ⟨h, rfl⟩
    | none =>
      rcases upd_wf O K op ha with e | hu
      · rw [e]; exact ⟨h, rfl⟩
      · exact ⟨hu.obs h, rfl⟩
  | false =>
    -- a getter: both states stay where they were, observationally
    refine ⟨((step_fill O K s op hm).obs h.cs).trans (h.trans ((step_fill O K t op hm).obs h.ct).symm), ?_⟩
    cases op with
    | readF => exact congrArg Out.arr h.f
    | readNs => exact congrArg Out.ns h.ns
    | readP => exact congrArg Out.pow (show curP O K s = curP O K t by unfold curP; rw [h.p])
    | readFullF => exact congrArg outArr h.gff
    | readW => exact congrArg Out.arr h.gw
    | readWH => exact congrArg Out.arr h.gwh
    | readFullWH =>
      refine congrArg outArrO ?_
      rw [readFullWH_spec O K s h.cs, readFullWH_spec O K t h.ct, specFullWH_congr O K h.gwh h.gff]
    | readFullW =>
      refine congrArg outArr ?_
      rw [readFullW_spec O K s h.cs, readFullW_spec O K t h.ct, specFullW, specFullW,
        specFullWH_congr O K h.gwh h.gff]
    | query | fork => rfl
    | _ => cases hm

theorem run_obs (O : Ops μ ρ) (K : Nat) :
    ∀ (ops : List (Op μ ρ)) (s t : State μ ρ), ObsEq O K s t →
      ObsEq O K (run Cfg.fixed O K s ops).1 (run Cfg.fixed O K t ops).1
      ∧ (run Cfg.fixed O K s ops).2 = (run Cfg.fixed O K t ops).2
  | [], _, _, h => ⟨h, rfl⟩
  | op :: ops, s, t, h => by
    have h1 := step_obs O K s t op h
    have h2 := run_obs O K ops _ _ h1.1
    refine ⟨h2.1, ?_⟩
    show _ :: _ = _ :: _
    rw [h1.2, h2.2]

/-- the operation is a getter or a call of the non-mutating API -/
def Op.isPassive : Op μ ρ → Bool
  | .readF | .readFullF | .readW | .readWH | .readFullWH | .readFullW | .readNs | .readP => true
  | .query | .fork => true
  | _ => false

theorem Op.isMutator_of_isPassive {r : Op μ ρ} (hr : r.isPassive = true) : r.isMutator = false := by
  cases r <;> first | rfl | cases hr

end PyPhysim.C10
