import PyPhysim.Proofs.Gray
import PyPhysim.Generated.Conversion

/-! The definitions regenerated from `/repo` equal the normal forms the theory is about. -/
namespace PyPhysim.Gray

theorem gen_b2g : Generated.binary2gray = b2g := rfl

/-- the shift list applied by the current source -/
theorem gen_g2b : Generated.gray2binary = g2bWith (descPows 6) := by funext n; rfl

/-- the six shifts of the source cover `2^6 = 64` bits -/
theorem gen_roundtrip {m l : Nat} (hm : m ≤ 64) (hl : l < 2^m) :
    Generated.gray2binary (Generated.binary2gray l) = l ∧
      Generated.binary2gray (Generated.gray2binary l) = l := by
  have h := Nat.lt_of_lt_of_le hl (Nat.pow_le_pow_right Nat.two_pos hm)
  rw [gen_b2g, gen_g2b]
  exact ⟨g2b_b2g 6 l h, b2g_g2b 6 l h⟩

theorem half_lt_fuel {n fuel : Nat} (hn : 0 < n) (h : n < fuel + 1) : n / 2 < fuel :=
  Nat.lt_of_lt_of_le (Nat.div_lt_self hn Nat.one_lt_two) (Nat.le_of_lt_succ h)

theorem count_loop : ∀ fuel count n, n < fuel →
    Generated.count_bits_loop1 fuel count n = .ok (count + popcount n, 0)
  | 0, _, n, h => absurd h (Nat.not_lt_zero n)
  | fuel+1, count, n, h => by
    rw [Generated.count_bits_loop1]
    rcases Nat.eq_zero_or_pos n with rfl | hn
    · rw [if_neg (by decide), popcount_zero]; rfl
    · have ih := fun c => count_loop fuel c (n / 2) (half_lt_fuel hn h)
      rw [popcount_eq n, if_pos (decide_eq_true hn), Nat.and_one_is_mod, show n >>> 1 = n / 2 from rfl]
      rcases Nat.mod_two_eq_zero_or_one n with hm | hm
      · rw [hm, if_neg (by decide), ih, Nat.zero_add]
      · rw [hm, if_pos (by decide), ih, Nat.add_assoc]

theorem gen_count_bits (n : Nat) : Generated.count_bits n = .ok (popcount n) := by
  rw [Generated.count_bits, count_loop (n+1) 0 n n.lt_succ_self, Nat.zero_add]

theorem bits_loop : ∀ fuel n bits, n < fuel →
    Generated.int2bits_loop1 fuel n bits = .ok (0, bits + bitlen n)
  | 0, n, _, h => absurd h (Nat.not_lt_zero n)
  | fuel+1, n, bits, h => by
    rw [Generated.int2bits_loop1]
    by_cases hn : n = 0
    · subst hn; rw [if_neg (by decide), bitlen_zero]; rfl
    · rw [if_pos (bne_iff_ne.mpr hn), show n >>> 1 = n / 2 from rfl,
        bits_loop fuel (n / 2) (bits + 1) (half_lt_fuel (Nat.pos_of_ne_zero hn) h), bitlen_eq hn,
        Nat.add_right_comm, Nat.add_assoc]

end PyPhysim.Gray
