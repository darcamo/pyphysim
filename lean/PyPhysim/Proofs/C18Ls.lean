import Mathlib.LinearAlgebra.Matrix.NonsingularInverse
import Mathlib.LinearAlgebra.Matrix.Rank
import Mathlib.Analysis.Complex.Order
import Mathlib.Algebra.BigOperators.Fin
import PyPhysim.Proofs.C18Complex

/-!
C18 — the least-squares pilot estimator `Y Sᴴ (S Sᴴ)⁻¹`.
Bridge from the model's `Fin`-function matrices to Mathlib's `Matrix`, exactness
under the contract of `np.linalg.inv`, and "full row rank ⇒ `S Sᴴ` invertible"
over `ℂ`; the identity pilot matrix `idMat`, which observes a channel as itself (`matMul_id`).
-/
namespace PyPhysim.C18P
open PyPhysim.Cazac Matrix

theorem sumFin_eq {β : Type} [AddCommMonoid β] (n : ℕ) (f : Fin n → β) : sumFin n f = ∑ i, f i := by
  induction n with
  | zero => exact (Fin.sum_univ_zero f).symm
  | succ n ih => exact (congrArg (· + f (Fin.last n)) (ih _)).trans (Fin.sum_univ_castSucc f).symm

variable {F : Type} [Semiring F]

theorem of_matMul {m k n : ℕ} (A : Mat F m k) (B : Mat F k n) :
    Matrix.of (matMul A B) = Matrix.of A * Matrix.of B :=
  Matrix.ext fun _ _ => (sumFin_eq k _).trans (Matrix.mul_apply ..).symm

/-- LS estimate is exact as soon as the kernel standing for `np.linalg.inv`
    returned a right inverse of the Gram matrix `S Sᴴ` (any semiring, any `conj`). -/
theorem ls_exact_core [CisOps F] {nr nt np : ℕ}
    (inv : Mat F nt nt → Mat F nt nt) (H : Mat F nr nt) (S : Mat F nt np)
    (hinv : Matrix.of (matMul S (conjT S)) * Matrix.of (inv (matMul S (conjT S))) = 1) :
    lsEstimate inv (matMul H S) S = H := by
  apply Matrix.of.injective
  unfold lsEstimate
  rw [of_matMul, of_matMul, of_matMul, Matrix.mul_assoc (Matrix.of H), Matrix.mul_assoc (Matrix.of H),
    ← of_matMul S, hinv, Matrix.mul_one]

/-- Full row rank makes the Gram matrix invertible: its rank is that of `S`, the number of its rows. -/
theorem gram_isUnit {nt np : ℕ} (S : Mat ℂ nt np) (hli : LinearIndependent ℂ (Matrix.of S).row) :
    IsUnit (Matrix.of (matMul S (conjT S))) := by
  open ComplexOrder in
  rw [of_matMul, ← linearIndependent_rows_iff_isUnit, linearIndependent_iff_card_eq_finrank_span,
    ← hli.rank_matrix, ← rank_self_mul_conjTranspose, rank_eq_finrank_span_row]
  -- `conjT` of the model is `conjTranspose` entry by entry
  rfl

def idMat (F : Type) [Zero F] [One F] (n : ℕ) : Mat F n n := fun i j => if i = j then 1 else 0

theorem matMul_id {n k : ℕ} (S : Mat F n k) : matMul (idMat F n) S = S :=
  Matrix.of.injective ((of_matMul (idMat F n) S).trans (Matrix.one_mul (Matrix.of S)))

end PyPhysim.C18P
