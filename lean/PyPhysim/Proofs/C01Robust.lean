import PyPhysim.Model.C01Alias

/-!
Histories of calls: the modulator object alone (`modRun`, `currentTable`) and the object together
with the caller's arrays (`aState`, `aOutputs`), each split at an append.
-/
namespace PyPhysim.C01
open PyPhysim.Proto

theorem currentTable_append {α : Type} (t₀ : List (α × α)) (h h' : List (ModOp α)) :
    currentTable t₀ (h ++ h') = currentTable (currentTable t₀ h) h' := by
  induction h generalizing t₀ with
  | nil => rfl
  | cons op ops ih => cases op <;> exact ih _

theorem resolve_own {α : Type} (s : AState α) (t : List (α × α)) (hs : s.table = .own t) : s.resolve = t := by
  rw [AState.resolve, hs]

variable {α : Type} [Add α] [Sub α] [Mul α] [LT α] [DecidableLT α]

theorem modRun_fst (t : List (α × α)) (h : List (ModOp α)) : (modRun t h).1 = currentTable t h := by
  induction h generalizing t with
  | nil => rfl
  | cons op ops ih => cases op <;> exact ih _

theorem modRun_append (t : List (α × α)) (h h' : List (ModOp α)) :
    modRun t (h ++ h') =
      ((modRun (modRun t h).1 h').1, (modRun t h).2 ++ (modRun (modRun t h).1 h').2) := by
  induction h generalizing t with
  | nil => rfl
  | cons op ops ih => exact congrArg (fun p => (p.1, (modStep t op).2 :: p.2)) (ih (modStep t op).1)

theorem aState_append (s : AState α) (h h' : List (AOp α)) :
    aState s (h ++ h') = aState (aState s h) h' := by
  induction h generalizing s with
  | nil => rfl
  | cons op ops ih => exact ih _

theorem aOutputs_append (s : AState α) (h h' : List (AOp α)) :
    aOutputs s (h ++ h') = aOutputs s h ++ aOutputs (aState s h) h' := by
  induction h generalizing s with
  | nil => rfl
  | cons op ops ih => exact congrArg (_ :: ·) (ih _)

theorem aOutputs_length (s : AState α) (h : List (AOp α)) : (aOutputs s h).length = h.length := by
  induction h generalizing s with
  | nil => rfl
  | cons op ops ih => exact congrArg (· + 1) (ih _)

theorem aOutputs_at (s : AState α) (h₁ h₂ : List (AOp α)) (op : AOp α) :
    (aOutputs s (h₁ ++ op :: h₂))[h₁.length]? = some (aStep (aState s h₁) op).2 := by
  rw [aOutputs_append, ← aOutputs_length s h₁, List.getElem?_append_right (Nat.le_refl _), Nat.sub_self]
  rfl

theorem fill_then_demodulate (s : AState α) (t : List (α × α)) (hs : s.table = .own t) (b : Nat)
    (v : List (α × α)) :
    (aStep (aStep s (.fillC b v)).1 (.demodulate b)).2 = .indexes (v.map (demod t)) := by
  show AOut.indexes ((upd s.cbuf b v b).map (demod (aStep s (.fillC b v)).1.resolve)) = _
  rw [resolve_own (aStep s (.fillC b v)).1 t hs, upd, if_pos rfl]

theorem aState_table (s : AState α) (h : List (AOp α)) (hk : ∀ op ∈ h, op.keepsTable = true) :
    (aState s h).table = s.table := by
  induction h generalizing s with
  | nil => rfl
  | cons op ops ih =>
    rw [List.forall_mem_cons] at hk
    refine (ih _ hk.2).trans ?_
    cases op <;> first | rfl | cases hk.1

end PyPhysim.C01
