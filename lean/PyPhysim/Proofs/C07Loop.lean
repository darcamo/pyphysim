import PyPhysim.Proofs.C07Slot
import PyPhysim.Proofs.C05Loop

/-! One variation of C07.  `loopC` is the C05 loop plus a trace (`loopC_eq_loop`).  What a run of one
variation is made of is said once, by the relation `VarRan`; what is established about it (`VarSpec`),
every closure property of its trace (`TraceProp`) and its call log are read off that relation. -/
namespace PyPhysim.C07

open PyPhysim.C05 (Outcome VarState guard after stateOf stK stK_skip stK_ok IsVarRun)

variable {R T : Type}

theorem loopC_eq_loop (cfg : Cfg R T) (i : Nat) :
    ∀ (outs : List (Outcome R)) (s : VarState R) (c : Clock),
      (loopC cfg i s c outs).st = (C05.loop cfg.merge cfg.repMax (cfg.keep i) s outs).st ∧
      (loopC cfg i s c outs).rest = (C05.loop cfg.merge cfg.repMax (cfg.keep i) s outs).rest ∧
      (loopC cfg i s c outs).exhausted = (C05.loop cfg.merge cfg.repMax (cfg.keep i) s outs).exhausted := by
  intro outs s c
  fun_induction loopC cfg i s c outs with
  | case1 => exact ⟨rfl, rfl, rfl⟩
  | case2 s c o os hg s' c1 due e ih =>
    -- `ih` speaks of `stepO`, `C05.loop_cons` of `C05.stepOut`: the same match on the outcome
    rw [C05.loop_cons hg]
    exact ih
  | case3 s c o os hg => rw [C05.loop_stop (Bool.eq_false_iff.mpr hg)]; exact ⟨rfl, rfl, rfl⟩

theorem partOps_saveEvs (cfg : Cfg R T) (i : Nat) (s : VarState R) :
    partOps i (saveEvs cfg i s) = saveOps cfg.mode (partOf cfg i s) := partOps_map_part i _

/-- `v` is a run of variation `i` over `outs` that consumed `used`, when `stf p` is the state after the
    outcomes `p` (if there is one yet): it stops with the unconditional save where the guard fails, or
    ends where the stream does; before that every outcome is a call and perhaps a save of the state it
    leads to.  The relation is built backward over the outcomes: a step hands the rest of the run
    the shifted state function `stf' p = stf (o :: p)`, so no prefix is accumulated and nothing has
    to be re-associated; the loop (`after s`), the first repetition (`stK k`) and the whole variation
    (`stateOf merge start`) are three such functions. -/
inductive VarRan (cfg : Cfg R T) (i : Nat) : (List (Outcome R) → Option (VarState R)) →
    List (Outcome R) → List (Outcome R) → VarRun R T → Prop
  | stopped {stf : List (Outcome R) → Option (VarState R)} {s : VarState R} (outs : List (Outcome R))
      (c : Clock) : stf [] = some s → guard cfg.repMax (cfg.keep i) s = false →
      VarRan cfg i stf outs [] ⟨saveEvs cfg i s, outs, c, .ok s⟩
  | ranOut {stf : List (Outcome R) → Option (VarState R)} (c : Clock) :
      (∀ s, stf [] = some s → guard cfg.repMax (cfg.keep i) s = true) →
      VarRan cfg i stf [] [] ⟨[], [], c, .error .Exhausted⟩
  | step {stf stf' : List (Outcome R) → Option (VarState R)} {o : Outcome R} {outs used : List (Outcome R)}
      {sv : List (Ev R T)} {v : VarRun R T} :
      (∀ s, stf [] = some s → guard cfg.repMax (cfg.keep i) s = true) → (∀ p, stf (o :: p) = stf' p) →
      (sv = [] ∨ ∃ s, stf' [] = some s ∧ sv = saveEvs cfg i s) → VarRan cfg i stf' outs used v →
      VarRan cfg i stf (o :: outs) (o :: used) ⟨.call i :: (sv ++ v.trace), v.rest, v.clock, v.res⟩

/-- what precedes the loop, and what an iteration emits, is an accumulator of `finishVar` -/
theorem finishVar_append (cfg : Cfg R T) (i : Nat) (pre a : List (Ev R T)) (e : LoopEnd R T) :
    finishVar cfg i pre ⟨e.st, e.rest, e.clock, e.exhausted, a ++ e.trace⟩ =
      ⟨pre ++ (a ++ (finishVar cfg i [] e).trace), (finishVar cfg i [] e).rest,
        (finishVar cfg i [] e).clock, (finishVar cfg i [] e).res⟩ := by
  unfold finishVar
  cases e.exhausted with
  | true => rfl
  | false => rw [List.append_assoc]; rfl

theorem loopC_ran (cfg : Cfg R T) (i : Nat) (outs : List (Outcome R)) (s : VarState R) (c : Clock) :
    ∃ used, VarRan cfg i (fun p => some (after cfg.merge s p)) outs used
      (finishVar cfg i [] (loopC cfg i s c outs)) := by
  fun_induction loopC cfg i s c outs with
  | case1 s c =>
    cases hg : guard cfg.repMax (cfg.keep i) s with
    | false => exact ⟨[], .stopped [] c rfl hg⟩
    | true => exact ⟨[], .ranOut c fun _ h => Option.some.inj h ▸ hg⟩
  | case2 s c o os hg s' c1 due e ih =>
    obtain ⟨used, hv⟩ := ih
    refine ⟨o :: used, (finishVar_append cfg i [] (.call i :: _) _) ▸
      .step (fun _ h => Option.some.inj h ▸ hg)
        (fun p => congrArg some (C05.after_cons ..)) ?_ hv⟩
    -- whether this iteration saved is the model's own `due`
    cases due with
    | false => exact .inl rfl
    | true => exact .inr ⟨_, rfl, rfl⟩
  | case3 s c o os hg => exact ⟨[], .stopped _ c rfl (Bool.eq_false_iff.mpr hg)⟩

theorem firstRunC_ran (cfg : Cfg R T) (i k : Nat) (c : Clock) (outs : List (Outcome R)) :
    ∃ used v, VarRan cfg i (stK cfg.merge k) outs used v ∧
      firstRunC cfg i k c outs = ⟨List.replicate k (.call i) ++ v.trace, v.rest, v.clock, v.res⟩ := by
  -- the call of an outcome is the last of the `k + 1` calls the rest of the run starts with
  have hk : ∀ (k : Nat) (t : List (Ev R T)), List.replicate (k + 1) (.call i) ++ t
      = List.replicate k (.call i) ++ .call i :: ([] ++ t) := fun k t => by
    rw [List.replicate_succ', List.append_assoc]; rfl
  fun_induction firstRunC cfg i k c outs with
  | case1 k c => exact ⟨[], _, .ranOut c nofun, congrArg (VarRun.mk · [] c _) (List.append_nil _).symm⟩
  | case2 k c os ih =>
    obtain ⟨used, v, hv, h⟩ := ih
    exact ⟨.skip :: used, _, .step nofun (stK_skip _ k) (.inl rfl) hv, h.trans (by rw [hk])⟩
  | case3 k c r os =>
    obtain ⟨used, hv⟩ := loopC_ran cfg i os ⟨r, 1, k, k + 1⟩ c.tick
    exact ⟨.ok r :: used, _, .step nofun (stK_ok _ k r) (.inl rfl) hv,
      (finishVar_append cfg i _ [] _).trans (by rw [List.nil_append, hk]; rfl)⟩

/-- `load_partial_results` of variation `i` does not raise on disk `d`: its file is missing or is a
    readable file saved for the parameters of `i` -/
def LoadsOk [DecidableEq T] (cfg : Cfg R T) (d : Disk R T) (i : Nat) : Prop :=
  ∀ e, loadPart cfg d i ≠ .error e

theorem runVarC_error [DecidableEq T] (cfg : Cfg R T) (i : Nat) (d : Disk R T) (c : Clock)
    (outs : List (Outcome R)) (e : Err) (h : loadPart cfg d i = .error e) :
    runVarC cfg i d c outs = ⟨[], outs, c, .error e⟩ := by
  unfold runVarC; rw [h]

theorem runVarC_ran [DecidableEq T] (cfg : Cfg R T) (i : Nat) (d : Disk R T) (c : Clock)
    (outs : List (Outcome R)) :
    (∃ e, loadPart cfg d i = .error e) ∨
      ∃ used, VarRan cfg i (stateOf cfg.merge (startOf cfg d i)) outs used (runVarC cfg i d c outs) := by
  unfold runVarC startOf
  cases loadPart cfg d i with
  | error e => exact .inl ⟨e, rfl⟩
  | fresh =>
    obtain ⟨used, v, hv, h⟩ := firstRunC_ran cfg i 0 c outs
    rw [C05.stateOf_none]
    exact .inr ⟨used, h ▸ hv⟩
  | resume a n => exact .inr (loopC_ran cfg i outs ⟨a, n, 0, 0⟩ c)

/-- A property of traces that nothing the variations `is` do can break: it holds of the
    empty trace, of a call and of a save of each of them, and of the concatenation of two
    traces that have it.  A trace is put together from exactly these, so it has every such
    property (`of_runVarC`, `of_simVarsC`; `of_simC` asks for the save of the final results file
    too); `OnlyVar i`, `OnlyVars is` and, for the atomic discipline, `AllAtomic` and
    `TraceBlocks` are of this kind. -/
structure TraceProp (cfg : Cfg R T) (is : List Nat) (P : List (Ev R T) → Prop) : Prop where
  nil : P []
  append {a b : List (Ev R T)} : P a → P b → P (a ++ b)
  call : ∀ i ∈ is, P [.call i]
  save : ∀ i ∈ is, ∀ s, P (saveEvs cfg i s)

section
variable {cfg : Cfg R T} {is : List Nat} {P : List (Ev R T) → Prop} (h : TraceProp cfg is P)
  {i : Nat} (hi : i ∈ is)
include h hi

theorem TraceProp.of_varRan {stf : List (Outcome R) → Option (VarState R)} {outs used : List (Outcome R)}
    {v : VarRun R T} (hv : VarRan cfg i stf outs used v) : P v.trace := by
  induction hv with
  | stopped => exact h.save i hi _
  | ranOut => exact h.nil
  | step _ _ hsv _ ih =>
    refine h.append (h.call i hi) (h.append ?_ ih)
    rcases hsv with rfl | ⟨s, -, rfl⟩
    · exact h.nil
    · exact h.save i hi s

theorem TraceProp.of_runVarC [DecidableEq T] (d : Disk R T) (c : Clock) (outs : List (Outcome R)) :
    P (runVarC cfg i d c outs).trace := by
  rcases runVarC_ran cfg i d c outs with ⟨e, he⟩ | ⟨used, hv⟩
  · rw [runVarC_error cfg i d c outs e he]; exact h.nil
  · exact h.of_varRan hi hv

end

theorem onlyVar_traceProp (cfg : Cfg R T) (i : Nat) : TraceProp cfg [i] (OnlyVar i) where
  nil := fun _ h => absurd h List.not_mem_nil
  append := OnlyVar.append
  call j hj := by
    cases List.mem_singleton.mp hj
    exact fun ev h => .inl (List.mem_singleton.mp h)
  save j hj s := by
    cases List.mem_singleton.mp hj
    exact onlyVar_map_part i _

theorem allAtomic_traceProp (cfg : Cfg R T) (hm : cfg.mode = .atomic) (is : List Nat) :
    TraceProp cfg is AllAtomic where
  nil := fun _ h => absurd h List.not_mem_nil
  append := AllAtomic.append
  call i _ := fun ev h => by cases List.mem_singleton.mp h; trivial
  save i _ s := by
    unfold saveEvs
    rw [hm]
    exact allAtomic_map_part i _

/-- what is established about the run of one variation, relative to the function
    `stf` giving the state after a prefix of the consumed outcomes -/
structure VarSpec (cfg : Cfg R T) (i : Nat) (stf : List (Outcome R) → Option (VarState R))
    (outs : List (Outcome R)) (v : VarRun R T) (used : List (Outcome R)) : Prop where
  split : outs = used ++ v.rest
  saved : ∀ x ∈ contents (partOps i v.trace), ∃ p s, p <+: used ∧ stf p = some s ∧ x = partOf cfg i s
  only : OnlyVar i v.trace
  atomic : cfg.mode = .atomic → AllAtomic v.trace
  running : ∀ p, p <+: used → p ≠ used → ∀ s, stf p = some s → guard cfg.repMax (cfg.keep i) s = true
  done : ∀ st, v.res = .ok st → stf used = some st ∧ guard cfg.repMax (cfg.keep i) st = false ∧
    ∃ pre, v.trace = pre ++ saveEvs cfg i st
  failed : ∀ e, v.res = .error e → e = .Exhausted ∧ v.rest = []
  stuck : ∀ e, v.res = .error e →
    stf used = none ∨ ∃ st, stf used = some st ∧ guard cfg.repMax (cfg.keep i) st = true

theorem VarRan.spec {cfg : Cfg R T} {i : Nat} {stf : List (Outcome R) → Option (VarState R)}
    {outs used : List (Outcome R)} {v : VarRun R T} (hv : VarRan cfg i stf outs used v) :
    VarSpec cfg i stf outs v used ∧ callLog v.trace = List.replicate used.length i := by
  refine ⟨{ only := (onlyVar_traceProp cfg i).of_varRan List.mem_cons_self hv
            atomic := fun hm => (allAtomic_traceProp cfg hm [i]).of_varRan List.mem_cons_self hv
            split := ?split, saved := ?saved, running := ?running, done := ?done, failed := ?failed,
            stuck := ?stuck }, ?log⟩
  case split =>
    induction hv with
    | stopped | ranOut => rfl
    | @step stf stf' o outs used sv v h0 hcons hsv _ ih => exact congrArg (o :: ·) ih
  case saved =>
    induction hv with
    | @stopped stf s outs c hs hg =>
      intro x hx
      rw [partOps_saveEvs, contents_saveOps] at hx
      exact ⟨[], s, List.nil_prefix, hs, List.mem_singleton.mp hx⟩
    | ranOut => exact fun _ hx => absurd hx List.not_mem_nil
    | @step stf stf' o outs used sv v h0 hcons hsv _ ih =>
      intro x hx
      rcases List.mem_append.mp (contents_append .. ▸ partOps_append i sv v.trace ▸ hx) with hx | hx
      · rcases hsv with rfl | ⟨s, hs, rfl⟩
        · exact absurd hx List.not_mem_nil
        · rw [partOps_saveEvs, contents_saveOps] at hx
          exact ⟨[o], s, List.cons_prefix_cons.mpr ⟨rfl, List.nil_prefix⟩, (hcons []).trans hs,
            List.mem_singleton.mp hx⟩
      · obtain ⟨p, s, hp, hst, hx'⟩ := ih x hx
        exact ⟨o :: p, s, List.cons_prefix_cons.mpr ⟨rfl, hp⟩, (hcons p).trans hst, hx'⟩
  case running =>
    induction hv with
    | stopped | ranOut => exact fun p hp hne => absurd (List.prefix_nil.mp hp) hne
    | step h0 hcons _ _ ih =>
      exact C05.forall_proper_prefix_cons h0 (fun p hp hne s hst => ih p hp hne s ((hcons p).symm.trans hst))
  case done =>
    induction hv with
    | stopped _ _ hs hg => exact fun st hst => by cases hst; exact ⟨hs, hg, [], rfl⟩
    | ranOut => exact fun _ h => nomatch h
    | @step stf stf' o outs used sv v h0 hcons hsv _ ih =>
      intro st hst
      obtain ⟨h1, h2, pre, h3⟩ := ih st hst
      exact ⟨(hcons used).trans h1, h2, .call i :: (sv ++ pre), by
        rw [h3, List.cons_append, List.append_assoc]⟩
  case failed =>
    induction hv with
    | stopped => exact fun _ h => nomatch h
    | ranOut => exact fun e he => ⟨(Except.error.inj he).symm, rfl⟩
    | step _ _ _ _ ih => exact ih
  case stuck =>
    induction hv with
    | stopped => exact fun _ h => nomatch h
    | @ranOut stf c h0 =>
      intro _ _
      cases hs : stf [] with
      | none => exact .inl rfl
      | some s => exact .inr ⟨s, rfl, h0 s hs⟩
    | @step stf stf' o outs used sv v h0 hcons hsv _ ih => exact fun e he => hcons used ▸ ih e he
  case log =>
    induction hv with
    | stopped => exact callLog_map_part i _
    | ranOut => rfl
    | step _ _ hsv _ ih =>
      refine congrArg (i :: ·) ((callLog_append ..).trans ?_ |>.trans ih)
      rcases hsv with rfl | ⟨s, -, rfl⟩
      · rfl
      · exact congrArg (· ++ _) (callLog_map_part i _)

theorem runVarC_spec [DecidableEq T] (cfg : Cfg R T) (i : Nat) (d : Disk R T) (c : Clock)
    (outs : List (Outcome R)) (hl : LoadsOk cfg d i) :
    ∃ used, VarSpec cfg i (stateOf cfg.merge (startOf cfg d i)) outs (runVarC cfg i d c outs) used ∧
      callLog (runVarC cfg i d c outs).trace = List.replicate used.length i := by
  rcases runVarC_ran cfg i d c outs with ⟨e, he⟩ | ⟨used, hv⟩
  · exact absurd he (hl e)
  · exact ⟨used, hv.spec⟩

theorem VarSpec.isVarRun {cfg : Cfg R T} {i : Nat} {start : Option (R × Nat)} {outs : List (Outcome R)}
    {v : VarRun R T} {used : List (Outcome R)}
    (hs : VarSpec cfg i (stateOf cfg.merge start) outs v used) (st : VarState R) (h : v.res = .ok st) :
    IsVarRun cfg.merge cfg.repMax (cfg.keep i) start used st :=
  ⟨(hs.done st h).1, (hs.done st h).2.1, hs.running⟩

theorem VarSpec.final_main {cfg : Cfg R T} {i : Nat} {stf : List (Outcome R) → Option (VarState R)}
    {outs : List (Outcome R)} {v : VarRun R T} {used : List (Outcome R)}
    (hs : VarSpec cfg i stf outs v used) (st : VarState R) (h : v.res = .ok st) (d : Disk R T) :
    ((d.applyAll v.trace).part i).main = .valid (partOf cfg i st) := by
  obtain ⟨_, _, pre, hpre⟩ := hs.done st h
  rw [Disk.applyAll_part, hpre, partOps_append, partOps_saveEvs, Slot.applyAll_append,
    Slot.applyAll_saveOps_main]

end PyPhysim.C07
