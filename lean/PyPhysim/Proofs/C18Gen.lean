import Mathlib.Tactic.Ring
import PyPhysim.Proofs.C18Complex
import PyPhysim.Generated.C18Formulas

/-!
C18 — what the bridge theorems of `Properties/C18.lean` between the formulas
regenerated from the current source (`PyPhysim.Generated.C18`, emitted by
`harness/gen/c18f.py`) and the hand model `PyPhysim.Cazac` need: Python integer
and list operations on naturals, the decision of `RootSequence.__init__` in
normal form, the estimator pipeline with the regenerated sizes.
-/
namespace PyPhysim.C18P
open PyPhysim.Cazac PyPhysim.Proto PyPhysim.C18Py
namespace Gen
open PyPhysim.Generated.C18

/-- a phase in radians that is `2π` times the model's phase in turns gives the model's value -/
theorem expi_eq_cis (x : ℝ) (q : ℚ) (h : x = 2 * Real.pi * (q : ℝ)) :
    Complex.exp (Complex.I * (x : ℂ)) = (CisOps.cis q : ℂ) := by
  rw [cis_complex_def, h]
  congr 1
  push_cast
  ring

theorem fdiv_natCast (a b : ℕ) : Int.fdiv (a : ℤ) (b : ℤ) = ((a / b : ℕ) : ℤ) :=
  Int.fdiv_eq_ediv_of_nonneg _ (Int.natCast_nonneg b)

theorem fmod_natCast (a b : ℕ) : Int.fmod (a : ℤ) (b : ℤ) = ((a % b : ℕ) : ℤ) :=
  Int.fmod_eq_emod_of_nonneg _ (Int.natCast_nonneg b)

theorem sliceTo_natCast {β : Type} (root : List β) (m : ℕ) : sliceTo root (m : ℤ) = root.take m := by
  rw [sliceTo, if_pos (Int.natCast_nonneg m), Int.toNat_natCast]

/-- a negative stop counts from the end -/
theorem sliceTo_neg {β : Type} (root : List β) {a b : ℕ} (h : a < b) :
    sliceTo root ((a : ℤ) - (b : ℤ)) = root.take (root.length + a - b) := by
  rw [sliceTo, if_neg (Int.not_le.mpr (Int.sub_neg_of_lt (Int.ofNat_lt.mpr h))), ← Int.add_sub_assoc,
    ← Nat.cast_add, Int.toNat_sub]

theorem listRepeat_natCast {β : Type} (l : List β) (k : ℕ) :
    listRepeat l (k : ℤ) = (List.replicate k l).flatten := by
  rw [listRepeat, Int.toNat_natCast]

theorem listRepeat_one {β : Type} (l : List β) : listRepeat l (1 : ℤ) = l :=
  List.append_nil l

theorem sizeRule_eq (size nzc : ℕ) :
    sizeRule (size : ℤ) (nzc : ℤ) =
      if size < nzc then .error .AttributeError
      else if size > 24 then .ok (.zc (decide (size > nzc)))
      else if size = 12 then .ok .table1 else if size = 24 then .ok .table2
      else .error .AttributeError := by
  simp only [sizeRule, gt_iff_lt, ← Nat.cast_ofNat (R := ℤ), Int.ofNat_lt, Int.natCast_inj]
  -- the two sides differ only in how the `.zc` branch spells `size > nzc`
  by_cases hc : nzc < size
  · rw [decide_eq_true hc, if_pos hc]
  · rw [decide_eq_false hc, if_neg hc]

theorem sizes_eq (m N K : ℕ) :
    (ifftSize (m : ℤ) (N : ℤ) (K : ℤ)).toNat = N ∧ (keptTaps (m : ℤ) (N : ℤ) (K : ℤ)).toNat = K + 1 ∧
      (fftSize (m : ℤ) (N : ℤ) (K : ℤ)).toNat = m * N :=
  ⟨Int.toNat_natCast _, Int.toNat_natCast (K + 1), by rw [fftSize, ← Nat.cast_mul, Int.toNat_natCast]⟩

theorem normScale_eq {α : Type} [Mul α] (b : Bool) (N H : α) :
    normScale b N H = if b then H * N else H := by
  cases b <;> rfl

theorem estimate1_generated {α : Type} [Add α] [Sub α] [Mul α] [Div α] [Neg α] [Zero α] [NatCast α]
    [CisOps α] (r : List α) (b : Bool) (m : ℕ) (Y : List α) (K : ℕ) :
    estimate1 r b m Y K =
      if Y.length ≠ r.length then .error .ValueError
      else if m * r.length = 0 then .error .ValueError
      else .ok ((fftPad ((ifftN (List.zipWith (fun a c => CisOps.conj a * c) r Y)
          (ifftSize (m : ℤ) (r.length : ℤ) (K : ℤ)).toNat).take (keptTaps (m : ℤ) (r.length : ℤ) (K : ℤ)).toNat)
          (fftSize (m : ℤ) (r.length : ℤ) (K : ℤ)).toNat).map (normScale b ((r.length : ℕ) : α))) := by
  obtain ⟨e1, e2, e3⟩ := sizes_eq m r.length K
  rw [e1, e2, e3, estimate1]
  cases b
  · -- without normalisation the scale is the identity
    rw [show normScale false ((r.length : ℕ) : α) = id from rfl, List.map_id]
    rfl
  · rfl

end Gen
end PyPhysim.C18P
