import PyPhysim.Proofs.C19Geom
import PyPhysim.Model.C19Spec
import Mathlib.Data.List.Basic
import Mathlib.Tactic.Linarith

/-! C19 — what placing a polygon does.  `Shape.vertices` is `v ↦ pos + u·v` with `|u| = 1`: it keeps
distances and areas (`cross`), hence star-shapedness; it commutes with convex combinations, hence with
hulls, and a translation with segments; it is injective; and two copies of a polygon that lies inside a
slab are separated by a line when their centres are a slab width apart. -/
namespace PyPhysim.C19

section lists
variable {β γ : Type}

theorem adjPairs_map (f : β → γ) : ∀ l : List β,
    adjPairs (l.map f) = (adjPairs l).map (fun e => (f e.1, f e.2))
  | [] => rfl
  | [_] => rfl
  | x :: y :: r => congrArg (List.cons (f x, f y)) (adjPairs_map f (y :: r))

theorem cyc_map (f : β → γ) : ∀ l : List β, cyc (l.map f) = (cyc l).map (fun e => (f e.1, f e.2))
  | [] => rfl
  | a :: t => (congrArg (fun l => adjPairs (f a :: l)) List.map_append.symm).trans (adjPairs_map f (a :: t ++ [a]))

end lists

section ring
variable {α : Type} [CommRing α]

theorem place_rel (pos u : Pt α) (base : List (Pt α)) :
    (place pos u base).map (fun v => psub v pos) = base.map (rot u) := by
  simp only [place, List.map_map]
  exact List.map_congr_left fun v _ => by simp only [Function.comp, psub, padd, add_sub_cancel_left]

theorem combo_place (c u : Pt α) : ∀ (ws : List α) (vs : List (Pt α)), ws.length = vs.length →
    combo ws (place c u vs) = padd (smul (sumL ws) c) (rot u (combo ws vs))
  | [], [], _ => by simp only [combo, sumL, padd, smul, rot, cmul, Nat.cast_zero, zero_mul, sub_self, add_zero]
  | w :: ws, v :: vs, h => by
    rw [place, List.map_cons, combo, combo, sumL, ← place, combo_place c u ws vs (Nat.succ.inj h)]
    simp only [padd, smul, rot, cmul]
    congr 1 <;> ring

theorem place_injective {pos u : Pt α} (hu : norm2 u = 1) {a b : List (Pt α)} (h : place pos u a = place pos u b) :
    a = b := by
  have hl : Function.LeftInverse (fun w => rot (conj u) (psub w pos)) (fun v => padd pos (rot u v)) := fun v => by
    simp only [psub, padd, add_sub_cancel_left, Prod.mk.eta, rot_conj_rot, hu, smul, one_mul]
  exact List.map_injective_iff.mpr hl.injective h

theorem onSegment_padd [LE α] (pos : Pt α) {a b q : Pt α} :
    OnSegment a b (padd pos q) ↔ OnSegment (psub a pos) (psub b pos) q := by
  simp only [OnSegment, padd, psub, smul, Prod.ext_iff, sub_sub_sub_cancel_right, sub_add_eq_add_sub,
    eq_sub_iff_add_eq']

end ring

section orderedRing
variable {α : Type} [CommRing α] [LinearOrder α]

theorem starCCW_rot (base : List (Pt α)) (u : Pt α) (hu : norm2 u = 1) (h : StarCCW base) :
    StarCCW (base.map (rot u)) := by
  intro e he
  rw [cyc_map] at he
  obtain ⟨e0, he0, rfl⟩ := List.mem_map.mp he
  have := h e0 he0
  simp only [cross_rot, hu, one_mul]
  exact this

theorem inHull_place (c u : Pt α) (hu : norm2 u = 1) (vs : List (Pt α)) (p : Pt α) :
    InHull (place c u vs) p ↔ InHull vs (rot (conj u) (psub p c)) := by
  have hl : (place c u vs).length = vs.length := List.length_map _
  constructor
  · rintro ⟨ws, hlen, hnn, hs, rfl⟩
    refine ⟨ws, hlen.trans hl, hnn, hs, ?_⟩
    rw [combo_place c u ws vs (hlen.trans hl), hs, Nat.cast_one]
    have : psub (padd (smul 1 c) (rot u (combo ws vs))) c = rot u (combo ws vs) := by
      simp only [psub, padd, smul, one_mul, add_sub_cancel_left]
    rw [this, rot_conj_rot, hu]
    simp only [smul, one_mul]
  · rintro ⟨ws, hlen, hnn, hs, hc⟩
    refine ⟨ws, hlen.trans hl.symm, hnn, hs, ?_⟩
    rw [combo_place c u ws vs hlen, hs, hc, rot_rot_conj, hu, Nat.cast_one]
    simp only [padd, smul, psub, one_mul, add_sub_cancel]

variable [IsStrictOrderedRing α]

/-- the separating line of all cell shapes: a polygon inside the slab `|e·v| ≤ h` is placed with one rotation
    around two centres whose difference, in the frame of the polygon, is `δ`; if `δ` is at least `2h` long along
    `e`, in either sense, the line halfway cuts the two copies apart -/
theorem place_separated {base : List (Pt α)} {u : Pt α} (e : Pt α) {ci cj δ : Pt α} (h : α) (hu : norm2 u = 1)
    (he : 0 < norm2 e) (hsup : ∀ v ∈ base, |dot e v| ≤ h) (hsub : psub cj ci = rot u δ)
    (hd : 2 * h ≤ |dot e δ|) : Separated (place ci u base) (place cj u base) := by
  -- turn `e` round if `δ` points the other way
  obtain ⟨e, he, hsup, hd⟩ : ∃ e : Pt α, 0 < norm2 e ∧ (∀ v ∈ base, |dot e v| ≤ h) ∧ 2 * h ≤ dot e δ := by
    rcases le_abs.mp hd with hd | hd
    · exact ⟨e, he, hsup, hd⟩
    · refine ⟨smul (-1) e, by rwa [norm2_smul, neg_mul_neg, one_mul, one_mul], fun v hv => ?_,
        by rwa [dot_smul_left, neg_one_mul]⟩
      rw [dot_smul_left, neg_one_mul, abs_neg]
      exact hsup v hv
  have key : ∀ c v, dot (rot u e) (padd c (rot u v)) = dot (rot u e) c + dot e v := by
    intro c v
    rw [dot_padd, dot_rot, hu, one_mul]
  rw [← one_mul (dot e δ), ← hu, ← dot_rot, ← hsub, dot_psub] at hd
  refine ⟨rot u e, dot (rot u e) ci + h, by rwa [norm2_rot, hu, one_mul, Nat.cast_zero], ?_, ?_⟩ <;>
    simp only [place, List.forall_mem_map, key] <;> intro v hv
  · exact add_le_add_right (abs_le.mp (hsup v hv)).2 _
  · linarith only [hd, (abs_le.mp (hsup v hv)).1]

end orderedRing

end PyPhysim.C19
