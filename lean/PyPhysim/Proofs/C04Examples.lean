import PyPhysim.Proofs.C04Filters

/-!
Concrete non-trivial values satisfying the hypotheses of the C04 theorems
(non-vacuity witnesses): a 2×1 channel `[1, j]ᵀ` with its pseudo-inverse, and a
2×1 channel `[2, 0]ᵀ` with its SVD and GMD factors, and the noise variance `4·10⁻¹²` of the
MMSE examples.  (A third, `Ex.H3 = diag(4, 1)` with its full SVD, is in `C04GmdFromSvd`, which
has the C20 example it is built from.)
-/
namespace PyPhysim.C04.Ex
open PyPhysim.C04 Matrix

noncomputable def H : Mat ℂ 2 1 := fun i _ => if i.val = 0 then 1 else Complex.I
noncomputable def G : Mat ℂ 1 2 := fun _ j => if j.val = 0 then 1 / 2 else -Complex.I / 2

/-- `[1, j]ᵀ` is a single column of squared norm `2`, and `G` is half its conjugate transpose -/
theorem pinv_contract : FullColRank H ∧ IsPinv H G := by
  have hgram : matMul (cT H) H = smul 2 eye := by
    funext i j
    simp [matMul, sumFin, cT, conj_def, H, smul, eye, Subsingleton.elim i j, one_add_one_eq_two]
  have hG : G = smul 2⁻¹ (cT H) := by
    funext i j
    unfold G smul cT H
    split <;> simp [conj_def, div_eq_inv_mul]
  exact ⟨fullColRank_of_gram_smul two_ne_zero hgram, hG ▸ isPinv_of_gram_smul two_ne_zero hgram⟩

def H2 : Mat ℂ 2 1 := fun i _ => if i.val = 0 then 2 else 0
def U2 : Mat ℂ 2 1 := fun i _ => if i.val = 0 then 1 else 0
def S2 : Vec ℂ 1 := fun _ => 2
def VH2 : Mat ℂ 1 1 := fun _ _ => 1
def Q2 : Mat ℂ 2 2 := fun i j => if i = j then 1 else 0
def P2 : Mat ℂ 1 1 := fun _ _ => 1

theorem H2_fullColRank : FullColRank H2 := fullColRank_col ⟨0, two_ne_zero⟩

theorem one_eq_eye : (fun _ _ => 1 : Mat ℂ 1 1) = eye :=
  funext fun i => funext fun j => (if_pos (Subsingleton.elim i j)).symm

theorem svd_contract :
    matMul (matMul U2 (diagM S2)) VH2 = H2 ∧ matMul (cT U2) U2 = eye ∧ matMul VH2 (cT VH2) = eye := by
  refine ⟨?_, ?_, ?_⟩
  · rw [show VH2 = eye from one_eq_eye, matMul_eye]
    funext i j
    simp [matMul, sumFin, diagM, U2, S2, H2, Subsingleton.elim j 0]
  · funext i j
    simp [matMul, sumFin, cT, conj_def, U2, eye, Subsingleton.elim i j]
  · rw [show VH2 = eye from one_eq_eye, cT_eye, eye_matMul]

theorem gmd_contract :
    matMul (matMul Q2 H2) (cT P2) = H2 ∧ matMul (cT P2) P2 = eye := by
  rw [show P2 = eye from one_eq_eye, cT_eye, matMul_eye, eye_matMul]
  exact ⟨eye_matMul H2, rfl⟩

/-- the tiny noise variance `4·10⁻¹²` of the MMSE examples is positive -/
theorem tiny_pos : (0 : ℝ) < 4e-12 := by positivity

end PyPhysim.C04.Ex
