import Mathlib.LinearAlgebra.Matrix.NonsingularInverse
import PyPhysim.Proofs.C20Bridge

/-!
The model's matrix operations obey the laws of matrix algebra, stated in the model's own vocabulary
(each law is Mathlib's, carried across the bridge once), and the projector `projWith G A = A G Aᴴ`
reasoned about with these laws alone.  `G` is *any* left inverse of `Aᴴ A` (the contract of
`np.linalg.inv`).  Differences and scalar multiples of model matrices are those of the function
type `Fin m → Fin n → K` (`msub_eq`, `smul_eq`), so `sub_self`, `add_sub_cancel` … apply as they are.
-/
namespace PyPhysim.LinAlg
open Matrix

section laws
variable {K : Type} [CommRing K] {m k n l : Nat} (A : Mat K m k) (B : Mat K k n) (C : Mat K n l) (c : K)

theorem msub_eq (A B : Mat K m n) : msub A B = A - B := rfl

theorem smul_eq : smul c A = c • A := rfl

theorem matMul_assoc : matMul (matMul A B) C = matMul A (matMul B C) :=
  toM_inj <| by rw [toM_matMul, toM_matMul, toM_matMul, toM_matMul, Matrix.mul_assoc]

theorem matMul_eye : matMul A eye = A :=
  toM_inj <| by rw [toM_matMul, toM_eye, Matrix.mul_one]

theorem eye_matMul : matMul eye A = A :=
  toM_inj <| by rw [toM_matMul, toM_eye, Matrix.one_mul]

-- `toM (B - B')` is `toM B - toM B'` by unfolding alone, which `rw` does not see: hence the chain of terms
theorem matMul_sub (B' : Mat K k n) : matMul A (B - B') = matMul A B - matMul A B' :=
  toM_inj <| (toM_matMul A _).trans <| (Matrix.mul_sub ..).trans <|
    congrArg₂ _ (toM_matMul A B).symm (toM_matMul A B').symm

theorem sub_matMul (A' : Mat K m k) : matMul (A - A') B = matMul A B - matMul A' B :=
  toM_inj <| (toM_matMul _ B).trans <| (Matrix.sub_mul ..).trans <|
    congrArg₂ _ (toM_matMul A B).symm (toM_matMul A' B).symm

theorem matMul_smul : matMul A (smul c B) = smul c (matMul A B) :=
  toM_inj <| by rw [toM_matMul, toM_smul, toM_smul, toM_matMul, Matrix.mul_smul]

theorem smul_matMul : matMul (smul c A) B = smul c (matMul A B) :=
  toM_inj <| by rw [toM_matMul, toM_smul, toM_smul, toM_matMul, Matrix.smul_mul]

theorem matMul_eq_eye_comm {A B : Mat K n n} (h : matMul A B = eye) : matMul B A = eye :=
  toM_inj <| by rw [toM_matMul, toM_eye, mul_eq_one_comm.mp (mul_eq_one_toM h)]

theorem diagM_matMul_diagM (d e : Fin n → K) : matMul (diagM d) (diagM e) = diagM fun i => d i * e i :=
  toM_inj <| by rw [toM_matMul, toM_diagM, toM_diagM, toM_diagM, diagonal_mul_diagonal]

/-- the trace of a square model matrix is Mathlib's, taken across the bridge: `trace (toM X)`; it is additive as it
    stands (`toM (A - B) = toM A - toM B` by `rfl`), and cyclic: -/
theorem trace_matMul_comm (A : Mat K m k) (B : Mat K k m) : trace (toM (matMul A B)) = trace (toM (matMul B A)) := by
  rw [toM_matMul, toM_matMul, trace_mul_comm]

/-- the matrix of `reflect`: `1 − 2P = (1 − P) − P`, the complement minus the projector -/
theorem eye_sub_two_smul (P : Mat K m m) : msub eye (smul (1 + 1) P) = eye - P - P := by
  rw [msub_eq, smul_eq, one_add_one_eq_two, two_smul, sub_sub]

theorem matMul_apply_eq_zero {X : Mat K m k} {Y : Mat K k n} {i : Fin m} {j : Fin n}
    (h : ∀ a, X i a * Y a j = 0) : matMul X Y i j = 0 :=
  (sumFin_eq _ _).trans (Finset.sum_eq_zero fun a _ => h a)

variable [StarRing K]

theorem cT_matMul : cT (matMul A B) = matMul (cT B) (cT A) :=
  toM_inj <| by rw [toM_cT, toM_matMul, toM_matMul, conjTranspose_mul]; rfl

theorem cT_cT : cT (cT A) = A :=
  toM_inj <| conjTranspose_conjTranspose _

theorem cT_eye : cT (eye : Mat K n n) = eye :=
  toM_inj <| by rw [toM_cT, toM_eye, conjTranspose_one]

theorem cT_sub (A' : Mat K m k) : cT (A - A') = cT A - cT A' :=
  toM_inj <| conjTranspose_sub _ _

theorem cT_diagM {d : Fin n → K} (hd : ∀ i, star (d i) = d i) : cT (diagM d) = diagM d :=
  toM_inj <| by rw [toM_cT, toM_diagM, diagonal_conjTranspose]; exact congrArg diagonal (funext hd)

/-! The defining equations of the derived operations, for a commutative ring: rewriting with the
    equation lemmas of the definitions themselves would re-synthesise their notation-class instances
    at every step. -/

theorem gram_def : gram A = matMul (cT A) A := rfl

theorem projWith_def (G : Mat K k k) (A : Mat K m k) : projWith G A = matMul (matMul A G) (cT A) := rfl

theorem oprojWith_def (G : Mat K k k) (A : Mat K m k) : oprojWith G A = eye - projWith G A := rfl

end laws

namespace Pf
variable {K : Type} [CommRing K] {m k : Nat}

theorem idem_complement {P E : Mat K m m} (hP : matMul P P = P) (hE : E = eye - P) :
    matMul P E = 0 ∧ matMul E P = 0 ∧ matMul E E = E := by
  have h1 : matMul P E = 0 := by rw [hE, matMul_sub, matMul_eye, hP, sub_self]
  have h2 : matMul E P = 0 := by rw [hE, sub_matMul, eye_matMul, hP, sub_self]
  refine ⟨h1, h2, ?_⟩
  rw [hE] at h1 ⊢
  rw [sub_matMul, eye_matMul, h1, sub_zero]

theorem sub_idem_sq {P E : Mat K m m} (hP : matMul P P = P) (hE : matMul E E = E) (h1 : matMul P E = 0)
    (h2 : matMul E P = 0) : matMul (E - P) (E - P) = E + P := by
  rw [sub_matMul, matMul_sub, matMul_sub, hE, h2, h1, hP, sub_zero, zero_sub, sub_neg_eq_add]

variable [StarRing K]

theorem gram_isometry {n r : Nat} {U : Mat K m n} (X : Mat K n r) (hU : matMul (cT U) U = eye) :
    gram (matMul U X) = gram X := by
  rw [gram_def, cT_matMul, matMul_assoc, ← matMul_assoc (cT U), hU, eye_matMul, ← gram_def]

/-- Pythagoras for the residual `Y − Q (Qᴴ Y)` of the projection onto orthonormal columns -/
theorem gram_residual {p r : Nat} {Q : Mat K m p} {Y : Mat K m r} {N : Mat K p r}
    (hQ : matMul (cT Q) Q = eye) (hN : matMul (cT Q) Y = N) : gram (Y - matMul Q N) = gram Y - gram N := by
  have hN' := congrArg cT hN
  rw [cT_matMul, cT_cT] at hN'
  rw [gram_def, cT_sub, cT_matMul, sub_matMul, matMul_sub, matMul_sub, ← matMul_assoc (cT Y), hN', matMul_assoc (cT N),
    hN, matMul_assoc (cT N), ← matMul_assoc (cT Q), hQ, eye_matMul, sub_self, sub_zero, ← gram_def, ← gram_def]

/-- `W = Q diag(d)` whitens `C` when `Qᴴ Q = 1`, `C Q = Q diag(L)`, `d` real and `dᵢ Lᵢ dᵢ = 1`:
    `Wᴴ C W = D Qᴴ (C Q) D = D (Qᴴ Q) diag(L) D = D diag(L) D` -/
theorem whiten_of_diag {n : Nat} {C Q : Mat K n n} {L d : Fin n → K}
    (hQ : matMul (cT Q) Q = eye) (hC : matMul C Q = matMul Q (diagM L)) (hd : ∀ i, star (d i) = d i)
    (h1 : ∀ i, d i * (L i * d i) = 1) :
    matMul (matMul (cT (matMul Q (diagM d))) C) (matMul Q (diagM d)) = eye := by
  rw [cT_matMul, cT_diagM hd, matMul_assoc, matMul_assoc, ← matMul_assoc C, hC, matMul_assoc Q, ← matMul_assoc (cT Q),
    hQ, eye_matMul, diagM_matMul_diagM, diagM_matMul_diagM]
  exact congrArg diagM (funext h1)

section proj
variable {A : Mat K m k} {G : Mat K k k} (hG : matMul G (gram A) = eye)
include hG

/-- `hG`, conjugate-transposed, makes `Gᴴ` a right inverse of the Gram matrix: `Gᴴ = (G Aᴴ A) Gᴴ = G (Aᴴ A Gᴴ) = G` -/
theorem inv_gram_herm : cT G = G := by
  have h := congrArg cT hG
  rw [gram_def, cT_matMul, cT_matMul, cT_cT, cT_eye, ← gram_def] at h
  rw [← eye_matMul (cT G), ← hG, matMul_assoc, h, matMul_eye]

theorem projWith_herm : cT (projWith G A) = projWith G A := by
  rw [projWith_def, cT_matMul, cT_matMul, cT_cT, inv_gram_herm hG, matMul_assoc]

theorem projWith_fixes : matMul (projWith G A) A = A := by
  rw [projWith_def, matMul_assoc, matMul_assoc, ← gram_def, hG, matMul_eye]

theorem cT_mul_projWith : matMul (cT A) (projWith G A) = cT A := by
  have h := congrArg cT (projWith_fixes hG)
  rwa [cT_matMul, projWith_herm hG] at h

/-- Uniqueness of the orthogonal projector onto the column space of `A`: `P_A P = P` and `P P_A = P_A`;
    the first equation, conjugate-transposed, is `P P_A = P`. -/
theorem projWith_unique {P : Mat K m m} (X : Mat K k m) (hH : cT P = P) (hfix : matMul P A = A)
    (hX : P = matMul A X) : P = projWith G A := by
  have h1 : matMul (projWith G A) P = P := by
    rw [hX, ← matMul_assoc, projWith_fixes hG]
  have h2 : matMul P (projWith G A) = projWith G A := by
    rw [projWith_def, ← matMul_assoc, ← matMul_assoc, hfix]
  have h3 := congrArg cT h1
  rw [cT_matMul, hH, projWith_herm hG, h2] at h3
  exact h3.symm

end proj

theorem projWith_eq_of_same_span {p q : Nat} {A : Mat K m p} {B : Mat K m q} {GA : Mat K p p} {GB : Mat K q q}
    (T : Mat K q p) (T' : Mat K p q) (hGA : matMul GA (gram A) = eye) (hGB : matMul GB (gram B) = eye)
    (hA : A = matMul B T) (hB : B = matMul A T') : projWith GB B = projWith GA A := by
  refine projWith_unique hGA (matMul T' (matMul GB (cT B))) (projWith_herm hGB) ?_ ?_
  · rw [hA, ← matMul_assoc, projWith_fixes hGB]
  · rw [← matMul_assoc, ← hB, projWith_def, matMul_assoc]

theorem projWith_of_qr {p : Nat} (A Q : Mat K m p) (R Ri G : Mat K p p) (hQ : matMul (cT Q) Q = eye)
    (hA : A = matMul Q R) (hR : matMul R Ri = eye) (hG : matMul G (gram A) = eye) :
    matMul Q (cT Q) = projWith G A := by
  -- `Q Qᴴ` is the projector of `Q` itself, whose Gram matrix is `1`, and `Q = A R⁻¹` spans what `A = Q R` spans
  have hP : matMul Q (cT Q) = projWith eye Q := by rw [projWith_def, matMul_eye]
  refine hP.trans (projWith_eq_of_same_span R Ri hG ?_ hA ?_)
  · rw [eye_matMul, gram_def, hQ]
  · rw [hA, matMul_assoc, hR, matMul_eye]

end Pf
end PyPhysim.LinAlg
