import PyPhysim.Proofs.C06

/-! C06: the representation invariant under which the `merge` re-emitted from `results.py`
(`PyPhysim.Generated.C06`) is compared with the hand model, and the tree of assertions the source
runs in each type's branch, stated for arbitrary returned records. -/
namespace PyPhysim.C06M
open PyPhysim.Proto

/-- The record represents a Python `Result` object: the attribute `_value` is *either* a number
    (`value`; the array component stays `[]`) *or*, for a CHOICE result, an integer array (`counts`;
    the number component stays `0`).  The constructor establishes it, `update` and `merge` keep it.
    The first conjunct is `Shaped r` of Proofs/C06, unfolded. -/
def OneValue (r : Res) : Prop := (r.ty ≠ .choice → r.counts = []) ∧ (r.ty = .choice → r.value = 0)

instance (r : Res) : Decidable (OneValue r) := by unfold OneValue; exact inferInstance

/-- The assertions of `_assert_can_merge` as the source nests them in the branch of a type `t` whose array
    length is not compared; `X` / `Y` are what the branch returns with / without extending the value lists. -/
theorem merge_of_tests {a b : Res} {t : Ty} (hta : a.ty = t) (X Y : Res)
    (hl : b.ty = t → a.counts.length = b.counts.length)
    (hX : b.ty = t → a.acc = true → X = mergeCore a b) (hY : b.ty = t → a.acc = false → Y = mergeCore a b) :
    (if b.ty = t then
        if a.name = b.name then
          if a.acc = true then
            if b.acc = true then (X, none) else (a, some PyErr.AssertionError)
          else (Y, none)
        else (a, some .AssertionError)
      else (a, some .AssertionError)) = merge a b := by
  subst hta
  by_cases ht : b.ty = a.ty
  swap
  · rw [if_neg ht, merge_rejected (.inl (Ne.symm ht))]
  by_cases hn : a.name = b.name
  swap
  · rw [if_pos ht, if_neg hn, merge_rejected (.inr (.inl hn))]
  rw [if_pos ht, if_pos hn]
  cases ha : a.acc
  · rw [if_neg Bool.false_ne_true,
      merge_okL ⟨hn, ht.symm, fun h => absurd (ha.symm.trans h) Bool.false_ne_true, hl ht⟩, hY ht ha]
  · rw [if_pos rfl]
    cases hb : b.acc
    · rw [if_neg Bool.false_ne_true, merge_rejected (.inr (.inr (.inl ⟨ha, hb⟩)))]
    · rw [if_pos rfl, merge_okL ⟨hn, ht.symm, fun _ => hb, hl ht⟩, hX ht ha]

/-- the CHOICE branch compares the array lengths last -/
theorem merge_of_tests_choice {a b : Res} (hta : a.ty = .choice) (X Y : Res)
    (hX : b.ty = .choice → a.acc = true → X = mergeCore a b)
    (hY : b.ty = .choice → a.acc = false → Y = mergeCore a b) :
    (if b.ty = .choice then
        if a.name = b.name then
          if a.acc = true then
            if b.acc = true then
              if a.counts.length = b.counts.length then (X, none) else (a, some PyErr.AssertionError)
            else (a, some .AssertionError)
          else
            if a.counts.length = b.counts.length then (Y, none) else (a, some .AssertionError)
        else (a, some .AssertionError)
      else (a, some .AssertionError)) = merge a b := by
  by_cases hl : a.counts.length = b.counts.length
  · simp only [if_pos hl]
    exact merge_of_tests hta X Y (fun _ => hl) hX hY
  · simp only [if_neg hl, ite_self]
    rw [merge_rejected]
    by_cases ht : a.ty = b.ty
    · exact .inr (.inr (.inr ⟨hta, hl⟩))
    · exact .inl ht

namespace Gen

theorem res_ext {a b : Res} (h1 : a.name = b.name) (h2 : a.ty = b.ty) (h3 : a.value = b.value)
    (h4 : a.counts = b.counts) (h5 : a.total = b.total) (h6 : a.rsum = b.rsum) (h7 : a.rsq = b.rsq)
    (h8 : a.n = b.n) (h9 : a.acc = b.acc) (h10 : a.vlist = b.vlist) (h11 : a.tlist = b.tlist) : a = b := by
  cases a; cases b; simp_all

end Gen
end PyPhysim.C06M
