import PyPhysim.Proofs.C06
import PyPhysim.Proofs.C06Heap

/-! C06: `combine_simulation_results` — what a re-created result keeps (`strip`), the law of one parameter
combination, what the two loops compute (`combineName_spec`, `combineRows_spec`), and the one case analysis of
the call (`combine_cases`): it raises and changes nothing, or it extends the heap by the new rows and one
object that denotes them (`allocRows_eq`). -/
namespace PyPhysim.C06M
open PyPhysim.Proto

/-- a result as `combine_simulation_results` re-creates it: no accumulated value lists -/
def strip (r : Res) : Res := { r with acc := false, vlist := [], tlist := [] }

theorem mergeCore_fresh_left (r : Res) (hs : Shaped r) :
    mergeCore (fresh r.name r.ty false r.counts.length) r = strip r := by
  by_cases hm : r.ty = .misc
  · rw [mergeCore_misc _ r (show (fresh r.name r.ty false r.counts.length).ty = .misc from hm)]
    rfl
  · rw [mergeCore_add _ r (show (fresh r.name r.ty false r.counts.length).ty ≠ .misc from hm),
      fresh_counts false hs, List.zipWith_comm_of_comm Nat.add_comm, zipWith_add_zeros]
    simp [fresh, strip]

theorem mergeCore_strip_left (a b : Res) : mergeCore (strip a) b = strip (mergeCore a b) := by
  by_cases hm : a.ty = .misc
  · rw [mergeCore_misc _ b (show (strip a).ty = .misc from hm), mergeCore_misc a b hm]; rfl
  · rw [mergeCore_add _ b (show (strip a).ty ≠ .misc from hm), mergeCore_add a b hm]; rfl

theorem strip_update (r : Res) (o : Obs) : strip (update r o).1 = (update (strip r) o).1 := by
  by_cases h : validObs r o
  · unfold validObs at h
    cases hty : r.ty
    · simp [update, strip, hty]
    · rw [hty] at h
      obtain ⟨t, ht, h0⟩ := h
      simp [update, strip, hty, ht, h0]
    · simp [update, strip, hty]
    · rw [hty] at h
      obtain ⟨i, hi⟩ := Option.isSome_iff_exists.mp h.2
      simp [update, strip, hty, h.1, hi]
  · -- `validObs (strip r) o` is `validObs r o`: both calls raise and return their object
    rw [(update_invalid h).2, (update_invalid (r := strip r) h).2]

theorem strip_foldUpd (r : Res) (xs : List Obs) : strip (foldUpd r xs) = foldUpd (strip r) xs := by
  induction xs generalizing r with
  | nil => rfl
  | cons o xs ih => rw [foldUpd_cons, foldUpd_cons, ih, strip_update]

theorem strip_fresh (nm : String) (ty : Ty) (acc : Bool) (k : Nat) :
    strip (fresh nm ty acc k) = fresh nm ty false k := rfl

theorem mergeIfPresent_absent {m : Mach} {f : Res} {l : List Nat} {vals : List (List Rat)}
    {combo : List Rat} (h : packIndex vals combo = .error .ValueError) :
    mergeIfPresent m f l vals combo = .ok f := by
  simp only [mergeIfPresent, h]

theorem mergeIfPresent_present {m : Mach} {f r : Res} {l : List Nat} {vals : List (List Rat)}
    {combo : List Rat} {i a : Nat} (h : packIndex vals combo = .ok i) (hl : l[i]? = some a)
    (hr : m.res[a]? = some r) (hc : CompatL f r) :
    mergeIfPresent m f l vals combo = .ok (mergeCore f r) := by
  simp only [mergeIfPresent, h, hl, hr, merge_okL hc]

theorem compatL_mergeCore_left {f r1 r2 : Res} (hf : f.acc = false) (h1 : CompatL f r1)
    (h2 : CompatL f r2) : CompatL (mergeCore f r1) r2 :=
  ⟨(by rw [mergeCore_name]; exact h2.name), (by rw [mergeCore_ty]; exact h2.ty),
   (fun h => by rw [mergeCore_acc, hf] at h; cases h),
   (by rw [mergeCore_counts_length h1.len]; exact h2.len)⟩

theorem compatL_fresh_foldUpd (nm : String) (ty : Ty) (acc : Bool) (k : Nat) (xs : List Obs) :
    CompatL (fresh nm ty false k) (foldUpd (fresh nm ty acc k) xs) := by
  have h := compat_foldUpd xs (Compat.refl (fresh nm ty acc k))
  exact ⟨(by rw [← h.name]; rfl), (by rw [← h.ty]; rfl), (fun e => absurd e Bool.false_ne_true),
    (by rw [← h.len]; rfl)⟩

theorem combineName_spec (m : Mach) (f : Res) (l1 l2 : List Nat) (v1 v2 : List (List Rat))
    (combos : List (List Rat)) (rs : List Res) (h : combineName m f l1 l2 v1 v2 combos = .ok rs) :
    rs.length = combos.length ∧
      ∀ (k : Nat) (c : List Rat), combos[k]? = some c →
        ∃ r : Res, rs[k]? = some r ∧ cellOf m f l1 l2 v1 v2 c = .ok r := by
  fun_induction combineName m f l1 l2 v1 v2 combos generalizing rs with
  | case1 => cases h; exact ⟨rfl, fun _ _ hc => nomatch hc⟩
  | case2 | case3 | case4 => cases h
  | case5 c0 rest r1 h1 r2 h2 rs' h3 ih =>
    cases h
    obtain ⟨hlen, hk⟩ := ih rs' h3
    refine ⟨congrArg (· + 1) hlen, fun k c hc => ?_⟩
    cases k with
    | zero =>
      cases hc
      exact ⟨r2, rfl, by rw [cellOf, h1]; exact h2⟩
    | succ k => exact hk k c hc

theorem combineRows_spec (m : Mach) (d1 d2 : Dict) (v1 v2 : List (List Rat)) (combos : List (List Rat))
    (names : List String) (rows : List (String × List Res))
    (h : combineRows m d1 d2 v1 v2 combos names = .ok rows) :
    rows.map (·.1) = names ∧
      ∀ row ∈ rows, ∃ l1 l2 a0 tl r0, dictGet? d1 row.1 = some l1 ∧ dictGet? d2 row.1 = some l2
        ∧ listAt m l1 = a0 :: tl ∧ m.res[a0]? = some r0
        ∧ row.2.length = combos.length
        ∧ ∀ (k : Nat) (c : List Rat), combos[k]? = some c →
            ∃ r : Res, row.2[k]? = some r
              ∧ cellOf m (fresh row.1 r0.ty false r0.counts.length) (listAt m l1) (listAt m l2) v1 v2 c = .ok r := by
  fun_induction combineRows m d1 d2 v1 v2 combos names generalizing rows with
  | case1 => cases h; exact ⟨rfl, fun _ h => nomatch h⟩
  | case2 | case3 | case4 | case5 | case7 => cases h
  | case6 nm rest l1 l2 h2 h1 a0 tl h3 r0 h4 rs h5 rows' h6 ih =>
    cases h
    obtain ⟨i1, i2⟩ := ih rows' h6
    exact ⟨congrArg (nm :: ·) i1, List.forall_mem_cons.mpr
      ⟨⟨l1, l2, a0, tl, r0, h1, h2, h3, h4, combineName_spec m _ _ _ _ _ _ rs h5⟩, i2⟩⟩

/-- allocating the rows only extends the heap, and the dictionary it returns denotes the rows — whatever
    SimulationResults objects there are (`combine` appends the new one afterwards) -/
theorem allocRows_eq (m : Mach) (rows : List (String × List Res)) :
    ∃ xs ys d, allocRows m rows = (⟨m.res ++ xs, m.lists ++ ys, m.sims⟩, d)
      ∧ ∀ sims, d.map (fun e => (e.1, viewList ⟨m.res ++ xs, m.lists ++ ys, sims⟩ e.2)) = rows := by
  induction rows generalizing m with
  | nil => exact ⟨[], [], [], by rw [List.append_nil, List.append_nil]; rfl, fun _ => rfl⟩
  | cons row rest ih =>
    obtain ⟨nm, rs⟩ := row
    obtain ⟨xs, ys, d, he, hv⟩ := ih ⟨m.res ++ rs, m.lists ++ [List.range' m.res.length rs.length], m.sims⟩
    dsimp only at he hv
    refine ⟨rs ++ xs, List.range' m.res.length rs.length :: ys, (nm, m.lists.length) :: d, ?_, fun sims => ?_⟩
    · rw [← List.append_assoc, List.append_cons]
      simp only [allocRows, allocAll_eq, allocList, he]
    · rw [← List.append_assoc, List.append_cons, List.map_cons, hv, viewList, listAt,
        List.getElem?_append_left (by rw [List.length_append]; exact Nat.lt_succ_self _),
        List.getElem?_concat_length]
      exact congrArg (fun l => (nm, l) :: rest) filterMap_alloc

theorem combine_cases (m : Mach) (s1 s2 : Nat) :
    (∃ e, combine m s1 s2 = (m, some e))
      ∨ ∃ xs ys d p, combine m s1 s2 = (⟨m.res ++ xs, m.lists ++ ys, m.sims ++ [⟨d, p⟩]⟩, none)
          ∧ ∃ x1 x2, m.sims[s1]? = some x1 ∧ m.sims[s2]? = some x2
              ∧ combineParams x1.params x2.params = .ok p
              ∧ combineRows m x1.dict x2.dict (x1.params.norm.unp.map (·.2)) (x2.params.norm.unp.map (·.2))
                  (product (p.unp.map (·.2))) (x1.dict.map (·.1))
                = .ok (view ⟨m.res ++ xs, m.lists ++ ys, m.sims ++ [⟨d, p⟩]⟩ m.sims.length) := by
  generalize hq : combine m s1 s2 = q
  unfold combine at hq
  split at hq
  · rename_i x1 x2 h1 h2
    split at hq
    · exact .inl ⟨_, hq.symm⟩
    · rename_i p hp
      dsimp only at hq
      split at hq
      · exact .inl ⟨_, hq.symm⟩
      · split at hq
        · exact .inl ⟨_, hq.symm⟩
        · rename_i rows hr
          obtain ⟨xs, ys, d, he, hv⟩ := allocRows_eq m rows
          rw [he] at hq
          refine .inr ⟨xs, ys, d, p, hq.symm, x1, x2, h1, h2, hp, ?_⟩
          rw [view, dictOf, List.getElem?_concat_length, hv]
          exact hr
  · exact .inl ⟨_, hq.symm⟩

end PyPhysim.C06M
