import PyPhysim.Proofs.C02Index

/-!
C02 — structure of the emitted signal and of what the receiver makes of it, for any transform
kernels satisfying the stated contract.  The receiver has a closed form (`unprepare_eq`, `demodulate_eq`): on a
stream of whole blocks it cannot raise, and each value it returns is one used bin of the transform of one block
body over the scale; what that transform finds in an emitted block is `emitted_spectrum`.
-/
-- the sections below declare the operations of the sample type once (`[Zero α] [Add α] [Mul α] [Div α]`);
-- a theorem that only moves samples around does not use all of them
set_option linter.unusedSectionVars false
namespace PyPhysim.C02
open PyPhysim.Proto

/-- Contract of the two external kernels at transform size `N`:
    both return `N` values, `fft(ifft(v)) = v` on vectors of `N` values, and the
    forward transform is homogeneous. (`np.fft` is checked against it numerically;
    the textbook transforms satisfy it: `dft_contract` in `Properties/C02`.) -/
structure KernelPair {α : Type} [Mul α] (N : Nat) (F Finv : Nat → List α → List α) : Prop where
  len_inv : ∀ v, (Finv N v).length = N
  len_fwd : ∀ v, (F N v).length = N
  inv : ∀ v, v.length = N → F N (Finv N v) = v
  homog : ∀ (c : α) v, v.length = N → F N (v.map (fun a => c * a)) = (F N v).map (fun a => c * a)

theorem KernelPair.fwd_scaled_inv {α : Type} [Mul α] {N : Nat} {F Finv : Nat → List α → List α}
    (hK : KernelPair N F Finv) (s : α) (X : List α) (hX : X.length = N) :
    F N ((Finv N X).map (fun v => s * v)) = X.map (fun v => s * v) := by
  rw [hK.homog s _ (hK.len_inv X), hK.inv X hX]

theorem KernelPair.congr {α : Type} [Mul α] {N : Nat} {F Finv F' Finv' : Nat → List α → List α}
    (hK : KernelPair N F Finv) (hF : ∀ a, F' N a = F N a) (hI : ∀ a, Finv' N a = Finv N a) :
    KernelPair N F' Finv' where
  len_inv v := by rw [hI]; exact hK.len_inv v
  len_fwd v := by rw [hF]; exact hK.len_fwd v
  inv v hv := by rw [hF, hI]; exact hK.inv v hv
  homog c v hv := by rw [hF, hF]; exact hK.homog c v hv

section
variable {α : Type} [Zero α]

/-- the input, zero padded to whole OFDM symbols, one row of `used` values per symbol:
    what `_prepare_input_signal` allocates to the used subcarriers -/
def dataRows (p : Params) (x : List α) : List (List α) :=
  rows p.used (numSymbols p x.length) (x ++ List.replicate (p.used * numSymbols p x.length - x.length) 0)

theorem prepare_eq (p : Params) (x : List α) :
    prepare p x = (dataRows p x).map (scatter p.fft (usedIdx p.fft p.used)) := rfl

theorem padded_length (p : Params) (hp : p.Valid) (x : List α) :
    (x ++ List.replicate (p.used * numSymbols p x.length - x.length) (0 : α)).length
      = numSymbols p x.length * p.used := by
  have h := (zeropad_spec p hp x.length).1
  unfold zeropad at h
  rw [List.length_append, List.length_replicate, h, Nat.mul_comm]

theorem dataRows_length (p : Params) (x : List α) : (dataRows p x).length = numSymbols p x.length :=
  rows_length _ _ _

theorem dataRows_row_length (p : Params) (hp : p.Valid) (x : List α) :
    ∀ r ∈ dataRows p x, r.length = p.used :=
  rows_row_length _ _ _ (Nat.le_of_eq (padded_length p hp x).symm)

theorem flatten_dataRows (p : Params) (hp : p.Valid) (x : List α) :
    (dataRows p x).flatten = x ++ List.replicate (zeropad p x.length) 0 :=
  flatten_rows _ _ _ (padded_length p hp x)

theorem prepare_length (p : Params) (x : List α) : (prepare p x).length = numSymbols p x.length := by
  rw [prepare_eq, List.length_map, dataRows_length]

theorem prepare_row_length (p : Params) (x : List α) : ∀ X ∈ prepare p x, X.length = p.fft := by
  intro X hX
  obtain ⟨r, _, rfl⟩ := List.mem_map.mp hX
  exact scatter_length _ _ _

theorem prepare_zero_off_used (p : Params) (x : List α) (X : List α) (hX : X ∈ prepare p x)
    (j : Nat) (hj : j < p.fft) (hn : j ∉ usedIdx p.fft p.used) : X[j]? = some 0 := by
  obtain ⟨r, _, rfl⟩ := List.mem_map.mp hX
  exact scatter_not_mem _ _ _ _ hj hn

/-- `_prepare_decoded_signal` on rows of `fft` values never raises: it reads the used bins -/
theorem unprepare_eq (p : Params) (hp : p.Valid) (Ys : List (List α)) (h : ∀ Y ∈ Ys, Y.length = p.fft) :
    unprepare p Ys = .ok (Ys.map fun Y => (usedIdx p.fft p.used).map (Y.getD · 0)).flatten := by
  rw [unprepare, mapM_ok _ (fun Y => (usedIdx p.fft p.used).map (Y.getD · 0)) _ fun Y hY =>
    gather_eq_map _ _ 0 (by rw [h Y hY]; exact usedIdx_lt p hp)]
  rfl

theorem map_getD_dataRow (p : Params) (hp : p.Valid) (x r : List α) (hr : r ∈ dataRows p x) :
    (usedIdx p.fft p.used).map ((scatter p.fft (usedIdx p.fft p.used) r).getD · 0) = r :=
  map_getD_scatter p.fft _ r (usedIdx_nodup p hp)
    (by rw [usedIdx_length hp.2.2.1, dataRows_row_length p hp x r hr]) (usedIdx_lt p hp)

theorem unprepare_prepare (p : Params) (hp : p.Valid) (x : List α) :
    unprepare p (prepare p x) = .ok (x ++ List.replicate (zeropad p x.length) 0) := by
  rw [unprepare_eq p hp _ (prepare_row_length p x), prepare_eq, List.map_map, ← flatten_dataRows p hp x]
  exact congrArg (fun l => Except.ok (List.flatten l))
    ((List.map_congr_left (map_getD_dataRow p hp x)).trans (List.map_id _))

end

section
variable {α : Type} [Zero α] [Add α] [Mul α] [Div α]

/-- the emitted signal as a list of blocks, one per OFDM symbol -/
def blocks (ifftK : Nat → List α → List α) (s : α) (p : Params) (x : List α) : List (List α) :=
  (prepare p x).map (fun X => addCP p.cp ((ifftK p.fft X).map (fun v => s * v)))

section
variable (fftK ifftK : Nat → List α → List α) (s : α) (p : Params)

theorem modulate_eq_flatten (x : List α) :
    modulate ifftK s p x = (blocks ifftK s p x).flatten := rfl

theorem blocks_length (x : List α) :
    (blocks ifftK s p x).length = numSymbols p x.length := by
  rw [blocks, List.length_map, prepare_length]

theorem blocks_row_length (hp : p.Valid)
    (hk : ∀ v, (ifftK p.fft v).length = p.fft) (x : List α) :
    ∀ b ∈ blocks ifftK s p x, b.length = p.fft + p.cp := by
  intro b hb
  obtain ⟨X, _, rfl⟩ := List.mem_map.mp hb
  rw [addCP_length _ _ (by rw [List.length_map, hk]; exact hp.1), List.length_map, hk]

/-- `Properties/C02.lean` states it again as `modulate_length` -/
theorem modulate_length' (hp : p.Valid)
    (hk : ∀ v, (ifftK p.fft v).length = p.fft) (x : List α) :
    (modulate ifftK s p x).length = numSymbols p x.length * (p.fft + p.cp) := by
  rw [modulate_eq_flatten, length_flatten_uniform _ _ (blocks_row_length ifftK s p hp hk x), blocks_length]

theorem removeCP_ok (hp : p.Valid) (R : Nat) (y : List α)
    (hy : y.length = R * (p.fft + p.cp)) :
    removeCP p y = .ok ((rows (p.fft + p.cp) R y).map (fun r => r.drop p.cp)) := by
  unfold removeCP
  simp only
  rw [if_neg hp.width_ne_zero, hy, Nat.mul_div_cancel _ (Nat.pos_of_ne_zero hp.width_ne_zero),
    if_neg (Decidable.not_not.mpr rfl)]

theorem demodulate_eq (hp : p.Valid) (hk : ∀ v, (fftK p.fft v).length = p.fft) (R : Nat) (y : List α)
    (hy : y.length = R * (p.fft + p.cp)) :
    demodulate fftK s p y = .ok
      (((rows (p.fft + p.cp) R y).map fun b => fftK p.fft (b.drop p.cp)).map fun Y =>
        (usedIdx p.fft p.used).map fun u => Y.getD u 0 / s).flatten := by
  unfold demodulate
  rw [removeCP_ok p hp R y hy]
  simp only
  rw [unprepare_eq p hp _ fun Y hY => by
    obtain ⟨b, _, rfl⟩ := List.mem_map.mp hY
    rw [List.length_map, hk]]
  simp only [List.map_map]
  refine congrArg (fun l => Except.ok (List.flatten l)) (List.map_congr_left fun b _ =>
    List.map_congr_left fun u hu => ?_)
  -- the used bins exist, so reading one commutes with the division
  have hu' : u < (fftK p.fft (b.drop p.cp)).length := by rw [hk]; exact usedIdx_lt p hp u hu
  simp only [Function.comp]
  rw [List.getD_eq_getElem?_getD, List.getD_eq_getElem?_getD, List.getElem?_map, List.getElem?_eq_getElem hu']
  rfl

theorem rows_modulate (hp : p.Valid)
    (hk : ∀ v, (ifftK p.fft v).length = p.fft) (x : List α) :
    rows (p.fft + p.cp) (numSymbols p x.length) (modulate ifftK s p x) = blocks ifftK s p x := by
  have h := rows_flatten _ _ (blocks_row_length ifftK s p hp hk x)
  rwa [blocks_length] at h

end

theorem emitted_spectrum (p : Params) (hp : p.Valid) (F Finv : Nat → List α → List α)
    (hK : KernelPair p.fft F Finv) (s : α) (x : List α) :
    (rows (p.fft + p.cp) (numSymbols p x.length) (modulate Finv s p x)).map
        (fun b => F p.fft (b.drop p.cp))
      = (prepare p x).map (fun X => X.map (fun v => s * v)) := by
  rw [rows_modulate Finv s p hp hK.len_inv, blocks, List.map_map]
  -- the receiver drops the prefix in front of `s · Finv X`, and `F (s · Finv X) = s · X`
  exact List.map_congr_left fun X hX =>
    (congrArg (F p.fft) (drop_addCP p.cp _ (by rw [List.length_map, hK.len_inv]; exact hp.1))).trans
      (hK.fwd_scaled_inv s X (prepare_row_length p x X hX))

end

end PyPhysim.C02
