import Mathlib.Tactic.Ring
import Mathlib.Algebra.Order.Field.Rat
import PyPhysim.Proofs.C06

/-! C06: what the accumulated attributes *are* (first-principles sums), the
variance identity, and the closed form of MISC results. -/
namespace PyPhysim.C06M
open PyPhysim.Proto

/-- two conditional extensions of a value list are one, so the closed forms below need no case split on
    the accumulate flag -/
theorem ite_append_append {α : Type} (c : Bool) (l l₁ l₂ : List α) :
    (if c then (if c then l ++ l₁ else l) ++ l₂ else if c then l ++ l₁ else l)
      = if c then l ++ (l₁ ++ l₂) else l := by
  cases c
  · rfl
  · exact List.append_assoc l l₁ l₂

/-- total of an observation (`0` when not given; only used under `validObs`) -/
def totalOf (o : Obs) : Rat := match o.t with | some t => t | none => 0
/-- the ratio a RATIO observation contributes to the running mean and variance -/
def ratioOf (o : Obs) : Rat := o.v / totalOf o

theorem foldUpd_sum (r : Res) (hty : r.ty = .sum) (xs : List Obs) :
    foldUpd r xs =
      { r with value := r.value + (xs.map (·.v)).sum,
               rsum := r.rsum + (xs.map (·.v)).sum,
               rsq := r.rsq + (xs.map (fun o => o.v * o.v)).sum,
               n := r.n + xs.length,
               vlist := if r.acc then r.vlist ++ xs.map (·.v) else r.vlist } := by
  induction xs generalizing r with
  | nil => cases r; simp [foldUpd]
  | cons o xs ih =>
    rw [foldUpd_cons, ih _ (by rw [update_ty]; exact hty)]
    -- what is left is one `update` of the start record, then sums and lengths reassociate (likewise in
    -- `foldUpd_ratio` and `foldUpd_misc`)
    simp [update, hty, ite_append_append, List.sum_cons, Rat.add_assoc, Nat.add_assoc, Nat.add_comm 1]

theorem foldUpd_ratio (r : Res) (hty : r.ty = .ratio) (xs : List Obs)
    (hv : ∀ o ∈ xs, ∃ t, o.t = some t ∧ t ≠ 0) :
    foldUpd r xs =
      { r with value := r.value + (xs.map (·.v)).sum,
               total := r.total + (xs.map totalOf).sum,
               rsum := r.rsum + (xs.map ratioOf).sum,
               rsq := r.rsq + (xs.map (fun o => ratioOf o * ratioOf o)).sum,
               n := r.n + xs.length,
               vlist := if r.acc then r.vlist ++ xs.map (·.v) else r.vlist,
               tlist := if r.acc then r.tlist ++ xs.map totalOf else r.tlist } := by
  induction xs generalizing r with
  | nil => cases r; simp [foldUpd]
  | cons o xs ih =>
    obtain ⟨t, ht, h0⟩ := hv o List.mem_cons_self
    rw [foldUpd_cons, ih _ (by rw [update_ty]; exact hty) (fun o' ho' => hv o' (List.mem_cons_of_mem _ ho'))]
    simp [update, hty, ht, h0, ratioOf, totalOf, ite_append_append, List.sum_cons, Rat.add_assoc,
      Nat.add_assoc, Nat.add_comm 1]

/-- how many observations selected choice `i` (numpy index normalisation included) -/
def hits (k : Nat) (xs : List Obs) (i : Nat) : Nat :=
  (xs.filter (fun o => pyIndex k o.v.num == some i)).length

theorem update_choice {r : Res} {o : Obs} (hty : r.ty = .choice) (hv : validObs r o) :
    ∃ j, pyIndex r.counts.length o.v.num = some j
      ∧ (update r o).1 = { r with n := r.n + 1, counts := incr r.counts j, total := r.total + 1,
                                  vlist := if r.acc then r.vlist ++ [o.v] else r.vlist } := by
  unfold validObs at hv
  rw [hty] at hv
  obtain ⟨j, hj⟩ := Option.isSome_iff_exists.mp hv.2
  exact ⟨j, hj, by simp [update, hty, hv.1, hj]⟩

theorem hits_cons (k : Nat) (o : Obs) (xs : List Obs) (i : Nat) :
    hits k (o :: xs) i = hits k xs i + if pyIndex k o.v.num = some i then 1 else 0 := by
  simp only [hits, ← List.countP_eq_length_filter, List.countP_cons, beq_iff_eq]

theorem foldUpd_choice_counts (r : Res) (hty : r.ty = .choice) (xs : List Obs)
    (hv : ∀ o ∈ xs, validObs r o) (i : Nat) :
    (foldUpd r xs).counts[i]? = (r.counts[i]?).map (· + hits r.counts.length xs i) := by
  induction xs generalizing r with
  | nil => simp [foldUpd, hits]
  | cons o xs ih =>
    obtain ⟨j, hj, hu⟩ := update_choice hty (hv o List.mem_cons_self)
    rw [foldUpd_cons, ih _ (by rw [update_ty]; exact hty)
      (fun o' ho' => validObs_update.mpr (hv o' (List.mem_cons_of_mem _ ho'))), update_counts_length, hu,
      hits_cons, hj]
    show ((incr r.counts j)[i]?).map _ = _
    rw [incr_getElem?, Option.map_map]
    -- entry `i` gains one exactly when the observation selects it, before or after the other hits are added
    refine congrArg (Option.map · _) (funext fun x => ?_)
    simp only [Function.comp, Option.some.injEq]
    split <;> omega

theorem foldUpd_choice_rest (r : Res) (hty : r.ty = .choice) (xs : List Obs)
    (hv : ∀ o ∈ xs, validObs r o) :
    (foldUpd r xs).n = r.n + xs.length ∧ (foldUpd r xs).total = r.total + (xs.length : Rat)
      ∧ (foldUpd r xs).rsum = r.rsum ∧ (foldUpd r xs).rsq = r.rsq ∧ (foldUpd r xs).value = r.value
      ∧ (foldUpd r xs).vlist = (if r.acc then r.vlist ++ xs.map (·.v) else r.vlist)
      ∧ (foldUpd r xs).tlist = r.tlist := by
  induction xs generalizing r with
  | nil => simp [foldUpd]
  | cons o xs ih =>
    obtain ⟨j, -, hu⟩ := update_choice hty (hv o List.mem_cons_self)
    obtain ⟨h0, h1, h2, h3, h4, h5, h6⟩ := ih (update r o).1 (by rw [update_ty]; exact hty)
      (fun o' ho' => validObs_update.mpr (hv o' (List.mem_cons_of_mem _ ho')))
    rw [foldUpd_cons, h0, h1, h2, h3, h4, h5, h6, hu]
    refine ⟨?_, ?_, rfl, rfl, rfl, ?_, rfl⟩
    · rw [List.length_cons, Nat.add_assoc, Nat.add_comm 1]
    · simp only [List.length_cons]; push_cast; ring
    · exact ite_append_append r.acc r.vlist [o.v] (xs.map (·.v))

theorem sum_sq_dev (l : List Rat) (m : Rat) :
    (l.map (fun x => (x - m) * (x - m))).sum
      = (l.map (fun x => x * x)).sum - 2 * m * l.sum + (l.length : Rat) * (m * m) := by
  induction l with
  | nil => simp
  | cons x xs ih => simp only [List.map_cons, List.sum_cons, List.length_cons, ih]; push_cast; ring

theorem var_identity (l : List Rat) (hl : l ≠ []) :
    (l.map (fun x => x * x)).sum / (l.length : Rat) - (l.sum / (l.length : Rat)) * (l.sum / (l.length : Rat))
      = (l.map (fun x => (x - l.sum / (l.length : Rat)) * (x - l.sum / (l.length : Rat)))).sum
          / (l.length : Rat) := by
  have hn : (l.length : Rat) ≠ 0 := Nat.cast_ne_zero.mpr (fun h => hl (List.length_eq_zero_iff.mp h))
  -- `n` times the mean is the sum; what is left is an identity of polynomials in `1 / n`
  rw [sum_sq_dev, ← mul_assoc, mul_div_cancel₀ _ hn]
  ring

theorem foldUpd_misc (r : Res) (hty : r.ty = .misc) (xs : List Obs) :
    foldUpd r xs =
      { r with value := ((xs.map (·.v)).getLast?).getD r.value, n := r.n + xs.length,
               vlist := if r.acc then r.vlist ++ xs.map (·.v) else r.vlist } := by
  induction xs generalizing r with
  | nil => cases r; simp [foldUpd]
  | cons o xs ih =>
    rw [foldUpd_cons, ih _ (by rw [update_ty]; exact hty)]
    simp [update, hty, ite_append_append, List.getLast?_cons, Nat.add_assoc, Nat.add_comm 1]

/-- the right-most leaf: the chunk that is merged in last -/
def MTree.last {α} : MTree α → α
  | .leaf x => x
  | .node _ r => r.last

theorem evalTree_misc (nm : String) (acc : Bool) (k : Nat) (t : MTree (List Obs)) :
    evalTree (fresh nm .misc acc k) t =
      .ok { fresh nm .misc acc k with
              value := ((t.last.map (·.v)).getLast?).getD 0, n := t.last.length,
              vlist := if acc then t.flatten.map (·.v) else [] } := by
  induction t with
  | leaf xs =>
    have hv : ∀ o ∈ xs, validObs (fresh nm .misc acc k) o := fun _ _ => trivial
    rw [evalTree, foldUpdM_ok hv, foldUpd_misc _ rfl]
    simp [fresh, MTree.last, MTree.flatten]
  | node l r ihl ihr =>
    simp only [evalTree, ihl, ihr, bind, Except.bind]
    refine (mergeM_ok ?_).trans ?_
    · exact ⟨rfl, rfl, rfl, rfl⟩
    rw [mergeCore_misc _ _ rfl]
    cases acc <;> simp [fresh, MTree.last, MTree.flatten]

end PyPhysim.C06M
