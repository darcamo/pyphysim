import PyPhysim.Proofs.C16Dmin
import PyPhysim.Proofs.Gray

/-! Geometric half of C15: pairs at the minimum distance are neighbours.  Over ℝ, two PSK points no
further apart than `2·sin(π/M)` are ring neighbours, because the cosine of their angle drops below
`cos(2π/M)` as soon as the positions are two or more steps apart in both directions round the circle.
On the integer QAM grid the squared distance is four times the sum of the squared column and row
differences (`C16.grid_dist2`), so `4` means they square to `1` and `0` in some order, a single
step along a row or a column. -/
namespace PyPhysim.C15
open PyPhysim.C01 PyPhysim.C16 PyPhysim.Gray

theorem cos_step_lt {θ m x : ℝ} (hθ : 0 < θ) (hm : θ * m = 2 * Real.pi) (h1 : 1 < x) (h2 : x < m - 1) :
    Real.cos (θ * x) < Real.cos θ := by
  refine cos_lt_cos_of_between hθ.le (lt_mul_of_one_lt_right hθ h1) ?_
  have := mul_lt_mul_of_pos_left h2 hθ
  rwa [mul_sub, mul_one, hm] at this

theorem succ_or_wrap_of_cos_le {M p q : Nat} (hpq : p < q) (hq : q < M)
    (h : Real.cos (2 * Real.pi / M) ≤ Real.cos (2 * Real.pi / M * ((q:ℝ) - p))) :
    p + 1 = q ∨ (q + 1 = M ∧ p = 0) := by
  rcases Nat.lt_or_ge (p + 1) q with hfar | hnear
  · rcases Nat.lt_or_ge (q + 1) (M + p) with hwrap | hnowrap
    · have hM : (0:ℝ) < M := Nat.cast_pos.mpr (Nat.zero_lt_of_lt hq)
      refine absurd h (not_le.mpr (cos_step_lt (div_pos Real.two_pi_pos hM) (div_mul_cancel₀ _ hM.ne')
        (lt_sub_iff_add_lt'.mpr ?_) (sub_lt_sub_iff.mpr ?_)))
      · exact (Nat.cast_succ p).symm.trans_lt (Nat.cast_lt.mpr hfar)
      · exact ((Nat.cast_succ q).symm.trans_lt (Nat.cast_lt.mpr hwrap)).trans_eq (Nat.cast_add M p)
    · obtain rfl : p = 0 := Nat.le_zero.mp (Nat.le_of_add_le_add_left (hnowrap.trans hq))
      exact .inr ⟨Nat.le_antisymm hq hnowrap, rfl⟩
  · exact .inl (Nat.le_antisymm hpq hnear)

theorem psk_min_pairs_adjacent (M p₁ p₂ : Nat) (h₁ : p₁ < M) (h₂ : p₂ < M) (hne : p₁ ≠ p₂) (φ : ℝ)
    (hd : dist2 (pskNaturalPoint M p₁ φ) (pskNaturalPoint (α := ℝ) M p₂ φ) ≤ (2 * Real.sin (Real.pi / M)) ^ 2) :
    ringAdjacent M p₁ p₂ = true := by
  rw [psk_dist2, ← two_sub_two_cos, ← mul_div_assoc, sub_le_sub_iff_left,
    mul_le_mul_iff_right₀ (two_pos : (0:ℝ) < 2)] at hd
  rw [ringAdjacent_iff h₁ h₂]
  rcases Nat.lt_or_gt_of_ne hne with hlt | hgt
  · rw [← neg_sub (p₂:ℝ), mul_neg, Real.cos_neg] at hd
    exact (succ_or_wrap_of_cos_le hlt h₂ hd).elim (fun e => Or.inl (Or.inl e)) (fun e => Or.inr (Or.inr e))
  · exact (succ_or_wrap_of_cos_le hgt h₁ hd).elim (fun e => Or.inr (Or.inl e)) (fun e => Or.inl (Or.inr e))

/-- two nonnegative integers with sum `1` are `0` and `1` in some order: a nonnegative integer is `0` or at least `1` -/
theorem zero_one_of_add_eq_one {a b : Int} (ha : 0 ≤ a) (hb : 0 ≤ b) (h : a + b = 1) :
    a = 0 ∧ b = 1 ∨ a = 1 ∧ b = 0 := by
  rcases ha.eq_or_lt with rfl | hpos
  · exact .inl ⟨rfl, (zero_add b).symm.trans h⟩
  · obtain rfl : b = 0 := le_antisymm ((add_le_iff_nonpos_right a).mp (h.trans_le hpos)) hb
    exact .inr ⟨(add_zero a).symm.trans h, rfl⟩

theorem eq_of_sq_sub_eq_zero {x y : Nat} (h : ((x : Int) - y) * ((x : Int) - y) = 0) : x = y :=
  Int.natCast_inj.mp (sub_eq_zero.mp (mul_self_eq_zero.mp h))

theorem succ_of_sub_eq_one {x y : Nat} (h : (x : Int) - y = 1) : y + 1 = x :=
  Int.natCast_inj.mp ((Int.natCast_add_one y).trans (eq_add_of_sub_eq' h).symm)

theorem succ_or_pred_of_sq_sub_eq_one {x y : Nat} (h : ((x : Int) - y) * ((x : Int) - y) = 1) :
    x + 1 = y ∨ y + 1 = x := by
  rcases Int.eq_one_or_neg_one_of_mul_eq_one h with h | h
  · exact .inr (succ_of_sub_eq_one h)
  · exact .inl (succ_of_sub_eq_one (neg_inj.mp ((neg_sub _ _).trans h)))

/-- `4` is the minimum squared distance, the grid step being `2` -/
theorem qam_min_pairs_adjacent {L p q : Nat}
    (h : dist2 (qamGridPoint L p) (qamGridPoint L q) = 4) : gridAdjacent L p q = true := by
  rw [qamGridPoint, qamGridPoint, grid_dist2] at h
  simp only [gridAdjacent, Bool.or_eq_true, Bool.and_eq_true, beq_iff_eq]
  rcases zero_one_of_add_eq_one (mul_self_nonneg _) (mul_self_nonneg _)
    (Int.eq_one_of_mul_eq_self_right four_ne_zero h) with ⟨h0, h1⟩ | ⟨h1, h0⟩
  · exact .inr ⟨eq_of_sq_sub_eq_zero h0, succ_or_pred_of_sq_sub_eq_one h1⟩
  · exact .inl ⟨eq_of_sq_sub_eq_zero h0, succ_or_pred_of_sq_sub_eq_one h1⟩

end PyPhysim.C15
