import PyPhysim.Model.C04Buf
import PyPhysim.Proofs.C04Obj
import PyPhysim.Proofs.C04Round

/-!
Lemmas behind the R15 / R16 theorems of C04.

R15 (distinct values that are merely close): the model is a function of the *exact* value —
a setter stores exactly what it is given (`C04Obj`: `run_state`, `step_setNoiseVar_ok`), the
MMSE / ZF decision is the exact test `0 < σ²`, and two different noise variances, however close,
never share an MMSE filter.

R16 (argument identity and buffer reuse): `Model/C04Buf.lean` — the code keeps the caller's
array; that is invisible as long as the array is handed over again after every
refill (`disciplined_runs_agree`; `channel_kept_by_reference_fails` of Properties/C04 is a history that breaks the rule).
-/
namespace PyPhysim.C04
open Matrix PyPhysim.Proto

namespace Pf
variable {m n : Nat}

/-- the two left-hand sides differ by `(v − v') W` -/
theorem mmse_common_solution {H : Mat ℂ m n} {v v' : ℂ} (hne : v ≠ v') {W : Mat ℂ n m}
    (h : matMul (mmseLhs H v) W = matMul (mmseLhs H v') W) : W = fun _ _ => 0 := by
  rw [mmseLhs_matMul, mmseLhs_matMul] at h
  funext i j
  by_contra hw
  exact hne (mul_right_cancel₀ hw (add_left_cancel (congrFun (congrFun h i) j)))

theorem blastFilterK_pos {nr nt : Nat} (K : Kernels ℂ) (H : Mat ℂ nr nt) (s : ℝ) (hs : 0 < s) :
    toM (blastFilterK K H (s : ℂ)) = (sqrtNat nt : ℂ) • toM (K.solve (mmseLhs H (s : ℂ)) (mmseRhs H)) := by
  rw [blastFilterK, blastFilter_mmse _ hs, toM_smul]

theorem blastFilterK_zero {nr nt : Nat} (K : Kernels ℂ) (H : Mat ℂ nr nt) :
    toM (blastFilterK K H 0) = (sqrtNat nt : ℂ) • toM (K.pinv H) := by
  rw [blastFilterK, blastFilter_zf _ (lt_irrefl _), toM_smul]

end Pf

namespace Buf

theorem disciplined_runs_agree {β : Type} : ∀ (ops : List (BOp β)) (c : CodeSt β) (v : ValSt β) (d : Bool),
    agree c v d → disciplined d ops = true → codeRun c ops = valRun v ops := by
  intro ops
  induction ops with
  | nil => exact fun _ _ _ _ _ => rfl
  | cons op ops ih =>
    -- each step keeps `agree`, with the `dirty` flag that `disciplined` passes on
    intro c v d ⟨hb, hs, ho⟩ hd
    cases op with
    | refill x => exact ih _ _ true ⟨rfl, fun h => (by cases h), ho⟩ hd
    | setBuffer =>
      refine ih _ _ false ⟨hb, fun _ => ?_, fun h => (by cases h)⟩ hd
      simp only [codeStep, valStep, CodeSt.seen, if_true, hb]
    | setFresh x =>
      refine ih _ _ false ⟨hb, fun _ => ?_, fun _ => rfl⟩ hd
      simp only [codeStep, valStep, CodeSt.seen, Bool.false_eq_true, if_false]
    | observe =>
      simp only [disciplined, Bool.and_eq_true, Bool.not_eq_true'] at hd
      exact congrArg₂ _ (hs hd.1) (ih c v d ⟨hb, hs, ho⟩ hd.2)

end Buf
end PyPhysim.C04
