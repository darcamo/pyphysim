import Mathlib.Algebra.BigOperators.Intervals
import Mathlib.Algebra.Order.BigOperators.GroupWithZero.Finset
import Mathlib.Algebra.Order.BigOperators.Group.LocallyFinite
import Mathlib.Order.Interval.Finset.Nat
import Mathlib.Tactic.Linarith
import PyPhysim.Proofs.C20GmdStep
import PyPhysim.Proofs.C20GmdInvArr

/-!
The bookkeeping part of the loop invariant of `gmd`.  `BInv … k d perm invperm large small`: the
not-yet-used singular values are the ranks `large … small` of the (non-increasing) input `S`; `perm`
sends each such rank to its current position in `d` (a position `> k`), `invperm` is its inverse on
the positions `k < q < p`; `d[k] · ∏ S[large..small] = σ̄^(p-k)` (the *product invariant*).

The product invariant is what makes the sweep work: it forces a partner on the other side of `σ̄`
(`pick_small_cs`, `pick_large_cs`: the rotation parameters the code computes satisfy the two
defining identities in every branch, the `flag` branch included — in the `d[k] ≥ σ̄` branch it is
taken only when `d[k] = σ̄` (`pick_small_flag_only_at_mean`), in the `d[k] < σ̄` branch never
(`pick_large_flag_never`); both by `mean_side`: `d[k]` and the ranks left cannot all lie strictly on
one side of `σ̄`).

One iteration takes the rank `r0` at one end of `large … small` out (`pick_counters`: the ranks left
are those before without `r0`) and brings its position `i` to `k + 1`: the code's updates of `perm`,
`invperm`, `d` are conjugation by the transposition of `k + 1` and `i` (`BInv.step`).
-/
namespace PyPhysim.LinAlg.GmdInv
open PyPhysim.LinAlg

/-- the product invariant puts `d[k]` on the other side of `σ̄` from the ranks left -/
theorem mean_side (S : Nat → ℝ) (sb dk : ℝ) (lo hi : Nat) (hsb : 0 < sb)
    (Spos : ∀ r ∈ Finset.Ico lo hi, 0 < S r)
    (hprod : dk * ∏ r ∈ Finset.Ico lo hi, S r = sb ^ (hi - lo + 1)) :
    ((∀ r ∈ Finset.Ico lo hi, sb ≤ S r) → dk ≤ sb) ∧ ((∀ r ∈ Finset.Ico lo hi, S r ≤ sb) → sb ≤ dk) := by
  have hpos := Finset.prod_pos Spos
  -- `d[k] · ∏ S = σ̄ · ∏ σ̄`: compare the products factor by factor, cancel `∏ S`
  rw [pow_succ', ← Nat.card_Ico, ← Finset.prod_const] at hprod
  exact ⟨fun h => le_of_mul_le_mul_right (hprod.trans_le
      (mul_le_mul_of_nonneg_left (Finset.prod_le_prod (fun _ _ => hsb.le) h) hsb.le)) hpos,
    fun h => le_of_mul_le_mul_right ((mul_le_mul_of_nonneg_left
      (Finset.prod_le_prod (fun r hr => (Spos r hr).le) h) hsb.le).trans_eq hprod.symm) hpos⟩

theorem pick_small_flag_only_at_mean (S : Nat → ℝ) (sb dk : ℝ) (lo hi sm : Nat) (hsb : 0 < sb)
    (hmin : ∀ r ∈ Finset.Ico lo hi, S sm ≤ S r)
    (hprod : dk * ∏ r ∈ Finset.Ico lo hi, S r = sb ^ (hi - lo + 1)) (hge : sb ≤ dk)
    (hf : sb ≤ S sm) : dk = sb :=
  have h : ∀ r ∈ Finset.Ico lo hi, sb ≤ S r := fun r hr => hf.trans (hmin r hr)
  le_antisymm ((mean_side S sb dk lo hi hsb (fun r hr => hsb.trans_le (h r hr)) hprod).1 h) hge

theorem pick_small_cs (S : Nat → ℝ) (sb dk : ℝ) (lo hi sm : Nat) (hsb : 0 < sb)
    (Spos : ∀ r ∈ Finset.Ico lo hi, 0 < S r) (hmin : ∀ r ∈ Finset.Ico lo hi, S sm ≤ S r)
    (hsm : sm ∈ Finset.Ico lo hi)
    (hprod : dk * ∏ r ∈ Finset.Ico lo hi, S r = sb ^ (hi - lo + 1)) (hge : sb ≤ dk) :
    (gmdCS (decide (sb ≤ S sm)) sb dk (S sm)).1 ^ 2 + (gmdCS (decide (sb ≤ S sm)) sb dk (S sm)).2 ^ 2 = 1 ∧
    (gmdCS (decide (sb ≤ S sm)) sb dk (S sm)).1 ^ 2 * dk ^ 2 +
      (gmdCS (decide (sb ≤ S sm)) sb dk (S sm)).2 ^ 2 * S sm ^ 2 = sb ^ 2 := by
  by_cases hf : sb ≤ S sm
  · -- `flag`: `d[k] = σ̄`, where `(1, 0)` is exact
    simp only [hf, decide_true, gmdCS, if_true]
    rw [pick_small_flag_only_at_mean S sb dk lo hi sm hsb hmin hprod hge hf]
    constructor <;> ring
  · simp only [hf, decide_false]
    exact Pf.gmdCS_spec sb dk (S sm) hsb (Or.inl ⟨(Spos sm hsm).le, not_le.mp hf, hge⟩)

theorem pick_large_flag_never (S : Nat → ℝ) (sb dk : ℝ) (lo hi lg : Nat) (hsb : 0 < sb)
    (Spos : ∀ r ∈ Finset.Ico lo hi, 0 < S r) (hmax : ∀ r ∈ Finset.Ico lo hi, S r ≤ S lg)
    (hprod : dk * ∏ r ∈ Finset.Ico lo hi, S r = sb ^ (hi - lo + 1)) (hlt : dk < sb) :
    ¬ S lg ≤ sb :=
  fun hf => hlt.not_ge ((mean_side S sb dk lo hi hsb Spos hprod).2 fun r hr => (hmax r hr).trans hf)

theorem pick_large_cs (S : Nat → ℝ) (sb dk : ℝ) (lo hi lg : Nat) (hsb : 0 < sb) (hdk : 0 < dk)
    (Spos : ∀ r ∈ Finset.Ico lo hi, 0 < S r) (hmax : ∀ r ∈ Finset.Ico lo hi, S r ≤ S lg)
    (hprod : dk * ∏ r ∈ Finset.Ico lo hi, S r = sb ^ (hi - lo + 1)) (hlt : dk < sb) :
    (gmdCS (decide (S lg ≤ sb)) sb dk (S lg)).1 ^ 2 + (gmdCS (decide (S lg ≤ sb)) sb dk (S lg)).2 ^ 2 = 1 ∧
    (gmdCS (decide (S lg ≤ sb)) sb dk (S lg)).1 ^ 2 * dk ^ 2 +
      (gmdCS (decide (S lg ≤ sb)) sb dk (S lg)).2 ^ 2 * S lg ^ 2 = sb ^ 2 := by
  have hf := pick_large_flag_never S sb dk lo hi lg hsb Spos hmax hprod hlt
  simp only [hf, decide_false]
  exact Pf.gmdCS_spec sb dk (S lg) hsb (Or.inr ⟨hdk.le, hlt, (not_le.mp hf).le⟩)

structure BInv (p : Nat) (S : Nat → ℝ) (sb : ℝ) (k : Nat) (d : Nat → ℝ) (perm invperm : Nat → Nat)
    (large small : Nat) : Prop where
  cnt : large + (p - 1 - k) = small + 1
  l1 : 1 ≤ large
  sp : small < p
  pm : ∀ r, large ≤ r → r ≤ small →
    k < perm r ∧ perm r < p ∧ d (perm r) = S r ∧ invperm (perm r) = r
  ip : ∀ q, k < q → q < p → large ≤ invperm q ∧ invperm q ≤ small ∧ perm (invperm q) = q
  dpos : 0 < d k
  prod : d k * ∏ r ∈ Finset.Ico large (small + 1), S r = sb ^ (p - k)

/-- the rank the step takes its partner from: the smallest singular value left if `d[k] ≥ σ̄`, else the largest -/
noncomputable def pickRank (sb : ℝ) (dk : ℝ) (large small : Nat) : Nat := if sb ≤ dk then small else large

/-- an interval of ranks without its top, without its bottom -/
theorem range_drop_top {lo hi : Nat} (h : 1 ≤ hi) (r : Nat) :
    (lo ≤ r ∧ r ≤ hi - 1) ↔ (lo ≤ r ∧ r ≤ hi ∧ r ≠ hi) :=
  and_congr_right fun _ => (Nat.le_sub_one_iff_lt h).trans Nat.lt_iff_le_and_ne

theorem range_drop_bot (lo hi r : Nat) : (lo + 1 ≤ r ∧ r ≤ hi) ↔ (lo ≤ r ∧ r ≤ hi ∧ r ≠ lo) :=
  ⟨fun h => ⟨Nat.le_of_succ_le h.1, h.2, Nat.ne_of_gt h.1⟩,
    fun h => ⟨Nat.lt_of_le_of_ne h.1 h.2.2.symm, h.2.1⟩⟩

theorem pick_counters {C : Prop} [Decidable C] {p k large small r0 large' small' : Nat}
    (hcnt : large + (p - 1 - k) = small + 1) (hl1 : 1 ≤ large) (hsp : small < p) (hk : k + 1 < p)
    (hr0 : r0 = if C then small else large) (hl' : large' = if C then large else large + 1)
    (hs' : small' = if C then small - 1 else small) :
    (large ≤ r0 ∧ r0 ≤ small) ∧ large' + (p - 1 - (k + 1)) = small' + 1 ∧ 1 ≤ large' ∧ small' < p ∧
    ∀ r, (large' ≤ r ∧ r ≤ small') ↔ (large ≤ r ∧ r ≤ small ∧ r ≠ r0) := by
  -- `c + 1` positions are free before the step, `c` after it
  rw [Nat.sub_add_eq]
  rw [← Nat.sub_add_cancel (Nat.sub_pos_of_lt (Nat.lt_sub_of_add_lt hk))] at hcnt
  generalize p - 1 - k - 1 = c at hcnt ⊢
  have hc : large + c = small := Nat.succ.inj hcnt
  have hls : large ≤ small := Nat.le.intro hc
  have h1s : 1 ≤ small := hl1.trans hls
  subst hr0 hl' hs'
  split
  · exact ⟨⟨hls, le_refl _⟩, hc.trans (Nat.sub_add_cancel h1s).symm, hl1,
      Nat.lt_of_le_of_lt (Nat.sub_le _ _) hsp, range_drop_top h1s⟩
  · exact ⟨⟨le_refl _, hls⟩, (Nat.succ_add_eq_add_succ large c).trans hcnt, Nat.le_succ_of_le hl1, hsp,
      range_drop_bot large small⟩

theorem BInv.step {p : Nat} {S : Nat → ℝ} {sb : ℝ} {k : Nat} {d : Nat → ℝ} {perm invperm : Nat → Nat}
    {large small : Nat} (h : BInv p S sb k d perm invperm large small) (hk : k + 1 < p) (hsb : 0 < sb)
    (Spos : ∀ r, r < p → 0 < S r)
    (r0 i large' small' : Nat) (hr0 : r0 = pickRank sb (d k) large small) (hi : i = perm r0)
    (hl' : large' = if sb ≤ d k then large else large + 1)
    (hs' : small' = if sb ≤ d k then small - 1 else small)
    (d' : Nat → ℝ) (perm' invperm' : Nat → Nat)
    (hd' : ∀ q, d' q = if q = k + 1 then gmdY sb (d k) (d i) else d (sw (k + 1) i q))
    (hperm' : ∀ q, perm' q = if i ≠ k + 1 ∧ q = invperm (k + 1) then i else perm q)
    (hinv' : ∀ q, invperm' q = if i ≠ k + 1 ∧ q = i then invperm (k + 1) else invperm q) :
    BInv p S sb (k + 1) d' perm' invperm' large' small' := by
  obtain ⟨hr0ls, hcnt', hl1', hsp', hrange⟩ := pick_counters h.cnt h.l1 h.sp hk hr0 hl' hs'
  obtain ⟨hik, hip, hdi, hir⟩ := h.pm r0 hr0ls.1 hr0ls.2
  rw [← hi] at hik hip hdi hir
  have hpj := (h.ip (k + 1) (Nat.lt_succ_self k) hk).2.2
  have hkk := Nat.lt_succ_self k
  -- the code's updates are conjugation by `τ = sw (k + 1) i`: `invperm' = invperm ∘ τ` beyond `k + 1`,
  -- `perm' = τ ∘ perm` on the ranks whose position is not `i`
  have hI : ∀ q, k + 1 < q → invperm' q = invperm (sw (k + 1) i q) := fun q hq => by
    rw [hinv' q]
    by_cases hqi : q = i
    · rw [hqi, sw_right, if_pos ⟨fun e => Nat.ne_of_gt hq (hqi.trans e), rfl⟩]
    · rw [if_neg (fun hh => hqi hh.2), sw, if_neg hqi, if_neg (Nat.ne_of_gt hq)]
  have hP : ∀ r, invperm (perm r) = r → perm r ≠ i → perm' r = sw (k + 1) i (perm r) := fun r hr hne => by
    rw [hperm' r, sw, if_neg hne]
    by_cases hrj : perm r = k + 1
    · rw [if_pos hrj]
      by_cases hik1 : i = k + 1
      · rw [if_neg (fun hh => hh.1 hik1), hrj, hik1]
      · rw [if_pos ⟨hik1, hr.symm.trans (congrArg invperm hrj)⟩]
    · rw [if_neg hrj, if_neg (fun hh => hrj ((congrArg perm hh.2).trans hpj))]
  have e : d' (k + 1) = d k * S r0 / sb := by rw [hd' (k + 1), if_pos rfl, gmdY, hdi]
  refine ⟨hcnt', hl1', hsp', fun r hr1 hr2 => ?_, fun q hq1 hq2 => ?_, ?_, ?_⟩
  · obtain ⟨hrl, hrs, hrne⟩ := (hrange r).mp ⟨hr1, hr2⟩
    obtain ⟨q1, q2, q3, q4⟩ := h.pm r hrl hrs
    have hne : perm r ≠ i := fun e => hrne (q4.symm.trans ((congrArg invperm e).trans hir))
    -- `τ` sends only `i` to `k + 1`
    have hgt : k + 1 < sw (k + 1) i (perm r) := Nat.lt_of_le_of_ne (sw_gt (k + 1) i _ k hkk hik q1)
      fun e => hne ((sw_inj (k + 1) i _ _).mp ((sw_right _ _).trans e)).symm
    rw [hP r q4 hne, hI _ hgt, hd', if_neg (Nat.ne_of_gt hgt), sw_sw]
    exact ⟨hgt, sw_lt _ _ _ _ hk hip q2, q3, q4⟩
  · have hq0 := Nat.lt_of_succ_lt hq1
    have hτq := sw_gt (k + 1) i q k hkk hik hq0
    obtain ⟨t1, t2, t3⟩ := h.ip _ hτq (sw_lt _ _ _ _ hk hip hq2)
    have hne : sw (k + 1) i q ≠ i := fun e =>
      Nat.ne_of_gt hq1 ((sw_inj (k + 1) i q (k + 1)).mp (e.trans (sw_left _ _).symm))
    have hr := (hrange _).mpr ⟨t1, t2, fun e => hne (t3.symm.trans ((congrArg perm e).trans hi.symm))⟩
    rw [hI q hq1, hP _ ((congrArg invperm t3)) (t3.trans_ne hne), t3, sw_sw]
    exact ⟨hr.1, hr.2, rfl⟩
  · rw [e]
    exact div_pos (mul_pos h.dpos (Spos r0 (Nat.lt_of_le_of_lt hr0ls.2 h.sp))) hsb
  · -- the ranks left are those before the step without `r0`
    have hR : Finset.Ico large' (small' + 1) = (Finset.Ico large (small + 1)).erase r0 := Finset.ext fun r => by
      rw [Finset.mem_erase, Finset.mem_Ico, Finset.mem_Ico, Nat.lt_succ_iff, Nat.lt_succ_iff, hrange r]
      exact ⟨fun h => ⟨h.2.2, h.1, h.2.1⟩, fun h => ⟨h.2.1, h.2.2, h.1⟩⟩
    rw [e, hR, div_mul_eq_mul_div, div_eq_iff hsb.ne', mul_assoc,
      Finset.mul_prod_erase _ S (Finset.mem_Ico.mpr ⟨hr0ls.1, Nat.lt_succ_of_le hr0ls.2⟩), h.prod, ← pow_succ,
      Nat.sub_add_eq, Nat.sub_add_cancel (Nat.sub_pos_of_lt (Nat.lt_of_succ_lt hk))]

end PyPhysim.LinAlg.GmdInv
