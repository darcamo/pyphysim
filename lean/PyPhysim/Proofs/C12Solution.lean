import Mathlib.Algebra.BigOperators.Ring.List
import Mathlib.Data.List.FinRange
import PyPhysim.Proofs.C12

/-!
# C12: theory of water-filling solutions

About `IsWaterFilling`, independent of the algorithm except where a result of the code is compared with a
solution, over an arbitrary linear ordered field.  The total power `Σ max 0 (μ − level)` is strictly
increasing in `μ` once it is positive (`power_lt`), which gives uniqueness and a strictly higher level for a
larger power.  The code returns a solution (`doWFWith_isWaterFilling`) and there is only one: on the domain of
the property it returns a pair exactly when that pair is the solution (`doWFWith_eq_ok_iff`), so its result
equals every solution one can exhibit (`eq_of_doWFWith`).  The solution depends on `g, N, Es` only through the
levels `N / (Es·g)`, follows a permutation of the gains, and scales with `P` and `N` taken together; a vector of
equal gains gets equal shares (`replicate`); a channel in use pins its level.
-/
namespace PyPhysim.C12

theorem div_right_inj₀ {G : Type} [GroupWithZero G] {a b c : G} (ha : a ≠ 0) : a / b = a / c ↔ b = c := by
  rw [div_eq_mul_inv, div_eq_mul_inv, mul_right_inj' ha, inv_inj]

section
variable {α : Type} [Field α] [LinearOrder α]
variable {g g' p p' : List α} {P P' N N' Es Es' mu mu' : α}

theorem IsWaterFilling.of_perm (hperm : g'.Perm g) (h : IsWaterFilling g P N Es p mu) :
    IsWaterFilling g' P N Es (g'.map (fun x => max 0 (mu - N / (Es * x)))) mu := by
  refine ⟨rfl, ?_⟩
  rw [(hperm.map _).sum_eq, ← h.form, h.sum]

/-- gains, noise variance and symbol energy enter through the levels `N / (Es·g)` only -/
theorem IsWaterFilling.congr_levels (φ : α → α)
    (hφ : ∀ x ∈ g, N' / (Es' * φ x) = N / (Es * x)) (h : IsWaterFilling g P N Es p mu) :
    IsWaterFilling (g.map φ) P N' Es' p mu := by
  refine ⟨?_, h.sum⟩
  rw [h.form, List.map_map]
  exact List.map_congr_left fun x hx => by rw [Function.comp, hφ x hx]

theorem IsWaterFilling.scale_gain_noise {s : α} (hs : 0 < s) (h : IsWaterFilling g P N Es p mu) :
    IsWaterFilling (g.map (fun x => s * x)) P (s * N) Es p mu :=
  h.congr_levels _ fun x _ => by rw [mul_left_comm, mul_div_mul_left _ _ hs.ne']

theorem IsWaterFilling.scale_gain_energy {s : α} (hs : 0 < s) (h : IsWaterFilling g P N Es p mu) :
    IsWaterFilling (g.map (fun x => x / s)) P N (s * Es) p mu :=
  h.congr_levels _ fun x _ => by
    rw [mul_right_comm, mul_div_assoc', mul_div_cancel_left₀ _ hs.ne', mul_comm]

/-- a channel in use pins its level -/
theorem eq_of_max_zero_sub_eq {mu a a' : α} (ha : 0 < max 0 (mu - a))
    (e : max 0 (mu - a) = max 0 (mu - a')) : a = a' := by
  have ha' : 0 < max 0 (mu - a') := e ▸ ha
  rw [(max_choice 0 _).resolve_left ha.ne', (max_choice 0 _).resolve_left ha'.ne'] at e
  exact sub_right_injective e

end

variable {α : Type} [Field α] [LinearOrder α] [IsStrictOrderedRing α]
variable {g g' p p' : List α} {P P' N N' Es Es' mu mu' : α}

theorem IsWaterFilling.exists_level_lt (h : IsWaterFilling g P N Es p mu) (hP : 0 < P) :
    ∃ x ∈ g, N / (Es * x) < mu := by
  by_contra hall
  refine hP.ne' (h.sum.symm.trans ?_)
  rw [h.form]
  refine List.sum_eq_zero (List.forall_mem_map.mpr fun x hx => max_eq_left (sub_nonpos.mpr ?_))
  exact not_lt.mp fun hlt => hall ⟨x, hx, hlt⟩

theorem IsWaterFilling.power_lt (h : IsWaterFilling g P N Es p mu)
    (h' : IsWaterFilling g P' N Es p' mu') (hlt : mu < mu') (hP' : 0 < P') : P < P' := by
  obtain ⟨x, hx, hx'⟩ := h'.exists_level_lt hP'
  rw [← h.sum, ← h'.sum, h.form, h'.form]
  refine List.sum_lt_sum _ _ (fun y _ => max_le_max le_rfl (sub_le_sub_right hlt.le _)) ⟨x, hx, ?_⟩
  exact lt_max_of_lt_right (max_lt (sub_pos.mpr hx') (sub_lt_sub_right hlt _))

theorem IsWaterFilling.unique (h : IsWaterFilling g P N Es p mu)
    (h' : IsWaterFilling g P N Es p' mu') (hP : 0 < P) : p = p' ∧ mu = mu' := by
  have e : mu = mu' := le_antisymm (not_lt.mp fun hlt => (h'.power_lt h hlt hP).false)
    (not_lt.mp fun hlt => (h.power_lt h' hlt hP).false)
  exact ⟨by rw [h.form, h'.form, e], e⟩

/-- on the domain of the property the code returns a pair exactly when it is the water-filling solution:
    it returns a solution, and there is only one -/
theorem doWFWith_eq_ok_iff {asc : List (Chan α)} (hc : SortContract g asc) (hne : g ≠ [])
    (hg : ∀ x ∈ g, 0 < x) (hP : 0 < P) (hN : 0 < N) (hEs : 0 < Es) :
    doWFWith asc g.length P N Es = .ok (p, mu) ↔ IsWaterFilling g P N Es p mu := by
  obtain ⟨q, nu, hres, hw⟩ := doWFWith_isWaterFilling hc hne hg hP.le hN hEs
  rw [hres, Except.ok.injEq, Prod.mk.injEq]
  exact ⟨fun e => e.1 ▸ e.2 ▸ hw, fun h => hw.unique h hP⟩

theorem IsWaterFilling.eq_of_doWFWith {asc : List (Chan α)} {q : List α} {nu : α}
    (hc : SortContract g asc) (hne : g ≠ []) (hg : ∀ x ∈ g, 0 < x) (hP : 0 < P) (hN : 0 < N)
    (hEs : 0 < Es) (hres : doWFWith asc g.length P N Es = .ok (p, mu))
    (h : IsWaterFilling g P N Es q nu) : mu = nu ∧ p = q :=
  (((doWFWith_eq_ok_iff hc hne hg hP hN hEs).mp hres).unique h hP).symm

theorem IsWaterFilling.level_strictMono (h : IsWaterFilling g P N Es p mu)
    (h' : IsWaterFilling g P' N Es p' mu') (hP : 0 < P) (hPP : P < P') : mu < mu' := by
  refine not_le.mp fun hle => ?_
  rcases hle.lt_or_eq with hlt | rfl
  · exact (h'.power_lt h hlt hP).not_gt hPP
  · exact hPP.ne (h.sum.symm.trans ((h.form.trans h'.form.symm) ▸ h'.sum))

theorem ofFn_getElem_perm {β : Type} (g : List β) (σ : Equiv.Perm (Fin g.length)) :
    (List.ofFn fun i => g[σ i]'(σ i).isLt).Perm g := by
  have := σ.ofFn_comp_perm fun i : Fin g.length => g[i.val]
  rwa [List.ofFn_getElem] at this

theorem IsWaterFilling.perm_equivariant (σ : Equiv.Perm (Fin g.length))
    (h : IsWaterFilling g P N Es p mu)
    (h' : IsWaterFilling (List.ofFn fun i => g[σ i]'(σ i).isLt) P N Es p' mu') (hP : 0 < P) :
    mu' = mu ∧ p'.length = g.length ∧ ∀ i : Fin g.length, p'[(i : Nat)]? = p[(σ i : Nat)]? := by
  obtain ⟨e1, e2⟩ := h'.unique (h.of_perm (ofFn_getElem_perm g σ)) hP
  refine ⟨e2, by rw [h'.length, List.length_ofFn], fun i => ?_⟩
  rw [e1, h.form, List.getElem?_map, List.getElem?_map, List.getElem?_ofFn, dif_pos i.isLt,
    List.getElem?_eq_getElem (σ i).isLt]
  rfl

theorem IsWaterFilling.replicate {n : Nat} (hn : 0 < n) (x : α) (hP : 0 ≤ P) :
    IsWaterFilling (List.replicate n x) P N Es (List.replicate n (P / n)) (P / n + N / (Es * x)) := by
  have hn' : (n : α) ≠ 0 := Nat.cast_ne_zero.mpr hn.ne'
  refine ⟨?_, by rw [List.sum_replicate, nsmul_eq_mul, mul_div_cancel₀ _ hn']⟩
  rw [List.map_replicate, add_sub_cancel_right, max_eq_right (div_nonneg hP (Nat.cast_nonneg n))]

theorem IsWaterFilling.scale_power_noise {s : α} (hs : 0 < s) (h : IsWaterFilling g P N Es p mu) :
    IsWaterFilling g (s * P) (s * N) Es (p.map (fun y => s * y)) (s * mu) := by
  refine ⟨?_, by rw [List.sum_map_mul_left, List.map_id', h.sum]⟩
  rw [h.form, List.map_map]
  exact List.map_congr_left fun x _ => by
    rw [Function.comp, mul_max_of_nonneg _ _ hs.le, mul_zero, mul_sub, mul_div_assoc]

/-- the same result ⇒ the same ratio noise variance / symbol energy (the only way the two enter) -/
theorem IsWaterFilling.ratio_eq (h : IsWaterFilling g P N Es p mu)
    (h' : IsWaterFilling g P' N' Es' p mu) (hP : 0 < P) (hg : ∀ x ∈ g, 0 < x) :
    N / Es = N' / Es' := by
  obtain ⟨x, hx, hlt⟩ := h.exists_level_lt hP
  have e := eq_of_max_zero_sub_eq (lt_max_of_lt_right (sub_pos.mpr hlt))
    (List.map_inj_left.mp (h.form.symm.trans h'.form) x hx)
  rwa [← div_div, ← div_div, div_left_inj' (hg x hx).ne'] at e

/-- the same result for two gain vectors (everything else equal) ⇒ the same gain on every
    channel that gets power (the gain of a switched-off channel is legitimately invisible) -/
theorem IsWaterFilling.used_gain_eq (h : IsWaterFilling g P N Es p mu)
    (h' : IsWaterFilling g' P' N Es p mu) (hN : 0 < N) (hEs : 0 < Es) (j : Nat)
    (hj : j < g.length) (hj' : j < g'.length) (hp : j < p.length) (hpos : 0 < p[j]) :
    g[j] = g'[j] := by
  have e := h.getElem j hj hp
  have := eq_of_max_zero_sub_eq (e ▸ hpos) (e.symm.trans (h'.getElem j hj' hp))
  exact mul_left_cancel₀ hEs.ne' ((div_right_inj₀ hN.ne').mp this)

end PyPhysim.C12
