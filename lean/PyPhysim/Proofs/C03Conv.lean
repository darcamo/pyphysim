import Mathlib.Algebra.BigOperators.Ring.List
import Mathlib.Algebra.Ring.Defs
import Mathlib.Tactic.Ring
import PyPhysim.Model.C03Spec
import PyPhysim.Proofs.Common

/-!
# C03 — the time-domain transmission in closed form

Tables (`tab`) and loops over them: the accumulate-and-shift step `addAt` maps tables to tables (`addAt_tab`), a loop
over a table runs entry by entry, over rows row by row (`foldl_tab_rows`; `foldl_mapIdx` for `mapIdx` loops), so one
whose every pass adds a table adds the sum (`foldl_tab_add`).  From these one transmission of `TdlChannel.corrupt_data` as the convolution of `Model/C03Spec`;
the convolution is linear in the input and scales with the response (SISO is MIMO with one input antenna).
-/
namespace PyPhysim.C03
open PyPhysim.Proto

section Tab
variable {β γ : Type}

theorem tab_length (n : Nat) (f : Nat → β) : (tab n f).length = n := by simp [tab]

theorem getElem?_tab (n : Nat) (f : Nat → β) (i : Nat) :
    (tab n f)[i]? = if i < n then some (f i) else none := by
  unfold tab
  by_cases h : i < n <;> simp [h]

theorem tab_congr {n : Nat} {f g : Nat → β} (h : ∀ i, i < n → f i = g i) : tab n f = tab n g :=
  List.map_congr_left fun i hi => h i (List.mem_range.mp hi)

theorem eq_tab_getD (l : List β) (d : β) : l = tab l.length (fun i => l[i]?.getD d) := by
  apply List.ext_getElem?
  intro i
  rw [getElem?_tab]
  split_ifs with h
  · rw [List.getElem?_eq_getElem h, Option.getD_some]
  · exact List.getElem?_eq_none (Nat.le_of_not_lt h)

theorem tab_map (n : Nat) (f : Nat → β) (g : β → γ) : (tab n f).map g = tab n (fun i => g (f i)) :=
  List.map_map

theorem tab_zipIdx (n : Nat) (f : Nat → β) : (tab n f).zipIdx = tab n (fun a => (f a, a)) := by
  apply List.ext_getElem?
  intro i
  rw [List.getElem?_zipIdx, getElem?_tab, getElem?_tab]
  by_cases h : i < n <;> simp [h]

theorem tab_mapIdx (n : Nat) (f : Nat → β) (F : Nat → β → γ) : (tab n f).mapIdx F = tab n (fun i => F i (f i)) := by
  rw [List.mapIdx_eq_zipIdx_map, tab_zipIdx, tab_map]

theorem replicate_eq_tab (n : Nat) (z : β) : List.replicate n z = tab n (fun _ => z) := by
  rw [tab, List.map_const', List.length_range]

theorem foldl_tab_rows {ρ ε : Type} (upd : List ρ → ε → List ρ) (g : ε → Nat → ρ → ρ) (R : Nat)
    (h : ∀ A e, upd (tab R A) e = tab R (fun r => g e r (A r))) (es : List ε) (A : Nat → ρ) :
    es.foldl upd (tab R A) = tab R (fun r => es.foldl (fun row e => g e r row) (A r)) := by
  induction es generalizing A with
  | nil => rfl
  | cons e es ih => rw [List.foldl_cons, h, ih]; rfl

theorem tab_take (n : Nat) (f : Nat → β) : (tab n f).take n = tab n f :=
  List.take_of_length_le (tab_length n f).le

theorem tab_succ (n : Nat) (f : Nat → β) : tab (n + 1) f = f 0 :: tab n (fun i => f (i + 1)) := by
  simp [tab, List.range_succ_eq_map, Function.comp_def]

theorem tab_add (a b : Nat) (f : Nat → β) : tab (a + b) f = tab a f ++ tab b (fun q => f (a + q)) := by
  unfold tab
  rw [List.range_add, List.map_append, List.map_map]
  rfl

theorem tab_succ_last (n : Nat) (f : Nat → β) : tab (n + 1) f = tab n f ++ [f n] := tab_add n 1 f

theorem tab_flatMap (n : Nat) (f : Nat → β) (g : β → List γ) :
    (tab n f).flatMap g = (List.range n).flatMap (fun b => g (f b)) := by
  rw [tab, List.flatMap_map]

theorem numSymbols_tab {α : Type} (nIn n : Nat) (xf : Nat → Nat → α) (h : 0 < nIn) :
    numSymbols (tab nIn (fun a => tab n (xf a))) = n := by
  obtain ⟨k, rfl⟩ := Nat.exists_eq_add_one.mpr h
  rw [tab_succ, numSymbols, tab_length]

end Tab

variable {α : Type} [CommSemiring α]

theorem zeros_length (n : Nat) : (zeros n : List α).length = n := by simp [zeros]

theorem getElem?_zeros (n m : Nat) : (zeros n : List α)[m]? = if m < n then some 0 else none :=
  List.getElem?_replicate

/-- `out[d : d+n] += v`: the part of `v` that sticks out of `out` is dropped -/
theorem addAt_tab (N : Nat) (f : Nat → α) (d n : Nat) (g : Nat → α) :
    addAt (tab N f) d (tab n g) = tab N (fun m => f m + if d ≤ m ∧ m - d < n then g (m - d) else 0) := by
  induction N generalizing f d n g with
  | zero => rfl
  | succ N ih =>
    rw [tab_succ, tab_succ]
    cases d with
    | zero =>
      cases n with
      | zero =>
        simp only [Nat.not_lt_zero, and_false, if_false, add_zero]
        rfl
      | succ n =>
        rw [tab_succ, addAt, ih]
        simp only [Nat.zero_le, true_and, Nat.sub_zero, Nat.add_lt_add_iff_right, Nat.zero_lt_succ, if_true]
    | succ d =>
      rw [addAt, ih]
      simp only [Nat.add_le_add_iff_right, Nat.add_sub_add_right]
      rw [if_neg fun h => Nat.not_succ_le_zero d h.1, add_zero]

theorem addAt_length (out : List α) (d : Nat) (v : List α) : (addAt out d v).length = out.length := by
  rw [eq_tab_getD out 0, eq_tab_getD v 0, addAt_tab, tab_length, tab_length]

theorem mulF_tab (h : Nat → α) (n : Nat) (xf : Nat → α) : mulF h (tab n xf) = tab n (fun k => h k * xf k) :=
  tab_mapIdx n xf _

theorem foldl_tab_add {ε : Type} (upd : List α → ε → List α) (c : ε → Nat → α) (N : Nat)
    (h : ∀ f e, upd (tab N f) e = tab N (fun m => f m + c e m)) (es : List ε) (f : Nat → α) :
    es.foldl upd (tab N f) = tab N (fun m => f m + (es.map (fun e => c e m)).sum) :=
  -- entry by entry, and a loop that adds is the start plus the sum
  (foldl_tab_rows upd (fun e m v => v + c e m) N h es f).trans
    (tab_congr fun _ _ => List.foldl_map.symm.trans List.foldl_eq_apply_foldr)

theorem foldl_addAt_length {ε : Type} (f : ε → Nat × List α) (ts : List ε) (out : List α) :
    (ts.foldl (fun o e => addAt o (f e).1 (f e).2) out).length = out.length :=
  foldl_length _ (fun _ _ => addAt_length ..) ts out

theorem foldl_mapIdx {ε ρ : Type} (upd : ε → Nat → ρ → ρ) (es : List ε) (out : List ρ) :
    es.foldl (fun o e => o.mapIdx (upd e)) out = out.mapIdx (fun j row => es.foldl (fun row e => upd e j row) row) := by
  induction es generalizing out with
  | nil => exact List.ext_getElem? fun i => by rw [List.getElem?_mapIdx]; exact Option.map_id'.symm
  | cons e es ih => rw [List.foldl_cons, ih, List.mapIdx_mapIdx]; rfl

theorem foldl_mapIdx_length {ε ρ : Type} (upd : ε → Nat → ρ → ρ) (es : List ε) (out : List ρ) :
    (es.foldl (fun o e => o.mapIdx (fun j row => upd e j row)) out).length = out.length := by
  rw [foldl_mapIdx, List.length_mapIdx]

theorem corruptSiso_eq (ir : IR α) (mem n : Nat) (xf : Nat → α) :
    corruptSiso ir.delays ir.vals mem (tab n xf) = convSpecSiso ir n mem xf := by
  rw [corruptSiso, tab_length, zeros, replicate_eq_tab]
  exact (foldl_tab_add _ _ _ (fun f dh => (congrArg _ (mulF_tab (dh.2 0 0) n xf)).trans (addAt_tab _ f dh.1 n _)) _ _).trans
    (tab_congr fun m _ => zero_add _)

theorem corruptMimo_eq (sw : Bool) (ir : IR α) (nOut nIn mem n : Nat) (xf : Nat → Nat → α) :
    corruptMimo sw ir.delays ir.vals nOut nIn mem n (tab nIn (fun a => tab n (xf a)))
      = convSpec ir sw nOut nIn n mem xf := by
  unfold corruptMimo accRows
  -- both loops update row by row, so row `j` sees its own two loops; each pass of the inner one adds one
  -- antenna's term to the row, hence each pass of the outer one the sum over the antennas
  rw [tab_take, tab_zipIdx]
  simp only [foldl_mapIdx]
  rw [replicate_eq_tab, tab_mapIdx, zeros, replicate_eq_tab]
  refine tab_congr fun j _ => (foldl_tab_add _ _ _ (fun f dh => List.foldl_map.trans
    (foldl_tab_add _ _ _ (fun f a => (congrArg _ (mulF_tab _ n (xf a))).trans (addAt_tab _ f dh.1 n _)) _ f)) _ _).trans
    (tab_congr fun m _ => zero_add _)

/-- state after a time-domain transmission of `n` symbols -/
def Tdl.afterTx (proc : Proc α) (c : Tdl α) (n : Nat) : Tdl α :=
  { c with pos := c.pos + n, last := some (genIR proc c c.pos n) }

theorem genIR_delays (proc : Proc α) (c : Tdl α) (pos n : Nat) : (genIR proc c pos n).delays = c.delays := rfl
theorem genIR_n (proc : Proc α) (c : Tdl α) (pos n : Nat) : (genIR proc c pos n).n = n := rfl

omit [CommSemiring α] in
theorem signalOk_siso (c : Tdl α) (hant : c.ant = none) (v : List α) : c.signalOk [v] = true := by
  simp [Tdl.signalOk, hant]

omit [CommSemiring α] in
theorem signalOk_of_length (c : Tdl α) (nr nt : Nat) (hant : c.ant = some (nr, nt)) (x : List (List α))
    (hx : x.length = (c.dims nr nt).2) : c.signalOk x = true := by
  simp [Tdl.signalOk, hant, hx]

omit [CommSemiring α] in
/-- `signalOk_of_length` at the form the inputs of a MIMO transmission have: a table of rows, whatever the rows -/
theorem signalOk_mimo {β : Type} (c : Tdl α) (nr nt : Nat) (hant : c.ant = some (nr, nt)) (f : Nat → β)
    (g : β → List α) : c.signalOk ((tab (c.dims nr nt).2 f).map g) = true :=
  signalOk_of_length c nr nt hant _ (by rw [List.length_map, tab_length])

theorem tdl_corrupt_siso (proc : Proc α) (c : Tdl α) (hant : c.ant = none) {mem : Nat}
    (hmem : c.mem = .ok mem) (n : Nat) (xf : Nat → α) :
    c.corrupt proc [tab n xf]
      = .ok (c.afterTx proc n, [convSpecSiso (genIR proc c c.pos n) n mem xf]) := by
  unfold Tdl.corrupt
  simp only [numSymbols, tab_length, hmem, hant, bind, Except.bind, pure, Except.pure,
    signalOk_siso c hant, Bool.not_true, Bool.false_eq_true, if_false]
  rw [corruptSiso_eq]
  simp only [Tdl.afterTx, hant]

theorem tdl_corrupt_mimo (proc : Proc α) (c : Tdl α) (nr nt : Nat) (hant : c.ant = some (nr, nt)) {mem : Nat}
    (hmem : c.mem = .ok mem) (n : Nat) (xf : Nat → Nat → α) (hIn : 0 < (c.dims nr nt).2) :
    c.corrupt proc (tab (c.dims nr nt).2 (fun a => tab n (xf a)))
      = .ok (c.afterTx proc n,
             convSpec (genIR proc c c.pos n) c.switched (c.dims nr nt).1 (c.dims nr nt).2 n mem xf) := by
  unfold Tdl.corrupt
  simp only [numSymbols_tab _ _ _ hIn, hmem, hant, bind, Except.bind, pure, Except.pure, tab_length,
    signalOk_of_length c nr nt hant _ (tab_length _ _), Bool.not_true, Bool.false_eq_true, ne_eq, not_true_eq_false, if_false]
  rw [corruptMimo_eq]
  simp only [Tdl.afterTx, hant]

theorem convAtSiso_eq_convAt (ir : IR α) (sw : Bool) (n : Nat) (xf : Nat → α) (m : Nat) :
    convAtSiso ir n xf m = convAt ir sw 1 n (fun _ => xf) 0 m := by
  unfold convAtSiso convAt
  refine congrArg List.sum (List.map_congr_left fun dh _ => ?_)
  rw [List.range_one, List.map_singleton, List.sum_singleton]
  cases sw <;> rfl

theorem sum_map_linear {ι : Type} (l : List ι) (a b : α) (F G : ι → α) :
    (l.map fun i => a * F i + b * G i).sum = a * (l.map F).sum + b * (l.map G).sum := by
  rw [← List.sum_map_mul_left, ← List.sum_map_mul_left, ← List.sum_map_add]

theorem convAt_linear (ir : IR α) (sw : Bool) (nIn n : Nat) (a b : α) (xf xg : Nat → Nat → α) (j m : Nat) :
    convAt ir sw nIn n (fun i k => a * xf i k + b * xg i k) j m
      = a * convAt ir sw nIn n xf j m + b * convAt ir sw nIn n xg j m := by
  unfold convAt
  -- linear in every term, hence in the sum over the antennas, hence in the sum over the taps
  refine (congrArg List.sum (List.map_congr_left fun dh _ => ?_)).trans (sum_map_linear _ a b _ _)
  refine (congrArg List.sum (List.map_congr_left fun i _ => ?_)).trans (sum_map_linear _ a b _ _)
  split_ifs <;> ring

theorem convAtSiso_linear (ir : IR α) (n : Nat) (a b : α) (xf xg : Nat → α) (m : Nat) :
    convAtSiso ir n (fun k => a * xf k + b * xg k) m = a * convAtSiso ir n xf m + b * convAtSiso ir n xg m := by
  simp only [convAtSiso_eq_convAt ir false]
  exact convAt_linear ir false 1 n a b _ _ 0 m

theorem scale_delays (s : α) (ir : IR α) : (ir.scale s).delays = ir.delays := rfl
theorem scale_n (s : α) (ir : IR α) : (ir.scale s).n = ir.n := rfl

theorem convAt_scale (s : α) (ir : IR α) (sw : Bool) (nIn n : Nat) (xf : Nat → Nat → α) (j m : Nat) :
    convAt (ir.scale s) sw nIn n xf j m = convAt ir sw nIn n xf j m * s := by
  unfold convAt IR.scale
  rw [List.zip_map_right, List.map_map, ← List.sum_map_mul_right]
  refine congrArg List.sum (List.map_congr_left fun dh _ => ?_)
  rw [Function.comp, ← List.sum_map_mul_right]
  refine congrArg List.sum (List.map_congr_left fun a _ => ?_)
  have ho : ∀ h k, orient sw (fun r t k => s * h r t k) j a k = s * orient sw h j a k := fun h k => by
    cases sw <;> rfl
  rw [ite_mul, zero_mul, Prod.map_snd, ho, mul_rotate]
  rfl

theorem convAtSiso_scale (s : α) (ir : IR α) (n : Nat) (xf : Nat → α) (m : Nat) :
    convAtSiso (ir.scale s) n xf m = convAtSiso ir n xf m * s := by
  simp only [convAtSiso_eq_convAt _ false]
  exact convAt_scale s ir false 1 n _ 0 m

theorem scaleRows_tab (s : α) (nOut len : Nat) (f : Nat → Nat → α) :
    scaleRows s (tab nOut (fun j => tab len (f j))) = tab nOut (fun j => tab len (fun m => f j m * s)) :=
  (tab_map nOut _ _).trans (tab_congr fun j _ => tab_map len (f j) (· * s))

end PyPhysim.C03
