import Mathlib.Data.List.Nodup
import PyPhysim.Proofs.C05Grid
import PyPhysim.Model.C05Params

/-! The parameters object of C05 keeps no derived state: look-ups after `dictSet` / `dictDel`, `unpacked`
stays duplicate-free along a history, and views and look-ups depend on the content only (`SameContent`).
Refills (R16): the object holds contents, not containers, so refilling in place the container bound to two
parameters is the replacement of both value lists, in either order (`sameContent_add_comm`). -/
namespace PyPhysim.C05

/-- a look-up in a dictionary reads the first entry or goes on, as the `if` the statements below use -/
theorem lookup_cons_ite (m k : String) (w : PVal) (d : List (String × PVal)) :
    ((k, w) :: d).lookup m = if m = k then some w else d.lookup m := by
  rw [List.lookup_cons]
  by_cases h : m = k
  · rw [if_pos h, beq_iff_eq.mpr h]
  · rw [if_neg h, beq_false_of_ne h]

theorem lookup_dictSet (name : String) (v : PVal) (m : String) (d : List (String × PVal)) :
    (dictSet name v d).lookup m = if m = name then some v else d.lookup m := by
  induction d with
  | nil => exact lookup_cons_ite m name v []
  | cons p rest ih =>
    rw [lookup_cons_ite m p.1 p.2]
    by_cases hk : p.1 = name
    · -- the entry `p` is the one replaced
      rw [dictSet, if_pos (beq_iff_eq.mpr hk), lookup_cons_ite, hk]
      by_cases h : m = name
      · rw [if_pos h, if_pos h]
      · rw [if_neg h, if_neg h, if_neg h]
    · -- `p` stays; the tests for `p.1` and for `name` exclude each other, so their order is free
      rw [dictSet, if_neg (mt eq_of_beq hk), lookup_cons_ite, ih]
      exact ite_ite_comm (m = p.1) (m = name) _ _ fun hm hn => hk (hm.symm.trans hn)

theorem lookup_dictDel_ne (name m : String) (h : m ≠ name) (d : List (String × PVal)) :
    (dictDel name d).lookup m = d.lookup m := by
  induction d with
  | nil => rfl
  | cons p rest ih =>
    by_cases hk : p.1 = name
    · rw [dictDel, if_pos (beq_iff_eq.mpr hk), lookup_cons_ite, if_neg (hk ▸ h)]
    · rw [dictDel, if_neg (mt eq_of_beq hk), lookup_cons_ite, lookup_cons_ite, ih]

theorem step_unpacked_nodup (s : PState) (op : POp) (h : s.unpacked.Nodup) :
    (s.step op).1.unpacked.Nodup := by
  cases op with
  | add name v => exact h
  | remove name =>
    rw [PState.step]
    split
    · exact h
    · exact h.erase name
  | setUnpack name b =>
    rw [PState.step]
    split
    · exact h
    · exact h
    · by_cases hm : name ∈ s.unpacked
      · rw [if_pos hm, if_pos hm]
        cases b with
        | true => exact h
        | false => exact h.erase name
      · rw [if_neg hm, if_neg hm]
        cases b with
        | true => exact h.cons hm
        | false => exact h

theorem run_unpacked_nodup (ops : List POp) (s : PState) :
    s.unpacked.Nodup → (s.run ops).unpacked.Nodup := by
  induction ops generalizing s with
  | nil => exact id
  | cons op ops ih => exact fun h => ih _ (step_unpacked_nodup s op h)

theorem sortParams_congr {V : Type} (ps ps' : List (Param V)) (hp : ps.Perm ps')
    (hn : (ps.map (·.1)).Nodup) : sortParams ps = sortParams ps' := by
  have h1 := sortParams_perm ps
  have h2 := sortParams_perm ps'
  refine List.Perm.eq_of_pairwise (le := fun a b => a.1 ≤ b.1) ?_ (sortParams_sorted ps)
    (sortParams_sorted ps') (h1.trans (hp.trans h2.symm))
  intro a b ha hb hab hba
  exact List.inj_on_of_nodup_map hn (h1.mem_iff.mp ha) (hp.mem_iff.mpr (h2.mem_iff.mp hb))
    (le_antisymm hab hba)

theorem valsOf_sameContent (s s' : PState) (hc : SameContent s s') : s.valsOf = s'.valsOf :=
  funext fun n => by simp only [PState.valsOf, hc.1 n]

theorem view_names_nodup (s : PState) (hn : s.unpacked.Nodup) :
    ((s.unpacked.filterMap (fun n => (s.valsOf n).map (fun vs => (n, vs)))).map (·.1)).Nodup := by
  rw [List.map_filterMap]
  refine hn.filterMap (fun a a' b hb hb' => ?_)
  rw [Option.map_map, Option.mem_def, Option.map_eq_some_iff] at hb hb'
  obtain ⟨_, -, rfl⟩ := hb
  obtain ⟨_, -, h⟩ := hb'
  exact h.symm

theorem view_sameContent (s s' : PState) (hn : s.unpacked.Nodup) (hn' : s'.unpacked.Nodup)
    (hc : SameContent s s') :
    (s.view = .error .TypeError ∧ s'.view = .error .TypeError) ∨
    ∃ ps ps', s.view = .ok ps ∧ s'.view = .ok ps' ∧ sortParams ps = sortParams ps' := by
  have hperm := (List.perm_ext_iff_of_nodup hn hn').mpr hc.2
  unfold PState.view
  rw [← valsOf_sameContent s s' hc, ← hperm.all_eq]
  by_cases ha : s.unpacked.all (fun n => (s.valsOf n).isSome) = true
  · rw [if_pos ha, if_pos ha]
    exact .inr ⟨_, _, rfl, rfl, sortParams_congr _ _ (hperm.filterMap _) (view_names_nodup s hn)⟩
  · rw [if_neg ha, if_neg ha]
    exact .inl ⟨rfl, rfl⟩

theorem sameContent_add_comm (s : PState) (a b : String) (v w : PVal) (hab : a ≠ b) :
    SameContent (s.run [.add a v, .add b w]) (s.run [.add b w, .add a v]) := by
  refine ⟨fun n => ?_, fun n => Iff.rfl⟩
  show (dictSet b w (dictSet a v s.params)).lookup n = (dictSet a v (dictSet b w s.params)).lookup n
  rw [lookup_dictSet, lookup_dictSet, lookup_dictSet, lookup_dictSet]
  exact ite_ite_comm (n = b) (n = a) _ _ fun hb ha => hab (ha.symm.trans hb)

theorem PState.run_append (s : PState) (l1 l2 : List POp) :
    s.run (l1 ++ l2) = (s.run l1).run l2 := by
  induction l1 generalizing s with
  | nil => rfl
  | cons op l1 ih => exact ih _

end PyPhysim.C05
