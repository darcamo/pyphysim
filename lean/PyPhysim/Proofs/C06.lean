import Mathlib.Algebra.Ring.Rat
import PyPhysim.Model.C06
import PyPhysim.Proofs.Common

/-! C06, Result level.  `update` has two outcomes (`update_of_valid`, `update_invalid`); `merge` is one test
(`mergeGuard_eq`) and one record update (`mergeCore_add`, `mergeCore_misc`); `update` commutes with it
(`update_mergeCore`), so accumulating `xs ++ ys` is merging (`foldUpd_append_fresh`); `mergeCore` is
associative, so a merge tree is a `mergeSeq` of its leaves, and the `mergeSeq` of the accumulations of
chunks is the accumulation of their concatenation (`mergeSeq_foldUpd`). -/
namespace PyPhysim.C06M
open PyPhysim.Proto

/-- same constructor arguments (name, type, accumulate flag, number of choices) -/
structure Compat (a b : Res) : Prop where
  name : a.name = b.name
  ty : a.ty = b.ty
  acc : a.acc = b.acc
  len : a.counts.length = b.counts.length

/-- only CHOICE results carry an array -/
def Shaped (r : Res) : Prop := r.ty ≠ .choice → r.counts = []

theorem Compat.refl (a : Res) : Compat a a := ⟨rfl, rfl, rfl, rfl⟩
theorem Compat.symm {a b : Res} (h : Compat a b) : Compat b a :=
  ⟨h.name.symm, h.ty.symm, h.acc.symm, h.len.symm⟩
theorem Compat.trans {a b c : Res} (h : Compat a b) (h' : Compat b c) : Compat a c :=
  ⟨h.name.trans h'.name, h.ty.trans h'.ty, h.acc.trans h'.acc, h.len.trans h'.len⟩

/-- what `mergeCore` needs of the operands: same name and type, equal array lengths, and the
    merged-in object accumulates values whenever `self` does.  `Result.merge` asserts this
    (`mergeGuard`), except that it compares the array lengths of CHOICE results only: for `Shaped`
    operands that is the same (`compatL_of_mergeGuard`). -/
structure CompatL (a b : Res) : Prop where
  name : a.name = b.name
  ty : a.ty = b.ty
  acc : a.acc = true → b.acc = true
  len : a.counts.length = b.counts.length

theorem Compat.toL {a b : Res} (h : Compat a b) : CompatL a b :=
  ⟨h.name, h.ty, fun e => by rw [← h.acc]; exact e, h.len⟩

theorem CompatL.trans_compat {a b c : Res} (h : CompatL a b) (h' : Compat b c) : CompatL a c :=
  ⟨h.name.trans h'.name, h.ty.trans h'.ty, fun e => h'.acc ▸ h.acc e, h.len.trans h'.len⟩

theorem incr_eq_modify (l : List Nat) (i : Nat) : incr l i = l.modify i (· + 1) := by
  induction l generalizing i with
  | nil => rw [List.modify_nil]; rfl
  | cons x xs ih =>
    cases i with
    | zero => rfl
    | succ i => exact congrArg (x :: ·) (ih i)

theorem incr_length (l : List Nat) (i : Nat) : (incr l i).length = l.length := by
  rw [incr_eq_modify, List.length_modify]

theorem incr_getElem? (l : List Nat) (j i : Nat) :
    (incr l j)[i]? = (l[i]?).map (fun x => if j = i then x + 1 else x) := by
  rw [incr_eq_modify, List.getElem?_modify]; rfl

theorem incr_zipWith (a b : List Nat) (i : Nat) :
    incr (List.zipWith (· + ·) a b) i = List.zipWith (· + ·) a (incr b i) := by
  induction a generalizing b i with
  | nil => rfl
  | cons x xs ih =>
    cases b with
    | nil => rfl
    | cons y ys =>
      cases i with
      | zero => rfl
      | succ i => exact congrArg (_ :: ·) (ih ys i)

theorem zipWith_add_zeros (l : List Nat) :
    List.zipWith (· + ·) l (List.replicate l.length 0) = l := by
  rw [zipWith_replicate_right _ _ _ _ (Nat.le_refl _)]
  exact List.map_id' _

theorem zipWith_add_assoc (a b c : List Nat) :
    List.zipWith (· + ·) (List.zipWith (· + ·) a b) c
      = List.zipWith (· + ·) a (List.zipWith (· + ·) b c) :=
  zipWith_assoc _ Nat.add_assoc a b c

/-- the two outcomes of a call, here and in `update_invalid`: on a valid observation it counts one
    update and stores new statistics, whatever the type; otherwise it raises and returns the object -/
theorem update_of_valid {r : Res} {o : Obs} (h : validObs r o) :
    ∃ v c t s q tl, update r o =
        ({ r with n := r.n + 1, value := v, counts := c, total := t, rsum := s, rsq := q,
                  vlist := if r.acc then r.vlist ++ [o.v] else r.vlist, tlist := tl }, none)
      ∧ c.length = r.counts.length ∧ (r.ty ≠ .choice → c = r.counts) ∧ (r.ty = .choice → v = r.value) := by
  unfold validObs at h
  -- the exits of `update` in source order: SUM; RATIO without a total, with total 0, with a total; MISC;
  -- CHOICE with a non-integer, out of range, in range
  fun_cases update r o with
  | case1 hty => exact ⟨_, _, _, _, _, _, rfl, rfl, fun _ => rfl, fun h => Ty.noConfusion (hty.symm.trans h)⟩
  | case2 hty hot =>
    rw [hty, hot] at h
    obtain ⟨_, ht, -⟩ := h
    cases ht
  | case3 hty hot =>
    rw [hty, hot] at h
    obtain ⟨_, ht, h0⟩ := h
    exact absurd (Option.some.inj ht).symm h0
  | case4 hty t hot h0 =>
    exact ⟨_, _, _, _, _, _, rfl, rfl, fun _ => rfl, fun h => Ty.noConfusion (hty.symm.trans h)⟩
  | case5 hty => exact ⟨_, _, _, _, _, _, rfl, rfl, fun _ => rfl, fun h => Ty.noConfusion (hty.symm.trans h)⟩
  | case6 hty hd =>
    rw [hty] at h
    exact absurd h.1 hd
  | case7 hty hd hi =>
    rw [hty, hi] at h
    cases h.2
  | case8 hty hd i hi => exact ⟨_, _, _, _, _, _, rfl, incr_length _ _, fun h => absurd hty h, fun _ => rfl⟩

theorem update_invalid {r : Res} {o : Obs} (h : ¬ validObs r o) :
    (update r o).2 ≠ none ∧ (update r o).1 = r := by
  unfold validObs at h
  fun_cases update r o with
  | case1 hty =>
    rw [hty] at h
    exact absurd trivial h
  | case2 hty hot => exact ⟨Option.some_ne_none _, rfl⟩
  | case3 hty hot => exact ⟨Option.some_ne_none _, rfl⟩
  | case4 hty t hot h0 =>
    rw [hty] at h
    exact absurd ⟨t, hot, h0⟩ h
  | case5 hty =>
    rw [hty] at h
    exact absurd trivial h
  | case6 hty hd => exact ⟨Option.some_ne_none _, rfl⟩
  | case7 hty hd hi => exact ⟨Option.some_ne_none _, rfl⟩
  | case8 hty hd i hi =>
    rw [hty] at h
    exact absurd ⟨not_not.mp hd, Option.isSome_iff_exists.mpr ⟨i, hi⟩⟩ h

theorem update_valid {r : Res} {o : Obs} (h : validObs r o) :
    (update r o).2 = none ∧ (update r o).1.n = r.n + 1 := by
  obtain ⟨_, _, _, _, _, _, hu, -⟩ := update_of_valid h
  rw [hu]; exact ⟨rfl, rfl⟩

theorem update_keeps (r : Res) (o : Obs) :
    (update r o).1.name = r.name ∧ (update r o).1.ty = r.ty ∧ (update r o).1.acc = r.acc
      ∧ (update r o).1.counts.length = r.counts.length
      ∧ (r.ty ≠ .choice → (update r o).1.counts = r.counts)
      ∧ (r.ty = .choice → (update r o).1.value = r.value) := by
  by_cases hv : validObs r o
  · obtain ⟨_, _, _, _, _, _, hu, hl, hc, hval⟩ := update_of_valid hv
    rw [hu]; exact ⟨rfl, rfl, rfl, hl, hc, hval⟩
  · rw [(update_invalid hv).2]; exact ⟨rfl, rfl, rfl, rfl, fun _ => rfl, fun _ => rfl⟩

theorem update_name (r : Res) (o : Obs) : (update r o).1.name = r.name := (update_keeps r o).1
theorem update_ty (r : Res) (o : Obs) : (update r o).1.ty = r.ty := (update_keeps r o).2.1
theorem update_acc (r : Res) (o : Obs) : (update r o).1.acc = r.acc := (update_keeps r o).2.2.1
theorem update_counts_length (r : Res) (o : Obs) :
    (update r o).1.counts.length = r.counts.length := (update_keeps r o).2.2.2.1
theorem update_counts_of_ne_choice (r : Res) (o : Obs) (h : r.ty ≠ .choice) :
    (update r o).1.counts = r.counts := (update_keeps r o).2.2.2.2.1 h
theorem update_value_of_choice (r : Res) (o : Obs) (h : r.ty = .choice) :
    (update r o).1.value = r.value := (update_keeps r o).2.2.2.2.2 h

theorem compat_update (r : Res) (o : Obs) : Compat r (update r o).1 :=
  ⟨(update_name r o).symm, (update_ty r o).symm, (update_acc r o).symm, (update_counts_length r o).symm⟩

theorem shaped_update {r : Res} (o : Obs) (h : Shaped r) : Shaped (update r o).1 := by
  intro hne
  rw [update_ty] at hne
  rw [update_counts_of_ne_choice r o hne]
  exact h hne

theorem validObs_congr {r r' : Res} (o : Obs) (ht : r.ty = r'.ty)
    (hl : r.counts.length = r'.counts.length) : validObs r o ↔ validObs r' o := by
  unfold validObs; rw [ht, hl]

theorem validObs_update {r : Res} {o o' : Obs} : validObs (update r o).1 o' ↔ validObs r o' :=
  validObs_congr o' (update_ty r o) (update_counts_length r o)

theorem update_ok {r : Res} {o : Obs} (h : validObs r o) : (update r o).2 = none := (update_valid h).1
theorem update_n_ok {r : Res} {o : Obs} (h : validObs r o) : (update r o).1.n = r.n + 1 := (update_valid h).2
theorem update_err_of_invalid {r : Res} {o : Obs} (h : ¬ validObs r o) : (update r o).2 ≠ none :=
  (update_invalid h).1

theorem update_err_unchanged (r : Res) (o : Obs) (h : (update r o).2 ≠ none) : (update r o).1 = r := by
  by_cases hv : validObs r o
  · exact absurd (update_valid hv).1 h
  · exact (update_invalid hv).2

theorem foldUpd_nil (r : Res) : foldUpd r [] = r := rfl
theorem foldUpd_cons (r : Res) (o : Obs) (xs : List Obs) :
    foldUpd r (o :: xs) = foldUpd (update r o).1 xs := rfl
theorem foldUpd_append (r : Res) (xs ys : List Obs) :
    foldUpd r (xs ++ ys) = foldUpd (foldUpd r xs) ys := by
  simp [foldUpd, List.foldl_append]

theorem compat_foldUpd {a b : Res} (xs : List Obs) (h : Compat a b) : Compat a (foldUpd b xs) := by
  induction xs generalizing b with
  | nil => exact h
  | cons o xs ih => exact ih (h.trans (compat_update b o))

theorem shaped_foldUpd {r : Res} (xs : List Obs) (h : Shaped r) : Shaped (foldUpd r xs) := by
  induction xs generalizing r with
  | nil => exact h
  | cons o xs ih => exact ih (shaped_update o h)

theorem shaped_fresh (nm : String) (ty : Ty) (acc : Bool) (k : Nat) : Shaped (fresh nm ty acc k) := by
  intro h; simp only [fresh] at h ⊢; simp [h]

theorem mkRes_eq_fresh (nm : String) (ty : Ty) (acc : Bool) (k : Nat) :
    mkRes nm ty acc (some k) = .ok (fresh nm ty acc k) := by
  cases ty <;> rfl

theorem mkRes_none_eq_fresh (nm : String) (ty : Ty) (acc : Bool) (h : ty ≠ .choice) :
    mkRes nm ty acc none = .ok (fresh nm ty acc 0) := by
  cases ty
  · rfl
  · rfl
  · rfl
  · exact absurd rfl h

theorem fresh_counts_length_choice (nm : String) (acc : Bool) (k : Nat) :
    (fresh nm .choice acc k).counts.length = k := by simp [fresh]

theorem fresh_of_compat {nm : String} {ty : Ty} {acc₀ : Bool} {k : Nat} {a : Res} (acc : Bool)
    (h : Compat (fresh nm ty acc₀ k) a) : fresh a.name a.ty acc a.counts.length = fresh nm ty acc k := by
  obtain ⟨hn, ht, -, hl⟩ := h
  simp only [fresh] at hn ht hl
  subst hn ht
  by_cases hc : a.ty = .choice
  · simp only [hc, if_true, List.length_replicate] at hl
    simp [fresh, hc, hl]
  · simp [fresh, hc]

theorem mergeGuard_eq (a b : Res) :
    mergeGuard a b =
      if a.ty = b.ty ∧ a.name = b.name ∧ ¬ (a.acc = true ∧ b.acc = false)
          ∧ ¬ (a.ty = .choice ∧ a.counts.length ≠ b.counts.length) then none
      else some .AssertionError := by
  fun_cases mergeGuard a b with
  | case1 h1 => exact (if_neg fun h => h1 h.1).symm
  | case2 _ h2 => exact (if_neg fun h => h2 h.2.1).symm
  | case3 _ _ h3 => exact (if_neg fun h => h.2.2.1 h3).symm
  | case4 _ _ _ h4 => exact (if_neg fun h => h.2.2.2 h4).symm
  | case5 h1 h2 h3 h4 => exact (if_pos ⟨not_not.mp h1, not_not.mp h2, h3, h4⟩).symm

theorem mergeGuard_eq_none {a b : Res} (h : CompatL a b) : mergeGuard a b = none := by
  rw [mergeGuard_eq, if_pos ⟨h.ty, h.name, fun ⟨ha, hb⟩ => Bool.noConfusion ((h.acc ha).symm.trans hb),
    fun ⟨_, hl⟩ => hl h.len⟩]

theorem merge_okL {a b : Res} (h : CompatL a b) : merge a b = (mergeCore a b, none) := by
  have hc : addCounts a.counts b.counts = some (List.zipWith (· + ·) a.counts b.counts) := if_pos h.len
  unfold merge mergeCore
  rw [mergeGuard_eq_none h, hc]
  cases a.ty <;> rfl

theorem merge_rejected {a b : Res}
    (h : a.ty ≠ b.ty ∨ a.name ≠ b.name ∨ (a.acc = true ∧ b.acc = false)
          ∨ (a.ty = .choice ∧ a.counts.length ≠ b.counts.length)) :
    merge a b = (a, some .AssertionError) := by
  rw [merge, mergeGuard_eq, if_neg]
  rintro ⟨h1, h2, h3, h4⟩
  rcases h with h | h | h | h
  exacts [h h1, h h2, h3 h, h4 h]

theorem compatL_of_mergeGuard {a b : Res} (ha : Shaped a) (hb : Shaped b) (h : mergeGuard a b = none) :
    CompatL a b := by
  rw [mergeGuard_eq] at h
  split_ifs at h with hc
  obtain ⟨ht, hn, h3, h4⟩ := hc
  refine ⟨hn, ht, fun e => ?_, ?_⟩
  · cases hb' : b.acc
    · exact absurd ⟨e, hb'⟩ h3
    · rfl
  · by_cases hc : a.ty = .choice
    · exact not_not.mp (fun hne => h4 ⟨hc, hne⟩)
    · rw [ha hc, hb (ht ▸ hc)]

theorem merge_ok {a b : Res} (h : Compat a b) : merge a b = (mergeCore a b, none) := merge_okL h.toL

theorem mergeM_ok {a b : Res} (h : Compat a b) : mergeM a b = .ok (mergeCore a b) := by
  simp [mergeM, merge_ok h]

theorem extendLists_eq (a b : Res) :
    extendLists a b = { a with vlist := if a.acc then a.vlist ++ b.vlist else a.vlist,
                               tlist := if a.acc then a.tlist ++ b.tlist else a.tlist } := by
  obtain ⟨_, _, _, _, _, _, _, _, acc, _, _⟩ := a
  cases acc <;> rfl

theorem mergeCore_add (a b : Res) (hm : a.ty ≠ .misc) : mergeCore a b =
    { a with n := a.n + b.n, value := a.value + b.value, counts := List.zipWith (· + ·) a.counts b.counts,
             total := a.total + b.total, rsum := a.rsum + b.rsum, rsq := a.rsq + b.rsq,
             vlist := if a.acc then a.vlist ++ b.vlist else a.vlist,
             tlist := if a.acc then a.tlist ++ b.tlist else a.tlist } := by
  rw [mergeCore, extendLists_eq]
  cases hty : a.ty
  · rfl
  · rfl
  · exact absurd hty hm
  · rfl

theorem mergeCore_misc (a b : Res) (hm : a.ty = .misc) : mergeCore a b =
    { a with n := b.n, value := b.value, counts := b.counts, total := b.total, rsum := b.rsum, rsq := b.rsq,
             vlist := if a.acc then a.vlist ++ b.vlist else a.vlist,
             tlist := if a.acc then a.tlist ++ b.tlist else a.tlist } := by
  rw [mergeCore, extendLists_eq, hm]

theorem mergeCore_keeps (a b : Res) :
    (mergeCore a b).name = a.name ∧ (mergeCore a b).ty = a.ty ∧ (mergeCore a b).acc = a.acc := by
  by_cases hm : a.ty = .misc
  · rw [mergeCore_misc a b hm]; exact ⟨rfl, rfl, rfl⟩
  · rw [mergeCore_add a b hm]; exact ⟨rfl, rfl, rfl⟩

theorem mergeCore_name (a b : Res) : (mergeCore a b).name = a.name := (mergeCore_keeps a b).1
theorem mergeCore_ty (a b : Res) : (mergeCore a b).ty = a.ty := (mergeCore_keeps a b).2.1
theorem mergeCore_acc (a b : Res) : (mergeCore a b).acc = a.acc := (mergeCore_keeps a b).2.2

theorem mergeCore_counts_length {a b : Res} (h : a.counts.length = b.counts.length) :
    (mergeCore a b).counts.length = a.counts.length := by
  by_cases hm : a.ty = .misc
  · rw [mergeCore_misc a b hm]; exact h.symm
  · rw [mergeCore_add a b hm]
    simp only [List.length_zipWith, h, Nat.min_self]

theorem compat_mergeCore {a b : Res} (h : Compat a b) : Compat a (mergeCore a b) :=
  ⟨(mergeCore_name a b).symm, (mergeCore_ty a b).symm, (mergeCore_acc a b).symm,
    (mergeCore_counts_length h.len).symm⟩

theorem shaped_mergeCore_of_ty {a b : Res} (ha : Shaped a) (hb : Shaped b) (h : a.ty = b.ty) :
    Shaped (mergeCore a b) := by
  intro hne
  rw [mergeCore_ty] at hne
  by_cases hm : a.ty = .misc
  · rw [mergeCore_misc a b hm]; exact hb (h ▸ hne)
  · rw [mergeCore_add a b hm]
    show List.zipWith (· + ·) a.counts b.counts = []
    rw [ha hne, List.zipWith_nil_left]

theorem shaped_mergeCore {a b : Res} (ha : Shaped a) (hb : Shaped b) (h : Compat a b) :
    Shaped (mergeCore a b) := shaped_mergeCore_of_ty ha hb h.ty

/-- the heart of the property: updating the merged object = merging the updated operand -/
theorem update_mergeCore {a b : Res} (o : Obs) (hm : a.ty ≠ .misc) (h : CompatL a b) :
    (update (mergeCore a b) o).1 = mergeCore a (update b o).1 := by
  have hty : (mergeCore a b).ty = b.ty := (mergeCore_ty a b).trans h.ty
  have hlen : (mergeCore a b).counts.length = b.counts.length := (mergeCore_counts_length h.len).trans h.len
  -- a call that raises changes neither object
  by_cases hv : validObs b o
  swap
  · rw [(update_invalid hv).2, (update_invalid (fun h' => hv ((validObs_congr o hty hlen).mp h'))).2]
  obtain ⟨-, ht, ha, hl⟩ := h
  unfold validObs at hv
  -- per type, both sides are one record: the sums agree by associativity, the CHOICE arrays by
  -- `incr_zipWith`, and the appended value lists because `b` accumulates whenever `a` does (`ha`)
  cases hta : a.ty
  · have hb : b.ty = .sum := by rw [← ht, hta]
    cases hacc : a.acc
    · simp [update, mergeCore_add a _ hm, hta, hb, hacc, Rat.add_assoc, Nat.add_assoc]
    · simp [update, mergeCore_add a _ hm, hta, hb, hacc, ha hacc, Rat.add_assoc, Nat.add_assoc]
  · have hb : b.ty = .ratio := by rw [← ht, hta]
    rw [hb] at hv
    obtain ⟨t, hot, h0⟩ := hv
    cases hacc : a.acc
    · simp [update, mergeCore_add a _ hm, hta, hb, hot, h0, hacc, Rat.add_assoc, Nat.add_assoc]
    · simp [update, mergeCore_add a _ hm, hta, hb, hot, h0, hacc, ha hacc, Rat.add_assoc, Nat.add_assoc]
  · exact absurd hta hm
  · have hb : b.ty = .choice := by rw [← ht, hta]
    rw [hb] at hv
    obtain ⟨hd, hi⟩ := hv
    obtain ⟨i, hi⟩ := Option.isSome_iff_exists.mp hi
    cases hacc : a.acc
    · simp [update, mergeCore_add a _ hm, hta, hb, hd, hl, hi, hacc, Rat.add_assoc, Nat.add_assoc, incr_zipWith]
    · simp [update, mergeCore_add a _ hm, hta, hb, hd, hl, hi, hacc, ha hacc, Rat.add_assoc, Nat.add_assoc,
        incr_zipWith]

/-- a new object with `a`'s constructor arguments carries an array of zeros of `a`'s length -/
theorem fresh_counts {a : Res} (acc : Bool) (hs : Shaped a) :
    (fresh a.name a.ty acc a.counts.length).counts = List.replicate a.counts.length 0 := by
  by_cases hc : a.ty = .choice
  · exact if_pos hc
  · rw [hs hc]; exact if_neg hc

theorem mergeCore_fresh {a : Res} (acc' : Bool) (hm : a.ty ≠ .misc) (hs : Shaped a) :
    mergeCore a (fresh a.name a.ty acc' a.counts.length) = a := by
  rw [mergeCore_add a _ hm, fresh_counts acc' hs, zipWith_add_zeros]
  cases a
  simp [fresh]

theorem mergeCore_foldUpd {a b : Res} (ys : List Obs) (hm : a.ty ≠ .misc) (h : CompatL a b) :
    mergeCore a (foldUpd b ys) = foldUpd (mergeCore a b) ys := by
  induction ys generalizing b with
  | nil => rfl
  | cons o ys ih =>
    rw [foldUpd_cons, foldUpd_cons, ih (h.trans_compat (compat_update b o)), update_mergeCore o hm h]

theorem mergeCore_foldUpd_fresh {a : Res} (acc : Bool) (hm : a.ty ≠ .misc) (hs : Shaped a)
    (hacc : a.acc = true → acc = true) (ys : List Obs) :
    mergeCore a (foldUpd (fresh a.name a.ty acc a.counts.length) ys) = foldUpd a ys := by
  have hc : CompatL a (fresh a.name a.ty acc a.counts.length) :=
    ⟨rfl, rfl, hacc, by rw [fresh_counts acc hs, List.length_replicate]⟩
  rw [mergeCore_foldUpd ys hm hc, mergeCore_fresh acc hm hs]

/-- merging a new object's accumulation of `xs` into any `a` of its kind continues the accumulation of `a` by `xs`;
    the flag of the new object matters only when `a` itself accumulates values -/
theorem mergeCore_into {nm : String} {ty : Ty} {acc₀ : Bool} {k : Nat} {a : Res} (acc : Bool) (hm : ty ≠ .misc)
    (ha : Compat (fresh nm ty acc₀ k) a) (hacc : acc₀ = true → acc = true) (hs : Shaped a) (xs : List Obs) :
    mergeCore a (foldUpd (fresh nm ty acc k) xs) = foldUpd a xs := by
  have h := mergeCore_foldUpd_fresh acc (fun h => hm (ha.ty.trans h)) hs (fun h => hacc (ha.acc.trans h)) xs
  rwa [fresh_of_compat acc ha] at h

/-- accumulation into a new object is a monoid homomorphism from lists of observations to results
    under `mergeCore`, on all attributes and not only the value -/
theorem foldUpd_append_fresh (nm : String) (ty : Ty) (acc : Bool) (k : Nat) (hm : ty ≠ .misc)
    (xs ys : List Obs) :
    foldUpd (fresh nm ty acc k) (xs ++ ys)
      = mergeCore (foldUpd (fresh nm ty acc k) xs) (foldUpd (fresh nm ty acc k) ys) := by
  rw [foldUpd_append, mergeCore_into acc hm (compat_foldUpd xs (Compat.refl _)) id
    (shaped_foldUpd xs (shaped_fresh _ _ _ _))]

theorem mergeM_foldUpd_fresh (nm : String) (ty : Ty) (acc : Bool) (k : Nat) (hm : ty ≠ .misc)
    (xs ys : List Obs) :
    mergeM (foldUpd (fresh nm ty acc k) xs) (foldUpd (fresh nm ty acc k) ys)
      = .ok (foldUpd (fresh nm ty acc k) (xs ++ ys)) := by
  rw [mergeM_ok ((compat_foldUpd _ (Compat.refl _)).symm.trans (compat_foldUpd _ (Compat.refl _))),
    foldUpd_append_fresh nm ty acc k hm]

theorem foldUpdM_ok {r : Res} {xs : List Obs} (h : ∀ o ∈ xs, validObs r o) :
    foldUpdM r xs = .ok (foldUpd r xs) := by
  fun_induction foldUpdM r xs with
  | case1 r => rfl
  | case2 r o xs r' hu ih =>
    have hr : (update r o).1 = r' := congrArg Prod.fst hu
    rw [foldUpd_cons, hr]
    exact ih fun o' ho' => hr ▸ validObs_update.mpr (h o' (List.mem_cons_of_mem _ ho'))
  | case3 r o xs _ e hu =>
    exact absurd ((congrArg Prod.snd hu).symm.trans (update_ok (h o List.mem_cons_self))) (Option.some_ne_none e)

theorem mergeCore_assoc {a b : Res} (c : Res) (h : Compat a b) :
    mergeCore (mergeCore a b) c = mergeCore a (mergeCore b c) := by
  by_cases hm : a.ty = .misc
  · rw [mergeCore_misc _ c (by rw [mergeCore_ty]; exact hm), mergeCore_misc a b hm, mergeCore_misc a _ hm,
      mergeCore_misc b c (h.ty ▸ hm), ← h.acc]
    cases a.acc <;> simp
  · rw [mergeCore_add _ c (by rw [mergeCore_ty]; exact hm), mergeCore_add a b hm, mergeCore_add a _ hm,
      mergeCore_add b c (h.ty ▸ hm), ← h.acc]
    cases a.acc <;> simp [Rat.add_assoc, Nat.add_assoc, zipWith_add_assoc]

/-- `a.merge(x)` for each `x` of `l` in turn, without the checks (`mergeCore`) -/
def mergeSeq (a : Res) (l : List Res) : Res := l.foldl mergeCore a

theorem compat_mergeSeq {c a : Res} {l : List Res} (ha : Compat c a) (hl : ∀ x ∈ l, Compat c x) :
    Compat c (mergeSeq a l) := by
  induction l generalizing a with
  | nil => exact ha
  | cons b l ih =>
    exact ih (ha.trans (compat_mergeCore (ha.symm.trans (hl b (by simp)))))
      (fun x hx => hl x (by simp [hx]))

theorem mergeCore_mergeSeq {c x b : Res} {l : List Res} (hx : Compat c x) (hb : Compat c b)
    (hl : ∀ y ∈ l, Compat c y) :
    mergeCore x (mergeSeq b l) = mergeSeq (mergeCore x b) l := by
  induction l generalizing b with
  | nil => rfl
  | cons d l ih =>
    have hd := hl d (by simp)
    have hbd : Compat b d := hb.symm.trans hd
    show mergeCore x (mergeSeq (mergeCore b d) l) = mergeSeq (mergeCore (mergeCore x b) d) l
    rw [ih (hb.trans (compat_mergeCore hbd)) (fun y hy => hl y (by simp [hy])),
      mergeCore_assoc d (hx.symm.trans hb)]

/-- a merge tree over compatible results evaluates to the left-to-right merge of its leaves -/
theorem evalRes_eq_mergeSeq (c : Res) (t : MTree Res) (h : ∀ x ∈ t.leaves, Compat c x) :
    ∃ x l, t.leaves = x :: l ∧ evalRes t = .ok (mergeSeq x l) := by
  induction t with
  | leaf x => exact ⟨x, [], rfl, rfl⟩
  | node l r ihl ihr =>
    rw [MTree.leaves, List.forall_mem_append] at h
    obtain ⟨x, l1, e1, h1⟩ := ihl h.1
    obtain ⟨y, l2, e2, h2⟩ := ihr h.2
    rw [e1, e2, List.forall_mem_cons, List.forall_mem_cons] at h
    obtain ⟨⟨hx, hl1⟩, hy, hl2⟩ := h
    refine ⟨x, l1 ++ y :: l2, by rw [MTree.leaves, e1, e2]; rfl, ?_⟩
    have ca := compat_mergeSeq hx hl1
    rw [evalRes, h1, h2]
    refine (mergeM_ok (ca.symm.trans (compat_mergeSeq hy hl2))).trans (congrArg _ ?_)
    rw [mergeCore_mergeSeq ca hy hl2]
    exact (List.foldl_append (f := mergeCore) (b := x) (l := l1) (l' := y :: l2)).symm

theorem evalTree_eq_foldUpd (nm : String) (ty : Ty) (acc : Bool) (k : Nat) (hm : ty ≠ .misc)
    (t : MTree (List Obs)) (hv : ∀ o ∈ t.flatten, validObs (fresh nm ty acc k) o) :
    evalTree (fresh nm ty acc k) t = .ok (foldUpd (fresh nm ty acc k) t.flatten) := by
  induction t with
  | leaf xs => exact foldUpdM_ok hv
  | node l r ihl ihr =>
    have hl := ihl (fun o ho => hv o (by simp [MTree.flatten, ho]))
    have hr := ihr (fun o ho => hv o (by simp [MTree.flatten, ho]))
    simp only [evalTree, hl, hr, bind, Except.bind, MTree.flatten]
    exact mergeM_foldUpd_fresh nm ty acc k hm _ _

theorem mergeSeq_foldUpd (nm : String) (ty : Ty) (acc : Bool) (k : Nat) (hm : ty ≠ .misc)
    (xs : List Obs) (chunks : List (List Obs)) :
    mergeSeq (foldUpd (fresh nm ty acc k) xs) (chunks.map (foldUpd (fresh nm ty acc k)))
      = foldUpd (fresh nm ty acc k) (xs ++ chunks.flatten) := by
  induction chunks generalizing xs with
  | nil => rw [List.flatten_nil, List.append_nil]; rfl
  | cons c rest ih =>
    rw [List.flatten_cons, ← List.append_assoc, ← ih (xs ++ c), foldUpd_append_fresh nm ty acc k hm]
    rfl

theorem eqPy_self (r : Res) : eqPy r r = .ok true := by
  unfold eqPy
  rw [if_neg (fun h => h.1 h.2.1)]
  -- every remaining test compares an attribute with itself
  simp

end PyPhysim.C06M
