import Mathlib.Tactic.LinearCombination
import PyPhysim.Model.C20Gmd
import PyPhysim.Proofs.C20Real

/-!
The algebra of one Givens step of `gmd`.  `G2` is itself a Givens rotation, with parameters
`a = c δ1 / σ̄`, `b = s δ2 / σ̄`; over any field `a² + b² = 1` and `G2ᵀ · diag(δ1, δ2) · G1 = [[σ̄, x], [0, y]]`
are polynomial consequences of `c² + s² = 1`, `c² δ1² + s² δ2² = σ̄²` and `σ̄⁻¹ σ̄ = 1`; over `ℝ` the
parameters the code computes satisfy the two equations when `σ̄` lies between `δ2` and `δ1`.
-/
namespace PyPhysim.LinAlg.GmdInv
variable {K : Type} [Field K]

/-- `G2` is the Givens rotation with parameters `c δ1 / σ̄`, `s δ2 / σ̄` -/
theorem gmdG2_eq_gmdG1 (sb d1 d2 c s : K) :
    gmdG2 sb d1 d2 c s = gmdG1 (1 / sb * (c * d1)) (1 / sb * (s * d2)) := by
  rw [gmdG2, gmdG1, mul_neg]

/-- `Gᵀ G = 1` entry by entry for a Givens rotation -/
theorem gmdG1_orth (c s : K) (h1 : c * c + s * s = 1) :
    let g := gmdG1 c s
    g.1 * g.1 + g.2.2.1 * g.2.2.1 = 1 ∧ g.2.1 * g.2.1 + g.2.2.2 * g.2.2.2 = 1 ∧
      g.1 * g.2.1 + g.2.2.1 * g.2.2.2 = 0 := by
  simp only [gmdG1]
  exact ⟨h1, by linear_combination h1, by ring⟩

/-- the parameters `a`, `b` of `G2` satisfy `a² + b² = 1`, and `G2ᵀ · diag(δ1, δ2) · G1 = [[σ̄, x], [0, y]]`
    entry by entry -/
theorem gmd_step_triangular (sb d1 d2 c s : K) (hsb : sb ≠ 0) (h1 : c ^ 2 + s ^ 2 = 1)
    (h2 : c ^ 2 * d1 ^ 2 + s ^ 2 * d2 ^ 2 = sb ^ 2) :
    let g := gmdG1 c s
    let a := 1 / sb * (c * d1)
    let b := 1 / sb * (s * d2)
    let h := gmdG1 a b
    a * a + b * b = 1 ∧
    h.1 * d1 * g.1 + h.2.2.1 * d2 * g.2.2.1 = sb ∧
    h.1 * d1 * g.2.1 + h.2.2.1 * d2 * g.2.2.2 = gmdX sb d1 d2 c s ∧
    h.2.1 * d1 * g.1 + h.2.2.2 * d2 * g.2.2.1 = 0 ∧
    h.2.1 * d1 * g.2.1 + h.2.2.2 * d2 * g.2.2.2 = gmdY sb d1 d2 := by
  have hu : sb⁻¹ * sb = 1 := inv_mul_cancel₀ hsb
  simp only [gmdG1, gmdX, gmdY, div_eq_mul_inv, one_mul]
  generalize sb⁻¹ = u at hu
  refine ⟨?_, ?_, by ring, by ring, ?_⟩
  · linear_combination u ^ 2 * h2 + (u * sb + 1) * hu
  · linear_combination u * h2 + sb * hu
  · linear_combination (u * d1 * d2) * h1

end PyPhysim.LinAlg.GmdInv

namespace PyPhysim.LinAlg.Pf

/-- `(x − b)/(a − b) ∈ [0, 1]` for `x` between `b` and `a` -/
theorem div_sub_mem_unit (a b x : ℝ) (h : (b ≤ x ∧ x ≤ a ∧ b < a) ∨ (a ≤ x ∧ x ≤ b ∧ a < b)) :
    0 ≤ (x - b) / (a - b) ∧ (x - b) / (a - b) ≤ 1 ∧ a - b ≠ 0 := by
  rcases h with ⟨h0, h1, h2⟩ | ⟨h0, h1, h2⟩
  · exact ⟨div_nonneg (sub_nonneg.mpr h0) (sub_pos.mpr h2).le,
      (div_le_one (sub_pos.mpr h2)).mpr (sub_le_sub_right h1 b), (sub_pos.mpr h2).ne'⟩
  · exact ⟨div_nonneg_of_nonpos (sub_nonpos.mpr h1) (sub_neg.mpr h2).le,
      (div_le_one_of_neg (sub_neg.mpr h2)).mpr (sub_le_sub_right h0 b), (sub_neg.mpr h2).ne⟩

/-- the `c`, `s` the code computes satisfy the two equations the step needs -/
theorem gmdCS_spec (sb d1 d2 : ℝ) (hsb : 0 < sb)
    (h : (0 ≤ d2 ∧ d2 < sb ∧ sb ≤ d1) ∨ (0 ≤ d1 ∧ d1 < sb ∧ sb ≤ d2)) :
    (gmdCS false sb d1 d2).1 ^ 2 + (gmdCS false sb d1 d2).2 ^ 2 = 1 ∧
    (gmdCS false sb d1 d2).1 ^ 2 * d1 ^ 2 + (gmdCS false sb d1 d2).2 ^ 2 * d2 ^ 2 = sb ^ 2 := by
  -- `c² = t`, `s² = 1 − t` with `t = (σ̄² − δ2²)/(δ1² − δ2²) ∈ [0, 1]`
  obtain ⟨ht0, ht1, hden⟩ := div_sub_mem_unit (d1 * d1) (d2 * d2) (sb * sb) (by
    rcases h with ⟨h0, h1, h2⟩ | ⟨h0, h1, h2⟩
    · exact Or.inl ⟨mul_self_le_mul_self h0 h1.le, mul_self_le_mul_self hsb.le h2,
        mul_self_lt_mul_self h0 (h1.trans_le h2)⟩
    · exact Or.inr ⟨mul_self_le_mul_self h0 h1.le, mul_self_le_mul_self hsb.le h2,
        mul_self_lt_mul_self h0 (h1.trans_le h2)⟩)
  generalize ht : (sb * sb - d2 * d2) / (d1 * d1 - d2 * d2) = t at ht0 ht1
  have hc2 : (gmdCS false sb d1 d2).1 ^ 2 = t := by
    show Real.sqrt _ ^ 2 = t
    rw [ht, Real.sq_sqrt ht0]
  have hs2 : (gmdCS false sb d1 d2).2 ^ 2 = 1 - t := by
    show Real.sqrt (1 - Real.sqrt _ * Real.sqrt _) ^ 2 = 1 - t
    rw [ht, Real.mul_self_sqrt ht0, Real.sq_sqrt (sub_nonneg.mpr ht1)]
  have hmul : t * (d1 * d1 - d2 * d2) = sb * sb - d2 * d2 := by
    rw [← ht]; exact div_mul_cancel₀ _ hden
  rw [hc2, hs2]
  exact ⟨by ring, by linear_combination hmul⟩

end PyPhysim.LinAlg.Pf
