import Mathlib.Data.Matrix.Mul
import Mathlib.Algebra.BigOperators.Fin
import Mathlib.Tactic.Module
import Mathlib.Tactic.LinearCombination
import Mathlib.Algebra.Star.Basic
import Mathlib.Algebra.Star.Pi
import Mathlib.Algebra.Star.Module
import PyPhysim.Proofs.C20GmdInvArr

/-!
The matrix part of the loop invariant of `gmd`.  `MInv … k d z R Fq Fp`: the columns `Fq`, `Fp` (of
`Q`, `P`) are orthonormal and `A · P = Q · R_k`, column by column, where `R_k` is the stored `R` in
its first `k` columns, `(z[0:k], d[k])` in column `k`, `d[b]` on the diagonal of the columns
`k < b < p`, zero beyond (fields `c1` … `c4`, one per range of columns).  `rT`: the stored `R` is
zero outside `a ≤ b < k`, except possibly the entry `(p - 1, p - 1)` — for `p = 1` the code pre-loads
`R[0, 0] = S[0]` before the (empty) sweep (`initR` in `C20GmdInvInit`; it is why `init_inv` proves
`rT` by the second disjunct), and the statement after the sweep overwrites that entry whatever `p`
is, so that `Inv.final` sets the second disjunct aside.  `rD`: the diagonal stored so far is `σ̄`.
`MInv` is preserved by an interchange of two trailing columns (`MInv.swap`) and turned into the
invariant for `k + 1` by the Givens step (`MInv.rot`).
-/
set_option linter.unusedSectionVars false
namespace PyPhysim.LinAlg.GmdInv
open PyPhysim.LinAlg Matrix

variable {K : Type} [Field K] [StarRing K]

/-- column `j` of `M`, its first `r` rows -/
def colv (r : Nat) (M : Nat → Nat → K) (j : Nat) : Fin r → K := fun i => M i.val j

/-- entries of a combination, the scalars on the right as `rotF` writes them -/
theorem comb_apply {r : Nat} (u v : Fin r → K) (p q : K) (i : Fin r) : (p • u + q • v) i = u i * p + v i * q := by
  rw [mul_comm (u i), mul_comm (v i)]
  rfl

theorem colv_rotF (r : Nat) (M : Nat → Nat → K) (a b : Nat) (g : K × K × K × K) (j : Nat) :
    colv r (rotF M a b g) j =
      if j = a then g.1 • colv r M a + g.2.2.1 • colv r M b
      else if j = b then g.2.1 • colv r M a + g.2.2.2 • colv r M b else colv r M j := by
  funext i
  rw [apply_ite (fun f : Fin r → K => f i), apply_ite (fun f : Fin r → K => f i), comb_apply, comb_apply]
  rfl

def Orth {r : Nat} (F : Nat → Fin r → K) : Prop :=
  ∀ a b, a < r → b < r → star (F a) ⬝ᵥ F b = if a = b then 1 else 0

theorem Orth.swap {r : Nat} {F : Nat → Fin r → K} (h : Orth F) (a b : Nat) (ha : a < r) (hb : b < r) :
    Orth (fun j => F (sw a b j)) := by
  intro x y hx hy
  beta_reduce
  rw [h _ _ (sw_lt a b x r ha hb hx) (sw_lt a b y r ha hb hy)]
  simp only [sw_inj]

theorem star_comb_dotProduct {r : Nat} (u v w : Fin r → K) (p q : K) :
    star (p • u + q • v) ⬝ᵥ w = star p * (star u ⬝ᵥ w) + star q * (star v ⬝ᵥ w) := by
  simp only [star_add, star_smul, add_dotProduct, smul_dotProduct, smul_eq_mul]

theorem dotProduct_comb {r : Nat} (w u v : Fin r → K) (p q : K) :
    w ⬝ᵥ (p • u + q • v) = p * (w ⬝ᵥ u) + q * (w ⬝ᵥ v) := by
  simp only [dotProduct_add, dotProduct_smul, smul_eq_mul]

theorem Orth.dot_comb {r : Nat} {F : Nat → Fin r → K} (h : Orth F) {a b : Nat} (ha : a < r) (hb : b < r)
    (hab : a ≠ b) {p q p' q' : K} (sp : star p = p) (sq : star q = q) :
    star (p • F a + q • F b) ⬝ᵥ (p' • F a + q' • F b) = p * p' + q * q' := by
  rw [star_comb_dotProduct, dotProduct_comb, dotProduct_comb, h a a ha ha, h a b ha hb, h b a hb ha, h b b hb hb,
    if_pos rfl, if_pos rfl, if_neg hab, if_neg (Ne.symm hab), sp, sq, mul_one, mul_zero, add_zero, mul_zero, mul_one,
    zero_add]

/-- a member of the family off `a`, `b` is orthogonal to the combinations of `F a`, `F b`, on either side -/
theorem Orth.dot_comb_off {r : Nat} {F : Nat → Fin r → K} (h : Orth F) {a b y : Nat} (ha : a < r)
    (hb : b < r) (hy : y < r) (hya : y ≠ a) (hyb : y ≠ b) (p q : K) :
    star (p • F a + q • F b) ⬝ᵥ F y = 0 ∧ star (F y) ⬝ᵥ (p • F a + q • F b) = 0 := by
  rw [star_comb_dotProduct, dotProduct_comb, h a y ha hy, h b y hb hy, h y a hy ha, h y b hy hb,
    if_neg (Ne.symm hya), if_neg (Ne.symm hyb), if_neg hya, if_neg hyb, mul_zero, mul_zero, add_zero, mul_zero,
    mul_zero, add_zero]
  exact ⟨rfl, rfl⟩

theorem Orth.givens {r : Nat} {F : Nat → Fin r → K} (h : Orth F) (a b : Nat) (ha : a < r) (hb : b < r)
    (hab : a ≠ b) (c s : K) (r_c : star c = c) (r_s : star s = s) (h1 : c * c + s * s = 1) :
    Orth (fun j => if j = a then c • F a + s • F b else if j = b then (-s) • F a + c • F b else F j) := by
  have hba : b ≠ a := Ne.symm hab
  have r_n : star (-s) = -s := by rw [star_neg, r_s]
  have h2 : c * -s + s * c = 0 := by rw [mul_neg, mul_comm c s, neg_add_cancel]
  intro x y hx hy
  beta_reduce
  by_cases x1 : x = a
  · rw [x1, if_pos rfl]
    by_cases y1 : y = a
    · rw [y1, if_pos rfl, if_pos rfl, h.dot_comb ha hb hab r_c r_s, h1]
    · rw [if_neg y1, if_neg (Ne.symm y1)]
      by_cases y2 : y = b
      · rw [y2, if_pos rfl, h.dot_comb ha hb hab r_c r_s, h2]
      · rw [if_neg y2, (h.dot_comb_off ha hb hy y1 y2 _ _).1]
  · rw [if_neg x1]
    by_cases x2 : x = b
    · rw [x2, if_pos rfl]
      by_cases y1 : y = a
      · rw [y1, if_pos rfl, if_neg hba, h.dot_comb ha hb hab r_n r_c, mul_comm (-s), mul_comm c s, h2]
      · rw [if_neg y1]
        by_cases y2 : y = b
        · rw [y2, if_pos rfl, if_pos rfl, h.dot_comb ha hb hab r_n r_c, neg_mul_neg, add_comm, h1]
        · rw [if_neg y2, if_neg (Ne.symm y2), (h.dot_comb_off ha hb hy y1 y2 _ _).1]
    · rw [if_neg x2]
      by_cases y1 : y = a
      · rw [y1, if_pos rfl, if_neg x1, (h.dot_comb_off ha hb hx x1 x2 _ _).2]
      · rw [if_neg y1]
        by_cases y2 : y = b
        · rw [y2, if_pos rfl, if_neg x2, (h.dot_comb_off ha hb hx x1 x2 _ _).2]
        · rw [if_neg y2]
          exact h x y hx hy

structure MInv (m n p : Nat) (A : Matrix (Fin m) (Fin n) K) (sb : K) (k : Nat)
    (d z : Nat → K) (R : Nat → Nat → K) (Fq : Nat → Fin m → K) (Fp : Nat → Fin n → K) : Prop where
  oQ : Orth Fq
  oP : Orth Fp
  c1 : ∀ b, b < k → A *ᵥ Fp b = ∑ a ∈ Finset.range (b + 1), R a b • Fq a
  c2 : A *ᵥ Fp k = ∑ t ∈ Finset.range k, z t • Fq t + d k • Fq k
  c3 : ∀ b, k < b → b < p → A *ᵥ Fp b = d b • Fq b
  c4 : ∀ b, p ≤ b → b < n → A *ᵥ Fp b = 0
  rT : ∀ a b, R a b ≠ 0 → (a ≤ b ∧ b < k) ∨ (a = p - 1 ∧ b = p - 1)
  rD : ∀ j, j < k → R j j = sb

theorem MInv.swap {m n p : Nat} {A : Matrix (Fin m) (Fin n) K} {sb : K} {k : Nat}
    {d z : Nat → K} {R : Nat → Nat → K} {Fq : Nat → Fin m → K} {Fp : Nat → Fin n → K}
    (h : MInv m n p A sb k d z R Fq Fp) (hpm : p ≤ m) (hpn : p ≤ n) (a b : Nat)
    (ha : k < a) (ha' : a < p) (hb : k < b) (hb' : b < p) :
    MInv m n p A sb k (fun q => d (sw a b q)) z R (fun j => Fq (sw a b j)) (fun j => Fp (sw a b j)) := by
  have hfix : ∀ x, x ≤ k → sw a b x = x := fun x hx => sw_of_lt a b x k ha hb hx
  refine ⟨h.oQ.swap a b (Nat.lt_of_lt_of_le ha' hpm) (Nat.lt_of_lt_of_le hb' hpm),
    h.oP.swap a b (Nat.lt_of_lt_of_le ha' hpn) (Nat.lt_of_lt_of_le hb' hpn), ?_, ?_, ?_, ?_, h.rT, h.rD⟩
  · intro j hj
    rw [hfix j (Nat.le_of_lt hj), h.c1 j hj]
    exact Finset.sum_congr rfl fun x hx => by
      rw [hfix x (Nat.le_of_lt (Nat.lt_of_lt_of_le (Finset.mem_range.mp hx) hj))]
  · rw [hfix k (le_refl k), h.c2]
    exact congrArg (· + _) (Finset.sum_congr rfl fun x hx => by
      rw [hfix x (Nat.le_of_lt (Finset.mem_range.mp hx))])
  · -- `d` and the columns of `P`, `Q` are moved together
    intro j hj hj'
    exact h.c3 _ (sw_gt a b j k ha hb hj) (sw_lt a b j p ha' hb' hj')
  · intro j hj hj'
    rw [sw_of_ge a b j p ha' hb' hj]
    exact h.c4 j hj hj'

/-- the Givens step: rotating the columns `k`, `k + 1` of `P` by `G1 = [[c, -s], [s, c]]` and of `Q` by
    `G2 = [[a, -b], [b, a]]`, storing column `k` of `R`, `x` in `z[k]` and `y` in `d[k+1]` turns the invariant
    for `k` into the invariant for `k + 1` — for all real Givens rotations `G1`, `G2` with
    `G2ᵀ · diag(d[k], d[k+1]) · G1 = [[σ̄, x], [0, y]]` (`t1` … `t4`, entry by entry) -/
theorem MInv.rot {m n p : Nat} {A : Matrix (Fin m) (Fin n) K} {sb : K} {k : Nat}
    {d z : Nat → K} {R : Nat → Nat → K} {Fq : Nat → Fin m → K} {Fp : Nat → Fin n → K}
    (h : MInv m n p A sb k d z R Fq Fp) (hpm : p ≤ m) (hpn : p ≤ n) (hk : k + 1 < p)
    (c s a b x y : K) (r_c : star c = c) (r_s : star s = s) (r_a : star a = a) (r_b : star b = b)
    (a1 : c * c + s * s = 1) (b1 : a * a + b * b = 1)
    (t1 : a * d k * c + b * d (k + 1) * s = sb) (t2 : a * d k * -s + b * d (k + 1) * c = x)
    (t3 : -b * d k * c + a * d (k + 1) * s = 0) (t4 : -b * d k * -s + a * d (k + 1) * c = y)
    (d' z' : Nat → K) (R' : Nat → Nat → K) (Fq' : Nat → Fin m → K) (Fp' : Nat → Fin n → K)
    (hd' : ∀ q, d' q = if q = k + 1 then y else d q)
    (hz' : ∀ t, z' t = if t < k then -z t * s else if t = k then x else z t)
    (hR' : ∀ a b, R' a b = if b = k ∧ a < k then z a * c else if a = k ∧ b = k then sb else R a b)
    (hFq' : ∀ j, Fq' j = if j = k then a • Fq k + b • Fq (k + 1)
          else if j = k + 1 then (-b) • Fq k + a • Fq (k + 1) else Fq j)
    (hFp' : ∀ j, Fp' j = if j = k then c • Fp k + s • Fp (k + 1)
          else if j = k + 1 then (-s) • Fp k + c • Fp (k + 1) else Fp j) :
    MInv m n p A sb (k + 1) d' z' R' Fq' Fp' := by
  have hkk : ¬ k + 1 = k := Nat.succ_ne_self k
  have hkm : k + 1 < m := Nat.lt_of_lt_of_le hk hpm
  have hkn : k + 1 < n := Nat.lt_of_lt_of_le hk hpn
  -- `A` on a combination of the columns `k`, `k + 1` of `P`, in the rotated columns of `Q`, compared coefficient
  -- by coefficient on the sum, `Q_k` and `Q_{k+1}`: `a² + b² = 1` (`b1`) is what inverts the rotation of `Q`
  have hcol : ∀ α β : K, A *ᵥ (α • Fp k + β • Fp (k + 1)) =
      α • ∑ t ∈ Finset.range k, z t • Fq t + ((a * d k * α + b * d (k + 1) * β) • Fq' k +
        (-b * d k * α + a * d (k + 1) * β) • Fq' (k + 1)) :=
    fun α β => by
      simp only [mulVec_add, mulVec_smul]
      rw [h.c2, h.c3 (k + 1) (Nat.lt_succ_self k) hk, hFq' k, if_pos rfl, hFq' (k + 1), if_neg hkk, if_pos rfl]
      match_scalars
      · rfl
      · linear_combination (-(d k * α)) * b1
      · linear_combination (-(d (k + 1) * β)) * b1
  have hsum : ∀ (w : K) (f : Nat → K), (∀ t, t < k → f t = z t * w) →
      ∑ t ∈ Finset.range k, f t • Fq' t = w • ∑ t ∈ Finset.range k, z t • Fq t := fun w f hf => by
    rw [Finset.smul_sum]
    refine Finset.sum_congr rfl fun t ht => ?_
    have htk := Finset.mem_range.mp ht
    rw [hf t htk, hFq' t, if_neg (Nat.ne_of_lt htk), if_neg (Nat.ne_of_lt (Nat.lt_succ_of_lt htk)),
      smul_smul, mul_comm]
  refine ⟨?_, ?_, ?_, ?_, ?_, ?_, ?_, ?_⟩
  · rw [show Fq' = _ from funext hFq']
    exact h.oQ.givens k (k + 1) (Nat.lt_of_succ_lt hkm) hkm (Ne.symm hkk) a b r_a r_b b1
  · rw [show Fp' = _ from funext hFp']
    exact h.oP.givens k (k + 1) (Nat.lt_of_succ_lt hkn) hkn (Ne.symm hkk) c s r_c r_s a1
  · intro j hj
    by_cases hjk : j = k
    · -- the new column `k`: its coefficients on `Q'_k`, `Q'_{k+1}` are `σ̄` and `0` (`t1`, `t3`); the sum is
      -- `Σ_{t<k} R'_{t k} Q'_t` (`hsum`)
      rw [hjk, hFp' k, if_pos rfl, hcol, t1, t3, zero_smul, add_zero, Finset.sum_range_succ,
        hsum c (fun t => R' t k) fun t ht => by rw [hR' t k, if_pos ⟨rfl, ht⟩], hR' k k,
        if_neg (fun hh => Nat.lt_irrefl k hh.2), if_pos ⟨rfl, rfl⟩]
    · have hjk' : j < k := Nat.lt_of_le_of_ne (Nat.le_of_lt_succ hj) hjk
      rw [hFp' j, if_neg hjk, if_neg (Nat.ne_of_lt hj), h.c1 j hjk']
      refine Finset.sum_congr rfl fun t ht => ?_
      have htk : t < k := Nat.lt_of_lt_of_le (Finset.mem_range.mp ht) hjk'
      rw [hFq' t, if_neg (Nat.ne_of_lt htk), if_neg (Nat.ne_of_lt (Nat.lt_succ_of_lt htk)), hR' t j,
        if_neg (fun hh => hjk hh.1), if_neg (fun hh => hjk hh.2)]
  · -- the new column `k + 1`: its coefficients on `Q'_k`, `Q'_{k+1}` are `x` and `y` (`t2`, `t4`); the sum is
    -- `Σ_{t<k} z'_t Q'_t` (`hsum`)
    rw [hFp' (k + 1), if_neg hkk, if_pos rfl, hcol, t2, t4, Finset.sum_range_succ,
      hsum (-s) z' fun t ht => by rw [hz' t, if_pos ht, neg_mul_comm], hz' k, if_neg (Nat.lt_irrefl k),
      if_pos rfl, hd' (k + 1), if_pos rfl, add_assoc]
  · intro j hj hj'
    have n1 : j ≠ k := Nat.ne_of_gt (Nat.lt_of_succ_lt hj)
    have n2 : j ≠ k + 1 := Nat.ne_of_gt hj
    rw [hFp' j, hFq' j, hd' j, if_neg n1, if_neg n2, if_neg n1, if_neg n2, if_neg n2]
    exact h.c3 j (Nat.lt_of_succ_lt hj) hj'
  · intro j hj hj'
    rw [hFp' j, if_neg (Nat.ne_of_gt (Nat.lt_of_lt_of_le (Nat.lt_of_succ_lt hk) hj)),
      if_neg (Nat.ne_of_gt (Nat.lt_of_lt_of_le hk hj))]
    exact h.c4 j hj hj'
  · intro i j hne
    rw [hR' i j] at hne
    by_cases e1 : j = k ∧ i < k
    · exact Or.inl ⟨Nat.le_of_lt (Nat.lt_of_lt_of_eq e1.2 e1.1.symm), Nat.lt_succ_of_le (Nat.le_of_eq e1.1)⟩
    · by_cases e2 : i = k ∧ j = k
      · exact Or.inl ⟨Nat.le_of_eq (e2.1.trans e2.2.symm), Nat.lt_succ_of_le (Nat.le_of_eq e2.2)⟩
      · rw [if_neg e1, if_neg e2] at hne
        exact (h.rT i j hne).imp (fun h' => ⟨h'.1, Nat.lt_succ_of_lt h'.2⟩) id
  · intro j hj
    rw [hR' j j]
    by_cases hjk : j = k
    · rw [if_neg (fun hh => Nat.ne_of_lt hh.2 hjk), if_pos ⟨hjk, hjk⟩]
    · rw [if_neg (fun hh => hjk hh.1), if_neg (fun hh => hjk hh.1)]
      exact h.rD j (Nat.lt_of_le_of_ne (Nat.le_of_lt_succ hj) hjk)

end PyPhysim.LinAlg.GmdInv
