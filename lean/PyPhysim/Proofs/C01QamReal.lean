import Mathlib.Analysis.SpecialFunctions.Sqrt
import PyPhysim.Proofs.C01Qam
import PyPhysim.Proofs.C01Psk

/-! Scaled QAM constellation over ℝ: distinct points, total energy `L²` (unit mean).
`Proofs/C01Psk` is imported for the instance `realTrig : Trig ℝ` alone. -/
namespace PyPhysim.C01
open List

theorem intPair_div_injective {e : ℝ} (he : e ≠ 0) :
    Function.Injective fun g : Int × Int => (((g.1 : Int) : ℝ) / e, ((g.2 : Int) : ℝ) / e) := by
  intro a b h
  rw [Prod.mk.injEq, div_left_inj' he, div_left_inj' he, Int.cast_inj, Int.cast_inj] at h
  exact Prod.ext h.1 h.2

theorem sum_cast_div {ι : Type} (f : ι → Int) (r : ℝ) : ∀ l : List ι,
    (l.map fun i => ((f i : Int) : ℝ) / r).sum = (((l.map f).sum : Int) : ℝ) / r
  | [] => (zero_div r).symm.trans (congrArg (· / r) Int.cast_zero.symm)
  | i :: l => by rw [map_cons, sum_cons, sum_cast_div f r l, map_cons, sum_cons, Int.cast_add, add_div]

theorem one_lt_mul_self {L : Nat} (hL : 2 ≤ L) : 1 < L * L :=
  Nat.lt_of_lt_of_le (by decide) (Nat.mul_le_mul hL hL)

theorem qam_scale_pos (L : Nat) (hL : 2 ≤ L) :
    0 < Real.sqrt ((((L * L - 1 : Nat) : ℝ) * ((2 : Nat) : ℝ)) / ((3 : Nat) : ℝ)) :=
  Real.sqrt_pos.mpr (div_pos (mul_pos (Nat.cast_pos.mpr (Nat.sub_pos_of_lt (one_lt_mul_self hL)))
    (Nat.cast_pos.mpr Nat.two_pos)) (Nat.cast_pos.mpr (Nat.succ_pos 2)))

theorem qam_natural_nodup (L : Nat) (hL : 2 ≤ L) : (qamNatural (α := ℝ) L).Nodup :=
  (qam_grid_nodup L).map (intPair_div_injective (qam_scale_pos L hL).ne')

/-- Every term is an integer `x² + y²` over the square of the scale, so the sum is the grid energy
over `(L²−1)·2/3`, which `qam_energy` gives as a multiple of just that. -/
theorem qam_natural_energy (L : Nat) (hL : 2 ≤ L) :
    ((qamNatural (α := ℝ) L).map (fun p => p.1 ^ 2 + p.2 ^ 2)).sum = (L:ℝ) * L := by
  have hE := congrArg (Int.cast (R := ℝ)) (qam_energy L)
  have he := qam_scale_pos L hL
  rw [qamNatural, map_map]
  simp only [Function.comp_def, sq, div_mul_div_comm, ← add_div, ← Int.cast_mul, ← Int.cast_add]
  rw [sum_cast_div, ← qamGridEnergy]
  show _ / (Real.sqrt _ * Real.sqrt _) = _
  rw [div_eq_iff (mul_pos he he).ne', Real.mul_self_sqrt (Real.sqrt_pos.mp he).le,
    Nat.cast_sub (one_lt_mul_self hL).le, ← mul_div_assoc,
    eq_div_iff (Nat.cast_ne_zero.mpr (Nat.succ_ne_zero 2))]
  push_cast at hE ⊢
  exact hE

end PyPhysim.C01
