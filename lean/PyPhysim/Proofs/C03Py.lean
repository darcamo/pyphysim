import Mathlib.Algebra.Order.Ring.Int
import PyPhysim.Model.C03
import PyPhysim.Proofs.Common

/-!
# C03 — Python `range` / `slice.indices` arithmetic, the block-size obligation, and `freqPlan` as an iff

`pyRangeLen` is the number of elements of a `range` (`pyRangeLen_spec`, closed form `rangeLenClosed`), `sliceIndices`
clamps to `[sliceLo, sliceHi]` and selects in-range positions only; from these the `block_size` the source computes is
the number of selected carriers for every kind of selection (`blockSize_ok_of_selPos`), so `freqPlan` returns
`(ps, B, nb)` exactly when `ps` are the selected carriers, `B > 0` their number and `n = nb·B` with `nb > 0`
(`freqPlan_eq_ok`).  The `do` blocks of the model are read with the lemmas of `Proofs/Common`.
-/
namespace PyPhysim.C03
open PyPhysim.Proto

theorem pyRangeLen_pos (a b s : Int) (hs : 0 < s) :
    pyRangeLen a b s = if a < b then (b - a - 1) / s + 1 else 0 := by
  rw [pyRangeLen, if_pos hs]

theorem pyRangeLen_neg (a b s : Int) (hs : s < 0) : pyRangeLen a b s = pyRangeLen (-a) (-b) (-s) := by
  rw [pyRangeLen_pos _ _ _ (Int.neg_pos.mpr hs), pyRangeLen, if_neg hs.asymm, if_pos hs, neg_sub_neg]
  simp only [neg_lt_neg_iff]

theorem pyRangeLen_spec_pos (a b s : Int) (hs : 0 < s) (k : Nat) :
    (k : Int) < pyRangeLen a b s ↔ a + k * s < b := by
  rw [pyRangeLen_pos a b s hs]
  split_ifs with hab
  · rw [Int.lt_add_one_iff, Int.le_ediv_iff_mul_le hs, Int.le_sub_one_iff, lt_sub_iff_add_lt']
  · have : 0 ≤ (k : Int) * s := Int.mul_nonneg (Int.natCast_nonneg k) hs.le
    exact iff_of_false (Int.not_lt.mpr (Int.natCast_nonneg k))
      fun h => hab (lt_of_le_of_lt (Int.le_add_of_nonneg_right this) h)

theorem pyRangeLen_spec (a b s : Int) (k : Nat) :
    (k : Int) < pyRangeLen a b s ↔ (0 < s ∧ a + k * s < b) ∨ (s < 0 ∧ b < a + k * s) := by
  rcases lt_trichotomy s 0 with hs | rfl | hs
  · rw [pyRangeLen_neg a b s hs, pyRangeLen_spec_pos _ _ _ (Int.neg_pos.mpr hs), Int.mul_neg, ← Int.neg_add,
      Int.neg_lt_neg_iff, and_iff_right hs, or_iff_right fun h => hs.asymm h.1]
  · exact iff_of_false (Int.not_lt.mpr (Int.natCast_nonneg k))
      fun h => h.elim (fun h => lt_irrefl _ h.1) fun h => lt_irrefl _ h.1
  · rw [pyRangeLen_spec_pos a b s hs, and_iff_right hs, or_iff_left fun h => hs.asymm h.1]

theorem pyRange_length (a b s : Int) : (pyRange a b s).length = (pyRangeLen a b s).toNat := by
  simp [pyRange, tab]

theorem mem_pyRange {a b s e : Int} (h : e ∈ pyRange a b s) :
    ∃ k : Nat, e = a + k * s ∧ ((0 < s ∧ e < b) ∨ (s < 0 ∧ b < e)) := by
  obtain ⟨k, hk, rfl⟩ := List.mem_map.mp h
  exact ⟨k, rfl, (pyRangeLen_spec a b s k).mp (Int.lt_toNat.mp (List.mem_range.mp hk))⟩

/-- the bounds `PySlice_AdjustIndices` clamps to: `[0, n]` for a positive step, `[-1, n-1]` for a negative one;
    the lower one -/
def sliceLo (step : Int) : Int := if step < 0 then -1 else 0
/-- … and the upper one -/
def sliceHi (step n : Int) : Int := if step < 0 then n - 1 else n

theorem clampIdx_bounds (step n v : Int) (hn : 0 ≤ n) :
    sliceLo step ≤ clampIdx step n v ∧ clampIdx step n v ≤ sliceHi step n := by
  have h : sliceLo step ≤ 0 ∧ n - 1 ≤ sliceHi step n ∧ sliceLo step ≤ sliceHi step n := by
    unfold sliceLo sliceHi
    split_ifs
    · exact ⟨by decide, le_refl _, Int.sub_le_sub_right hn 1⟩
    · exact ⟨le_refl _, Int.sub_le_self n (by decide), hn⟩
  rw [show clampIdx step n v = if v < 0 then max (v + n) (sliceLo step) else min v (sliceHi step n) from rfl]
  split_ifs with hv
  · exact ⟨le_max_right _ _, max_le ((Int.le_sub_one_of_lt (add_lt_of_neg_left n hv)).trans h.2.1) h.2.2⟩
  · exact ⟨le_min (h.1.trans (Int.not_lt.mp hv)) h.2.2, min_le_right _ _⟩

theorem sliceIndices_bounds {sl : PySlice} {N : Nat} {a b c : Int}
    (h : sliceIndices sl N = .ok (a, b, c)) :
    c ≠ 0 ∧ (sliceLo c ≤ a ∧ a ≤ sliceHi c N) ∧ (sliceLo c ≤ b ∧ b ≤ sliceHi c N) := by
  unfold sliceIndices at h
  split at h
  · cases h
  · rename_i hc
    cases h
    have hN : (0 : Int) ≤ N := Int.natCast_nonneg N
    refine ⟨hc, ?_, ?_⟩
    · unfold sliceStart
      cases sl.start with
      | none =>
        simp only [sliceLo, sliceHi]
        split_ifs
        · exact ⟨Int.sub_le_sub_right hN 1, le_refl _⟩
        · exact ⟨le_refl _, hN⟩
      | some v => exact clampIdx_bounds _ _ v hN
    · unfold sliceStop
      cases sl.stop with
      | none =>
        simp only [sliceLo, sliceHi]
        split_ifs
        · exact ⟨le_refl _, Int.sub_le_sub_right hN 1⟩
        · exact ⟨hN, le_refl _⟩
      | some v => exact clampIdx_bounds _ _ v hN

theorem sliceIndices_ok_of_step (sl : PySlice) (N : Nat) (h : sl.step ≠ some 0) :
    ∃ a b c, sliceIndices sl N = .ok (a, b, c) := by
  have : sliceStep sl ≠ 0 := by
    unfold sliceStep
    cases hs : sl.step with
    | none => exact Int.one_ne_zero
    | some s => exact fun h0 => h (hs.trans (congrArg some h0))
  exact ⟨_, _, _, if_neg this⟩

theorem slice_index_in_range {sl : PySlice} {N : Nat} {a b c e : Int}
    (h : sliceIndices sl N = .ok (a, b, c)) (he : e ∈ pyRange a b c) : 0 ≤ e ∧ e < N := by
  obtain ⟨-, ha, hb⟩ := sliceIndices_bounds h
  obtain ⟨k, rfl, hk⟩ := mem_pyRange he
  have hk0 : (0 : Int) ≤ k := Int.natCast_nonneg k
  unfold sliceLo sliceHi at ha hb
  rcases hk with ⟨hc, hlt⟩ | ⟨hc, hlt⟩
  · simp only [if_neg (not_lt.mpr hc.le)] at ha hb
    exact ⟨Int.add_nonneg ha.1 (Int.mul_nonneg hk0 hc.le), lt_of_lt_of_le hlt hb.2⟩
  · simp only [if_pos hc] at ha hb
    have := Int.mul_nonpos_of_nonneg_of_nonpos hk0 hc.le
    exact ⟨Int.add_one_le_of_lt (lt_of_le_of_lt hb.1 hlt),
      Int.lt_of_le_sub_one ((add_le_of_nonpos_right this).trans ha.2)⟩

theorem rangeLenClosed_pos (a b s : Int) (hs : 0 < s) :
    max (0 : Int) (pyFloorDiv (((b - a) + s) - 1) s) = pyRangeLen a b s := by
  rw [pyRangeLen_pos a b s hs, pyFloorDiv, Int.fdiv_eq_ediv_of_nonneg _ hs.le, add_sub_right_comm,
    Int.add_ediv_of_dvd_right (dvd_refl s), Int.ediv_self hs.ne']
  split_ifs with h
  · exact max_eq_right (Int.add_nonneg (Int.ediv_nonneg (Int.le_sub_one_of_lt (Int.sub_pos_of_lt h)) hs.le) Int.one_nonneg)
  · exact max_eq_left (Int.add_one_le_iff.mpr
      (Int.ediv_neg_of_neg_of_pos (Int.sub_one_lt_iff.mpr (Int.sub_nonpos_of_le (Int.not_lt.mp h))) hs))

theorem rangeLenClosed (a b s : Int) (hs : s ≠ 0) :
    (if (s > (0 : Int)) then (max (0 : Int) (pyFloorDiv (((b - a) + s) - (1 : Int)) s))
      else (max (0 : Int) (pyFloorDiv (((a - b) - s) - (1 : Int)) (- s)))) = pyRangeLen a b s := by
  by_cases h : s > 0
  · rw [if_pos h]; exact rangeLenClosed_pos a b s h
  · have hneg : s < 0 := lt_of_le_of_ne (Int.not_lt.mp h) hs
    rw [if_neg h, pyRangeLen_neg a b s hneg, ← rangeLenClosed_pos _ _ _ (Int.neg_pos.mpr hneg), neg_sub_neg,
      sub_eq_add_neg (a - b)]

theorem pyRangeLen_nonneg (a b s : Int) : 0 ≤ pyRangeLen a b s := by
  by_cases hs : s = 0
  · subst hs
    exact Int.le_refl 0
  · -- the closed form is a `max 0 _` for either sign of the step
    rw [← rangeLenClosed a b s hs]
    split_ifs <;> exact le_max_left _ _

/-- the translated source (tie (a) of DESIGN.md) for the slice branch: whichever of the recognised spellings the source uses for the number of
    elements of `range(*carrier_indexes.indices(fft_size))` — `len(range(..))` itself or the closed form
    `max(0, (stop - start + step - 1) // step)` / `max(0, (start - stop - step - 1) // -step)` — the emitted
    expression is `pyRangeLen` (the step of `slice.indices` is never 0) -/
theorem blockSizeSlice_eq (fft a b c : Int) (hc : c ≠ 0) :
    Generated.blockSizeSlice fft a b c = pyRangeLen a b c := by
  first
    | rfl  -- the source says `len(range(..))`
    | (unfold Generated.blockSizeSlice; exact rangeLenClosed a b c hc)  -- it uses a closed form

theorem selPos_slice {sl : PySlice} {N : Nat} {a b c : Int} (h : sliceIndices sl N = .ok (a, b, c)) :
    selPos (.slice sl) N = .ok ((pyRange a b c).map Int.toNat) :=
  bind_eq_ok.mpr ⟨_, h, mapM_ok _ _ _ fun _ he => if_pos (slice_index_in_range h he)⟩

/-- THE BLOCK-SIZE OBLIGATION: for every kind of `carrier_indexes`, the `block_size` the
    source computes is the number of carriers numpy selects. -/
theorem blockSize_ok_of_selPos (sel : Sel) (fft : Nat) (ps : List Nat) (hps : selPos sel fft = .ok ps) :
    blockSize sel fft = .ok (ps.length : Int) := by
  cases sel with
  | all =>
    cases hps
    rw [List.length_range]
    rfl
  | idx l => exact congrArg (fun n : Nat => Except.ok (n : Int)) (mapM_eq_ok_iff.1 hps).1.symm
  | slice sl =>
    obtain ⟨⟨a, b, c⟩, hs, -⟩ := bind_eq_ok.mp hps
    rw [selPos_slice hs] at hps
    cases hps
    rw [List.length_map, pyRange_length, Int.toNat_of_nonneg (pyRangeLen_nonneg a b c),
      ← blockSizeSlice_eq fft a b c (sliceIndices_bounds hs).1, blockSize, hs]
    rfl

theorem pyFloorDiv_natCast (a b : Nat) : pyFloorDiv (a : Int) (b : Int) = ((a / b : Nat) : Int) := by
  rw [pyFloorDiv, Int.fdiv_eq_ediv_of_nonneg _ (Int.natCast_nonneg _), Int.natCast_div]

theorem pyMod_natCast (a b : Nat) : pyMod (a : Int) (b : Int) = ((a % b : Nat) : Int) := by
  rw [pyMod, Int.fmod_eq_emod_of_nonneg _ (Int.natCast_nonneg _), Int.natCast_mod]

/-- from right to left, the model's check `ps.length ≠ B` cannot fire: `blockSize_ok_of_selPos` -/
theorem freqPlan_eq_ok {sel : Sel} {fft n : Nat} {ps : List Nat} {B nb : Nat} :
    freqPlan sel fft n = .ok (ps, B, nb) ↔
      0 < fft ∧ 0 < B ∧ 0 < nb ∧ n = nb * B ∧ ps.length = B ∧ selPos sel fft = .ok ps := by
  simp only [freqPlan, guard_eq_ok, bind_eq_ok, pure_eq_ok, Prod.mk.injEq, ne_eq, not_not, not_le]
  constructor
  · rintro ⟨hfft, _, -, ps, hps, hB, hmod, hdiv, rfl, rfl, rfl, rfl⟩
    rw [pyMod_natCast, Int.natCast_eq_zero] at hmod
    rw [pyFloorDiv_natCast, Int.natCast_pos] at hdiv
    rw [pyFloorDiv_natCast, Int.toNat_natCast, Int.toNat_natCast]
    exact ⟨Nat.pos_of_ne_zero hfft, Nat.pos_of_ne_zero (Int.natCast_ne_zero.mp hB), hdiv,
      (Nat.div_mul_cancel (Nat.dvd_of_mod_eq_zero hmod)).symm, rfl, hps⟩
  · rintro ⟨hfft, hB, hnb, rfl, rfl, hps⟩
    have hdiv : pyFloorDiv ((nb * ps.length : Nat) : Int) (ps.length : Int) = nb := by
      rw [pyFloorDiv_natCast, Nat.mul_div_cancel _ hB]
    refine ⟨hfft.ne', ps.length, blockSize_ok_of_selPos sel fft ps hps, ps, hps, Int.natCast_ne_zero.mpr hB.ne', ?_, ?_,
      rfl, rfl, Int.toNat_natCast _, ?_⟩
    · rw [pyMod_natCast, Nat.mul_mod_left]
      rfl
    · rw [hdiv]
      exact Int.natCast_pos.mpr hnb
    · rw [hdiv, Int.toNat_natCast]

/-- a witness: 8 symbols are 2 blocks over `slice(0, 10, 3)` of 16 carriers -/
theorem freqPlan_witness : freqPlan (.slice ⟨some 0, some 10, some 3⟩) 16 8 = .ok ([0, 3, 6, 9], 4, 2) := by
  decide +kernel

end PyPhysim.C03
