import PyPhysim.Proofs.C02Chan
import PyPhysim.Proofs.C02Round

/-!
C02 — the one-tap equaliser: the reported frequency response of a time-invariant impulse
response is the `H` by which the channel multiplies each bin; demodulation (its closed form, then
`channel_spectra` on the symbol `bodies`) delivers the data multiplied by `H` on the used carriers
and `equalize_data` divides it out again.  Stated for any kernel pair with the contract whose
forward kernel, at the transform size in force, is the DFT for some `ω` with `ω^fft = 1`; the
assembly is `one_tap_steps`.
-/
namespace PyPhysim.C02
open PyPhysim.Proto Finset

variable {K : Type} [Field K]

theorem getD_set (acc : List K) (i : ℕ) (v : K) (hi : i < acc.length) (m : ℕ) :
    (acc.set i v).getD m 0 = if m = i then v else acc.getD m 0 := by
  rw [List.getD_eq_getElem?_getD, List.getElem?_set, List.getD_eq_getElem?_getD]
  by_cases h : i = m
  · rw [if_pos h, if_pos h.symm, if_pos (h ▸ hi)]; rfl
  · rw [if_neg h, if_neg (Ne.symm h)]

theorem sum_scatterInto (N : ℕ) (g : ℕ → K) (acc : List K) (idx : List ℕ) (vals : List K)
    (hnd : idx.Nodup) (hlt : ∀ i ∈ idx, i < acc.length) (hN : acc.length ≤ N)
    (hz : ∀ i ∈ idx, acc.getD i 0 = 0) :
    ∑ m ∈ range N, (scatterInto acc idx vals).getD m 0 * g m
      = ∑ m ∈ range N, acc.getD m 0 * g m + ((idx.zip vals).map (fun iv => iv.2 * g iv.1)).sum := by
  induction idx generalizing acc vals with
  | nil => rw [scatterInto_nil_idx, List.zip_nil_left, List.map_nil, List.sum_nil, add_zero]
  | cons i is ih =>
    cases vals with
    | nil => rw [scatterInto_nil_vals, List.zip_nil_right, List.map_nil, List.sum_nil, add_zero]
    | cons v vs =>
      have hnd' := List.nodup_cons.mp hnd
      have hi : i < acc.length := hlt i List.mem_cons_self
      -- assigning `v` to the (still zero) position `i` adds the one term `v · g i`
      have hpt : ∀ m ∈ range N, (acc.set i v).getD m 0 * g m
          = acc.getD m 0 * g m + (if m = i then v * g m else 0) := fun m _ => by
        rw [getD_set _ _ _ hi]
        split
        · next hmi => rw [hmi, hz i List.mem_cons_self, zero_mul, zero_add]
        · rw [add_zero]
      rw [scatterInto, List.zip_cons_cons, List.map_cons, List.sum_cons,
        ih (acc.set i v) vs hnd'.2
          (fun j hj => by rw [List.length_set]; exact hlt j (List.mem_cons_of_mem i hj))
          (by rw [List.length_set]; exact hN)
          (fun j hj => by
            rw [getD_set _ _ _ hi, if_neg fun e : j = i => hnd'.1 (e ▸ hj)]
            exact hz j (List.mem_cons_of_mem i hj)),
        Finset.sum_congr rfl hpt, Finset.sum_add_distrib, Finset.sum_ite_eq' (range N) i (fun m => v * g m),
        if_pos (mem_range.mpr (Nat.lt_of_lt_of_le hi hN)), add_assoc]

theorem dft_scatter (ω : K) (N n : ℕ) (hn : n ≤ N) (delays : List ℕ) (gains : List K)
    (hnd : delays.Nodup) (hlt : ∀ d ∈ delays, d < n) :
    dft (fun m => ω ^ m) N (scatter n delays gains) = (List.range N).map (Hs ω delays gains) :=
  List.map_congr_left fun k _ => by
    rw [list_sum_range, scatter, Hs,
      sum_scatterInto N (fun m => ω ^ (m * k)) _ delays gains hnd (by rw [List.length_replicate]; exact hlt)
        (by rw [List.length_replicate]; exact hn) (fun i _ => getD_replicate_zero n i),
      Finset.sum_eq_zero fun m _ => by rw [getD_replicate_zero, zero_mul], zero_add]

/-- `get_freq_response(fft)` of a time-invariant impulse response, at any sample -/
theorem freqResponse_static (F : ℕ → List K → List K) (ω : K) (N : ℕ)
    (hF : ∀ a, F N a = dft (fun m => ω ^ m) N a) (delays : List ℕ) (gains : List K) (ns M : ℕ)
    (hM : delays.getLast? = some M) (hd : ∀ d ∈ delays, d ≤ M) (hnd : delays.Nodup) (hMN : M < N)
    (j : ℕ) (hj : j < ns) :
    freqResponse F N (staticIR delays gains ns) j = .ok ((List.range N).map (Hs ω delays gains)) := by
  have hcol : (gains.map (List.replicate ns)).map (fun v => v.getD j 0) = gains := by
    rw [List.map_map]
    refine (List.map_congr_left fun g _ => ?_).trans (List.map_id gains)
    rw [Function.comp, List.getD_eq_getElem?_getD, List.getElem?_replicate, if_pos hj]; rfl
  unfold freqResponse dense ImpulseResponse.memory staticIR
  simp only [hM]
  rw [hcol, hF, dft_scatter ω N (M + 1) hMN delays gains hnd fun d hd' => Nat.lt_succ_of_le (hd d hd')]

theorem mean_replicate [CharZero K] (w : ℕ) (hw : 0 < w) (a : K) : mean (List.replicate w a) = a := by
  rw [mean, List.sum_replicate, List.length_replicate, nsmul_eq_mul,
    mul_div_cancel_left₀ a (Nat.cast_ne_zero.mpr (Nat.ne_of_gt hw))]

theorem rows_replicate {β : Type} (w R : ℕ) (a : β) :
    rows w R (List.replicate (R * w) a) = List.replicate R (List.replicate w a) := by
  induction R with
  | zero => rfl
  | succ R ih =>
    rw [rows, List.take_replicate, List.drop_replicate, List.replicate_succ, Nat.succ_mul, Nat.add_sub_cancel,
      Nat.min_eq_left (Nat.le_add_left w _), ih]

theorem zipWith_div_mul (Hu xrow : List K) (hl : Hu.length = xrow.length) (hne : ∀ h ∈ Hu, h ≠ 0) :
    List.zipWith (· / ·) (List.zipWith (· * ·) Hu xrow) Hu = xrow := by
  induction Hu generalizing xrow with
  | nil => rw [List.eq_nil_of_length_eq_zero hl.symm]; rfl
  | cons h t ih =>
    cases xrow with
    | nil => cases hl
    | cons a r =>
      rw [List.zipWith_cons_cons, List.zipWith_cons_cons,
        ih r (Nat.succ.inj hl) fun g hg => hne g (List.mem_cons_of_mem h hg),
        mul_div_cancel_left₀ a (hne h List.mem_cons_self)]

theorem map_getD_tabulated (H : ℕ → K) (N : ℕ) (idx : List ℕ) (h : ∀ i ∈ idx, i < N) :
    idx.map (((List.range N).map H).getD · 0) = idx.map H :=
  List.map_congr_left fun i hi => getD_map_range (h i hi)

section kernels
variable (F Finv : ℕ → List K → List K) (ω : K) (p : Params)

/-- `equalize_data`, fed with a time-invariant impulse response (`w` samples per OFDM symbol), divides
    every row of the data by `H` on the used carriers -/
theorem equalize_static [CharZero K] (hp : p.Valid) (hF : ∀ a, F p.fft a = dft (fun m => ω ^ m) p.fft a)
    (delays : List ℕ) (gains : List K) (M : ℕ) (hM : delays.getLast? = some M) (hd : ∀ d ∈ delays, d ≤ M)
    (hnd : delays.Nodup) (hMN : M < p.fft)
    (drows : List (List K)) (hrow : ∀ r ∈ drows, r.length = p.used) (R : ℕ) (hR : drows.length = R)
    (w : ℕ) (hw : 0 < w) :
    equalize F p drows.flatten (staticIR delays gains (R * w))
      = .ok (drows.map fun r =>
          List.zipWith (· / ·) r ((usedIdx p.fft p.used).map (Hs ω delays gains))).flatten := by
  subst hR
  unfold equalize
  simp only
  rw [if_neg (Nat.ne_of_gt hp.used_pos), length_flatten_uniform _ _ hrow,
    if_neg (not_not.mpr (Nat.mul_mod_left _ _)), Nat.mul_div_cancel _ hp.used_pos]
  by_cases h0 : drows.length = 0
  · rw [if_pos h0, List.eq_nil_of_length_eq_zero h0]
    rfl
  have hns : (staticIR delays gains (drows.length * w)).ns = drows.length * w := rfl
  rw [if_neg h0, hns, if_neg (not_not.mpr (Nat.mul_mod_right _ _)),
    Nat.mul_div_cancel_left _ (Nat.pos_of_ne_zero h0),
    mapM_ok _ (fun _ => (List.range p.fft).map (Hs ω delays gains)) _ fun j hj =>
      freqResponse_static F ω p.fft hF delays gains _ M hM hd hnd hMN j (List.mem_range.mp hj)]
  simp only
  -- every sample reports the same response, so the mean over the samples of a symbol is that response
  rw [List.map_const', List.length_range, rows_replicate, List.map_replicate,
    List.map_congr_left (g := Hs ω delays gains) fun k hk => by
      rw [List.map_replicate, mean_replicate w hw, getD_map_range (List.mem_range.mp hk)],
    mapM_ok _ (fun _ => (usedIdx p.fft p.used).map (Hs ω delays gains)) _ fun a ha => by
      rw [List.eq_of_mem_replicate ha, gather_eq_map _ _ 0 (by
        rw [List.length_map, List.length_range]; exact usedIdx_lt p hp),
        map_getD_tabulated _ _ _ (usedIdx_lt p hp)]]
  simp only
  rw [List.map_replicate, rows_flatten p.used drows hrow, zipWith_replicate_right _ _ _ _ (Nat.le_refl _)]

/-- the symbol bodies: what the cyclic prefix is put in front of -/
def bodies (s : K) (x : List K) : List (List K) :=
  (dataRows p x).map fun r => (Finv p.fft (scatter p.fft (usedIdx p.fft p.used) r)).map (fun v => s * v)

theorem modulate_eq_bodies (s : K) (x : List K) :
    modulate Finv s p x = ((bodies Finv p s x).map (addCP p.cp)).flatten := by
  rw [bodies, List.map_map]
  exact congrArg List.flatten (List.map_map ..)

theorem getD_scaled_div (s : K) (hs : s ≠ 0) (Y : List K) (u : ℕ) :
    (Y.map (fun v => s * v)).getD u 0 / s = Y.getD u 0 := by
  rw [getD_map_zero _ (mul_zero s), mul_div_cancel_left₀ _ hs]

variable (hp : p.Valid) (hK : KernelPair p.fft F Finv) (hω : ω ^ p.fft = 1)
  (hF : ∀ a, F p.fft a = dft (fun m => ω ^ m) p.fft a) (s : K) (hs : s ≠ 0)
  (delays : List ℕ) (gains : List K) (M : ℕ) (hM : delays.getLast? = some M) (hd : ∀ d ∈ delays, d ≤ M)
  (hMC : M ≤ p.cp) (x : List K)
include hp hK hω hF hs hM hd hMC

theorem demodulate_after_channel (z : List K)
    (hz : corrupt (staticIR delays gains (modulate Finv s p x).length) (modulate Finv s p x) = .ok z) :
    demodulate F s p (z.take (modulate Finv s p x).length)
      = .ok (((dataRows p x).map
          (fun r => List.zipWith (· * ·) ((usedIdx p.fft p.used).map (Hs ω delays gains)) r)).flatten) := by
  have hzl := (corrupt_static_getD delays gains _ M hM hd z hz).1
  have hbl : (bodies Finv p s x).length = numSymbols p x.length := by
    rw [bodies, List.length_map, dataRows_length]
  have hbN : ∀ t ∈ bodies Finv p s x, t.length = p.fft := fun t ht => by
    obtain ⟨r, _, rfl⟩ := List.mem_map.mp ht
    rw [List.length_map, hK.len_inv]
  rw [modulate_length' Finv s p hp hK.len_inv x] at hzl ⊢
  rw [modulate_eq_bodies] at hz
  rw [demodulate_eq F s p hp hK.len_fwd _ _ (by
      rw [List.length_take, Nat.min_eq_left (hzl ▸ Nat.le_add_right _ _)]),
    ← hbl, channel_spectra p.fft p.cp hp.1 _ hbN delays gains M hM hd hMC z hz ω hω F hF, bodies,
    List.map_map, List.map_map]
  -- row by row: the receiver's transform of a sent body is the scaled IFFT input row
  refine congrArg (fun l => Except.ok (List.flatten l)) (List.map_congr_left fun r hr => ?_)
  rw [Function.comp, Function.comp, hK.fwd_scaled_inv s _ (scatter_length ..)]
  -- bin `u` holds `H u · s · r_u`: the scale divides out, and gathering the scattered row gives `r` back
  conv_rhs => rw [← map_getD_dataRow p hp x r hr, zipWith_map_same]
  refine List.map_congr_left fun u hu => ?_
  rw [getD_zipWith_mul, getD_map_range (usedIdx_lt p hp u hu), mul_div_assoc, getD_scaled_div s hs]

/-- modulate, time-invariant channel, keep the first `len(tx)` samples, demodulate, equalise with the reported
    impulse response: no step raises and the input symbols come back followed only by the zero padding -/
theorem one_tap_steps [CharZero K] (hnd : delays.Nodup) (hMN : M < p.fft)
    (hH : ∀ k ∈ usedIdx p.fft p.used, Hs ω delays gains k ≠ 0) :
    ∃ z D, corrupt (staticIR delays gains (modulate Finv s p x).length) (modulate Finv s p x) = .ok z ∧
      demodulate F s p (z.take (modulate Finv s p x).length) = .ok D ∧
      equalize F p D (staticIR delays gains (modulate Finv s p x).length)
        = .ok (x ++ List.replicate (zeropad p x.length) 0) := by
  have hz := corrupt_staticIR delays gains M hM (modulate Finv s p x)
  refine ⟨_, _, hz, demodulate_after_channel F Finv ω p hp hK hω hF s hs delays gains M hM hd hMC x _ hz, ?_⟩
  have hHl : ((usedIdx p.fft p.used).map (Hs ω delays gains)).length = p.used := by
    rw [List.length_map, usedIdx_length hp.2.2.1]
  -- dividing by the non-zero `H[u]` undoes the channel on every used carrier `u`
  have hrow : ∀ r ∈ dataRows p x,
      List.zipWith (· / ·) (List.zipWith (· * ·) ((usedIdx p.fft p.used).map (Hs ω delays gains)) r)
        ((usedIdx p.fft p.used).map (Hs ω delays gains)) = r := fun r hr =>
    zipWith_div_mul _ r (by rw [hHl, dataRows_row_length p hp x r hr]) fun h hh => by
      obtain ⟨k, hk, rfl⟩ := List.mem_map.mp hh
      exact hH k hk
  rw [modulate_length' Finv s p hp hK.len_inv x,
    equalize_static F ω p hp hF delays gains M hM hd hnd hMN _ (fun b hb => by
      obtain ⟨r, hr, rfl⟩ := List.mem_map.mp hb
      rw [List.length_zipWith, hHl, dataRows_row_length p hp x r hr, Nat.min_self])
      _ ((List.length_map _).trans (dataRows_length p x)) _ (Nat.pos_of_ne_zero hp.width_ne_zero),
    List.map_map, List.map_congr_left (g := id), List.map_id, flatten_dataRows p hp x]
  exact hrow

end kernels
end PyPhysim.C02
