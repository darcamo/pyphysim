import Mathlib.Data.List.GetD
import Mathlib.Data.Nat.ModEq
import Mathlib.Tactic.Ring
import PyPhysim.Proofs.C18Cis
import PyPhysim.Proofs.Common

/-!
C18 — the CAZAC estimator `estimate1` as finite sums: its closed form, linearity in the observation, and,
on the noise-free observation `observe`, exactness (`estimate_exact_core`) and rejection of users whose
sequence differs from the reference by a linear phase (`estimate_reject_core`). Of the scalars only
`CisLaws` is used, and characteristic zero only for exactness. The model's list programs (`seqValues`,
`dot`, `fftPad`) are first read entry by entry (`getD_map`, `seqValues_getD`, `fftPad_getD`), which turns
them into those sums.
-/
set_option linter.unusedSectionVars false
namespace PyPhysim.C18P
open PyPhysim.Cazac PyPhysim.Proto Finset
open CisOps (cis conj)

variable {F : Type} [Field F]

theorem getD_map {α β : Type} {g : α → β} (x : List α) {i : ℕ} (hi : i < x.length) (d : α) (e : β) :
    (x.map g).getD i e = g (x.getD i d) := by
  simp only [List.getD_eq_getElem?_getD, List.getElem?_map, List.getElem?_eq_getElem hi, Option.map_some,
    Option.getD_some]

theorem getD_zipWith {α β γ : Type} {g : α → β → γ} (a : List α) (b : List β) {i : ℕ}
    (ha : i < a.length) (hb : i < b.length) (d : α) (e : β) (o : γ) :
    (List.zipWith g a b).getD i o = g (a.getD i d) (b.getD i e) := by
  simp only [List.getD_eq_getElem?_getD, List.getElem?_zipWith, List.getElem?_eq_getElem ha,
    List.getElem?_eq_getElem hb, Option.getD_some]

theorem map_range_congr {β : Type} {f g : ℕ → β} {N : ℕ} (h : ∀ i, i < N → f i = g i) :
    (List.range N).map f = (List.range N).map g :=
  List.map_congr_left fun i hi => h i (List.mem_range.mp hi)

theorem list_eq_map_range {β : Type} (l : List β) (d : β) :
    l = (List.range l.length).map (fun i => l.getD i d) := by
  refine List.ext_getElem (by rw [List.length_map, List.length_range]) fun i h1 _ => ?_
  simp only [List.getElem_map, List.getElem_range, List.getD_eq_getElem?_getD, List.getElem?_eq_getElem h1,
    Option.getD_some]

theorem zipIdx_sum (x : List F) (w : ℕ → F) (k : ℕ) :
    ((x.zipIdx k).map (fun p => p.1 * w p.2)).sum = ∑ i ∈ range x.length, x.getD i 0 * w (i + k) := by
  induction x generalizing k with
  | nil => rfl
  | cons a t ih =>
    rw [List.zipIdx_cons, List.map_cons, List.sum_cons, ih, List.length_cons, Finset.sum_range_succ', add_comm]
    simp only [List.getD_cons_succ, List.getD_cons_zero, Nat.zero_add, Nat.add_assoc, Nat.add_comm 1]

/-- `dot` starts the index at `0`, and `i + 0` is `i` by computation -/
theorem dot_eq_sum (x : List F) (w : ℕ → F) :
    dot x w = ∑ i ∈ range x.length, x.getD i 0 * w i :=
  zipIdx_sum x w 0

variable [CisOps F]

theorem seqValues_length (ph : List ℚ) : (seqValues ph : List F).length = ph.length :=
  List.length_map _

theorem seqValues_getD (ph : List ℚ) {n : ℕ} (hn : n < ph.length) :
    (seqValues ph : List F).getD n 0 = cis (ph.getD n 0) :=
  getD_map ph hn 0 0

theorem fftPad_eq (h : List F) {M : ℕ} (hL : h.length ≤ M) :
    fftPad h M = (List.range M).map (fun f =>
      ∑ l ∈ range h.length, h.getD l 0 * cis (-(((f * l : ℕ) : ℚ) / ((M : ℕ) : ℚ)))) := by
  unfold fftPad
  rw [List.take_of_length_le hL]
  exact map_range_congr fun f _ => dot_eq_sum _ _

theorem fftPad_length (h : List F) (M : ℕ) : (fftPad h M).length = M := by
  rw [fftPad, List.length_map, List.length_range]

theorem fftPad_getD (h : List F) {M f : ℕ} (hf : f < M) (hL : h.length ≤ M) :
    (fftPad h M).getD f 0
      = ∑ l ∈ range h.length, h.getD l 0 * cis (-(((f * l : ℕ) : ℚ) / ((M : ℕ) : ℚ))) := by
  rw [fftPad_eq h hL, getD_map_range hf]

/-- delay-domain estimate `y[k]` (inverse DFT of the de-rotated observation) -/
noncomputable def tapEst (r Y : List F) (k : ℕ) : F :=
  (∑ n ∈ range r.length, CisOps.conj (r.getD n 0) * Y.getD n 0
      * CisOps.cis (((n * k : ℕ) : ℚ) / ((r.length : ℕ) : ℚ))) / ((r.length : ℕ) : F)

/-- frequency-domain estimate before the optional scaling -/
noncomputable def freqEst (r Y : List F) (m K f : ℕ) : F :=
  ∑ k ∈ range (min (K + 1) r.length),
    tapEst r Y k * CisOps.cis (-(((f * k : ℕ) : ℚ) / ((m * r.length : ℕ) : ℚ)))

theorem ifftN_zipWith (r Y : List F) (hY : Y.length = r.length) :
    ifftN (List.zipWith (fun a b => conj a * b) r Y) r.length = (List.range r.length).map (tapEst r Y) := by
  refine map_range_congr fun k _ => ?_
  rw [dot_eq_sum, List.length_zipWith, hY, Nat.min_self, tapEst]
  refine congrArg (· / _) (Finset.sum_congr rfl fun n hn => ?_)
  have hn' := Finset.mem_range.mp hn
  rw [getD_zipWith r Y hn' (hY ▸ hn') 0 0]

theorem estimate1_closed (r Y : List F) (nrm : Bool) (m K : ℕ)
    (hY : Y.length = r.length) (hm : 0 < m) (hN : 0 < r.length) :
    estimate1 r nrm m Y K = .ok ((List.range (m * r.length)).map (fun f =>
      freqEst r Y m K f * (if nrm then ((r.length : ℕ) : F) else 1))) := by
  have hpad : fftPad (((List.range r.length).map (tapEst r Y)).take (K + 1)) (m * r.length)
      = (List.range (m * r.length)).map (freqEst r Y m K) := by
    rw [← List.map_take, List.take_range, fftPad_eq _ (by
      rw [List.length_map, List.length_range]
      exact Nat.le_trans (Nat.min_le_right _ _) (Nat.le_mul_of_pos_left _ hm)),
      List.length_map, List.length_range]
    refine map_range_congr fun f _ => Finset.sum_congr rfl fun k hk => ?_
    rw [getD_map_range (Finset.mem_range.mp hk)]
  rw [estimate1]
  dsimp only
  rw [if_neg (not_not.mpr hY), if_neg (Nat.mul_pos hm hN).ne', ifftN_zipWith r Y hY, hpad]
  cases nrm
  · simp only [Bool.false_eq_true, if_false, mul_one]
  · simp only [if_true, List.map_map, Function.comp_def]

def addL (a b : List F) : List F := List.zipWith (· + ·) a b

def zerosL (M : ℕ) : List F := (List.range M).map (fun _ => (0 : F))

theorem zerosL_length (M : ℕ) : (zerosL M : List F).length = M := by
  rw [zerosL, List.length_map, List.length_range]

theorem addL_length (a b : List F) : (addL a b).length = min a.length b.length :=
  List.length_zipWith

theorem addL_getD (a b : List F) {i : ℕ} (ha : i < a.length) (hb : i < b.length) :
    (addL a b).getD i 0 = a.getD i 0 + b.getD i 0 :=
  getD_zipWith a b ha hb 0 0 0

theorem addL_map_range (f g : ℕ → F) (M : ℕ) :
    addL ((List.range M).map f) ((List.range M).map g) = (List.range M).map (fun i => f i + g i) :=
  zipWith_map_same _ f g _

theorem addL_zeros (E : List F) : addL E (zerosL E.length) = E := by
  refine List.ext_getElem (by rw [addL_length, zerosL_length, Nat.min_self]) fun i _ _ => ?_
  simp only [addL, zerosL, List.getElem_zipWith, List.getElem_map, add_zero]

theorem tapEst_add (r Y1 Y2 : List F) (k : ℕ) (h1 : Y1.length = r.length) (h2 : Y2.length = r.length) :
    tapEst r (addL Y1 Y2) k = tapEst r Y1 k + tapEst r Y2 k := by
  unfold tapEst
  rw [← add_div, ← Finset.sum_add_distrib]
  refine congrArg (· / _) (Finset.sum_congr rfl fun n hn => ?_)
  have hn' := Finset.mem_range.mp hn
  rw [addL_getD Y1 Y2 (h1 ▸ hn') (h2 ▸ hn'), mul_add, add_mul]

theorem tapEst_smul (r Y : List F) (g : F) (k : ℕ) (hY : Y.length = r.length) :
    tapEst r (Y.map (fun v => g * v)) k = g * tapEst r Y k := by
  unfold tapEst
  rw [← mul_div_assoc, Finset.mul_sum]
  refine congrArg (· / _) (Finset.sum_congr rfl fun n hn => ?_)
  rw [getD_map Y (hY ▸ Finset.mem_range.mp hn) 0 0, mul_left_comm, mul_assoc, mul_assoc]

theorem estimate1_add (r Y1 Y2 E1 E2 : List F) (nrm : Bool) (m K : ℕ) {N : ℕ} (hr : r.length = N)
    (hm : 0 < m) (hN : 0 < N) (hY1 : Y1.length = N) (hY2 : Y2.length = N)
    (h1 : estimate1 r nrm m Y1 K = .ok E1) (h2 : estimate1 r nrm m Y2 K = .ok E2) :
    estimate1 r nrm m (addL Y1 Y2) K = .ok (addL E1 E2) := by
  subst hr
  rw [estimate1_closed r Y1 nrm m K hY1 hm hN] at h1
  rw [estimate1_closed r Y2 nrm m K hY2 hm hN] at h2
  obtain rfl := Except.ok.inj h1
  obtain rfl := Except.ok.inj h2
  rw [estimate1_closed r _ nrm m K (by rw [addL_length, hY1, hY2, Nat.min_self]) hm hN, addL_map_range]
  refine congrArg Except.ok (map_range_congr fun f _ => ?_)
  simp only [freqEst, tapEst_add r Y1 Y2 _ hY1 hY2, add_mul, Finset.sum_add_distrib]

theorem estimate1_smul (r Y E : List F) (g : F) (nrm : Bool) (m K : ℕ) (hm : 0 < m) (hN : 0 < r.length)
    (hY : Y.length = r.length) (h : estimate1 r nrm m Y K = .ok E) :
    estimate1 r nrm m (Y.map (fun v => g * v)) K = .ok (E.map (fun v => g * v)) := by
  rw [estimate1_closed r Y nrm m K hY hm hN] at h
  obtain rfl := Except.ok.inj h
  rw [estimate1_closed r _ nrm m K (by rw [List.length_map, hY]) hm hN, List.map_map]
  refine congrArg Except.ok (map_range_congr fun f _ => ?_)
  rw [Function.comp_apply, ← mul_assoc]
  simp only [freqEst, tapEst_smul r Y g _ hY, Finset.mul_sum, mul_assoc]

theorem estimate1_ok (r Y : List F) (nrm : Bool) (m K : ℕ) {N : ℕ} (hr : r.length = N) (hY : Y.length = N)
    (hm : 0 < m) (hN : 0 < N) : ∃ E, estimate1 r nrm m Y K = .ok E ∧ E.length = m * N := by
  subst hr
  exact ⟨_, estimate1_closed r Y nrm m K hY hm hN, by rw [List.length_map, List.length_range]⟩

theorem map_zero_mul (E : List F) : E.map (fun v => 0 * v) = zerosL E.length := by
  refine List.ext_getElem (by rw [List.length_map, zerosL_length]) fun i _ _ => ?_
  simp only [zerosL, List.getElem_map, zero_mul]

theorem zerosL_map_mul (g : F) (M : ℕ) : (zerosL M).map (fun v => g * v) = zerosL M := by
  rw [zerosL, List.map_map]
  exact map_range_congr fun _ _ => mul_zero g

theorem estimate_superposition {Obs : Type} (est : Obs → Except PyErr (List F)) (shape : Obs → Prop)
    (add : Obs → Obs → Obs) (n : ℕ)
    (hadd : ∀ Y0 Y1 E0 E1, shape Y0 → shape Y1 → est Y0 = .ok E0 → est Y1 = .ok E1 →
      shape (add Y0 Y1) ∧ est (add Y0 Y1) = .ok (addL E0 E1))
    (E0 : List F) (hE0 : E0.length = n) :
    ∀ (Ys : List Obs) (Y0 : Obs), shape Y0 → est Y0 = .ok E0 →
      (∀ Y ∈ Ys, shape Y ∧ est Y = .ok (zerosL n)) → est (Ys.foldl add Y0) = .ok E0 := by
  intro Ys
  induction Ys with
  | nil => exact fun _ _ h0 _ => h0
  | cons Y Ys ih =>
    intro Y0 hs0 h0 hYs
    obtain ⟨hsY, hY⟩ := hYs Y List.mem_cons_self
    obtain ⟨hs, he⟩ := hadd Y0 Y E0 _ hs0 hsY h0 hY
    rw [← hE0, addL_zeros] at he
    exact ih (add Y0 Y) hs he fun Y' hY' => hYs Y' (List.mem_cons_of_mem _ hY')

theorem mapM_map_ok {α β γ : Type} (f : β → Except PyErr γ) (g : α → β) (e : α → γ) (as : List α)
    (h : ∀ a ∈ as, f (g a) = .ok (e a)) : (as.map g).mapM f = .ok (as.map e) :=
  List.mapM_map.trans (mapM_ok _ e as h)

/-- Noise-free observation: a user with sequence `x` sends on every `m`-th
    subcarrier of a channel with frequency response `H`. -/
def observe (H : List F) (m : ℕ) (x : List F) : List F :=
  (List.range x.length).map (fun n => H.getD (m * n) 0 * x.getD n 0)

theorem observe_length (H : List F) (m : ℕ) (x : List F) : (observe H m x).length = x.length := by
  rw [observe, List.length_map, List.length_range]

theorem observe_getD (H : List F) (m : ℕ) (x : List F) {n : ℕ} (hn : n < x.length) :
    (observe H m x).getD n 0 = H.getD (m * n) 0 * x.getD n 0 :=
  getD_map_range hn

theorem observe_map_mul (H : List F) (m : ℕ) (x : List F) (g : F) :
    observe H m (x.map (fun v => v * g)) = (observe H m x).map (fun v => g * v) := by
  rw [observe, observe, List.length_map, List.map_map]
  refine map_range_congr fun n hn => ?_
  rw [getD_map x hn 0 0, Function.comp_apply, ← mul_assoc, mul_comm g]

/-- the phases of the comb-sampled response, the relative shift and the inverse DFT add up to
    one character of `ℤ/N` -/
theorem comb_phase {m : ℚ} (N n l k d : ℚ) (hm : m ≠ 0) :
    -(m * n * l / (m * N)) + (n * (d / N) + n * k / N) = n * ((k + d - l) / N) := by
  rw [mul_assoc, mul_div_mul_left _ _ hm]
  ring

section
variable (L : CisLaws F)
include L

/-- inverse DFT of a (frequency-shifted) comb-sampled frequency response -/
theorem idft_comb (hh : ℕ → F) (Lh N m : ℕ) (hN : 0 < N) (hm : 0 < m) (d : ℤ) (k : ℕ) :
    ∑ n ∈ range N,
        (∑ l ∈ range Lh, hh l * cis (-((((m * n) * l : ℕ) : ℚ) / ((m * N : ℕ) : ℚ))))
          * (cis ((n : ℚ) * ((d : ℚ) / (N : ℚ))) * cis (((n * k : ℕ) : ℚ) / ((N : ℕ) : ℚ)))
      = ∑ l ∈ range Lh, hh l * (if (N : ℤ) ∣ ((k : ℤ) + d - (l : ℤ)) then (N : F) else 0) := by
  -- exchange the sums; for each tap `l` the sum over `n` is a character sum
  rw [Finset.sum_congr rfl fun n _ => Finset.sum_mul _ _ _, Finset.sum_comm]
  refine Finset.sum_congr rfl fun l _ => ?_
  rw [← L.sum_cis_div N hN, Finset.mul_sum]
  refine Finset.sum_congr rfl fun n _ => ?_
  rw [mul_assoc, ← L.cis_add, ← L.cis_add]
  push_cast
  rw [comb_phase _ _ _ _ _ (Nat.cast_ne_zero.mpr hm.ne')]

/-- delay-domain estimate when the observation comes from a user whose
    sequence differs from the reference by a linear phase `d` bins and a scalar `c`: the taps
    congruent to `k + d`; the factor `N` of the character sum is left for the users to cancel,
    once the sum has collapsed -/
theorem tapEst_observe (r r' h : List F) (c : F) (m : ℕ) (d : ℤ) (k : ℕ)
    (hm : 0 < m) (hN : 0 < r.length) (hlen : r'.length = r.length) (hL : h.length ≤ m * r.length)
    (hprod : ∀ n, n < r.length →
      conj (r.getD n 0) * r'.getD n 0 = c * cis ((n : ℚ) * ((d : ℚ) / (r.length : ℚ)))) :
    tapEst r (observe (fftPad h (m * r.length)) m r') k
      = c * (∑ l ∈ range h.length,
          h.getD l 0 * (if (r.length : ℤ) ∣ ((k : ℤ) + d - (l : ℤ)) then ((r.length : ℕ) : F) else 0))
        / ((r.length : ℕ) : F) := by
  -- turn the numerator on the right into the left side of `idft_comb`, then compare the summands
  rw [tapEst, ← idft_comb L (fun l => h.getD l 0) h.length r.length m hN hm d k, Finset.mul_sum]
  refine congrArg (· / _) (Finset.sum_congr rfl fun n hn => ?_)
  have hn' := Finset.mem_range.mp hn
  rw [observe_getD _ _ _ (hlen ▸ hn'), fftPad_getD h (Nat.mul_lt_mul_of_pos_left hn' hm) hL,
    mul_left_comm (conj _), hprod n hn', mul_left_comm _ c, mul_assoc, mul_assoc]

/-- **Rejection**: a user whose sequence differs from the reference by a
    linear phase of `d` bins and whose taps avoid the (shifted) kept window
    contributes nothing. -/
theorem estimate_reject_core (r r' h : List F) (c : F) (nrm : Bool) (m K : ℕ) (d : ℤ) {N : ℕ}
    (hrN : r.length = N) (hlen : r'.length = N) (hm : 0 < m) (hN : 0 < N) (hL : h.length ≤ m * N)
    (hprod : ∀ n, n < N → conj (r.getD n 0) * r'.getD n 0 = c * cis ((n : ℚ) * ((d : ℚ) / (N : ℚ))))
    (hwin : ∀ k l, k ≤ K → k < N → l < h.length → (N : ℤ) ∣ ((k : ℤ) + d - (l : ℤ)) → h.getD l 0 = 0) :
    estimate1 r nrm m (observe (fftPad h (m * N)) m r') K = .ok (zerosL (m * N)) := by
  subst hrN
  rw [estimate1_closed r _ nrm m K (by rw [observe_length, hlen]) hm hN]
  refine congrArg Except.ok (map_range_congr fun f _ => ?_)
  rw [freqEst, Finset.sum_eq_zero, zero_mul]
  intro k hk
  have hk1 := Nat.lt_min.mp (Finset.mem_range.mp hk)
  rw [tapEst_observe L r r' h c m d k hm hN hlen hL hprod, Finset.sum_eq_zero, mul_zero, zero_div, zero_mul]
  intro l hl
  rw [mul_ite, mul_zero, ite_eq_right_iff]
  intro hd
  rw [hwin k l (Nat.lt_succ_iff.mp hk1.1) hk1.2 (Finset.mem_range.mp hl) hd, zero_mul]

-- cancelling the factor `N` needs `N ≠ 0` in `F`
variable [CharZero F]

theorem tapEst_own (r h : List F) (c : F) (m k : ℕ)
    (hm : 0 < m) (hL : h.length ≤ r.length) (hk : k < r.length)
    (hr : ∀ n, n < r.length → r.getD n 0 * conj (r.getD n 0) = c) :
    tapEst r (observe (fftPad h (m * r.length)) m r) k = c * h.getD k 0 := by
  rw [tapEst_observe L r r h c m 0 k hm (Nat.zero_lt_of_lt hk) rfl (Nat.le_trans hL (Nat.le_mul_of_pos_left _ hm))
    fun n hn => by rw [Int.cast_zero, zero_div, mul_zero, L.cis_zero, mul_one, mul_comm, hr n hn]]
  -- among `l < N` only `l = k` is congruent to `k`; beyond `h.length` the tap is zero
  rw [Finset.sum_eq_single k, add_zero, sub_self, if_pos (dvd_zero _), ← mul_assoc]
  · exact mul_div_cancel_right₀ _ (Nat.cast_ne_zero.mpr (Nat.zero_lt_of_lt hk).ne')
  · intro l hl hlk
    rw [add_zero, if_neg, mul_zero]
    exact fun hd => hlk ((Nat.modEq_iff_dvd.mpr hd).eq_of_lt_of_lt
      (Nat.lt_of_lt_of_le (Finset.mem_range.mp hl) hL) hk)
  · intro hk'
    rw [List.getD_eq_default _ _ (Nat.le_of_not_lt (Finset.mem_range.not.mp hk')), zero_mul]

/-- **Exactness**: a noise-free observation of a channel whose taps fit in the
    kept window is estimated exactly (plain / comb; normalised or not through `c`). -/
theorem estimate_exact_core (r h : List F) (c : F) (nrm : Bool) (m K : ℕ) {N : ℕ} (hrN : r.length = N)
    (hm : 0 < m) (hN : 0 < N)
    (hr : ∀ n, n < N → r.getD n 0 * conj (r.getD n 0) = c)
    (hc : c * (if nrm then ((N : ℕ) : F) else 1) = 1)
    (hfit : h.length ≤ K + 1) (hlen : h.length ≤ N) :
    estimate1 r nrm m (observe (fftPad h (m * N)) m r) K = .ok (fftPad h (m * N)) := by
  subst hrN
  rw [estimate1_closed r _ nrm m K (observe_length _ _ _) hm hN]
  refine congrArg Except.ok ((map_range_congr fun f _ => ?_).trans
    (fftPad_eq h (Nat.le_trans hlen (Nat.le_mul_of_pos_left _ hm))).symm)
  -- the taps beyond `h.length` are zero, so the sum over `h.length` may run over the kept window
  rw [freqEst, Finset.sum_mul]
  refine (Finset.sum_congr rfl fun k hk => ?_).trans
    (Finset.sum_subset (Finset.range_subset_range.mpr (Nat.le_min.mpr ⟨hfit, hlen⟩)) fun l _ hl => ?_).symm
  · rw [tapEst_own L r h c m k hm hlen (Nat.lt_of_lt_of_le (Finset.mem_range.mp hk) (Nat.min_le_right _ _)) hr,
      mul_right_comm, mul_right_comm c, hc, one_mul]
  · rw [List.getD_eq_default _ _ (Nat.le_of_not_lt (Finset.mem_range.not.mp hl)), zero_mul]

end

end PyPhysim.C18P
