import PyPhysim.Proofs.C17Gen
/-!
What the (key, attribute) tables regenerated from the source say about the model.

A writer table `w` describes a `_to_dict` (`dictOf get w = some d`); a reader table `r`
that `tablesAgree` with it then reads every key into the attribute it was written from:
`lookupV_of_read` (through `lookupV_of_mem_writes`, the same for a pair of the writer table, which uses only that the
writer's keys are distinct).  That the tables of `Generated/C17Fields.lean` describe the model's
dictionaries and agree with each other is evaluated under the `generated_*` theorems of
`Properties/C17.lean`; here only what the replay path needs beyond them: which attributes a
replayed result shares with the original (`attr_choiceReplay`), and that the replay reader table
stays within those (`choiceReads_spec`).
-/
namespace PyPhysim.C17
open PyPhysim.Generated

theorem lookup_dictOf (get : String → Option PyVal) (k : String) :
    ∀ (w : List (String × String)) (d : List (String × PyVal)), dictOf get w = some d →
      lookup k d = (lookup k w).bind get
  | [], _, h => by cases h; rfl
  | (k', a) :: w, d, h => by
    unfold dictOf at h
    split at h
    · next v kvs hv hkvs =>
      cases h
      cases hk : k' == k
      · simp only [lookup, hk]; exact lookup_dictOf get k w kvs hkvs
      · simp only [lookup, hk]; exact hv.symm
    · cases h

theorem lookup_eq_head_filter {α : Type} (k : String) : ∀ w : List (String × α),
    lookup k w = ((w.filter (fun q => q.1 == k)).head?).map Prod.snd
  | [] => rfl
  | q :: w => by
    cases h : q.1 == k
    · simp only [lookup, List.filter_cons, h, Bool.false_eq_true, if_false]; exact lookup_eq_head_filter k w
    · simp only [lookup, List.filter_cons, h, if_true]; rfl

theorem lookup_of_mem_once {p : String × String} {w : List (String × String)} (hp : p ∈ w)
    (h1 : (w.filter (fun q => q.1 == p.1)).length = 1) : lookup p.1 w = some p.2 := by
  obtain ⟨q, hq⟩ := List.length_eq_one_iff.1 h1
  have hm : p ∈ w.filter (fun q => q.1 == p.1) := List.mem_filter.2 ⟨hp, beq_self_eq_true _⟩
  rw [hq, List.mem_singleton] at hm
  rw [lookup_eq_head_filter, hq, hm]
  rfl

variable {w r : List (String × String)} {p : String × String}

theorem lookupV_of_mem_writes {get : String → Option PyVal} {v : PyVal}
    (hw : (dictOf get w).map PyVal.dict = some v) (h : tablesAgree w r = true) (hp : p ∈ w) :
    get p.2 = lookupV p.1 v := by
  cases hd : dictOf get w with
  | none => rw [hd] at hw; cases hw
  | some d =>
    rw [hd] at hw
    cases hw
    simp only [tablesAgree, Bool.and_eq_true, List.all_eq_true] at h
    obtain ⟨⟨⟨_, hkeys⟩, _⟩, _⟩ := h
    rw [lookupV, lookup_dictOf get p.1 w d hd,
      lookup_of_mem_once hp (beq_iff_eq.1 (hkeys p.1 (List.mem_map_of_mem hp)))]
    rfl

theorem lookupV_of_read {get : String → Option PyVal} {v : PyVal}
    (hw : (dictOf get w).map PyVal.dict = some v) (h : tablesAgree w r = true) (hp : p ∈ r) :
    get p.2 = lookupV p.1 v := by
  refine lookupV_of_mem_writes hw h (List.contains_iff_mem.1 ?_)
  simp only [tablesAgree, Bool.and_eq_true, List.all_eq_true] at h
  obtain ⟨⟨⟨⟨_, hrw⟩, _⟩, _⟩, _⟩ := h
  exact hrw p hp

theorem mem_writes_of_choiceAgree {rebuilt : List String} (h : choiceAgree w r rebuilt = true) (hp : p ∈ r)
    (hs : isSpecial p.2 = false) : p ∈ w := by
  simp only [choiceAgree, Bool.and_eq_true, List.all_eq_true] at h
  simpa [hs] using h.1 p hp

/-- the attributes the replay path of `Result._from_dict` does not take from the dictionary -/
def rebuiltAttrs : List String :=
  ["_value", "_total", "_result_sum", "_result_squared_sum", "num_updates", "_total_list"]

theorem attr_choiceReplay (r : Result) (ht : r.typeCode = 3) (counts : List Int) (a : String)
    (ha : rebuiltAttrs.contains a = false) :
    (choiceReplay r.name r.acc counts r.valueList).attr a = r.attr a := by
  simp only [rebuiltAttrs, List.contains_eq_mem, List.mem_cons, List.not_mem_nil, or_false,
    decide_eq_false_iff_not, not_or] at ha
  obtain ⟨h1, h2, h3, h4, h5, h6⟩ := ha
  simp only [Result.attr, choiceReplay, ht, beq_false_of_ne h1, beq_false_of_ne h2, beq_false_of_ne h3,
    beq_false_of_ne h4, beq_false_of_ne h5, beq_false_of_ne h6, Bool.false_eq_true, if_false]

theorem choiceReads_spec : ∀ p ∈ C17Fields.resultReadsChoice,
    if isSpecial p.2 then p.1 = "value" else rebuiltAttrs.contains p.2 = false := by
  decide +kernel

end PyPhysim.C17
