import PyPhysim.Proofs.C10Cache
/-!
What one step of the repaired machine preserves, for every `Ops`, `K`, state and argument: coherence of
the derived attributes (`Coherent`), freshness of `_full_F` (`FullFDerived`: a stored value is
`_F * sqrt(P)` for the CURRENT `_F` and power unless it was given from outside) and consistency of `_Ns`
with the stored precoders (`NsOK`).  Each `step_…` splits a step the way `C10Cache` describes it: a getter
only fills caches (`step_fill`, hence one `CacheFill.…` per invariant); a rejected mutator changes
nothing; an accepted one is the write `op.upd O K`, and what is
needed of that write does not depend on the state (`Upd.Wf.coherent` with `upd_wf`,
`upd_fullF_of_not_installs`, the shape of the operation).  `run_invariant` carries each along histories
in `Properties/C10.lean`: coherence along all of them, `_Ns` along the well-shaped ones,
and freshness from an operation that discards `_full_F` (`step_resets`) along operations that install
none, where the getter then returns the derived value (`readFullF_derived`).  `coherent_congr` and
`clearTx_coherent` say the same of two changes of a state that are not steps: to a state with the same
seven matrix attributes, and by `_clear_precoder_filter`.
-/
namespace PyPhysim.C10
open PyPhysim.Proto

variable {μ ρ : Type}

theorem init_coherent (O : Ops μ ρ) (K : Nat) : Coherent O K (State.init μ ρ) :=
  ⟨fun _ _ h => (nomatch h), fun _ h => (nomatch h), fun _ h => (nomatch h)⟩

theorem coherent_of_empty (O : Ops μ ρ) (K : Nat) {st : State μ ρ}
    (h1 : st.fullWH = none) (h2 : st.fullW = none)
    (hw : ∀ X Y, st.w = some X → st.wH = some Y → X = O.herm Y ∨ Y = O.herm X) : Coherent O K st :=
  ⟨hw, fun _ h => (nomatch h1.symm.trans h), fun _ h => (nomatch h2.symm.trans h)⟩

theorem coherent_congr (O : Ops μ ρ) (K : Nat) (s t : State μ ρ) (h : Coherent O K s)
    (hp : t.p = s.p) (hf : t.f = s.f) (hff : t.fullF = s.fullF) (hw : t.w = s.w) (hwH : t.wH = s.wH)
    (hz : t.fullWH = s.fullWH) (hz' : t.fullW = s.fullW) : Coherent O K t := by
  have e : specFullWH O K t = specFullWH O K s :=
    specFullWH_congr O K (getWH_congr O hw hwH) (getFullF_congr O K hf hff hp)
  refine ⟨?_, ?_, ?_⟩
  · rw [hw, hwH]; exact h.wwH
  · rw [hz, e]; exact h.fullWH
  · rw [hz', hz]; exact h.fullW

theorem clearTx_coherent (O : Ops μ ρ) (K : Nat) (st : State μ ρ) (h : Coherent O K st) :
    Coherent O K (clearTx Cfg.fixed st) :=
  coherent_of_empty O K rfl rfl h.wwH

theorem Upd.Wf.coherent {O : Ops μ ρ} {K : Nat} {u : Upd μ ρ} (hu : u.Wf) {s : State μ ρ}
    (h : Coherent O K s) : Coherent O K (u.apply s) := by
  refine coherent_of_empty O K (by rw [Upd.apply, hu.fullWH]; rfl) (by rw [Upd.apply, hu.fullW]; rfl) ?_
  rcases hu.wwH with ⟨e1, e2⟩ | ⟨a, b, e1, e2, hab⟩
  · rw [Upd.apply, e1, e2]; exact h.wwH
  · rw [Upd.apply, e1, e2]
    rcases hab with rfl | rfl
    · exact fun _ _ hX => nomatch hX
    · exact fun _ _ _ hY => nomatch hY

/-- Every operation, with any arguments, keeps the derived attributes coherent: a rejected mutator
    changes nothing, an accepted one writes nothing or respects the dependencies (`upd_wf`), a getter
    only fills caches with current values (`step_fill`). -/
theorem step_coherent (O : Ops μ ρ) (K : Nat) (st : State μ ρ) (op : Op μ ρ) (h : Coherent O K st) :
    Coherent O K (step Cfg.fixed O K st op).1 := by
  cases hm : op.isMutator with
  | false => exact (step_fill O K st op hm).coherent h
  | true =>
    rw [step_mutator O K st op hm]
    cases ha : op.err O K with
    | some _ => exact h
    | none =>
      rcases upd_wf O K op ha with e | hu
      · rw [e]; exact h
      · exact hu.coherent h

theorem fullFDerived_of_none (O : Ops μ ρ) (K : Nat) {st : State μ ρ} (h : st.fullF = none) :
    FullFDerived O K st :=
  fun _ hX => nomatch h.symm.trans hX

theorem CacheFill.fullFDerived {O : Ops μ ρ} {K : Nat} {s t : State μ ρ} (h : CacheFill O K s t)
    (hd : FullFDerived O K s) : FullFDerived O K t := by
  intro X hX
  rw [derivedFullF_congr O K h.f h.p]
  rcases h.fullF with e | e
  · exact hd X (e ▸ hX)
  · rw [hX, getFullF_eq] at e
    cases hf : s.fullF with
    | some X' => rw [hf] at e; cases e; exact hd X hf
    | none =>
      rw [hf] at e
      cases hd' : derivedFullF O K s with
      | error _ => rw [hd'] at e; cases e
      | ok X' => rw [hd'] at e; cases e; rfl

theorem upd_fullF_of_not_installs (O : Ops μ ρ) (K : Nat) (op : Op μ ρ) (hi : op.installsFullF = false) :
    (op.upd O K).fullF = none ∨ (op.upd O K).fullF = some none := by
  cases op with
  | setPrecoders f fullF p =>
    cases fullF with
    | none => exact .inr rfl
    | some _ => cases hi
  | solve cf ns v sol =>
    exact .inr (congrArg some (Option.isNone_iff_eq_none.mp (Option.isSome_eq_false_iff.mp hi)))
  | setP v | randomizeF drawn ns v | clear => exact .inr rfl
  | _ => exact .inl rfl

theorem step_fullFDerived (O : Ops μ ρ) (K : Nat) (st : State μ ρ) (op : Op μ ρ)
    (hi : op.installsFullF = false) (h : FullFDerived O K st) :
    FullFDerived O K (step Cfg.fixed O K st op).1 := by
  cases hm : op.isMutator with
  | false => exact (step_fill O K st op hm).fullFDerived h
  | true =>
    rw [step_mutator O K st op hm]
    cases ha : op.err O K with
    | some _ => exact h
    | none =>
      rcases upd_fullF_of_not_installs O K op hi with e | e
      · -- `_full_F` is not written: then neither `_F` nor `_P` is (`Upd.Wf.fullF`)
        rcases upd_wf O K op ha with e0 | hu
        · rw [e0]; exact h
        · obtain ⟨e1, e2⟩ := hu.fullF e
          intro X hX
          rw [derivedFullF_congr O K (t := st) (by rw [Upd.apply, e1]; rfl) (by rw [Upd.apply, e2]; rfl)]
          exact h X (by rw [Upd.apply, e] at hX; exact hX)
      · exact fullFDerived_of_none O K (by rw [Upd.apply, e]; rfl)

/-- the operation discards any stored `_full_F` when it succeeds -/
def Op.resetsFullF : Op μ ρ → Bool
  | .setP _ => true
  | .randomizeF _ _ _ => true
  | .setPrecoders (some _) none _ => true
  | .solve _ _ _ sol => sol.fullF.isNone
  | .clear => true
  | _ => false

theorem upd_fullF_of_resets (O : Ops μ ρ) (K : Nat) (op : Op μ ρ) (hr : op.resetsFullF = true) :
    op.isMutator = true ∧ (op.upd O K).fullF = some none := by
  cases op with
  | setPrecoders f fullF p => cases f <;> cases fullF <;> first | exact ⟨rfl, rfl⟩ | cases hr
  | solve cf ns v sol => exact ⟨rfl, congrArg some (Option.isNone_iff_eq_none.mp hr)⟩
  | setP v | randomizeF drawn ns v | clear => exact ⟨rfl, rfl⟩
  | _ => cases hr

theorem step_resets (O : Ops μ ρ) (K : Nat) (st : State μ ρ) (op : Op μ ρ)
    (hr : op.resetsFullF = true) (hok : (step Cfg.fixed O K st op).2 = .unit) :
    (step Cfg.fixed O K st op).1.fullF = none := by
  obtain ⟨hm, e⟩ := upd_fullF_of_resets O K op hr
  rw [step_mutator O K st op hm] at hok ⊢
  revert hok
  cases op.err O K with
  | some _ => exact fun hok => nomatch hok
  | none => exact fun _ => by rw [Upd.apply, e]; rfl

theorem readFullF_derived (O : Ops μ ρ) (K : Nat) (st : State μ ρ) (h : FullFDerived O K st) :
    (readFullF O K st).2 = derivedFullF O K st := by
  show getFullF O K st = _
  rw [getFullF_eq]
  cases hf : st.fullF with
  | some X => exact (h X hf).symm
  | none => rfl

theorem CacheFill.nsOK {O : Ops μ ρ} {K : Nat} {s t : State μ ρ} (h : CacheFill O K s t)
    (hn : NsOK O s) : NsOK O t :=
  fun F hF => h.ns ▸ hn F (h.f ▸ hF)

theorem step_nsOK (O : Ops μ ρ) (K : Nat) (st : State μ ρ) (op : Op μ ρ)
    (hop : op.shapeOK O K) (h : NsOK O st) : NsOK O (step Cfg.fixed O K st op).1 := by
  cases hm : op.isMutator with
  | false => exact (step_fill O K st op hm).nsOK h
  | true =>
    rw [step_mutator O K st op hm]
    cases op.err O K with
    | some _ => exact h
    | none =>
      cases op with
      | randomizeF drawn ns v => exact fun F hF => by cases hF; exact congrArg some (Eq.symm hop)
      | solve cf ns v sol => exact fun F hF => by cases hF; exact congrArg some (Eq.symm hop)
      | setPrecoders f fullF p => exact fun F hF => congrArg (Option.map O.ncols) hF
      | clear => exact fun _ hF => nomatch hF
      | setP v | setFilters wH w | setInit a => exact h
      | _ => cases hm

end PyPhysim.C10
