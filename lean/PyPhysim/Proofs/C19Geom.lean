import Mathlib.Tactic.Ring
import Mathlib.Algebra.Order.Field.Basic
import PyPhysim.Model.C19

/-! C19 — plane algebra: rotations and translations are isometries (a distance is the `norm2` of the
difference, in which a translation cancels), cross/dot products are rotation invariant, the
three-vector identity behind the border-point existence proof; Python's `min`/`max` as those of the
order; an inequality read off a factorisation of the difference. -/
namespace PyPhysim.C19

section ring
variable {α : Type} [CommRing α]

theorem dist2_rot (u p q : Pt α) : dist2 (rot u p) (rot u q) = norm2 u * dist2 p q := by
  simp only [dist2, norm2, psub, rot, cmul]; ring

theorem norm2_smul (k : α) (p : Pt α) : norm2 (smul k p) = k * k * norm2 p := by
  simp only [norm2, smul]; ring

theorem cross_smul_left (k : α) (p q : Pt α) : cross (smul k p) q = k * cross p q := by
  simp only [cross, smul]; ring

theorem cross_smul_right (k : α) (p q : Pt α) : cross p (smul k q) = k * cross p q := by
  simp only [cross, smul]; ring

theorem cross_smul (a b : α) (p q : Pt α) : cross (smul a p) (smul b q) = a * b * cross p q := by
  rw [cross_smul_left, cross_smul_right, mul_assoc]

theorem cross_rot (u p q : Pt α) : cross (rot u p) (rot u q) = norm2 u * cross p q := by
  simp only [cross, norm2, rot, cmul]; ring

theorem dot_rot (u p q : Pt α) : dot (rot u p) (rot u q) = norm2 u * dot p q := by
  simp only [dot, norm2, rot, cmul]; ring

theorem norm2_rot (u p : Pt α) : norm2 (rot u p) = norm2 u * norm2 p := dot_rot u p p

theorem dot_padd (n p q : Pt α) : dot n (padd p q) = dot n p + dot n q := by
  simp only [dot, padd]; ring

theorem dot_psub (n p q : Pt α) : dot n (psub p q) = dot n p - dot n q := by
  simp only [dot, psub]; ring

theorem dot_smul (n : Pt α) (k : α) (p : Pt α) : dot n (smul k p) = k * dot n p := by
  simp only [dot, smul]; ring

theorem dot_smul_left (k : α) (n p : Pt α) : dot (smul k n) p = k * dot n p := by
  simp only [dot, smul]; ring

theorem padd_comm (p q : Pt α) : padd p q = padd q p := by
  simp only [padd, add_comm]

theorem rot_smul (u : Pt α) (k : α) (p : Pt α) : rot u (smul k p) = smul k (rot u p) := by
  simp only [rot, cmul, smul, mul_assoc, mul_sub, mul_add]

theorem padd_smul (k : α) (p q : Pt α) : padd (smul k p) (smul k q) = smul k (padd p q) := by
  simp only [padd, smul, mul_add]

theorem psub_smul (k : α) (p q : Pt α) : psub (smul k p) (smul k q) = smul k (psub p q) := by
  simp only [psub, smul, mul_sub]

theorem psub_padd_psub (v p p' : Pt α) : psub (padd v (psub p' p)) p' = psub v p := by
  simp only [psub, padd, add_sub_right_comm, sub_add_sub_cancel]

theorem smul_comp (a b : α) (p : Pt α) : smul a (smul b p) = smul (a * b) p := by
  simp only [smul, mul_assoc]

theorem dist2_self_padd (c p : Pt α) : dist2 c (padd c p) = norm2 p := by
  simp only [dist2, norm2, psub, padd]; ring

theorem dist2_padd_left (c p q : Pt α) : dist2 (padd c p) (padd c q) = dist2 p q := by
  simp only [dist2, psub, padd, add_sub_add_left_eq_sub]

theorem dist2_padd_right (c p q : Pt α) : dist2 (padd p c) (padd q c) = dist2 p q := by
  simp only [dist2, psub, padd, add_sub_add_right_eq_sub]

theorem dist2_psub_right (c p q : Pt α) : dist2 (psub p c) (psub q c) = dist2 p q := by
  simp only [dist2, psub, sub_sub_sub_cancel_right]

theorem dist2_smul (k : α) (p q : Pt α) : dist2 (smul k p) (smul k q) = k * k * dist2 p q := by
  rw [dist2, psub_smul, norm2_smul, dist2]

theorem rot_conj_rot (u p : Pt α) : rot (conj u) (rot u p) = smul (norm2 u) p := by
  simp only [rot, conj, cmul, smul, norm2]; congr 1 <;> ring

theorem norm2_conj (u : Pt α) : norm2 (conj u) = norm2 u := by
  simp only [norm2, conj, neg_mul_neg]

theorem conj_conj (u : Pt α) : conj (conj u) = u := by
  simp only [conj, neg_neg]

theorem rot_rot_conj (u p : Pt α) : rot u (rot (conj u) p) = smul (norm2 u) p := by
  have h := rot_conj_rot (conj u) p
  rwa [conj_conj, norm2_conj] at h

/-- for three plane vectors `cross u w · v = cross v w · u + cross u v · w`; crossed with `d` -/
theorem cross_three (u v w d : Pt α) :
    cross u w * cross v d = cross u v * cross w d + cross v w * cross u d := by
  simp only [cross]; ring

theorem cross_anti (p q : Pt α) : cross p q = -cross q p := by
  simp only [cross]; ring

theorem cross_self (p : Pt α) : cross p p = 0 := by
  simp only [cross]; ring

/-- the point a fraction `r` of the way from `p` to `p + t·d` is `p + (r·t)·d` -/
theorem lerp_padd_smul (r t : α) (p d : Pt α) :
    padd (smul (1 - r) p) (smul r (padd p (smul t d))) = padd p (smul (r * t) d) := by
  simp only [padd, smul]; congr 1 <;> ring
end ring

section order
variable {α : Type} [LinearOrder α]

/-- Python's `min` and `max` differ from Lean's only in which argument they return on ties -/
theorem pmin_eq_min (a b : α) : pmin a b = min a b := by
  unfold pmin
  split_ifs with h
  · exact (min_eq_right h.le).symm
  · exact (min_eq_left (not_lt.mp h)).symm

/-- `pmax` is `pmin` of the opposite order -/
theorem pmax_eq_max (a b : α) : pmax a b = max a b := pmin_eq_min (α := αᵒᵈ) a b
end order

section orderedRing
variable {α : Type} [Ring α] [PartialOrder α] [IsStrictOrderedRing α]

/-- `a ≤ b` because `b - a` is a non-negative factor times a non-negative difference -/
theorem le_of_sub_eq_mul {a b p x y : α} (hp : 0 ≤ p) (h : x ≤ y) (e : b - a = p * (y - x)) : a ≤ b :=
  sub_nonneg.mp ((mul_nonneg hp (sub_nonneg.mpr h)).trans_eq e.symm)

/-- `a < b` because `b - a` is a product of two positive differences -/
theorem lt_of_sub_eq_mul {a b x y x' y' : α} (h : x < y) (h' : x' < y') (e : b - a = (y - x) * (y' - x')) :
    a < b :=
  sub_pos.mp ((mul_pos (sub_pos.mpr h) (sub_pos.mpr h')).trans_eq e.symm)
end orderedRing

end PyPhysim.C19
