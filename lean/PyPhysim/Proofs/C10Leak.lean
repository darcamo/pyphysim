import PyPhysim.Proofs.C10Bridge
import Mathlib.Analysis.Complex.Basic
import Mathlib.LinearAlgebra.Matrix.PosDef

/-!
Leaked interference power of the minimum-leakage solver: the cost the code
reports is the sum over all cross links of `P_l ‖W_kᴴ H_kl F_l‖²`, it coincides
with the cost of the reverse network for equal powers (reciprocity), and one
iteration made of two per-user minimisations cannot increase it.
-/
namespace PyPhysim.C10
open Matrix
open scoped ComplexOrder

variable {K : Nat} {d : Dims K}

/-- interference power of transmitter `l` at the output of the filter of receiver `k`:
    `tr(W_kᴴ H_kl F_l F_lᴴ H_klᴴ W_k) = ‖W_kᴴ H_kl F_l‖²_F` (`link_eq_frobSq`) -/
noncomputable def link (H : Chan ℂ d) (F : Prec ℂ d) (W : Filt ℂ d) (k l : Fin K) : ℂ :=
  Matrix.trace (((toM (W k))ᴴ * (toM (H k l) * toM (F l))) * ((toM (W k))ᴴ * (toM (H k l) * toM (F l)))ᴴ)

theorem link_eq_frobSq (H : Chan ℂ d) (F : Prec ℂ d) (W : Filt ℂ d) (k l : Fin K) :
    link H F W k l = frobSq (matMul (cT (W k)) (matMul (H k l) (F l))) := by
  rw [frobSq_eq, toM_matMul, toM_matMul, toM_cT]
  rfl

/-- leakage seen through the receive filters in the direct network -/
noncomputable def leakDirect (H : Chan ℂ d) (fF : Prec ℂ d) (W : Filt ℂ d) : ℂ :=
  ∑ k, Matrix.trace ((toM (W k))ᴴ * toM (calcQ H fF k) * toM (W k))

/-- leakage seen through the precoders in the reverse network -/
noncomputable def leakReverse (H : Chan ℂ d) (W : Filt ℂ d) (P : Fin K → ℂ) (F : Prec ℂ d) : ℂ :=
  ∑ k, Matrix.trace ((toM (F k))ᴴ * toM (calcQrev H W P k) * toM (F k))

theorem toM_calcQ (H : Chan ℂ d) (fF : Prec ℂ d) (k : Fin K) :
    toM (calcQ H fF k)
      = ∑ l, if l = k then 0 else (toM (H k l) * toM (fF l)) * (toM (H k l) * toM (fF l))ᴴ := by
  unfold calcQ
  rw [toM_msum_ite]
  simp only [toM_outerG, toM_matMul]

theorem toM_calcQrev (H : Chan ℂ d) (W : Filt ℂ d) (P : Fin K → ℂ) (k : Fin K) :
    toM (calcQrev H W P k)
      = ∑ l, if l = k then 0 else
          P l • (((toM (H l k))ᴴ * toM (W l)) * ((toM (H l k))ᴴ * toM (W l))ᴴ) := by
  unfold calcQrev
  rw [toM_msum_ite]
  simp only [toM_matMul, toM_smul, toM_cT, Matrix.smul_mul]

theorem toM_fullF (F : Prec ℂ d) (P : Fin K → ℂ) (l : Fin K) :
    toM (fullF F P l) = RSqrt.sqrt (P l) • toM (F l) := by
  simp only [fullF, toM_mscale]

theorem leakDirect_eq (H : Chan ℂ d) (F : Prec ℂ d) (W : Filt ℂ d) (P : Fin K → ℝ) (hP : ∀ l, 0 ≤ P l) :
    leakDirect H (fullF F (fun l => (P l : ℂ))) W
      = ∑ k, ∑ l, if l = k then 0 else (P l : ℂ) * link H F W k l := by
  unfold leakDirect
  refine Finset.sum_congr rfl (fun k _ => ?_)
  rw [toM_calcQ, trace_conj_sum_ite]
  refine Finset.sum_congr rfl (fun l _ => ?_)
  split
  · rfl
  · -- the factor `√P_l` of `full_F_l` leaves both factors of the Gram product, and `√P_l · conj √P_l = P_l`
    rw [trace_conj_gram, toM_fullF, Matrix.mul_smul, Matrix.mul_smul, conjTranspose_smul, Matrix.smul_mul,
      Matrix.mul_smul, smul_smul, Matrix.trace_smul, smul_eq_mul, sqrt_mul_star (P l) (hP l), link]

theorem leakReverse_eq (H : Chan ℂ d) (F : Prec ℂ d) (W : Filt ℂ d) (P : Fin K → ℂ) :
    leakReverse H W P F = ∑ k, ∑ l, if l = k then 0 else P k * link H F W k l := by
  unfold leakReverse
  rw [Finset.sum_comm]
  refine Finset.sum_congr rfl (fun k _ => ?_)
  rw [toM_calcQrev, trace_conj_sum_ite]
  refine Finset.sum_congr rfl (fun l _ => ?_)
  by_cases h : l = k
  · rw [if_pos h, if_pos h.symm]
  · -- `F_kᴴ (H_lkᴴ W_l)` is the conjugate transpose of `W_lᴴ (H_lk F_k)`
    rw [if_neg h, if_neg (Ne.symm h), Matrix.mul_smul, Matrix.smul_mul, Matrix.trace_smul, smul_eq_mul,
      trace_conj_gram, link, Matrix.trace_mul_comm]
    simp only [conjTranspose_mul, conjTranspose_conjTranspose, Matrix.mul_assoc]

/-- Both totals are the same double sum over the links, weighted by `P_l` in one and by `P_k` in the
    other: hence equal powers. -/
theorem leak_reciprocity (H : Chan ℂ d) (F : Prec ℂ d) (W : Filt ℂ d) (p : ℝ) (hp : 0 ≤ p) :
    leakDirect H (fullF F (fun _ => (p : ℂ))) W = leakReverse H W (fun _ => (p : ℂ)) F := by
  rw [leakDirect_eq H F W _ (fun _ => hp), leakReverse_eq]

theorem link_nonneg (H : Chan ℂ d) (F : Prec ℂ d) (W : Filt ℂ d) (k l : Fin K) : 0 ≤ link H F W k l :=
  (posSemidef_self_mul_conjTranspose _).trace_nonneg

/-- one iteration of the minimum-leakage solver, as two families of per-user inequalities
    (what the `leig` calls guarantee against the current iterate, see `least_eigenvectors_minimise`):
    the new precoder of every user leaks no more than the old one INTO THE OLD FILTERS of the
    reverse network, and the new filter of every user collects no more interference FROM THE NEW
    PRECODERS than the old one.  Then the total leakage does not increase. -/
theorem minleak_step_le (H : Chan ℂ d) (F F' : Prec ℂ d) (W W' : Filt ℂ d) (p : ℝ) (hp : 0 ≤ p)
    (hF : ∀ k, (Matrix.trace ((toM (F' k))ᴴ * toM (calcQrev H W (fun _ => (p : ℂ)) k) * toM (F' k))).re
             ≤ (Matrix.trace ((toM (F k))ᴴ * toM (calcQrev H W (fun _ => (p : ℂ)) k) * toM (F k))).re)
    (hW : ∀ k, (Matrix.trace ((toM (W' k))ᴴ * toM (calcQ H (fullF F' (fun _ => (p : ℂ))) k) * toM (W' k))).re
             ≤ (Matrix.trace ((toM (W k))ᴴ * toM (calcQ H (fullF F' (fun _ => (p : ℂ))) k) * toM (W k))).re) :
    (leakDirect H (fullF F' (fun _ => (p : ℂ))) W').re ≤ (leakDirect H (fullF F (fun _ => (p : ℂ))) W).re := by
  calc (leakDirect H (fullF F' (fun _ => (p : ℂ))) W').re
      ≤ (leakDirect H (fullF F' (fun _ => (p : ℂ))) W).re := by
        unfold leakDirect
        rw [Complex.re_sum, Complex.re_sum]
        exact Finset.sum_le_sum (fun k _ => hW k)
    _ = (leakReverse H W (fun _ => (p : ℂ)) F').re := by rw [leak_reciprocity H F' W p hp]
    _ ≤ (leakReverse H W (fun _ => (p : ℂ)) F).re := by
        unfold leakReverse
        rw [Complex.re_sum, Complex.re_sum]
        exact Finset.sum_le_sum (fun k _ => hF k)
    _ = (leakDirect H (fullF F (fun _ => (p : ℂ))) W).re := by rw [leak_reciprocity H F W p hp]

theorem calcQ_posSemidef (H : Chan ℂ d) (fF : Prec ℂ d) (k : Fin K) : (toM (calcQ H fF k)).PosSemidef := by
  rw [toM_calcQ]
  refine posSemidef_sum _ (fun l _ => ?_)
  split
  · exact PosSemidef.zero
  · exact posSemidef_self_mul_conjTranspose _

/-- `MinLeakageIASolver.get_cost()` without noise — `Σ_k tr(|W_kᴴ Q_k W_k|)` with the entrywise
    absolute value — is the total leakage `Σ_k tr(W_kᴴ Q_k W_k)` -/
theorem minLeakCost_eq (H : Chan ℂ d) (fF : Prec ℂ d) (W : Filt ℂ d) :
    minLeakCost H fF none W = leakDirect H fF W := by
  unfold minLeakCost leakDirect
  rw [sumFin_eq]
  refine Finset.sum_congr rfl (fun k _ => ?_)
  -- `W_kᴴ Q_k W_k ⪰ 0`, and `|z| = z` for its diagonal entries
  have hps := (calcQ_posSemidef H fF k).conjTranspose_mul_mul_same (toM (W k))
  rw [← toM_cT, ← toM_matMul, ← toM_matMul] at hps ⊢
  rw [← trace_eq, PyPhysim.C10.trace]
  exact congrArg _ (funext fun i => (Complex.eq_coe_norm_of_nonneg hps.diag_nonneg).symm)

end PyPhysim.C10
