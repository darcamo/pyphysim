import Mathlib.Algebra.BigOperators.Field
import PyPhysim.Proofs.C04Bridge

/-!
MRT: `h · exp(−j·arg h) = |h|`, unit-modulus precoder entries, round trip and
transmitted energy.
-/
namespace PyPhysim.C04
open Matrix

namespace Pf
variable {Nt n : Nat}

theorem mul_phase (z : ℂ) :
    z * Complex.exp (-Complex.I * ((Complex.arg z : ℝ) : ℂ)) = ((‖z‖ : ℝ) : ℂ) := by
  nth_rewrite 1 [← Complex.norm_mul_exp_arg_mul_I z]
  rw [mul_assoc, ← Complex.exp_add, mul_comm _ Complex.I, neg_mul, add_neg_cancel,
    Complex.exp_zero, mul_one]

theorem phase_unit (t : ℝ) :
    Complex.exp (-Complex.I * (t : ℂ)) * star (Complex.exp (-Complex.I * (t : ℂ))) = 1 := by
  rw [Complex.star_def, Complex.mul_conj', neg_mul, Complex.exp_neg, norm_inv,
    Complex.norm_exp_I_mul_ofReal, inv_one, Complex.ofReal_one, one_pow]

theorem mrt_entry (h : Vec ℂ Nt) (i : Fin Nt) :
    h i * mrtPrecoder h i = ((‖h i‖ : ℝ) : ℂ) / sqrtNat Nt := by
  unfold mrtPrecoder
  rw [exp_def, I_def, angle_def, mul_div_assoc', mul_phase]

theorem mrt_entry_energy (h : Vec ℂ Nt) (i : Fin Nt) :
    mrtPrecoder h i * star (mrtPrecoder h i) = 1 / (Nt : ℂ) := by
  unfold mrtPrecoder
  rw [exp_def, I_def, angle_def, star_div₀, star_sqrtNat, div_mul_div_comm, phase_unit, sqrtNat_mul_self]

theorem sum_norm_ne_zero (h : Vec ℂ Nt) (hne : ∃ i, h i ≠ 0) :
    (∑ i, ((‖h i‖ : ℝ) : ℂ)) ≠ 0 := by
  obtain ⟨i, hi⟩ := hne
  rw [← Complex.ofReal_sum, Complex.ofReal_ne_zero]
  exact (Finset.sum_pos' (fun j _ => norm_nonneg (h j))
    ⟨i, Finset.mem_univ i, norm_pos_iff.mpr hi⟩).ne'

theorem mrt_roundtrip (h : Vec ℂ Nt) (hne : ∃ i, h i ≠ 0) (x : Vec ℂ n) (j : Fin n) :
    mrtDecode h (matMul (fun (_ : Fin 1) i => h i) (mrtEncode h x)) j = x j := by
  have hNt : 0 < Nt := hne.elim fun i _ => i.pos
  have hs := sum_norm_ne_zero h hne
  have hc := sqrtNat_ne_zero (n := Nt) hNt
  unfold mrtDecode mrtFilter matMul mrtEncode
  simp only [sumFin_eq, abs_def, ← mul_assoc, mrt_entry]
  rw [← Finset.sum_mul, ← Finset.sum_div, ← mul_assoc, div_mul_div_cancel₀ hs, div_self hc, one_mul]

theorem mrt_colEnergy (h : Vec ℂ Nt) (hNt : 0 < Nt) (x : Vec ℂ n) (j : Fin n) :
    colEnergy (mrtEncode h x) j = x j * star (x j) := by
  unfold colEnergy mrtEncode
  simp only [sumFin_eq, conj_def, star_mul', mul_mul_mul_comm _ (x j), mrt_entry_energy]
  rw [Fin.sum_const, nsmul_eq_mul, ← mul_assoc,
    mul_one_div_cancel (Nat.cast_ne_zero.mpr hNt.ne'), one_mul]

end Pf
end PyPhysim.C04
