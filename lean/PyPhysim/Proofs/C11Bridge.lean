import Mathlib.Data.Matrix.Mul
import Mathlib.Algebra.BigOperators.Fin
import Mathlib.LinearAlgebra.Matrix.ConjTranspose
import Mathlib.Data.Complex.Basic
import Mathlib.Analysis.Complex.Norm
import Mathlib.Analysis.SpecialFunctions.Log.Base
import Mathlib.Analysis.Real.Sqrt
import PyPhysim.Model.C11

/-!
Bridge between the core-only model `PyPhysim.Sinr` (`Fin`-indexed functions, own
`sumFin`) and Mathlib: the scalar classes instantiated at `ℂ` / `ℝ`, and
`Matrix.of` of every model operation as the corresponding Mathlib operation; the model's left-to-right sums
(`sumFin`, `sumL`, and with the latter the sum capacity) as Mathlib's.
-/
namespace PyPhysim.Sinr
open Matrix

noncomputable instance instConjComplex : Conj ℂ := ⟨star⟩
/-- `float * complex` promotion and `np.abs` at `ℝ`, `ℂ` -/
noncomputable instance instRCRealComplex : RC ℝ ℂ := ⟨Complex.ofReal, fun z => ‖z‖⟩
/-- `np.sqrt`, `np.log2`, `np.log10` at `ℝ` -/
noncomputable instance instRFunReal : RFun ℝ := ⟨Real.sqrt, Real.logb 2, Real.logb 10⟩

theorem sumFin_eq {β : Type} [AddCommMonoid β] : ∀ (n : Nat) (f : Fin n → β), sumFin n f = ∑ i, f i
  | 0, f => (Fin.sum_univ_zero f).symm
  | n+1, f => (congrArg (· + f (Fin.last n)) (sumFin_eq n _)).trans (Fin.sum_univ_castSucc f).symm

abbrev toM {m n : Nat} (A : Mat ℂ m n) : Matrix (Fin m) (Fin n) ℂ := Matrix.of A

theorem toM_inj {m n : Nat} {A B : Mat ℂ m n} (h : toM A = toM B) : A = B :=
  Matrix.of.injective h

variable {m k n s : Nat}

theorem toM_matMul (A : Mat ℂ m k) (B : Mat ℂ k n) : toM (matMul A B) = toM A * toM B := by
  ext i j
  exact sumFin_eq k _

theorem toM_cT (A : Mat ℂ m n) : toM (cT A) = (toM A)ᴴ := rfl

theorem toM_eye : toM (eye : Mat ℂ n n) = 1 := by
  ext i j
  exact (Matrix.one_apply ..).symm

theorem toM_zeroM : toM (zeroM : Mat ℂ m n) = 0 := rfl

theorem toM_madd (A B : Mat ℂ m n) : toM (madd A B) = toM A + toM B := rfl

theorem toM_msub (A B : Mat ℂ m n) : toM (msub A B) = toM A - toM B := rfl

theorem toM_smul (c : ℂ) (A : Mat ℂ m n) : toM (smul c A) = c • toM A := rfl

theorem toM_sumMat (K : Nat) (f : Fin K → Mat ℂ n n) : toM (sumMat K f) = ∑ j, toM (f j) := by
  ext a b
  rw [Matrix.sum_apply]
  exact sumFin_eq K _

theorem toM_noiseCov (c : ℝ) : toM (noiseCov n c : Mat ℂ n n) = (c : ℂ) • (1 : Matrix (Fin n) (Fin n) ℂ) := by
  simp only [noiseCov, toM_smul, toM_eye, RC.ofReal]

theorem toM_extCov {e : Nat} (He : Mat ℂ n e) (pe : ℝ) :
    toM (extCov He pe) = (pe : ℂ) • (toM He * (toM He)ᴴ) := by
  simp only [extCov, toM_smul, toM_matMul, toM_cT, RC.ofReal]

theorem item_eq (A : Mat ℂ 1 1) : item A = toM A 0 0 := rfl

theorem dot_star_self (z : Fin s → ℂ) : z ⬝ᵥ star z = ((∑ d, Complex.normSq (z d) : ℝ) : ℂ) := by
  rw [Complex.ofReal_sum]
  exact Finset.sum_congr rfl (fun d _ => Complex.mul_conj _)

theorem sumL_eq_sum (xs : List ℝ) : sumL xs = xs.sum := by
  rw [sumL, List.sum_eq_foldl]

/-- `np.sum(np.log2(1 + ·))` over rows laid end to end is the sum of the rows' sums -/
theorem shannonSum_rows (rows : List (List ℝ)) :
    shannonSum rows.flatten = (rows.map (fun r => (r.map (fun x => Real.logb 2 (1 + x))).sum)).sum := by
  rw [shannonSum, sumL_eq_sum, List.map_flatten, List.sum_flatten, List.map_map]
  rfl

end PyPhysim.Sinr
