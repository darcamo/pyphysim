import PyPhysim.Proofs.C16
import PyPhysim.Proofs.C01QamReal
import PyPhysim.Proofs.C01Detect

/-! The noise scale `σ`, minimum distances of the emitted constellations, and the `Q`-arguments as `d_min/(2σ)`. -/
namespace PyPhysim.C16
open PyPhysim.C01

/-- noise standard deviation per real dimension at unit symbol energy: `σ² = 1/(2γ)` -/
noncomputable def sigma (s : ℝ) : ℝ := Real.sqrt (1 / (2 * db2lin s))

theorem two_db2lin_pos (s : ℝ) : 0 < 2 * db2lin s := mul_pos two_pos (db2lin_pos s)

theorem sigma_pos (s : ℝ) : 0 < sigma s :=
  Real.sqrt_pos.mpr (one_div_pos.mpr (two_db2lin_pos s))

/-- `1/σ = √(2γ)`: the argument `√(2γ)·h` is the half distance `h` over `σ` -/
theorem div_sigma (h s : ℝ) : h / sigma s = argShape 2 h s := by
  rw [sigma, one_div, Real.sqrt_inv, div_inv_eq_mul, mul_comm, argShape]

/-- the same as `d/(2σ)` with `d = 2h` -/
theorem two_mul_div_two_sigma (h s : ℝ) : 2 * h / (2 * sigma s) = argShape 2 h s := by
  rw [mul_div_mul_left _ _ two_ne_zero, div_sigma]

theorem bpskArg_eq_inv_sigma (s : ℝ) : bpskArg s = 1 / sigma s := by
  rw [div_sigma, bpskArg_eq]

/-- PSK: `d_min = 2·sin(π/M)` (`psk_adjacent_dist2`, `psk_min_dist2` below) -/
theorem pskArg_dmin (M : Nat) (s : ℝ) :
    pskArg M s = (2 * Real.sin (Real.pi / (M:ℝ))) / (2 * sigma s) := by
  rw [two_mul_div_two_sigma, pskArg_eq]

noncomputable def ang (M k : Nat) (φ : ℝ) : ℝ := 2 * Real.pi / (M:ℝ) * (k:ℝ) + φ

theorem pskPoint_eq (M k : Nat) (φ : ℝ) :
    pskNaturalPoint (α := ℝ) M k φ = (Real.cos (ang M k φ), Real.sin (ang M k φ)) := by
  simp only [pskNaturalPoint, ang, Trig.cos, Trig.sin, Trig.pi, Nat.cast_ofNat]

theorem dist2_unit (r : ℝ × ℝ) (θ : ℝ) :
    dist2 r (Real.cos θ, Real.sin θ) =
      r.1 * r.1 + r.2 * r.2 + 1 - 2 * (r.1 * Real.cos θ + r.2 * Real.sin θ) := by
  rw [← Real.cos_sq_add_sin_sq θ, dist2]
  ring

theorem unit_chord (a b : ℝ) :
    dist2 (Real.cos a, Real.sin a) (Real.cos b, Real.sin b) = 2 - 2 * Real.cos (a - b) := by
  rw [dist2_unit, ← Real.cos_sub, ← Real.cos_sub, sub_self, Real.cos_zero, one_add_one_eq_two]

theorem psk_dist2 (M k₁ k₂ : Nat) (φ : ℝ) :
    dist2 (pskNaturalPoint M k₁ φ) (pskNaturalPoint (α := ℝ) M k₂ φ)
      = 2 - 2 * Real.cos (2 * Real.pi / M * ((k₁:ℝ) - k₂)) := by
  rw [pskPoint_eq, pskPoint_eq, unit_chord, ang, ang, add_sub_add_right_eq_sub, ← mul_sub]

theorem two_sub_two_cos (x : ℝ) : 2 - 2 * Real.cos (2 * x) = (2 * Real.sin x) ^ 2 := by
  rw [Real.cos_two_mul_eq_one_sub]
  ring

theorem psk_adjacent_dist2 (M k : Nat) (φ : ℝ) :
    dist2 (pskNaturalPoint M (k+1) φ) (pskNaturalPoint (α := ℝ) M k φ)
      = (2 * Real.sin (Real.pi / M)) ^ 2 := by
  rw [psk_dist2, ← two_sub_two_cos, Nat.cast_succ, add_sub_cancel_left, mul_one, mul_div_assoc]

/-- the cosine decreases up to `π`; beyond, take the mirror image `2π − x`, which is below `π` -/
theorem cos_lt_cos_of_between {θ x : ℝ} (h0 : 0 ≤ θ) (h1 : θ < x) (h2 : x < 2 * Real.pi - θ) :
    Real.cos x < Real.cos θ := by
  rcases le_total x Real.pi with hx | hx
  · exact Real.cos_lt_cos_of_nonneg_of_le_pi h0 hx h1
  · rw [← Real.cos_two_pi_sub x]
    refine Real.cos_lt_cos_of_nonneg_of_le_pi h0 ?_ (lt_sub_comm.mp h2)
    rw [two_mul]
    exact sub_le_iff_le_add.mpr (add_le_add_right hx Real.pi)

/-- at the two ends `θ` and `2π − θ` the cosines are equal -/
theorem cos_le_cos_of_between {θ x : ℝ} (h0 : 0 ≤ θ) (h1 : θ ≤ x) (h2 : x ≤ 2 * Real.pi - θ) :
    Real.cos x ≤ Real.cos θ := by
  rcases h1.eq_or_lt with rfl | h1
  · exact le_rfl
  rcases h2.eq_or_lt with rfl | h2
  · exact (Real.cos_two_pi_sub θ).le
  · exact (cos_lt_cos_of_between h0 h1 h2).le

/-- `d = q − p` steps of `θ = 2π/M` stay between `θ` and `2π − θ`: `θ·(d+1) ≤ θ·M = 2π` -/
theorem cos_step_le {M p q : Nat} (hpq : p < q) (hq : q < M) :
    Real.cos (2 * Real.pi / M * ((q:ℝ) - p)) ≤ Real.cos (2 * Real.pi / M) := by
  have hd := (Nat.sub_le q p).trans_lt hq
  have hM := Nat.cast_pos (α := ℝ).mpr (Nat.zero_lt_of_lt hq)
  have hθ := (div_pos Real.two_pi_pos hM).le
  rw [← Nat.cast_sub hpq.le]
  have h1 := Nat.one_le_cast (α := ℝ).mpr (Nat.sub_pos_of_lt hpq)
  refine cos_le_cos_of_between hθ (le_mul_of_one_le_right hθ h1) (le_sub_iff_add_le.mpr ?_)
  rw [← mul_add_one, ← Nat.cast_succ]
  exact (mul_le_mul_of_nonneg_left (Nat.cast_le.mpr hd) hθ).trans_eq (div_mul_cancel₀ _ hM.ne')

theorem psk_min_dist2 (M k₁ k₂ : Nat) (h₁ : k₁ < M) (h₂ : k₂ < M) (hne : k₁ ≠ k₂) (φ : ℝ) :
    (2 * Real.sin (Real.pi / M)) ^ 2 ≤ dist2 (pskNaturalPoint M k₁ φ) (pskNaturalPoint (α := ℝ) M k₂ φ) := by
  rw [psk_dist2, ← two_sub_two_cos, ← mul_div_assoc]
  refine sub_le_sub_left (mul_le_mul_of_nonneg_left ?_ zero_le_two) 2
  rcases Nat.lt_or_gt_of_ne hne with h | h
  · rw [← neg_sub, mul_neg, Real.cos_neg]
    exact cos_step_le h h₂
  · exact cos_step_le h h₁

/-- on a grid of pitch 2 squared distances are 4 times those of the index pairs -/
theorem grid_dist2 (u v c₁ c₂ r₁ r₂ : Int) :
    dist2 (u + 2 * c₁, v - 2 * r₁) (u + 2 * c₂, v - 2 * r₂) =
      4 * ((c₁ - c₂) * (c₁ - c₂) + (r₁ - r₂) * (r₁ - r₂)) := by
  simp only [dist2]
  ring

/-- distinct points are at positive distance, and every squared distance is a multiple of 4 -/
theorem qam_grid_min_dist2 (L a b : Nat) (hne : a ≠ b) :
    4 ≤ dist2 (qamGridPoint L a) (qamGridPoint L b) :=
  Int.le_of_dvd (dist2_pos_of_ne _ _ ((qam_grid_inj L).ne hne)) (Dvd.intro _ (grid_dist2 _ _ _ _ _ _).symm)

/-- `a` and `a + 1` lie in row `a / L`, columns `a % L` and `a % L + 1` -/
theorem qam_grid_adjacent_dist2 (L a : Nat) (h : a % L + 1 < L) :
    dist2 (qamGridPoint L (a + 1)) (qamGridPoint L a) = 4 := by
  rw [← Nat.div_add_mod' a L, add_assoc, qamGridPoint_mul_add _ _ _ h,
    qamGridPoint_mul_add _ _ _ (Nat.lt_of_succ_lt h), grid_dist2,
    Nat.cast_succ, add_sub_cancel_left, sub_self, mul_one, mul_zero, add_zero, mul_one]

/-- the scaling constant of `QAM._createConstellation` -/
noncomputable def qamE (L : Nat) : ℝ :=
  Real.sqrt ((((L * L - 1 : Nat) : ℝ) * ((2 : Nat) : ℝ)) / ((3 : Nat) : ℝ))

theorem qamE_pos {L : Nat} (hL : 2 ≤ L) : 0 < qamE L :=
  qam_scale_pos L hL

/-- with the half spacing `h = 1/e` of the scaled grid the `Q` argument is `h/σ` -/
theorem qamArg_eq_div_sigma (L : Nat) (hL : 2 ≤ L) (s : ℝ) : qamArg (L * L) s = 1 / qamE L / sigma s := by
  rw [div_sigma, qamArg_eq, argShape, argShape, mul_one, mul_one_div, qamE,
    ← Real.sqrt_div (two_db2lin_pos s).le, ← Nat.cast_pred (Nat.zero_lt_of_lt (one_lt_mul_self hL))]
  congr 1
  ring

/-- the QAM scale `e = sqrt((M-1)·2/3)` turns one grid step into `d_min = 2/e` and the
    `Q` argument is `d_min/(2σ)` -/
theorem qamArg_dmin (L : Nat) (hL : 2 ≤ L) (s : ℝ) :
    qamArg (L * L) s = (2 / qamE L) / (2 * sigma s) := by
  rw [qamArg_eq_div_sigma L hL, div_sigma, ← two_mul_div_two_sigma, mul_one_div]

/-- the half spacing `1/e` of the scaled grid -/
theorem qam_half_spacing_pos {L : Nat} (hL : 2 ≤ L) : 0 < 1 / qamE L :=
  one_div_pos.mpr (qamE_pos hL)

end PyPhysim.C16
