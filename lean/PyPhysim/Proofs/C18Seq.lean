import Mathlib.Algebra.BigOperators.Fin
import Mathlib.Data.ZMod.Defs
import Mathlib.Tactic.Ring
import PyPhysim.Proofs.C18Est
import PyPhysim.Proofs.C18Ext

/-!
C18 — the sequences: Zadoff–Chu algebra (periodicity, zero cyclic
autocorrelation, flat spectrum), cyclic shifts (`shiftedPhases`) and their
orthogonality, the structure of `rootSequence`.
-/
set_option linter.unusedSectionVars false
namespace PyPhysim.C18P
open PyPhysim.Cazac PyPhysim.Proto Finset
open CisOps (cis conj)

variable {F : Type} [Field F] [CisOps F]

theorem zcPhases_length (N u : ℕ) : (zcPhases N u).length = N := by
  rw [zcPhases, List.length_map, List.length_range]

theorem zcSeq_getD (N u : ℕ) {n : ℕ} (hn : n < N) :
    (seqValues (zcPhases N u) : List F).getD n 0 = cis (zcPhase N u n) := by
  rw [seqValues_getD _ (by rw [zcPhases_length]; exact hn), zcPhases, getD_map_range hn]

theorem pos_of_odd {N : ℕ} (hodd : N % 2 = 1) : 0 < N :=
  Nat.pos_of_ne_zero fun h => absurd (h ▸ hodd) (by decide)

/-- a sum over one period may start anywhere -/
theorem sum_range_shift (N : ℕ) (hN : 0 < N) (m : ℕ) (g : ℕ → F) :
    ∑ n ∈ range N, g n = ∑ τ ∈ range N, g ((m + τ) % N) := by
  obtain ⟨k, rfl⟩ : ∃ k, N = k + 1 := ⟨N - 1, (Nat.sub_add_cancel hN).symm⟩
  rw [Finset.sum_range, Finset.sum_range]
  let a : Fin (k + 1) := ⟨m % (k + 1), Nat.mod_lt _ hN⟩
  rw [← Equiv.sum_comp (Equiv.addLeft a) (fun x : Fin (k + 1) => g x.val)]
  refine Finset.sum_congr rfl fun x _ => ?_
  rw [Equiv.coe_addLeft, Fin.val_add]
  exact congrArg g (Nat.mod_add_mod _ _ _)

section
variable (L : CisLaws F)
include L

theorem seqValues_unit (ph : List ℚ) : ∀ v ∈ (seqValues ph : List F), v * conj v = 1 := by
  intro v hv
  obtain ⟨q, _, rfl⟩ := List.mem_map.mp hv
  exact L.cis_mul_conj q

/-- a phase `-x/M` counts only modulo whole turns: `x` may drop a multiple of `M` -/
theorem cis_period (M q y : ℕ) (hM : 0 < M) :
    (cis (-(((M * q + y : ℕ) : ℚ) / (M : ℚ))) : F) = cis (-((y : ℚ) / (M : ℚ))) := by
  refine L.cis_congr ⟨-(q : ℤ), ?_⟩
  rw [Nat.cast_add, Nat.cast_mul, add_div, mul_div_cancel_left₀ _ (Nat.cast_ne_zero.mpr hM.ne'), neg_add,
    add_sub_cancel_right, Int.cast_neg, Int.cast_natCast]

theorem zc_add_period (N u n : ℕ) (hodd : N % 2 = 1) :
    (cis (zcPhase N u (n + N)) : F) = cis (zcPhase N u n) := by
  obtain ⟨t, rfl⟩ := Nat.odd_iff.mpr hodd
  -- over one period the index `u·n·(n+1)` grows by a multiple of `2N`
  have hnat : u * (n + (2 * t + 1)) * (n + (2 * t + 1) + 1)
      = 2 * (2 * t + 1) * (u * (n + t + 1)) + u * n * (n + 1) := by ring
  rw [zcPhase, hnat, cis_period L _ _ _ (Nat.mul_pos two_pos (pos_of_odd hodd)), zcPhase]

theorem zc_mod (N u : ℕ) (hodd : N % 2 = 1) (m : ℕ) :
    (cis (zcPhase N u (m % N)) : F) = cis (zcPhase N u m) := by
  induction m using Nat.strong_induction_on with
  | _ m ih =>
    rcases Nat.lt_or_ge m N with h | h
    · rw [Nat.mod_eq_of_lt h]
    · rw [Nat.mod_eq_sub_mod h, ih (m - N) (Nat.sub_lt_self (pos_of_odd hodd) h),
        ← zc_add_period L N u (m - N) hodd, Nat.sub_add_cancel h]

theorem zc_autocorr (N u τ : ℕ) (hodd : N % 2 = 1) (hcop : Nat.Coprime u N) (hτ : ¬ N ∣ τ) :
    ∑ n ∈ range N, (cis (zcPhase N u ((n + τ) % N)) : F) * conj (cis (zcPhase N u n)) = 0 := by
  have hs := L.sum_cis_div N (pos_of_odd hodd) (-(u * τ : ℕ) : ℤ)
  -- `N ∣ u·τ` with `gcd(u, N) = 1` would give `N ∣ τ`
  rw [if_neg fun hd => hτ (hcop.symm.dvd_of_dvd_mul_left
    (Int.natCast_dvd_natCast.mp (Int.dvd_neg.mp hd)))] at hs
  -- the lag product of a Zadoff–Chu sequence is `a[τ]` times that linear phase
  rw [← mul_zero (cis (zcPhase N u τ)), ← hs, Finset.mul_sum]
  refine Finset.sum_congr rfl fun n _ => ?_
  rw [zc_mod L N u hodd, L.conj_cis, ← L.cis_add, ← L.cis_add]
  refine congrArg cis ?_
  unfold zcPhase
  push_cast
  ring

/-- the DFT kernel `n ↦ cis(-k·n/N)` is a character of `ℤ/N` -/
theorem dft_kernel_shift (N k : ℕ) (hN : 0 < N) (m τ : ℕ) :
    (cis (-(((k * ((m + τ) % N) : ℕ) : ℚ) / (N : ℚ))) : F) * conj (cis (-(((k * m : ℕ) : ℚ) / (N : ℚ))))
      = cis (-(((k * τ : ℕ) : ℚ) / (N : ℚ))) := by
  have hnat : N * (k * ((m + τ) / N)) + k * ((m + τ) % N) = k * m + k * τ := by
    rw [Nat.mul_left_comm, ← Nat.mul_add, Nat.div_add_mod, Nat.mul_add]
  rw [← cis_period L N (k * ((m + τ) / N)) _ hN, hnat, Nat.cast_add, add_div, neg_add, L.cis_add,
    mul_right_comm, L.cis_mul_conj, one_mul]

/-- a sequence of unit modulus with zero cyclic autocorrelation has a flat transform against every
    kernel `w` that is a character of `ℤ/N` (the DFT: `dft_kernel_shift`) -/
theorem flat_of_autocorr (a w : ℕ → F) (N : ℕ) (hN : 0 < N)
    (hw : ∀ m τ, w ((m + τ) % N) * conj (w m) = w τ) (hw0 : w 0 = 1) (ha : ∀ n, n < N → a n * conj (a n) = 1)
    (hR : ∀ τ, 0 < τ → τ < N → ∑ m ∈ range N, a ((m + τ) % N) * conj (a m) = 0) :
    (∑ n ∈ range N, a n * w n) * conj (∑ n ∈ range N, a n * w n) = N := by
  -- for every `m` re-index the inner sum by the lag `τ`
  have h1 : ∀ m ∈ range N, ∑ n ∈ range N, a n * w n * conj (a m * w m)
      = ∑ τ ∈ range N, a ((m + τ) % N) * conj (a m) * w τ := fun m _ => by
    rw [sum_range_shift N hN m]
    refine Finset.sum_congr rfl fun τ _ => ?_
    rw [L.conj_mul, mul_mul_mul_comm, hw m τ]
  -- of the lags only `τ = 0` is left, and each of its terms is 1
  rw [L.conj_sum, Finset.sum_mul_sum, Finset.sum_comm, Finset.sum_congr rfl h1, Finset.sum_comm,
    Finset.sum_eq_single_of_mem 0 (Finset.mem_range.mpr hN) fun τ hτ h0 => by
      rw [← Finset.sum_mul, hR τ (Nat.pos_of_ne_zero h0) (Finset.mem_range.mp hτ), zero_mul]]
  refine ((Finset.sum_congr rfl fun m hm => ?_).trans (Finset.sum_const 1)).trans ?_
  · rw [Nat.add_zero, Nat.mod_eq_of_lt (Finset.mem_range.mp hm), ha m (Finset.mem_range.mp hm), hw0, mul_one]
  · rw [Finset.card_range, nsmul_one]

theorem zc_flat_list (N u : ℕ) (hodd : N % 2 = 1) (hcop : Nat.Coprime u N) :
    ∀ v ∈ fftPad (seqValues (zcPhases N u) : List F) N, v * conj v = (N : F) := by
  have hN := pos_of_odd hodd
  have hlen : (seqValues (zcPhases N u) : List F).length = N := by
    rw [seqValues_length, zcPhases_length]
  intro v hv
  rw [fftPad_eq _ hlen.le, hlen] at hv
  obtain ⟨k, _, rfl⟩ := List.mem_map.mp hv
  refine flat_of_autocorr L (fun n => (seqValues (zcPhases N u) : List F).getD n 0) _ N hN
    (dft_kernel_shift L N k hN) (by rw [Nat.mul_zero, Nat.cast_zero, zero_div, neg_zero, L.cis_zero])
    (fun n hn => ?_) fun τ h0 hτ => ?_
  · rw [zcSeq_getD N u hn, L.cis_mul_conj]
  · refine Eq.trans (Finset.sum_congr rfl fun m hm => ?_)
      (zc_autocorr L N u τ hodd hcop (Nat.not_dvd_of_pos_of_lt h0 hτ))
    rw [zcSeq_getD N u (Nat.mod_lt _ hN), zcSeq_getD N u (Finset.mem_range.mp hm)]

end

theorem shiftedPhases_ok (ph : List ℚ) (c D : ℕ) (h : c < D) :
    shiftedPhases ph c D
      = .ok (ph.zipIdx.map (fun p => ((c * p.2 : ℕ) : ℚ) / ((D : ℕ) : ℚ) + p.1)) :=
  if_pos h

theorem shiftedPhases_eq_ok {ph p : List ℚ} {c D : ℕ} (h : shiftedPhases ph c D = .ok p) :
    c < D ∧ p.length = ph.length ∧
      ∀ n, n < ph.length → p.getD n 0 = ((c * n : ℕ) : ℚ) / (D : ℚ) + ph.getD n 0 := by
  unfold shiftedPhases at h
  split_ifs at h with hc  -- in the other branch `h` equates an error with `.ok p`
  obtain rfl := Except.ok.inj h
  refine ⟨hc, by rw [List.length_map, List.length_zipIdx], fun n hn => ?_⟩
  simp only [List.getD_eq_getElem?_getD, List.getElem?_map, List.getElem?_zipIdx,
    List.getElem?_eq_getElem hn, Option.map_some, Option.getD_some, Nat.zero_add]

/-- the relative shift (in bins of the `N`-point grid) between shifts `c0` and `cu` -/
theorem shift_phase {ph p0 pu : List ℚ} {c0 cu D : ℕ} (t : ℕ) (hN : ph.length = D * t)
    (h0 : shiftedPhases ph c0 D = .ok p0) (hu : shiftedPhases ph cu D = .ok pu)
    {n : ℕ} (hn : n < ph.length) :
    pu.getD n 0 - p0.getD n 0 = (n : ℚ) * (((((cu : ℤ) - c0) * t : ℤ) : ℚ) / (ph.length : ℚ)) := by
  have ht : (t : ℚ) ≠ 0 := Nat.cast_ne_zero.mpr (Nat.mul_ne_zero_iff.mp (Nat.ne_zero_of_lt (hN ▸ hn))).2
  rw [(shiftedPhases_eq_ok h0).2.2 n hn, (shiftedPhases_eq_ok hu).2.2 n hn, add_sub_add_right_eq_sub, hN]
  push_cast
  rw [mul_div_mul_right _ _ ht]
  ring

/-- taps shorter than one shift window never fall into another user's window -/
theorem window_lte (D t k l : ℕ) {c0 cu : ℕ} (hk : k < t) (hl : l < t) (hne : c0 ≠ cu) (h0 : c0 < D)
    (hu : cu < D) : ¬ (((D * t : ℕ) : ℤ) ∣ ((k : ℤ) + ((cu : ℤ) - c0) * t - (l : ℤ))) := by
  intro hd
  rw [Nat.cast_mul, add_sub_right_comm] at hd
  -- modulo `t` the window offset drops out: `k = l`
  have hkl := (Nat.modEq_iff_dvd.mpr
    ((Int.dvd_add_left (Int.dvd_mul_left _ _)).mp (Int.dvd_trans (Int.dvd_mul_left _ _) hd))).eq_of_lt_of_lt hl hk
  rw [hkl, sub_self, zero_add] at hd
  -- what is left is `c0 ≡ cu (mod D)`, both below `D`
  have he := Int.dvd_of_mul_dvd_mul_right (Nat.cast_ne_zero.mpr (Nat.ne_zero_of_lt hl)) hd
  exact hne ((Nat.modEq_iff_dvd.mpr he).eq_of_lt_of_lt h0 hu)

section
variable (L : CisLaws F)
include L

theorem shifts_orthogonal_list (ph p1 p2 : List ℚ) (c1 c2 D t : ℕ) (hD : 0 < D)
    (hN : ph.length = D * t) (h1 : shiftedPhases ph c1 D = .ok p1) (h2 : shiftedPhases ph c2 D = .ok p2)
    (hne : c1 ≠ c2) :
    ∑ n ∈ range ph.length,
      (seqValues p1 : List F).getD n 0 * conj ((seqValues p2 : List F).getD n 0) = 0 := by
  obtain ⟨hc1, hl1, _⟩ := shiftedPhases_eq_ok h1
  obtain ⟨hc2, hl2, _⟩ := shiftedPhases_eq_ok h2
  rcases Nat.eq_zero_or_pos t with rfl | ht
  · rw [hN, Nat.mul_zero, Finset.range_zero, Finset.sum_empty]
  -- the two shifts differ by the character `(c1 - c2)·t`, not a multiple of the length
  have hnd := window_lte D t 0 0 ht ht hne.symm hc2 hc1
  rw [Nat.cast_zero, zero_add, sub_zero, ← hN] at hnd
  have hs := L.sum_cis_div ph.length (hN ▸ Nat.mul_pos hD ht) (((c1 : ℤ) - c2) * t)
  rw [if_neg hnd] at hs
  refine Eq.trans (Finset.sum_congr rfl fun n hn => ?_) hs
  have hn' := Finset.mem_range.mp hn
  rw [seqValues_getD p1 (hl1 ▸ hn'), seqValues_getD p2 (hl2 ▸ hn'), L.conj_cis, ← L.cis_add,
    ← sub_eq_add_neg, shift_phase t hN h2 h1 hn']

end

/-- with `Nzc` left to the prime table, `RootSequence(u, size=s)` is the constructor at the selected prime -/
theorem rootSequence_size {table : List ℕ} {s p : ℕ} (t1 t2 : List (List ℤ)) (u : ℕ)
    (hp : primeLookup table s = .ok p) :
    rootSequence table t1 t2 u (some s) none = rootSequenceCore t1 t2 u s p := by
  simp only [rootSequence, hp]

theorem rootSequence_zc (table : List ℕ) (t1 t2 : List (List ℤ)) (u s p : ℕ) (hs : 24 < s)
    (hp : primeLookup table s = .ok p) (hps : p ≤ s) (hu : u < p) :
    ∃ r, rootSequence table t1 t2 u (some s) none = .ok r ∧ r.nzc = p ∧ r.size = s ∧
      (∀ i, i < s → r.seqArray[i]? = some (zcPhase p u (i % p))) ∧ r.base = zcPhases p u := by
  have hp0 : 0 < p := Nat.zero_lt_of_lt hu
  have hbase : (zcPhases p u).length = p := zcPhases_length p u
  have hidx : ∀ j, j < p → (zcPhases p u)[j]? = some (zcPhase p u j) := fun j hj => by
    rw [zcPhases, List.getElem?_map, List.getElem?_range hj, Option.map_some]
  rw [rootSequence_size t1 t2 u hp, rootSequenceCore, if_neg (Nat.not_lt.mpr hps), if_pos hs, if_pos hu]
  by_cases hgt : s > p
  · rw [if_pos hgt]
    obtain ⟨l, hl, hlen, hget⟩ := extendedZF_spec (zcPhases p u) s (hbase.symm ▸ hp0) (hbase.symm ▸ hps)
    rw [hl]
    refine ⟨_, rfl, hbase, hlen, fun i hi => ?_, rfl⟩
    show l[i]? = _
    rw [hget i hi, hbase, hidx _ (Nat.mod_lt _ hp0)]
  · rw [if_neg hgt]
    obtain rfl : s = p := Nat.le_antisymm (Nat.not_lt.mp hgt) hps
    refine ⟨_, rfl, hbase, hbase, fun i hi => ?_, rfl⟩
    show (zcPhases s u)[i]? = _
    rw [Nat.mod_eq_of_lt hi, hidx i hi]

end PyPhysim.C18P
