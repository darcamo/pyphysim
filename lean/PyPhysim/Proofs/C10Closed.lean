import PyPhysim.Proofs.C10Bridge
import Mathlib.LinearAlgebra.Matrix.DotProduct
import Mathlib.Analysis.Complex.Basic

/-!
Closed-form interference alignment (3 users, `N × N` channels): the contracts of
the numeric kernels, and the fact that makes the receive filters work — a filter in the null
space of a Gram matrix `M Mᴴ` is orthogonal to `M`.
-/
namespace PyPhysim.C10
open Matrix
open scoped ComplexOrder

variable {N : Nat}

/-- contracts of the kernels called by `ClosedFormIASolver._calc_E` / `_updateF`
    (`A, B, Cc` = results of the three `np.linalg.solve` calls, `G32, G23` = results of the
    two `np.linalg.pinv` calls) -/
structure ClosedKernels (H12 H13 H21 H23 H31 H32 A B Cc G32 G23 : Mat ℂ N N) : Prop where
  hA : matMul H31 A = H32
  hB : matMul H12 B = H13
  hC : matMul H23 Cc = H21
  hG32 : matMul H32 G32 = eye
  hG23 : matMul H23 G23 = eye

theorem null_of_gram {a b c : Nat} (M : Mat ℂ a b) (W : Mat ℂ a c)
    (h : matMul (outerG M) W = mzero) : matMul (cT W) M = mzero := by
  apply toM_inj
  have h' := congrArg toM h
  rw [toM_matMul, toM_outerG, toM_mzero, self_mul_conjTranspose_mul_eq_zero] at h'
  -- `Wᴴ M = (Mᴴ W)ᴴ`
  rw [toM_matMul, toM_cT, ← conjTranspose_conjTranspose (toM M), ← conjTranspose_mul, h', conjTranspose_zero,
    toM_mzero]

end PyPhysim.C10
