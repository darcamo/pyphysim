import Mathlib.Tactic.Ring
import Mathlib.Algebra.Field.Basic
import PyPhysim.Model.C20
import PyPhysim.Model.C20Robust

/-!
What the R15 / R16 statements of C20 rest on: the heap machine `run` splits over `++` and returns one
result per operation; `smStep` is injective in the diagonal value, and the value `0` changes nothing (`smStep_zero`).
-/

namespace PyPhysim.C20R
variable {β γ : Type}

theorem run_append (h : Heap β) (a b : List (Op β γ)) :
    run h (a ++ b) = ((run (run h a).1 b).1, (run h a).2 ++ (run (run h a).1 b).2) := by
  induction a generalizing h with
  | nil => simp [run]
  | cons op a ih => simp only [List.cons_append, run, ih]

theorem run_length (h : Heap β) (ops : List (Op β γ)) : (run h ops).2.length = ops.length := by
  induction ops generalizing h with
  | nil => rfl
  | cons op ops ih => simp [run, ih]

end PyPhysim.C20R

namespace PyPhysim.LinAlg.Pf

section sm
variable {K : Type} [Field K] {n : Nat}

theorem smStep_pivot_entry (inv : Mat K n n) (i : Fin n) (d : K) (hp : 1 + d * inv i i ≠ 0) :
    smStep inv i d i i = inv i i / (1 + d * inv i i) := by
  rw [smStep, eq_div_iff hp, sub_mul, div_mul_cancel₀ _ hp]
  ring

theorem smStep_zero (inv : Mat K n n) (i : Fin n) : smStep inv i 0 = inv :=
  funext fun r => funext fun c => by rw [smStep, zero_mul, zero_div, sub_zero]

theorem smStep_injective_in_d (inv : Mat K n n) (i : Fin n) (d d' : K) (hi : inv i i ≠ 0)
    (hp : 1 + d * inv i i ≠ 0) (hp' : 1 + d' * inv i i ≠ 0)
    (h : smStep inv i d = smStep inv i d') : d = d' := by
  have e := congrFun (congrFun h i) i
  rw [smStep_pivot_entry inv i d hp, smStep_pivot_entry inv i d' hp', div_eq_div_iff hp hp'] at e
  exact (mul_right_cancel₀ hi (add_left_cancel (mul_left_cancel₀ hi e))).symm

end sm

end PyPhysim.LinAlg.Pf
