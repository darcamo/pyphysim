import Mathlib.Algebra.BigOperators.Field
import PyPhysim.Proofs.C04Bridge

/-!
Transmitted energy of the linear schemes, per channel use (column) and in total: a precoder
`P / √Nt` with unitary `P` divides every column's energy by `Nt`, and reshaping a symbol vector
into a block only permutes positions.
-/
namespace PyPhysim.C04
open Matrix

namespace Pf
variable {Nt n L : Nat}

theorem colEnergy_eq (E : Mat ℂ Nt L) (j : Fin L) : colEnergy E j = matMul (cT E) E j j :=
  congrArg (sumFin Nt) (funext fun _ => mul_comm _ _)

/-- the precoders of all three schemes are `P / √Nt` with a unitary `P` (`1`, `V_Hᴴ`, `P`) -/
theorem precoder_gram {P : Mat ℂ Nt Nt} (hP : matMul (cT P) P = eye) :
    matMul (cT (smul (sqrtNat Nt)⁻¹ P)) (smul (sqrtNat Nt)⁻¹ P) = smul (1 / (Nt : ℂ)) eye := by
  rw [cT_smul, smul_matMul, matMul_smul, hP, star_inv₀, star_sqrtNat]
  funext i j
  show (sqrtNat Nt : ℂ)⁻¹ * ((sqrtNat Nt)⁻¹ * eye i j) = 1 / (Nt : ℂ) * eye i j
  rw [← mul_assoc, ← mul_inv, sqrtNat_mul_self, one_div]

theorem totalEnergy_reindex (X : Mat ℂ Nt L) (x : Vec ℂ n) (e : Fin Nt × Fin L ≃ Fin n)
    (h : ∀ i j, X i j = x (e (i, j))) : totalEnergy X = vecEnergy x := by
  rw [totalEnergy, vecEnergy, sumFin_eq, sumFin_eq, ← e.sum_comp, Fintype.sum_prod_type_right]
  refine Finset.sum_congr rfl fun j _ => ?_
  rw [colEnergy, sumFin_eq]
  exact Finset.sum_congr rfl fun i _ => by rw [h]

/-- Fortran order: position `(i, j)` holds symbol `j·Nt + i` -/
theorem totalEnergy_reshapeF (x : Vec ℂ n) (h : n % Nt = 0) :
    totalEnergy (reshapeF Nt x h) = vecEnergy x :=
  totalEnergy_reindex _ x
    ((Equiv.prodComm _ _).trans
      (finProdFinEquiv.trans (finCongr (Nat.div_mul_cancel (Nat.dvd_of_mod_eq_zero h)))))
    fun _ _ => congrArg x (Fin.ext ((Nat.add_comm _ _).trans (congrArg _ (Nat.mul_comm _ _))))

/-- C order: position `(i, j)` holds symbol `i·(n/Nt) + j` -/
theorem totalEnergy_reshapeC (x : Vec ℂ n) (h : n % Nt = 0) :
    totalEnergy (reshapeC Nt x h) = vecEnergy x :=
  totalEnergy_reindex _ x
    (finProdFinEquiv.trans (finCongr (Nat.mul_div_cancel' (Nat.dvd_of_mod_eq_zero h))))
    fun _ _ => congrArg x (Fin.ext ((Nat.add_comm _ _).trans (congrArg _ (Nat.mul_comm _ _))))

theorem precoded_energy {W : Mat ℂ Nt Nt} (hW : matMul (cT W) W = smul (1 / (Nt : ℂ)) eye)
    (hNt : 0 < Nt) (h : n % Nt = 0) (X : Mat ℂ Nt (n / Nt)) (x : Vec ℂ n)
    (hX : totalEnergy X = vecEnergy x) :
    (∀ j, colEnergy (matMul W X) j = colEnergy X j / (Nt : ℂ)) ∧
    totalEnergy (matMul W X) = vecEnergy x / (Nt : ℂ) ∧
    (0 < n → totalEnergy (matMul W X) / ((n / Nt : ℕ) : ℂ) = vecEnergy x / (n : ℂ)) := by
  have hcol : ∀ j, colEnergy (matMul W X) j = colEnergy X j / (Nt : ℂ) := fun j => by
    rw [colEnergy_eq, colEnergy_eq, cT_matMul, matMul_assoc, ← matMul_assoc (cT W), hW, smul_matMul,
      eye_matMul, matMul_smul]
    exact one_div_mul_eq_div _ _
  have htot : totalEnergy (matMul W X) = vecEnergy x / (Nt : ℂ) := by
    rw [← hX]
    simp only [totalEnergy, sumFin_eq, hcol, Finset.sum_div]
  refine ⟨hcol, htot, fun hn => ?_⟩
  have hNt0 : (Nt : ℂ) ≠ 0 := Nat.cast_ne_zero.mpr hNt.ne'
  rw [htot, Nat.cast_div (Nat.dvd_of_mod_eq_zero h) hNt0, div_div, mul_div_cancel₀ _ hNt0]

end Pf
end PyPhysim.C04
