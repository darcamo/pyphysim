import PyPhysim.Proofs.C10Bridge
import Mathlib.Analysis.Complex.Basic
import Mathlib.LinearAlgebra.Matrix.PosDef

/-!
Ky Fan's minimum principle from a numerically checkable certificate.

`leig(Q, s)` returns `s` eigenpairs `(V, d)` of the Hermitian matrix `Q`.  If the
columns of `V` are orthonormal, `Q V = V diag(d)` and the rest of the spectrum
lies above `μ ≥ max d` — expressed without any eigen-decomposition as
"`Q − V diag(d) Vᴴ − μ (1 − V Vᴴ)` is positive semidefinite" — then `V` minimises
`tr(Uᴴ Q U)` over all `U` with orthonormal columns.  (`peig` = the same for `−Q`.)
`IsLeast` / `IsDominant` state this contract of the two kernels; `IsLeast.trace_le` and
`IsDominant.trace_ge` are what the descent theorems take from it.
-/
namespace PyPhysim.C10
open Matrix
open scoped ComplexOrder

variable {n s : Nat}

/-- contract of `leig(Q, s)[0]` : `s` orthonormal eigenvectors of `Q` whose eigenvalues `dd` lie
    below the rest of the spectrum (`Q − V diag(dd) Vᴴ − μ (1 − V Vᴴ) ⪰ 0` for a `μ ≥ dd`) -/
def IsLeast {n s : Nat} (Q : Matrix (Fin n) (Fin n) ℂ) (V : Matrix (Fin n) (Fin s) ℂ) : Prop :=
  Vᴴ * V = 1 ∧ ∃ (dd : Fin s → ℝ) (μ : ℝ),
    Q * V = V * diagonal (fun i => (dd i : ℂ)) ∧ (∀ i, dd i ≤ μ) ∧
    (Q - V * diagonal (fun i => (dd i : ℂ)) * Vᴴ - (μ : ℂ) • (1 - V * Vᴴ)).PosSemidef

/-- contract of `peig(Q, s)[0]` : the `s` dominant eigenvectors (= least eigenvectors of `−Q`) -/
def IsDominant {n s : Nat} (Q : Matrix (Fin n) (Fin n) ℂ) (V : Matrix (Fin n) (Fin s) ℂ) : Prop :=
  IsLeast (-Q) V

theorem trace_diagonal_mul_nonneg {e : Fin s → ℂ} (he : ∀ i, 0 ≤ e i) {B : Matrix (Fin s) (Fin s) ℂ}
    (hB : PosSemidef B) : 0 ≤ Matrix.trace (diagonal e * B) := by
  simp only [Matrix.trace, diag_apply, diagonal_mul]
  exact Finset.sum_nonneg fun i _ => mul_nonneg (he i) hB.diag_nonneg

/-- Ky Fan's principle in certificate form: with the certificate `R = Q − V D Vᴴ − μ (1 − V Vᴴ) ⪰ 0` and
    `B = Vᴴ (1 − U Uᴴ) V ⪰ 0`, `tr(Uᴴ Q U) − Σ dᵢ = tr(Uᴴ R U) + tr((μ − D) B)` is a sum of two non-negative
    terms.  The inequality is proved in the order of `ℂ` and projected to real parts at the end. -/
theorem IsLeast.trace_le {Q : Matrix (Fin n) (Fin n) ℂ} {V : Matrix (Fin n) (Fin s) ℂ}
    (h : IsLeast Q V) (U : Matrix (Fin n) (Fin s) ℂ) (hU : Uᴴ * U = 1) :
    (Matrix.trace (Vᴴ * Q * V)).re ≤ (Matrix.trace (Uᴴ * Q * U)).re := by
  obtain ⟨hV, dd, μ, hQV, hμ, hR⟩ := h
  -- `tr(Vᴴ Q V) = Σ dᵢ`
  rw [Matrix.mul_assoc, hQV, ← Matrix.mul_assoc, hV, Matrix.one_mul]
  -- `1 − U Uᴴ` is a Hermitian idempotent, hence `⪰ 0`, and so is `B`
  have hP := posSemidef_conjTranspose_mul_self (1 - U * Uᴴ)
  rw [proj_compl_herm, proj_compl_idem U hU] at hP
  have h1 := trace_diagonal_mul_nonneg (fun i => sub_nonneg.mpr (Complex.real_le_real.mpr (hμ i)))
    (hP.conjTranspose_mul_mul_same V)
  have h0 := (hR.conjTranspose_mul_mul_same U).trace_nonneg
  refine (Complex.le_def.mp (sub_nonneg.mp ((add_nonneg h0 h1).trans_eq ?_))).1
  -- the identity: expand both traces (`Uᴴ U = Vᴴ V = 1`), then bring every trace to the form `tr(… Vᴴ U Uᴴ V)`
  rw [← diagonal_sub, ← smul_one_eq_diagonal]
  simp only [Matrix.mul_sub, Matrix.sub_mul, Matrix.mul_smul, Matrix.smul_mul, Matrix.mul_one, Matrix.one_mul, hU,
    hV, trace_sub, trace_smul, Matrix.mul_assoc]
  rw [trace_mul_comm Uᴴ (V * _), trace_mul_comm Uᴴ (V * _)]
  simp only [Matrix.mul_assoc]
  rw [trace_mul_comm V, trace_mul_comm V]
  simp only [Matrix.mul_assoc, smul_eq_mul]
  ring

theorem IsDominant.trace_ge {Q : Matrix (Fin n) (Fin n) ℂ} {V : Matrix (Fin n) (Fin s) ℂ}
    (h : IsDominant Q V) (U : Matrix (Fin n) (Fin s) ℂ) (hU : Uᴴ * U = 1) :
    (Matrix.trace (Uᴴ * Q * U)).re ≤ (Matrix.trace (Vᴴ * Q * V)).re := by
  have := IsLeast.trace_le h U hU
  simp only [Matrix.mul_neg, Matrix.neg_mul, Matrix.trace_neg, Complex.neg_re] at this
  exact neg_le_neg_iff.mp this

end PyPhysim.C10
