import Mathlib.Analysis.SpecialFunctions.Trigonometric.Basic
import Mathlib.Tactic.Ring
import Mathlib.Tactic.LinearCombination
import PyPhysim.Model.C19

/-! C19 — the scalar ℝ with its circle functions; exact values of `exp(j·k·30°)`. -/
namespace PyPhysim.C19

noncomputable instance realCirc : Circ ℝ where
  cisDeg a := (Real.cos (Real.pi * a / 180), Real.sin (Real.pi * a / 180))
  cisRad a := (Real.cos a, Real.sin a)
  sqrt := Real.sqrt
  pi := Real.pi

/-- `exp(j·k·30°)` -/
noncomputable def E (k : ℕ) : Pt ℝ := (Real.cos (k * Real.pi / 6), Real.sin (k * Real.pi / 6))

theorem norm2_cos_sin (x : ℝ) : norm2 (Real.cos x, Real.sin x) = 1 := by
  simp only [norm2, ← sq]
  exact Real.cos_sq_add_sin_sq x

theorem cisRad_unit (a : ℝ) : norm2 (Circ.cisRad a : Pt ℝ) = 1 := norm2_cos_sin _

theorem E_norm2 (m : ℕ) : norm2 (E m) = 1 := norm2_cos_sin _

theorem cisDeg_mul30 (k : ℕ) : (Circ.cisDeg (((30 * k : ℕ)) : ℝ) : Pt ℝ) = E k := by
  simp only [Circ.cisDeg, E]
  have : Real.pi * ((30 * k : ℕ) : ℝ) / 180 = k * Real.pi / 6 := by push_cast; ring
  rw [this]

theorem sqrt3_mul_self : Real.sqrt 3 * Real.sqrt 3 = 3 := Real.mul_self_sqrt (by norm_num)

theorem E_one : E 1 = (Real.sqrt 3 / 2, 1 / 2) := by
  simp only [E, Nat.cast_one, one_mul, Real.cos_pi_div_six, Real.sin_pi_div_six]

theorem E_add (a b : ℕ) : E (a + b) = cmul (E a) (E b) := by
  simp only [E, cmul]
  have : ((a + b : ℕ) : ℝ) * Real.pi / 6 = a * Real.pi / 6 + b * Real.pi / 6 := by push_cast; ring
  rw [this, Real.cos_add, Real.sin_add]
  congr 1
  ring

theorem E_period (k : ℕ) : E (k + 12) = E k := by
  simp only [E]
  have : ((k + 12 : ℕ) : ℝ) * Real.pi / 6 = k * Real.pi / 6 + 2 * Real.pi := by push_cast; ring
  rw [this, Real.cos_add_two_pi, Real.sin_add_two_pi]

theorem cross_E_add (a d : ℕ) : cross (E a) (E (a + d)) = (E d).2 := by
  have h := E_norm2 a
  simp only [norm2] at h
  simp only [E_add, cross, cmul]
  linear_combination (E d).2 * h

theorem dist2_E_add (a d : ℕ) : dist2 (E a) (E (a + d)) = 2 - 2 * (E d).1 := by
  have h := E_norm2 a
  have h' := E_norm2 d
  simp only [norm2] at h h'
  simp only [E_add, dist2, norm2, psub, cmul]
  linear_combination (2 - 2 * (E d).1) * h + ((E a).1 * (E a).1 + (E a).2 * (E a).2) * h'

theorem dot_E (a b : ℕ) : dot (E a) (E b) = Real.cos (a * Real.pi / 6 - b * Real.pi / 6) := by
  simp only [dot, E]
  rw [Real.cos_sub]

noncomputable def emb (v : (ℤ × ℤ) × (ℤ × ℤ)) : Pt ℝ :=
  ((v.1.1 : ℝ) / 2 + (v.1.2 : ℝ) * (Real.sqrt 3 / 2), (v.2.1 : ℝ) / 2 + (v.2.2 : ℝ) * (Real.sqrt 3 / 2))

theorem emb_add (a b : (ℤ × ℤ) × (ℤ × ℤ)) : padd (emb a) (emb b) = emb (a + b) := by
  simp only [padd, emb, Prod.fst_add, Prod.snd_add, Int.cast_add]
  congr 1 <;> ring

/-- the directions `exp(j·k·30°)` in units of `1/2` and `√3/2`, `(x₁/2 + x₂·√3/2, y₁/2 + y₂·√3/2)`:
    `0°`, `30°`, `60°`, and from there a quarter turn `(x, y) ↦ (-y, x)` at a time -/
def e30 : ℕ → (ℤ × ℤ) × (ℤ × ℤ)
  | 0 => ((2, 0), (0, 0))
  | 1 => ((0, 1), (1, 0))
  | 2 => ((1, 0), (0, 1))
  | k + 3 => ((-(e30 k).2.1, -(e30 k).2.2), (e30 k).1)

theorem E_two : E 2 = (1 / 2, Real.sqrt 3 / 2) := by
  simp only [E, Nat.cast_ofNat, show (2 : ℝ) * Real.pi / 6 = Real.pi / 3 by ring, Real.cos_pi_div_three,
    Real.sin_pi_div_three]

theorem E_three : E 3 = (0, 1) := by
  simp only [E, Nat.cast_ofNat, show (3 : ℝ) * Real.pi / 6 = Real.pi / 2 by ring, Real.cos_pi_div_two,
    Real.sin_pi_div_two]

/-- `exp(j·k·30°)` exactly, in ℚ(√3) -/
theorem E_eq : ∀ k, E k = emb (e30 k)
  | 0 => by simp [E, emb, e30]
  | 1 => by simp [E_one, emb, e30]
  | 2 => by simp [E_two, emb, e30]
  | k + 3 => by
    rw [E_add, E_three, E_eq k, e30]
    simp only [emb, cmul, Int.cast_neg, mul_zero, mul_one, zero_sub, add_zero, neg_add, neg_div, neg_mul]

end PyPhysim.C19
