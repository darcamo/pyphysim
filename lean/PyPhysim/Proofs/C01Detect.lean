import Mathlib.Algebra.Order.Field.Basic
import Mathlib.Tactic.Ring
import PyPhysim.Proofs.C01Argmin

/-! Nearest-symbol detection: `demod` is `argminIdx` of the distances to the sample, so its contract is that of
`argminIdx` read against the table (`demod_nearest'`, `demod_of_nearest_point`, any linear order).  Squared distances
in an ordered ring (`dist2_self`, nonnegative, zero exactly between equal points, positive otherwise), BPSK's
comparison `bpsk_nearer_iff`, and an accepted `modulate` read as a table look-up (`modulate_eq_ok`). -/
namespace PyPhysim.C01

theorem dist2_self {α : Type} [Ring α] (p : α × α) : dist2 p p = 0 := by
  simp only [dist2, sub_self, mul_zero, add_zero]

/-- the contract of `demod`; `Properties/C01.lean` states it again as `demod_nearest` -/
theorem demod_nearest' {α : Type} [Add α] [Sub α] [Mul α] [LinearOrder α] (c : List (α × α))
    (hc : c ≠ []) (r : α × α) :
    ∃ p, c[demod c r]? = some p ∧
      ∀ j q, c[j]? = some q → dist2 r p ≤ dist2 r q ∧ (j < demod c r → dist2 r p < dist2 r q) := by
  obtain ⟨v, hv, hall⟩ := argminIdx_spec (c.map (dist2 r)) (mt List.map_eq_nil_iff.mp hc)
  rw [List.getElem?_map, Option.map_eq_some_iff] at hv
  obtain ⟨p, hp, rfl⟩ := hv
  exact ⟨p, hp, fun j q hq => hall j (dist2 r q) (by rw [List.getElem?_map, hq]; rfl)⟩

/-- in a table without repetitions a point strictly nearer than every other POINT is detected
    (`argminIdx_map_unique` asks it of every other index) -/
theorem demod_of_nearest_point {α : Type} [Add α] [Sub α] [Mul α] [LinearOrder α] (c : List (α × α))
    (hnd : c.Nodup) (i : Nat) (p : α × α) (hi : c[i]? = some p) (r : α × α)
    (h : ∀ q ∈ c, q ≠ p → dist2 r p < dist2 r q) : demod c r = i := by
  refine argminIdx_map_unique (dist2 r) c i p hi fun j q hq hne => ?_
  -- distinct indices of a table without repetitions carry distinct points
  refine h q (List.mem_of_getElem? hq) fun hqp => hne ?_
  exact (List.getElem?_inj (List.getElem?_eq_some_iff.mp hq).1 hnd).mp (by rw [hq, hi, hqp])

section
variable {α : Type} [CommRing α] [LinearOrder α] [IsStrictOrderedRing α]

theorem dist2_nonneg' (p q : α × α) : 0 ≤ dist2 p q :=
  add_nonneg (mul_self_nonneg _) (mul_self_nonneg _)

theorem dist2_eq_zero_iff (p q : α × α) : dist2 p q = 0 ↔ p = q := by
  rw [dist2, mul_self_add_mul_self_eq_zero, sub_eq_zero, sub_eq_zero, Prod.ext_iff]

theorem dist2_pos_of_ne (p q : α × α) (h : p ≠ q) : 0 < dist2 p q :=
  lt_of_le_of_ne (dist2_nonneg' p q) (Ne.symm (mt (dist2_eq_zero_iff p q).mp h))

end

variable {α : Type} [Field α] [LinearOrder α] [IsStrictOrderedRing α]

theorem dist2_nonneg (p q : α × α) : 0 ≤ dist2 p q := dist2_nonneg' p q

theorem bpsk_nearer_iff (re im : α) : dist2 (re, im) (-1, 0) < dist2 (re, im) (1, 0) ↔ re < 0 := by
  rw [← sub_pos, show dist2 (re, im) (1, 0) - dist2 (re, im) (-1, 0) = 4 * -re by simp only [dist2]; ring,
    mul_pos_iff_of_pos_left zero_lt_four, neg_pos]

theorem modulate_eq_ok {α : Type} {c : List (α × α)} {i : Nat} {p : α × α} (h : modulate c i = .ok p) :
    c[i]? = some p := by
  unfold modulate at h
  cases hc : c[i]? with
  | none => rw [hc] at h; cases h
  | some q => rw [hc] at h; exact congrArg some (Except.ok.inj h)

end PyPhysim.C01
