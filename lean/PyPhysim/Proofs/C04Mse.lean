import Mathlib.LinearAlgebra.Matrix.Trace
import Mathlib.Tactic.LinearCombination
import PyPhysim.Proofs.C04Filters
import PyPhysim.Proofs.C04Energy

/-!
The MMSE receive filter minimises the mean square error
`E‖W(Hx+n) − x‖² = ‖WH − 1‖_F² + σ²‖W‖_F²` (unit-power uncorrelated data, white noise):
Pythagoras for the Frobenius inner product, whose square norm `totalEnergy` is.
-/
namespace PyPhysim.C04
open Matrix
open scoped ComplexOrder
namespace Pf
variable {a b m n : Nat}

/-- Frobenius inner product `⟨X, Y⟩ = Σ X_ij conj(Y_ij) = tr(Yᴴ X)` of model matrices: `totalEnergy`
    is its square norm.  Defined through `toM`, so that its laws are Mathlib's trace laws. -/
noncomputable def fip (X Y : Mat ℂ a b) : ℂ := trace ((toM Y)ᴴ * toM X)

theorem totalEnergy_eq_fip (X : Mat ℂ a b) : totalEnergy X = fip X X := by
  rw [fip, ← toM_cT, ← toM_matMul, totalEnergy, sumFin_eq]
  exact Finset.sum_congr rfl fun j _ => colEnergy_eq X j

theorem totalEnergy_re_nonneg (X : Mat ℂ a b) : 0 ≤ (totalEnergy X).re := by
  rw [totalEnergy_eq_fip]
  exact (Complex.le_def.mp (posSemidef_conjTranspose_mul_self (toM X)).trace_nonneg).1

theorem totalEnergy_madd (X Y : Mat ℂ a b) :
    totalEnergy (madd X Y) = totalEnergy X + totalEnergy Y + (fip X Y + fip Y X) := by
  simp only [totalEnergy_eq_fip, fip]
  rw [toM_madd, conjTranspose_add, Matrix.add_mul, Matrix.mul_add, Matrix.mul_add, trace_add, trace_add,
    trace_add]
  ring

theorem fip_star (X Y : Mat ℂ a b) : star (fip X Y) = fip Y X := by
  rw [fip, fip, ← trace_conjTranspose, conjTranspose_mul, conjTranspose_conjTranspose]

theorem fip_zero (Y : Mat ℂ a b) : fip (fun _ _ => 0) Y = 0 :=
  (congrArg trace (Matrix.mul_zero _)).trans (trace_zero _ _)

/-- `⟨X, D H⟩ + s ⟨W, D⟩ = ⟨X Hᴴ + s W, D⟩` -/
theorem fip_cross (X : Mat ℂ n n) (D W : Mat ℂ n m) (H : Mat ℂ m n) (s : ℂ) :
    fip X (matMul D H) + s * fip W D = fip (madd (matMul X (cT H)) (smul s W)) D := by
  rw [fip, fip, fip, toM_matMul, toM_madd, toM_smul, toM_matMul, toM_cT, conjTranspose_mul,
    Matrix.mul_add, Matrix.mul_smul, trace_add, trace_smul, Matrix.mul_assoc, trace_mul_comm,
    Matrix.mul_assoc, smul_eq_mul]

/-- push-through: `(Hᴴ H + s) W = Hᴴ` gives `W (H Hᴴ) + s W = Hᴴ` -/
theorem push_through (H : Mat ℂ m n) {s : ℝ} (hs : 0 < s) {W : Mat ℂ n m}
    (h : IsSolve (mmseLhs H (s : ℂ)) (mmseRhs H) W) :
    madd (matMul W (matMul H (cT H))) (smul (s : ℂ) W) = cT H := by
  apply mmseLhs_cancel H hs
  rw [matMul_madd, ← matMul_assoc, matMul_smul, h, mmseRhs, mmseLhs_matMul, matMul_assoc]

/-- the error of `W + D` exceeds the error of a receiver `W` with `W H Hᴴ + s W = Hᴴ` by
    `‖D H‖_F² + s ‖D‖_F²`: the terms linear in `D` are `⟨Z, D⟩ + ⟨D, Z⟩` with
    `Z = (W H − 1) Hᴴ + s W = 0` -/
theorem mse_add (H : Mat ℂ m n) (s : ℝ) (W D : Mat ℂ n m)
    (hX : madd (matMul W (matMul H (cT H))) (smul (s : ℂ) W) = cT H) :
    mseOf H s (madd W D) = mseOf H s W + (totalEnergy (matMul D H) + s * totalEnergy D) := by
  have hZ : madd (matMul (msub (matMul W H) eye) (cT H)) (smul (s : ℂ) W) = fun _ _ => 0 := by
    rw [msub_matMul, matMul_assoc, eye_matMul]
    exact funext fun i => funext fun j =>
      (sub_add_eq_add_sub _ _ _).trans (sub_eq_zero.mpr (congrFun (congrFun hX i) j))
  have e : msub (matMul (madd W D) H) eye = madd (msub (matMul W H) eye) (matMul D H) := by
    rw [madd_matMul]
    exact funext fun i => funext fun j => add_sub_right_comm _ _ _
  have c1 := fip_cross (msub (matMul W H) eye) D W H s
  rw [hZ, fip_zero] at c1
  have c2 := congrArg star c1
  rw [star_add, star_mul', fip_star, fip_star, Complex.star_def, Complex.conj_ofReal, map_zero] at c2
  rw [mseOf, mseOf, e, totalEnergy_madd, totalEnergy_madd]
  linear_combination c1 + c2

end Pf
end PyPhysim.C04
