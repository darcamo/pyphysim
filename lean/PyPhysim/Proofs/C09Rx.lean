import PyPhysim.Proofs.C09Null
import PyPhysim.Proofs.C09Power

/-!
Receive filters: the Moore–Penrose filter against the power mask, full rank of
the effective channel (its left inverse, block by block), both power scalings as a right factor `diag d` of the unscaled precoder
(`normalizedWF_eq_diag`, `noWF_eq_diag`), whitening filter, stream-reduction filter and removal of
the external interference.
-/
namespace PyPhysim.BD
namespace Pf
open Matrix

theorem pinv_matMul_eq_mask {n : Nat} (A B W G : Mat ℂ n n) (d : Fin n → ℝ)
    (hA : A = matMul B (diagM fun j => (d j : ℂ))) (hG : matMul G B = eye)
    (h1 : matMul (matMul A W) A = A) (h3 : cT (matMul W A) = matMul W A) :
    matMul W A = diagM (fun j => if d j = 0 then 0 else 1) := by
  -- with `P = W A`, `D = diag d`: `D P = D` (cancel `B` on the left of `A P = A`), and `P = Pᴴ`, `P = (W B) D`
  have hDP : matMul (diagM fun j => (d j : ℂ)) (matMul W A) = diagM fun j => (d j : ℂ) := by
    have h := congrArg (matMul G) h1
    rwa [matMul_assoc, hA, matMul_assoc, ← matMul_assoc G, ← matMul_assoc G, hG, eye_matMul, eye_matMul, ← hA] at h
  funext i j
  by_cases hz : d i = 0
  · rw [← h3]
    show star (matMul W A j i) = _
    rw [hA, ← matMul_assoc, matMul_diagM, hz, Complex.ofReal_zero, mul_zero, star_zero, diagM, if_pos hz, ite_self]
  · have e := congrFun (congrFun hDP i) j
    rw [diagM_matMul] at e
    apply mul_left_cancel₀ (Complex.ofReal_ne_zero.mpr hz)
    rw [e, diagM, diagM, if_neg hz, mul_ite, mul_one, mul_zero]

section fullrank
variable {K N T : Nat}

/-- `H · Ms_bad` is block diagonal with blocks `H_k M_k`, and `M_kᴴ · Hinv_k` inverts block `k`:
    `Hinv_k H_k M_k = Hinv H M_k = M_k`, the other row blocks of `H M_k` being zero -/
theorem effective_left_inverse (H : Mat ℂ (K * N) T) (Hinv : Mat ℂ T (K * N)) (M : Fin K → Mat ℂ T N)
    (hH : matMul Hinv H = eye) (hM : ∀ k, matMul (cT (M k)) (M k) = eye)
    (hnull : ∀ j k, j ≠ k → matMul (rowBlock H j) (M k) = fun _ _ => 0) :
    ∃ G : Mat ℂ (K * N) (K * N), matMul G (matMul H (stackCols M)) = eye :=
  ⟨blockDiag fun k => matMul (cT (M k)) (colBlock Hinv k),
    blockDiag_matMul_eq_eye _ _ (blockDiagonal_stack H M hnull) fun k => by
      show matMul _ (matMul (rowBlock H k) (colBlock (stackCols M) k)) = eye
      rw [colBlock_stackCols, matMul_assoc, colBlock_matMul_rowBlock _ _ _ _ fun j hj => hnull j k hj,
        ← matMul_assoc Hinv, hH, eye_matMul, hM]⟩

end fullrank

section scaling
variable {K N T : Nat}

theorem normalizedWF_eq_diag (iPu : ℝ) (MsBad : Mat ℂ T (K * N)) (p : Fin (K * N) → ℝ) :
    normalizedWF iPu MsBad p =
      matMul MsBad (diagM (fun j => (((Real.sqrt (p j) * Real.sqrt iPu /
        maxLoop (blockNorms (K := K) (N := N) (globalWF MsBad p)) : ℝ)) : ℂ))) := by
  funext i j
  rw [matMul_diagM, Complex.ofReal_div, Complex.ofReal_mul, ← mul_div_assoc, ← mul_assoc, ← globalWF_apply]
  rfl

theorem noWF_eq_diag (iPu : ℝ) (MsBad : Mat ℂ T (K * N)) :
    noWF iPu MsBad =
      matMul MsBad (diagM (fun y => ((Real.sqrt iPu / frobNorm (colBlock MsBad (userOf y)) : ℝ) : ℂ))) := by
  funext i y
  rw [matMul_diagM, Complex.ofReal_div, ← mul_div_assoc]
  rfl

end scaling

section whitening
variable {K N T n : Nat}

theorem null_of_whitened_null (F Fi : Fin K → Mat ℂ N N) (hF : ∀ k, matMul (Fi k) (F k) = eye)
    (H : Mat ℂ (K * N) T) (V : Mat ℂ T n) (j : Fin K)
    (h : matMul (rowBlock (whitenedChannel F H) j) V = fun _ _ => 0) :
    matMul (rowBlock H j) V = fun _ _ => 0 := by
  rw [whitenedChannel, rowBlock_blockDiag_mul] at h
  have h2 := congrArg (matMul (Fi j)) h
  rwa [matMul_zero, matMul_assoc, ← matMul_assoc, hF, eye_matMul] at h2

theorem whiteningRx_inverts (F : Fin K → Mat ℂ N N) (H : Mat ℂ (K * N) T) (Ms : Mat ℂ T (K * N))
    (W : Mat ℂ (K * N) (K * N))
    (hW : matMul W (matMul (whitenedChannel F H) Ms) = eye)
    (hbd : IsBlockDiagonal (matMul H Ms)) (k : Fin K) :
    matMul (whiteningRxFilter W F k) (matMul (rowBlock H k) (colBlock Ms k)) = eye := by
  have h2 := congrArg (diagBlock · k) hW
  -- `h2` ends as the goal with its two factors folded: by definition `whiteningRxFilter W F k` is
  -- `diagBlock (W · blockDiag F) k`, and `diagBlock (H · Ms) k` is `H_k · Ms_k`
  rwa [whitenedChannel, matMul_assoc, ← matMul_assoc, diagBlock_mul_of_blockDiagonal _ _ hbd, diagBlock_eye] at h2

end whitening

section reduction
variable {T N n r : Nat}

theorem reduce_power (iPu : ℝ) (hP : 0 ≤ iPu) (Hk : Mat ℂ N T) (Msk : Mat ℂ T N) (Pk : Mat ℂ N n) (G : Mat ℂ n n)
    (hpos : 0 < frobSq (matMul Msk Pk)) : frobSq (reduce iPu Hk Msk Pk G).MsPk = iPu := by
  show frobSq (fun i j => matMul Msk Pk i j / Cx.ofReal (frobNorm (matMul Msk Pk) / Real.sqrt iPu) : Mat ℂ T n) = iPu
  rw [frobSq_div, div_mul_div_comm, frobNorm_sq, Real.mul_self_sqrt hP]
  exact div_div_cancel₀ hpos.ne'

theorem matMul_div {m k : Nat} (A : Mat ℂ m k) (B : Mat ℂ k n) (c : ℂ) :
    matMul A (fun i j => B i j / c) = fun i j => matMul A B i j / c := by
  funext i j
  simp only [matMul_apply, Finset.sum_div, mul_div_assoc]

theorem reduce_heqRed (iPu : ℝ) (Hk : Mat ℂ N T) (Msk : Mat ℂ T N) (Pk : Mat ℂ N n) (G : Mat ℂ n n) :
    (reduce iPu Hk Msk Pk G).heqRed = matMul Hk (reduce iPu Hk Msk Pk G).MsPk :=
  (matMul_assoc Hk Msk _).trans (congrArg (matMul Hk) (matMul_div Msk Pk _))

theorem reduce_MsPk_factor (iPu : ℝ) (Hk : Mat ℂ N T) (Msk : Mat ℂ T N) (Pk : Mat ℂ N n) (G : Mat ℂ n n) :
    (reduce iPu Hk Msk Pk G).MsPk =
      matMul Msk (fun i j => Pk i j / Cx.ofReal (frobNorm (matMul Msk Pk) / RFun.sqrt iPu) : Mat ℂ N n) :=
  (matMul_div Msk Pk _).symm

/-- every column of `P` is an eigenvector of `Re` for `σ²` iff every column is orthogonal to `E` -/
theorem covExtInt_matMul_eq_iff (pe nv : ℝ) (E : Mat ℂ N r) (P : Mat ℂ N n) :
    matMul (covExtInt pe nv E) P = (fun i j => Cx.ofReal nv * P i j) ↔
      pe = 0 ∨ matMul (cT E) P = fun _ _ => 0 := by
  rw [matMul_eq_iff_cols, matMul_eq_iff_cols, toM_covExtInt, toM_cT, ← forall_or_left, ← Complex.ofReal_eq_zero]
  exact forall_congr' fun j => extCov_mulVec_eq_smul_iff pe nv (toM E) fun i => P i j

theorem filter_kills_ext {s : Nat} (E : Mat ℂ N r) (P : Mat ℂ N n) (M : Mat ℂ s n)
    (h : matMul (cT E) P = fun _ _ => 0) : matMul (matMul M (cT P)) E = fun _ _ => 0 := by
  rw [matMul_assoc, ← cT_cT E, ← cT_matMul, h, cT_zero, matMul_zero]

theorem filter_cov_noise_only {s : Nat} (nv : ℝ) (Re : Mat ℂ N N) (P : Mat ℂ N n) (M : Mat ℂ s n)
    (hP : matMul Re P = fun i j => Cx.ofReal nv * P i j) :
    matMul (matMul M (cT P)) (matMul Re (cT (matMul M (cT P)))) =
      fun i j => Cx.ofReal nv * matMul (matMul M (cT P)) (cT (matMul M (cT P))) i j := by
  rw [cT_matMul, cT_cT, ← matMul_assoc Re, hP, smul_matMul, matMul_smul]

end reduction

end Pf
end PyPhysim.BD
