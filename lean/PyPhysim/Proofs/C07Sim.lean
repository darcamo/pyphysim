import PyPhysim.Proofs.C07Run

/-! The whole `simulate()` (the run over the variations, then the final
results file) — its trace, the disk after any crash point, reachable disks. -/
namespace PyPhysim.C07

open PyPhysim.C05 (Outcome VarState Stored stateOf freshState)

variable {R T : Type}

def finEvs (cfg : Cfg R T) (results : List (Stored R)) (reps : List Nat) : List (Ev R T) :=
  (saveOps cfg.mode (⟨results, reps⟩ : Full R)).map Ev.fin

theorem part_append_fin (d : Disk R T) (t : List (Ev R T)) {q : List (Ev R T)} {ops : List (SlotOp (Full R))}
    (hq : q <+: ops.map Ev.fin) (j : Nat) : (d.applyAll (t ++ q)).part j = (d.applyAll t).part j := by
  have h0 : partOps j q = [] := List.prefix_nil.mp (partOps_map_fin j ops ▸ partOps_prefix j hq)
  rw [Disk.applyAll_append, Disk.applyAll_part _ q, h0]
  rfl

theorem CrashSpec.pointwise (cfg : Cfg R T) (start : Nat → Option (R × Nat)) (old m : Nat → File (Part R T))
    (is : List Nat) : ∀ (segs : List (List (Outcome R))), CrashSpec cfg start old m is segs →
      ∀ i ∈ is, m i = old i ∨ (cfg.mode = .inPlace ∧ m i = .torn) ∨
        ∃ p s, stateOf cfg.merge (start i) p = some s ∧ m i = .valid (partOf cfg i s) := by
  intro segs
  fun_induction CrashSpec cfg start old m is segs with
  | case1 => exact fun _ _ hi => nomatch hi
  | case2 j is seg segs ih =>
    intro h i hi
    rcases List.mem_cons.mp hi with rfl | hi
    · rcases h with ⟨st, h1, h2, _⟩ | ⟨h1 | h1 | ⟨p, s, _, hs, hm, _⟩, _⟩
      · exact .inr (.inr ⟨seg, st, h1.1, h2⟩)
      · exact .inl h1
      · exact .inr (.inl h1)
      · exact .inr (.inr ⟨p, s, hs, hm⟩)
    · rcases h with ⟨_, _, _, h3⟩ | ⟨_, h2, _⟩
      · exact ih h3 i hi
      · exact .inl (h2 i hi)
  | case3 => exact False.elim

section
variable [DecidableEq T]

theorem simC_fields (cfg : Cfg R T) (d : Disk R T) (c : Clock) (outs : List (Outcome R)) :
    (simC cfg d c outs).results = (simVarsC cfg (List.range cfg.nvar) d c outs).results ∧
    (simC cfg d c outs).reps = (simVarsC cfg (List.range cfg.nvar) d c outs).reps ∧
    (simC cfg d c outs).rest = (simVarsC cfg (List.range cfg.nvar) d c outs).rest ∧
    (simC cfg d c outs).status = (simVarsC cfg (List.range cfg.nvar) d c outs).status := by
  unfold simC
  generalize simVarsC cfg (List.range cfg.nvar) d c outs = t
  obtain ⟨tr, res, reps, rest, clk, st⟩ := t
  cases st <;> exact ⟨rfl, rfl, rfl, rfl⟩

theorem simC_trace_of_none (cfg : Cfg R T) (d : Disk R T) (c : Clock) (outs : List (Outcome R))
    (h : (simVarsC cfg (List.range cfg.nvar) d c outs).status = none) :
    (simC cfg d c outs).trace = (simVarsC cfg (List.range cfg.nvar) d c outs).trace ++
      finEvs cfg (simVarsC cfg (List.range cfg.nvar) d c outs).results
        (simVarsC cfg (List.range cfg.nvar) d c outs).reps := by
  simp only [simC, h]
  rfl

theorem simC_of_some (cfg : Cfg R T) (d : Disk R T) (c : Clock) (outs : List (Outcome R))
    (h : (simVarsC cfg (List.range cfg.nvar) d c outs).status ≠ none) :
    simC cfg d c outs = simVarsC cfg (List.range cfg.nvar) d c outs := by
  unfold simC
  generalize simVarsC cfg (List.range cfg.nvar) d c outs = t at h
  obtain ⟨tr, res, reps, rest, clk, st⟩ := t
  cases st with
  | none => exact absurd rfl h
  | some e => rfl

theorem simC_callLog (cfg : Cfg R T) (d : Disk R T) (c : Clock) (outs : List (Outcome R)) :
    callLog (simC cfg d c outs).trace = callLog (simVarsC cfg (List.range cfg.nvar) d c outs).trace := by
  by_cases hst : (simVarsC cfg (List.range cfg.nvar) d c outs).status = none
  · rw [simC_trace_of_none cfg d c outs hst, callLog_append, finEvs, callLog_map_fin, List.append_nil]
  · rw [simC_of_some cfg d c outs hst]

theorem TraceProp.of_simC {cfg : Cfg R T} {P : List (Ev R T) → Prop}
    (h : TraceProp cfg (List.range cfg.nvar) P) (hfin : ∀ results reps, P (finEvs cfg results reps))
    (d : Disk R T) (c : Clock) (outs : List (Outcome R)) : P (simC cfg d c outs).trace := by
  have hv := h.of_simVarsC _ (fun _ hi => hi) d c outs
  by_cases hst : (simVarsC cfg (List.range cfg.nvar) d c outs).status = none
  · rw [simC_trace_of_none cfg d c outs hst]; exact h.append hv (hfin _ _)
  · rw [simC_of_some cfg d c outs hst]; exact hv

theorem simC_allAtomic (cfg : Cfg R T) (d : Disk R T) (c : Clock) (outs : List (Outcome R))
    (hm : cfg.mode = .atomic) : AllAtomic (simC cfg d c outs).trace :=
  (allAtomic_traceProp cfg hm _).of_simC
    (fun _ _ => by unfold finEvs; rw [hm]; exact allAtomic_map_fin _) d c outs

theorem simC_crash (cfg : Cfg R T) (d : Disk R T) (c : Clock) (outs : List (Outcome R))
    (pre : List (Ev R T)) (hp : pre <+: (simC cfg d c outs).trace) :
    (∃ segs, segs.flatten <+: outs ∧
      CrashSpec cfg (startOf cfg d) (fun j => (d.part j).main)
        (fun j => ((d.applyAll pre).part j).main) (List.range cfg.nvar) segs) ∧
    ∀ j, j ∉ List.range cfg.nvar → ((d.applyAll pre).part j).main = (d.part j).main := by
  -- the final save writes no partial-results file: a crash during it leaves those of the complete run
  obtain ⟨t, ht, hpart⟩ : ∃ t, t <+: (simVarsC cfg (List.range cfg.nvar) d c outs).trace ∧
      ∀ j, (d.applyAll pre).part j = (d.applyAll t).part j := by
    by_cases hst : (simVarsC cfg (List.range cfg.nvar) d c outs).status = none
    · rw [simC_trace_of_none cfg d c outs hst] at hp
      rcases prefix_append_cases hp with hp | ⟨q, rfl, hq⟩
      · exact ⟨pre, hp, fun _ => rfl⟩
      · exact ⟨_, List.prefix_refl _, part_append_fin d _ hq⟩
    · exact ⟨pre, simC_of_some cfg d c outs hst ▸ hp, fun _ => rfl⟩
  refine ⟨(simVarsC_ran cfg (List.range cfg.nvar) d c outs List.nodup_range).crash t ht _
    fun j _ => congrArg Slot.main (hpart j), fun j hj => ?_⟩
  rw [hpart j, ((simVarsC_onlyVars cfg (List.range cfg.nvar) d c outs).prefix ht).part_notMem hj]

theorem simC_mainEq (cfg : Cfg R T) (d d' : Disk R T) (c : Clock) (outs : List (Outcome R))
    (h : MainEq d d') : simC cfg d c outs = simC cfg d' c outs := by
  unfold simC; rw [simVarsC_congr cfg _ d d' c outs fun j _ => h j]

/-- the disks that any sequence of `simulate()` runs, each killed at an arbitrary
    point (or left to finish), can leave behind, starting from an empty folder -/
inductive Reach (cfg : Cfg R T) : Disk R T → Prop
  | empty : Reach cfg Disk.empty
  | crash (d : Disk R T) (h : Reach cfg d) (c : Clock) (outs : List (Outcome R)) (pre : List (Ev R T))
      (hp : pre <+: (simC cfg d c outs).trace) : Reach cfg (d.applyAll pre)

/-- a partial-results file that is missing, or holds the merge and the count of the
    successful outcomes of some sequence of `_run_simulation` calls, tagged with the
    parameters of its variation -/
def Durable (cfg : Cfg R T) (i : Nat) (f : File (Part R T)) : Prop :=
  f = .absent ∨ ∃ (p : List (Outcome R)) (s : VarState R) (k : Nat),
    freshState cfg.merge p = some s ∧ f = .valid ⟨⟨s.acc, k, s.rep⟩, cfg.tag i⟩

theorem Durable.loadsOk {cfg : Cfg R T} {d : Disk R T} {i : Nat} (h : Durable cfg i (d.part i).main) :
    LoadsOk cfg d i := by
  intro e
  rcases h with h | ⟨p, s, k, _, h⟩ <;> simp [loadPart, h]

theorem Reach.durable (cfg : Cfg R T) (hmode : cfg.mode = .atomic) (d : Disk R T) (h : Reach cfg d) :
    ∀ i, Durable cfg i (d.part i).main := by
  induction h with
  | empty => intro i; left; rfl
  | crash d _ c outs pre hp ih =>
    intro i
    obtain ⟨⟨segs, _, g2⟩, g3⟩ := simC_crash cfg d c outs pre hp
    by_cases hi : i ∈ List.range cfg.nvar
    · rcases CrashSpec.pointwise cfg _ _ _ _ segs g2 i hi with h | ⟨hm, _⟩ | ⟨p, s, hs, hmain⟩
      · rw [h]; exact ih i
      · cases hmode.symm.trans hm
      · rw [hmain]
        right
        rcases ih i with h0 | ⟨p0, s0, k0, hs0, h0⟩
        · simp only [startOf, loadPart, h0] at hs
          exact ⟨p, s, s.skipped, hs, rfl⟩
        · rw [startOf_valid cfg d i ⟨s0.acc, s0.rep, k0, 0⟩ h0] at hs
          cases hs
          exact ⟨p0 ++ p, _, _, C05.stateOf_append cfg.merge none p0 p s0 hs0, rfl⟩
    · rw [g3 i hi]; exact ih i

end

end PyPhysim.C07
