import PyPhysim.Model.C10Cache
/-!
The derived-quantity machine of `Model/C10Cache.lean` on the repaired code (`Cfg.fixed`), for every
interpretation `Ops` of the matrix operations: the invariants (`Coherent`, `FullFDerived`, `NsOK`), what
they ask of the arguments of an operation (`PArg.valid`, `Op.shapeOK`, `Op.installsFullF`) and
the one description of a step everything else is read off.

* A getter (`step_fill`): one equation per getter up to `full_W_H` (the state it leaves and the value
  it returns, in terms of `getWH`, `getW`, `getFullF`, `specFullWH`), and `CacheFill`, the relation
  between a state and what getters make of it — every cache keeps its value or receives what its
  getter computes, so that coherence, the getter values and the primaries survive.
* A mutator (`step_mutator`): a blind write — the error (`Op.err`) and the fields written (`Op.upd`)
  are functions of the arguments alone; `Upd.Wf` says that what is written respects the dependencies
  of the derived fields.
* A history (`run`, `reach`) is a fold of steps: `run_invariant` is the one induction that carries a
  property of states from a step to every history, and an appended history runs in two parts, for the
  state (`run_append`, `reach_snoc`) and for the outputs (`run_append_outputs`).
-/
namespace PyPhysim.C10
open PyPhysim.Proto

variable {μ ρ : Type}

def getWH (O : Ops μ ρ) (st : State μ ρ) : Option μ := (readWH O st).2
def getW (O : Ops μ ρ) (st : State μ ρ) : Option μ := (readW O st).2
def getFullF (O : Ops μ ρ) (K : Nat) (st : State μ ρ) : Except PyErr μ := (readFullF O K st).2

/-- `full_F` recomputed from the CURRENT `_F` and the CURRENT power -/
def derivedFullF (O : Ops μ ρ) (K : Nat) (st : State μ ρ) : Except PyErr μ :=
  match st.f with
  | none => .error .TypeError
  | some F => O.scale F (curP O K st)

/-- `full_W_H` recomputed from the CURRENT values of `W_H` and `full_F` -/
def specFullWH (O : Ops μ ρ) (K : Nat) (st : State μ ρ) : Except PyErr (Option μ) :=
  match getWH O st with
  | none => .ok none
  | some Y =>
    match getFullF O K st with
    | .error e => .error e
    | .ok fF =>
      match O.comp Y fF with
      | .error e => .error e
      | .ok Z => .ok (some Z)

/-- `full_W` recomputed from the CURRENT values -/
def specFullW (O : Ops μ ρ) (K : Nat) (st : State μ ρ) : Except PyErr μ :=
  match specFullWH O K st with
  | .error e => .error e
  | .ok none => .error .TypeError
  | .ok (some Z) => .ok (O.herm Z)

/-- no derived attribute is stale -/
structure Coherent (O : Ops μ ρ) (K : Nat) (st : State μ ρ) : Prop where
  /-- `_W` and `_W_H`, when both stored, are conjugate transposes of each other -/
  wwH : ∀ X Y, st.w = some X → st.wH = some Y → X = O.herm Y ∨ Y = O.herm X
  /-- a stored `_full_W_H` is what the getter would compute now -/
  fullWH : ∀ Z, st.fullWH = some Z → specFullWH O K st = .ok (some Z)
  /-- a stored `_full_W` is the conjugate transpose of the stored `_full_W_H` -/
  fullW : ∀ Z', st.fullW = some Z' → ∃ Z, st.fullWH = some Z ∧ Z' = O.herm Z

/-- a stored `_full_F` is `_F * sqrt(P)` for the current `_F` and power -/
def FullFDerived (O : Ops μ ρ) (K : Nat) (st : State μ ρ) : Prop :=
  ∀ X, st.fullF = some X → derivedFullF O K st = .ok X

/-- `_Ns` is the column count of the stored precoders -/
def NsOK (O : Ops μ ρ) (st : State μ ρ) : Prop :=
  ∀ F, st.f = some F → st.ns = some (O.ncols F)

/-- the operation stores a `_full_F` given from outside -/
def Op.installsFullF : Op μ ρ → Bool
  | .setPrecoders _ (some _) _ => true
  | .solve _ _ _ sol => sol.fullF.isSome
  | _ => false

/-- a power argument the setter accepts -/
def PArg.valid (O : Ops μ ρ) (K : Nat) : PArg ρ → Bool
  | .none => true
  | .scalar x => O.pos x
  | .vec xs => xs.length == K && xs.all O.pos
  | .malformed => false

/-- shape contract of the parameters of an operation: the drawn matrices have the
    requested numbers of columns, the solution has the reported ones -/
def Op.shapeOK (O : Ops μ ρ) (K : Nat) : Op μ ρ → Prop
  | .randomizeF drawn ns _ => O.ncols (O.normalize drawn) = ns.expand K
  | .solve _ _ _ sol => O.ncols sol.f = sol.ns
  | _ => True

theorem readWH_eq (O : Ops μ ρ) (st : State μ ρ) :
    readWH O st = ({ st with wH := getWH O st }, getWH O st) := by
  obtain ⟨_, _, _, _, w, wH, _, _⟩ := st
  cases wH <;> cases w <;> rfl

theorem readW_eq (O : Ops μ ρ) (st : State μ ρ) :
    readW O st = ({ st with w := getW O st }, getW O st) := by
  obtain ⟨_, _, _, _, w, wH, _, _⟩ := st
  cases wH <;> cases w <;> rfl

theorem getWH_eq (O : Ops μ ρ) (st : State μ ρ) : getWH O st = st.wH.or (st.w.map O.herm) := by
  unfold getWH readWH
  cases st.wH <;> cases st.w <;> rfl

theorem getW_eq (O : Ops μ ρ) (st : State μ ρ) : getW O st = st.w.or (st.wH.map O.herm) := by
  unfold getW readW
  cases st.wH <;> cases st.w <;> rfl

/-- `a`, `b` are two caches each of which is filled from the other through `h` (`_W` and `_W_H`): filling
    either leaves what the getter of `a` returns -/
theorem or_map_fill {α : Type} (h : α → α) {a b a' b' : Option α}
    (ha : a' = a ∨ a' = a.or (b.map h)) (hb : b' = b ∨ b' = b.or (a.map h)) :
    a'.or (b'.map h) = a.or (b.map h) := by
  cases a <;> cases b <;> rcases ha with rfl | rfl <;> rcases hb with rfl | rfl <;> rfl

theorem getFullF_eq (O : Ops μ ρ) (K : Nat) (st : State μ ρ) :
    getFullF O K st = match st.fullF with
      | some X => .ok X
      | none => derivedFullF O K st := by
  unfold getFullF readFullF derivedFullF
  cases st.fullF with
  | some X => rfl
  | none =>
    cases st.f with
    | none => rfl
    | some F => simp only; cases O.scale F (curP O K st) <;> rfl

theorem readFullF_eq (O : Ops μ ρ) (K : Nat) (st : State μ ρ) :
    readFullF O K st = ({ st with fullF := (getFullF O K st).toOption }, getFullF O K st) := by
  obtain ⟨_, p, f, fullF, _, _, _, _⟩ := st
  unfold getFullF readFullF
  cases fullF with
  | some X => rfl
  | none =>
    cases f with
    | none => rfl
    | some F => simp only; split <;> rfl

theorem getWH_congr (O : Ops μ ρ) {s t : State μ ρ} (h1 : s.w = t.w) (h2 : s.wH = t.wH) :
    getWH O s = getWH O t := by
  rw [getWH_eq, getWH_eq, h1, h2]

theorem getW_congr (O : Ops μ ρ) {s t : State μ ρ} (h1 : s.w = t.w) (h2 : s.wH = t.wH) :
    getW O s = getW O t := by
  rw [getW_eq, getW_eq, h1, h2]

theorem derivedFullF_congr (O : Ops μ ρ) (K : Nat) {s t : State μ ρ} (h1 : s.f = t.f) (h3 : s.p = t.p) :
    derivedFullF O K s = derivedFullF O K t := by
  unfold derivedFullF curP; rw [h1, h3]

theorem getFullF_congr (O : Ops μ ρ) (K : Nat) {s t : State μ ρ}
    (h1 : s.f = t.f) (h2 : s.fullF = t.fullF) (h3 : s.p = t.p) : getFullF O K s = getFullF O K t := by
  rw [getFullF_eq, getFullF_eq, h2, derivedFullF_congr O K h1 h3]

theorem specFullWH_congr (O : Ops μ ρ) (K : Nat) {s t : State μ ρ}
    (h1 : getWH O s = getWH O t) (h2 : getFullF O K s = getFullF O K t) :
    specFullWH O K s = specFullWH O K t := by
  unfold specFullWH; rw [h1, h2]

theorem specFullWH_ok_some {O : Ops μ ρ} {K : Nat} {st : State μ ρ} {Z : μ}
    (h : specFullWH O K st = .ok (some Z)) :
    ∃ Y fF, getWH O st = some Y ∧ getFullF O K st = .ok fF ∧ O.comp Y fF = .ok Z := by
  unfold specFullWH at h
  cases hy : getWH O st with
  | none => rw [hy] at h; cases h
  | some Y =>
    cases hf : getFullF O K st with
    | error e => rw [hy, hf] at h; cases h
    | ok fF =>
      cases hc : O.comp Y fF with
      | error e => rw [hy, hf] at h; simp only [hc] at h; cases h
      | ok Z' => rw [hy, hf] at h; simp only [hc] at h; cases h; exact ⟨Y, fF, rfl, rfl, hc⟩

theorem outArrO_eq_arr {r : Except PyErr (Option μ)} {x : Option μ}
    (h : outArrO r = (.arr x : Out μ ρ)) : r = .ok x := by
  cases r with
  | error e => cases h
  | ok y => cases h; rfl

/-- `t` is `s` after some getters were called: the primaries are those of `s`, and every cache holds
    what it held in `s` or what its getter computes in `s` -/
structure CacheFill (O : Ops μ ρ) (K : Nat) (s t : State μ ρ) : Prop where
  ns : t.ns = s.ns
  p : t.p = s.p
  f : t.f = s.f
  fullF : t.fullF = s.fullF ∨ t.fullF = (getFullF O K s).toOption
  w : t.w = s.w ∨ t.w = getW O s
  wH : t.wH = s.wH ∨ t.wH = getWH O s
  fullWH : t.fullWH = s.fullWH ∨ s.fullWH = none ∧ specFullWH O K s = .ok t.fullWH
  fullW : t.fullW = s.fullW ∨ s.fullW = none ∧ t.fullW = t.fullWH.map O.herm

namespace CacheFill
variable {O : Ops μ ρ} {K : Nat} {s t : State μ ρ}

theorem refl (O : Ops μ ρ) (K : Nat) (s : State μ ρ) : CacheFill O K s s :=
  ⟨rfl, rfl, rfl, .inl rfl, .inl rfl, .inl rfl, .inl rfl, .inl rfl⟩

theorem getW_same (h : CacheFill O K s t) : getW O t = getW O s := by
  rw [getW_eq, getW_eq]
  exact or_map_fill O.herm (getW_eq O s ▸ h.w) (getWH_eq O s ▸ h.wH)

theorem getWH_same (h : CacheFill O K s t) : getWH O t = getWH O s := by
  rw [getWH_eq, getWH_eq]
  exact or_map_fill O.herm (getWH_eq O s ▸ h.wH) (getW_eq O s ▸ h.w)

theorem getFullF_same (h : CacheFill O K s t) : getFullF O K t = getFullF O K s := by
  rcases h.fullF with e | e
  · exact getFullF_congr O K h.f e h.p
  · rw [getFullF_eq O K t, e, getFullF_eq O K s, derivedFullF_congr O K h.f h.p]
    cases s.fullF with
    | some X => rfl
    | none => simp only; cases derivedFullF O K s <;> rfl

theorem specFullWH_same (h : CacheFill O K s t) : specFullWH O K t = specFullWH O K s :=
  specFullWH_congr O K h.getWH_same h.getFullF_same

theorem coherent (h : CacheFill O K s t) (hc : Coherent O K s) : Coherent O K t := by
  refine ⟨fun X Y hX hY => ?_, fun Z hZ => ?_, fun Z' hZ' => ?_⟩
  · -- `X`, `Y` are what the `W`, `W_H` getters return, in `t` and therefore in `s`
    have hX' : getW O s = some X := by rw [← h.getW_same, getW_eq, hX]; rfl
    have hY' : getWH O s = some Y := by rw [← h.getWH_same, getWH_eq, hY]; rfl
    rw [getW_eq] at hX'
    rw [getWH_eq] at hY'
    cases hw : s.w <;> cases hwH : s.wH <;> rw [hw, hwH] at hX' hY'
    · cases hX'
    · cases hX'; cases hY'; exact .inl rfl
    · cases hX'; cases hY'; exact .inr rfl
    · cases hX'; cases hY'; exact hc.wwH _ _ hw hwH
  · rw [h.specFullWH_same]
    rcases h.fullWH with e | ⟨_, e⟩
    · exact hc.fullWH Z (e ▸ hZ)
    · rw [e, hZ]
  · rcases h.fullW with e | ⟨_, e⟩
    · obtain ⟨Z, hZ, rfl⟩ := hc.fullW Z' (e ▸ hZ')
      refine ⟨Z, ?_, rfl⟩
      rcases h.fullWH with e' | ⟨e', _⟩
      · rw [e', hZ]
      · rw [e'] at hZ; cases hZ
    · rw [e] at hZ'
      cases hw : t.fullWH with
      | none => rw [hw] at hZ'; cases hZ'
      | some Z => rw [hw] at hZ'; exact ⟨Z, rfl, (Option.some.inj hZ').symm⟩

end CacheFill

theorem readWH_fill (O : Ops μ ρ) (K : Nat) (st : State μ ρ) : CacheFill O K st (readWH O st).1 := by
  rw [readWH_eq]; exact ⟨rfl, rfl, rfl, .inl rfl, .inl rfl, .inr rfl, .inl rfl, .inl rfl⟩

theorem readW_fill (O : Ops μ ρ) (K : Nat) (st : State μ ρ) : CacheFill O K st (readW O st).1 := by
  rw [readW_eq]; exact ⟨rfl, rfl, rfl, .inl rfl, .inr rfl, .inl rfl, .inl rfl, .inl rfl⟩

theorem readFullF_fill (O : Ops μ ρ) (K : Nat) (st : State μ ρ) :
    CacheFill O K st (readFullF O K st).1 := by
  rw [readFullF_eq]; exact ⟨rfl, rfl, rfl, .inr rfl, .inl rfl, .inl rfl, .inl rfl, .inl rfl⟩

theorem readFullWH_of_none (O : Ops μ ρ) (K : Nat) (st : State μ ρ) (hz : st.fullWH = none) :
    readFullWH Cfg.fixed O K st =
      ({ st with wH := getWH O st,
                 fullF := if (getWH O st).isSome then (getFullF O K st).toOption else st.fullF,
                 fullWH := (specFullWH O K st).toOption.join },
       specFullWH O K st) := by
  unfold readFullWH specFullWH
  rw [hz]
  simp only [readWH_eq, readFullF_eq]
  cases getWH O st with
  | none => simp only [hz]; rfl
  | some Y =>
    simp only
    rw [getFullF_congr O K (s := { st with wH := some Y }) (t := st) rfl rfl rfl]
    cases getFullF O K st with
    | error e => simp only [hz]; rfl
    | ok fF => simp only; cases O.comp Y fF <;> simp only [hz] <;> rfl

theorem readFullWH_fill (O : Ops μ ρ) (K : Nat) (st : State μ ρ) :
    CacheFill O K st (readFullWH Cfg.fixed O K st).1
    ∧ (∀ oz, (readFullWH Cfg.fixed O K st).2 = .ok oz → (readFullWH Cfg.fixed O K st).1.fullWH = oz)
    ∧ (readFullWH Cfg.fixed O K st).1.w = st.w := by
  cases hz : st.fullWH with
  | some Z =>
    rw [readFullWH, hz]
    exact ⟨.refl O K st, fun oz e => (Except.ok.inj e) ▸ hz, rfl⟩
  | none =>
    rw [readFullWH_of_none O K st hz]
    refine ⟨⟨rfl, rfl, rfl, ?_, .inl rfl, .inr rfl, ?_, .inl rfl⟩, fun oz e => ?_, rfl⟩
    · show (if _ then _ else _) = _ ∨ (if _ then _ else _) = _
      split
      · exact .inr rfl
      · exact .inl rfl
    · cases hs : specFullWH O K st with
      | error e => exact .inl hz.symm
      | ok oz => exact .inr ⟨hz, rfl⟩
    · show (specFullWH O K st).toOption.join = oz
      rw [show specFullWH O K st = .ok oz from e]
      rfl

theorem readFullW_fill (O : Ops μ ρ) (K : Nat) (st : State μ ρ) :
    CacheFill O K st (readFullW Cfg.fixed O K st).1 ∧ (readFullW Cfg.fixed O K st).1.w = st.w := by
  unfold readFullW
  cases hz : st.fullW with
  | some Z' => exact ⟨.refl O K st, rfl⟩
  | none =>
    obtain ⟨h, hv, hw⟩ := readFullWH_fill O K st
    simp only
    cases hr : readFullWH Cfg.fixed O K st with
    | mk st1 r =>
      rw [hr] at h hv hw
      cases r with
      | error e => exact ⟨h, hw⟩
      | ok oz =>
        cases oz with
        | none => exact ⟨h, hw⟩
        | some Z => exact ⟨{ h with fullW := .inr ⟨hz, (hv _ rfl).symm ▸ rfl⟩ }, hw⟩

theorem readFullWH_spec (O : Ops μ ρ) (K : Nat) (st : State μ ρ) (h : Coherent O K st) :
    (readFullWH Cfg.fixed O K st).2 = specFullWH O K st := by
  cases hz : st.fullWH with
  | some Z => rw [readFullWH, hz]; exact (h.fullWH Z hz).symm
  | none => rw [readFullWH_of_none O K st hz]

theorem readFullW_spec (O : Ops μ ρ) (K : Nat) (st : State μ ρ) (h : Coherent O K st) :
    (readFullW Cfg.fixed O K st).2 = specFullW O K st := by
  unfold readFullW specFullW
  rw [← readFullWH_spec O K st h]
  cases hz' : st.fullW with
  | some Z' =>
    obtain ⟨Z, hZ, rfl⟩ := h.fullW Z' hz'
    simp only [readFullWH, hZ]
  | none =>
    simp only
    cases readFullWH Cfg.fixed O K st with
    | mk st1 r =>
      cases r with
      | error e => rfl
      | ok oz => cases oz <;> rfl

/-- the operation is a call that modifies the object (every constructor that is neither a getter nor
    `query` / `fork`) -/
def Op.isMutator : Op μ ρ → Bool
  | .setP _ => true
  | .randomizeF _ _ _ => true
  | .setPrecoders _ _ _ => true
  | .setFilters _ _ => true
  | .solve _ _ _ _ => true
  | .clear => true
  | .setInit _ => true
  | _ => false

theorem step_fill (O : Ops μ ρ) (K : Nat) (st : State μ ρ) (op : Op μ ρ) (hm : op.isMutator = false) :
    CacheFill O K st (step Cfg.fixed O K st op).1 := by
  cases op with
  | readFullF => exact readFullF_fill O K st
  | readW => exact readW_fill O K st
  | readWH => exact readWH_fill O K st
  | readFullWH => exact (readFullWH_fill O K st).1
  | readFullW => exact (readFullW_fill O K st).1
  | query | fork | readF | readNs | readP => exact .refl O K st
  | _ => cases hm

/-! ### the mutators are blind writes

On the repaired code a mutator never looks at the object: whether it is accepted, which error it
raises and what it stores in which field are functions of its ARGUMENTS (`Op.err`, `Op.upd`);
`step_mutator` is the one equation.  Hence a rejected call changes nothing, an accepted argument
takes effect as the value it is, and what an accepted call does to the invariants can be read off
the shape of what it writes (`Upd.Wf`). -/

/-- a write to some of the eight fields: `none` = the field is left alone, `some v` = `v` is stored -/
structure Upd (μ ρ : Type) where
  ns : Option (Option (List Nat)) := none
  p : Option (Option (List ρ)) := none
  f : Option (Option μ) := none
  fullF : Option (Option μ) := none
  w : Option (Option μ) := none
  wH : Option (Option μ) := none
  fullWH : Option (Option μ) := none
  fullW : Option (Option μ) := none

def Upd.apply (u : Upd μ ρ) (s : State μ ρ) : State μ ρ :=
  { ns := u.ns.getD s.ns, p := u.p.getD s.p, f := u.f.getD s.f, fullF := u.fullF.getD s.fullF,
    w := u.w.getD s.w, wH := u.wH.getD s.wH, fullWH := u.fullWH.getD s.fullWH, fullW := u.fullW.getD s.fullW }

/-- what the `P` setter stores for an accepted argument -/
def PArg.stored (K : Nat) : PArg ρ → Option (List ρ)
  | .scalar x => some (List.replicate K x)
  | .vec xs => some xs
  | _ => Option.none

/-- the error a mutator raises (`none` = the call is accepted) -/
def Op.err (O : Ops μ ρ) (K : Nat) : Op μ ρ → Option PyErr
  | .setP v | .randomizeF _ _ v => if v.valid O K then none else some .ValueError
  | .setPrecoders f fullF _ => if f.isNone ∧ fullF.isNone then some .RuntimeError else none
  | .setFilters wH w => if wH.isSome = w.isSome then some .RuntimeError else none
  | .solve cf _ v _ =>
    if cf && K != 3 then some .AssertionError else if v.valid O K then none else some .ValueError
  | .setInit accepted => if accepted then none else some .RuntimeError
  | _ => none

def Op.upd (O : Ops μ ρ) (K : Nat) : Op μ ρ → Upd μ ρ
  | .setP v => { p := some (v.stored K), fullF := some none, fullWH := some none, fullW := some none }
  | .randomizeF drawn ns v =>
    { p := some (v.stored K), f := some (some (O.normalize drawn)), ns := some (some (ns.expand K)),
      fullF := some none, fullWH := some none, fullW := some none }
  | .setPrecoders f fullF p =>
    { p := p.map some, f := some (f.or (fullF.map O.normalize)), fullF := some fullF,
      ns := some ((f.or (fullF.map O.normalize)).map O.ncols), fullWH := some none, fullW := some none }
  | .setFilters wH w => { w := some w, wH := some wH, fullWH := some none, fullW := some none }
  | .solve _ _ v sol =>
    { p := some (v.stored K), f := some (some sol.f), fullF := some sol.fullF,
      w := some (if sol.filtIsH then none else some sol.filt),
      wH := some (if sol.filtIsH then some sol.filt else none),
      ns := some (some sol.ns), fullWH := some none, fullW := some none }
  | .clear => { ns := some none, p := some none, f := some none, fullF := some none, w := some none,
                wH := some none, fullWH := some none, fullW := some none }
  | _ => {}

theorem setP_valid (cfg : Cfg) (O : Ops μ ρ) (K : Nat) (st : State μ ρ) (v : PArg ρ) :
    setP cfg O K st v =
      if v.valid O K then (storeP cfg st (v.stored K), .ok ()) else (st, .error .ValueError) := by
  cases v with
  | none => rfl
  | malformed => rfl
  | scalar x => rfl
  | vec xs =>
    rw [setP, PArg.valid]
    by_cases h : xs.length = K
    · rw [if_neg (not_not_intro h), beq_iff_eq.mpr h]; rfl
    · rw [if_pos h, beq_eq_false_iff_ne.mpr h]; rfl

theorem step_mutator (O : Ops μ ρ) (K : Nat) (st : State μ ρ) (op : Op μ ρ) (hm : op.isMutator = true) :
    step Cfg.fixed O K st op = match op.err O K with
      | some e => (st, .err e)
      | none => ((op.upd O K).apply st, .unit) := by
  cases op with
  | setP v => simp only [step, setP_valid, Op.err]; cases v.valid O K <;> rfl
  | randomizeF drawn ns v => simp only [step, doRandomizeF, setP_valid, Op.err]; cases v.valid O K <;> rfl
  | setPrecoders f fullF p => cases f <;> cases fullF <;> cases p <;> rfl
  | setFilters wH w => cases wH <;> cases w <;> rfl
  | solve cf ns v sol =>
    simp only [step, doSolve, setP_valid, Op.err]
    cases cf && K != 3
    · cases v.valid O K <;> rfl
    · rfl
  | clear => rfl
  | setInit a => cases a <;> rfl
  | _ => cases hm

theorem step_rejected (O : Ops μ ρ) (K : Nat) (st : State μ ρ) {op : Op μ ρ} (hm : op.isMutator = true)
    {e : PyErr} (he : op.err O K = some e) : step Cfg.fixed O K st op = (st, .err e) := by
  rw [step_mutator O K st op hm, he]

theorem step_accepted (O : Ops μ ρ) (K : Nat) (st : State μ ρ) {op : Op μ ρ} (hm : op.isMutator = true)
    (ha : op.err O K = none) : step Cfg.fixed O K st op = ((op.upd O K).apply st, .unit) := by
  rw [step_mutator O K st op hm, ha]

/-- The write respects the dependencies of the derived fields: it empties `_full_W_H` and `_full_W`; it
    writes `_W` and `_W_H` together, at most one of them with a value; it writes `_full_F` whenever it
    writes `_F` or `_P`. -/
structure Upd.Wf (u : Upd μ ρ) : Prop where
  fullWH : u.fullWH = some none
  fullW : u.fullW = some none
  wwH : u.w = none ∧ u.wH = none ∨ ∃ a b, u.w = some a ∧ u.wH = some b ∧ (a = none ∨ b = none)
  fullF : u.fullF = none → u.f = none ∧ u.p = none

/-- an accepted call writes nothing at all (`initialize_with=`, the non-mutators) or respects the dependencies -/
theorem upd_wf (O : Ops μ ρ) (K : Nat) (op : Op μ ρ) (ha : op.err O K = none) :
    op.upd O K = {} ∨ (op.upd O K).Wf := by
  cases op with
  | setInit a => exact .inl rfl
  | setFilters wH w =>
    refine .inr ⟨rfl, rfl, .inr ⟨w, wH, rfl, rfl, ?_⟩, fun _ => ⟨rfl, rfl⟩⟩
    -- accepted: exactly one of the two is given, so the other is written as `none`
    cases wH <;> cases w
    · exact nomatch ha
    · exact .inr rfl
    · exact .inl rfl
    · exact nomatch ha
  | solve cf ns v sol =>
    refine .inr ⟨rfl, rfl, .inr ⟨_, _, rfl, rfl, ?_⟩, nofun⟩
    cases sol.filtIsH
    · exact .inr rfl
    · exact .inl rfl
  | clear => exact .inr ⟨rfl, rfl, .inr ⟨_, _, rfl, rfl, .inl rfl⟩, nofun⟩
  | setP v => exact .inr ⟨rfl, rfl, .inl ⟨rfl, rfl⟩, nofun⟩
  | randomizeF drawn ns v => exact .inr ⟨rfl, rfl, .inl ⟨rfl, rfl⟩, nofun⟩
  | setPrecoders f fullF p => exact .inr ⟨rfl, rfl, .inl ⟨rfl, rfl⟩, nofun⟩
  | _ => exact .inl rfl

theorem run_invariant {cfg : Cfg} {O : Ops μ ρ} {K : Nat} {I : State μ ρ → Prop} {ok : Op μ ρ → Prop}
    (hstep : ∀ st op, ok op → I st → I (step cfg O K st op).1) :
    ∀ (ops : List (Op μ ρ)) (st : State μ ρ), (∀ op ∈ ops, ok op) → I st → I (run cfg O K st ops).1
  | [], _, _, h => h
  | op :: ops, st, hok, h =>
    run_invariant hstep ops _ (fun o ho => hok o (List.mem_cons_of_mem _ ho))
      (hstep st op (hok op List.mem_cons_self) h)

theorem run_append (cfg : Cfg) (O : Ops μ ρ) (K : Nat) :
    ∀ (a b : List (Op μ ρ)) (st : State μ ρ),
      (run cfg O K st (a ++ b)).1 = (run cfg O K (run cfg O K st a).1 b).1
  | [], _, _ => rfl
  | _ :: a, b, _ => run_append cfg O K a b _

theorem reach_snoc (cfg : Cfg) (O : Ops μ ρ) (K : Nat) (ops : List (Op μ ρ)) (op : Op μ ρ) :
    reach cfg O K (ops ++ [op]) = (step cfg O K (reach cfg O K ops) op).1 :=
  run_append cfg O K ops [op] _

theorem run_append_outputs (cfg : Cfg) (O : Ops μ ρ) (K : Nat) :
    ∀ (a b : List (Op μ ρ)) (st : State μ ρ),
      (run cfg O K st (a ++ b)).2 = (run cfg O K st a).2 ++ (run cfg O K (run cfg O K st a).1 b).2
  | [], _, _ => rfl
  | op :: a, b, st => congrArg ((step cfg O K st op).2 :: ·) (run_append_outputs cfg O K a b _)

end PyPhysim.C10
