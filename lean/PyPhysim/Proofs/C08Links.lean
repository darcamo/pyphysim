import Mathlib.Algebra.Group.Defs
import PyPhysim.Proofs.C08
/-!
C08 — the product `big_H · vstack(data)` decomposes, receiver by receiver, into the
sum over the transmitters of (block of `big_H`) · (data of that transmitter).
`rowMul` is a left fold that adds one scaled row per step; a vector added to its accumulator
before the fold can as well be added after it (`foldl_rm_vecAdd`, associativity alone), so the fold
carried on over the stacked blocks adds one product per block (`foldl_rm_flatten`).
Needs the additive monoid laws of the scalars (Mathlib's `AddMonoid`).
-/
set_option linter.unusedSectionVars false
namespace PyPhysim.C08

section Vec
variable {α : Type} [AddMonoid α]

theorem length_vecAdd (a b : List α) : (vecAdd a b).length = min a.length b.length := by
  simp [vecAdd]

theorem vecAdd_assoc (a b c : List α) : vecAdd (vecAdd a b) c = vecAdd a (vecAdd b c) :=
  zipWith_assoc _ add_assoc a b c

theorem vecAdd_zeros_right (v : List α) {c : Nat} (h : v.length = c) :
    vecAdd v (List.replicate c 0) = v := by
  unfold vecAdd
  rw [zipWith_replicate_right _ _ _ _ (Nat.le_of_eq h)]
  simp

end Vec

section RowMul
variable {α : Type} [AddMonoid α] [Mul α]

def rmStep (acc : List α) (xb : α × List α) : List α := vecAdd acc (xb.2.map fun y => xb.1 * y)

theorem rowMul_eq (r : List α) (B : Mat α) :
    rowMul r B = (r.zip B).foldl rmStep (List.replicate (cols B) 0) := rfl

theorem foldl_rm_length (L : List (α × List α)) (acc : List α) {c : Nat} (ha : acc.length = c)
    (hL : ∀ xb ∈ L, xb.2.length = c) : (L.foldl rmStep acc).length = c := by
  induction L generalizing acc with
  | nil => exact ha
  | cons h t ih =>
    simp only [List.foldl_cons]
    apply ih
    · simp [rmStep, length_vecAdd, ha, hL h (by simp)]
    · intro xb hx; exact hL xb (by simp [hx])

/-- a vector added to the accumulator before the fold can as well be added after it -/
theorem foldl_rm_vecAdd (L : List (α × List α)) (a b : List α) :
    L.foldl rmStep (vecAdd a b) = vecAdd a (L.foldl rmStep b) := by
  induction L generalizing b with
  | nil => rfl
  | cons h t ih => rw [List.foldl_cons, List.foldl_cons, rmStep, vecAdd_assoc, ih]; rfl

/-- every row of `X` has `c` entries -/
def IsMat (X : Mat α) (c : Nat) : Prop := ∀ r ∈ X, r.length = c

theorem cols_of_isMat {X : Mat α} {c : Nat} (h : IsMat X c) (hne : X ≠ []) : cols X = c := by
  cases X with
  | nil => exact absurd rfl hne
  | cons r X => exact h r (by simp)

theorem rowMul_length (r : List α) {X : Mat α} {c : Nat} (h : IsMat X c) (hne : X ≠ []) :
    (rowMul r X).length = c := by
  rw [rowMul_eq, cols_of_isMat h hne]
  apply foldl_rm_length _ _ (by simp)
  intro xb hx
  exact h xb.2 (List.of_mem_zip hx).2

theorem foldl_rm_eq (r : List α) {X : Mat α} {c : Nat} (h : IsMat X c) (hne : X ≠ []) (acc : List α)
    (ha : acc.length = c) : (r.zip X).foldl rmStep acc = vecAdd acc (rowMul r X) := by
  rw [rowMul_eq, cols_of_isMat h hne, ← foldl_rm_vecAdd, vecAdd_zeros_right acc ha]

/-- sum of a non-empty list of vectors -/
def vsum : List (List α) → List α
  | [] => []
  | [v] => v
  | v :: vs => vecAdd v (vsum vs)

theorem vsum_vecAdd_cons (a b : List α) (vs : List (List α)) :
    vsum (vecAdd a b :: vs) = vsum (a :: b :: vs) := by
  cases vs with
  | nil => rfl
  | cons v vs => exact vecAdd_assoc a b _

/-- The fold of `rowMul` carried on, from an accumulator `acc`, over the pieces `rs` of a row and the stacked
    blocks `xs`: every pair adds its own product.  (`vsum` starts from `acc`, so no piece has to be there.) -/
theorem foldl_rm_flatten (rs : List (List α)) (xs : List (Mat α)) {c : Nat}
    (hpair : ∀ (i : Nat) (r : List α) (x : Mat α), rs[i]? = some r → xs[i]? = some x →
      r.length = x.length ∧ x ≠ [] ∧ IsMat x c) (acc : List α) (ha : acc.length = c) :
    (rs.flatten.zip xs.flatten).foldl rmStep acc = vsum (acc :: List.zipWith rowMul rs xs) := by
  induction rs generalizing xs acc with
  | nil => rfl
  | cons r rs ih =>
    cases xs with
    | nil => simp [vsum]
    | cons x xs =>
      obtain ⟨h1, h2, h3⟩ := hpair 0 r x rfl rfl
      have hx : ∀ xb ∈ r.zip x, xb.2.length = c := fun xb hm => h3 xb.2 (List.of_mem_zip hm).2
      rw [List.flatten_cons, List.flatten_cons, List.zip_append h1, List.foldl_append,
        ih xs (fun i => hpair (i + 1)) _ (foldl_rm_length _ acc ha hx), foldl_rm_eq r h3 h2 acc ha,
        vsum_vecAdd_cons]
      rfl

theorem rowMul_flatten (rs : List (List α)) (xs : List (Mat α)) {c : Nat}
    (hlen : rs.length = xs.length) (hne : xs ≠ [])
    (hpair : ∀ (i : Nat) (r : List α) (x : Mat α), rs[i]? = some r → xs[i]? = some x →
      r.length = x.length ∧ x ≠ [] ∧ IsMat x c) :
    rowMul rs.flatten xs.flatten = vsum (List.zipWith rowMul rs xs) := by
  cases xs with
  | nil => exact absurd rfl hne
  | cons x xs =>
    cases rs with
    | nil => simp at hlen
    | cons r rs =>
      obtain ⟨h1, h2, h3⟩ := hpair 0 r x rfl rfl
      have hc : cols (x ++ xs.flatten) = cols x := by
        cases x with
        | nil => exact absurd rfl h2
        | cons _ _ => rfl
      rw [rowMul_eq, List.flatten_cons, List.flatten_cons, hc, List.zip_append h1, List.foldl_append]
      exact foldl_rm_flatten rs xs (fun i => hpair (i + 1)) (rowMul r x) (rowMul_length r h3 h2)

theorem specBigH_row_length (F : Fns α) (st : State α) (hw : WellShaped st)
    (hraw : ∀ r ∈ st.raw, r.length = st.nt.sum) : ∀ r ∈ specBigH F st, r.length = st.nt.sum := by
  unfold specBigH
  cases hp : st.pl with
  | none => exact hraw
  | some p =>
    -- a row of the scaled matrix is a row of `raw` zipped with a row of the expanded path loss
    intro r hr
    simp only [scaleEl, ← List.map_uncurry_zip_eq_zipWith, List.mem_map] at hr
    obtain ⟨ab, hab, rfl⟩ := hr
    obtain ⟨ha, hb⟩ := List.of_mem_zip hab
    obtain ⟨prow, hprow, heq⟩ := List.mem_map.1 (mem_expand1 hb)
    obtain ⟨j, hj⟩ := List.mem_iff_getElem?.1 hprow
    rw [Function.uncurry, List.length_map, List.length_zip, hraw _ ha, ← heq,
      expand1_length _ _ (by rw [(hw.pl_rows p hp).2 j _ hj, hw.nt_len]), Nat.min_self]

/-- Receiver `k`'s rows of `H · vstack(xs)`: each is the sum over the transmitters `l` of
    (that row of the (k,l) block of `H`) times `xs[l]`. -/
theorem received_rows_sum_over_links (H : Mat α) (nr nt : List Nat) (hH : ∀ r ∈ H, r.length = nt.sum)
    (xs : List (Mat α)) {c : Nat} (hlen : xs.length = nt.length) (hne : xs ≠ [])
    (hx : ∀ (l : Nat) (x : Mat α), xs[l]? = some x → nt[l]? = some x.length ∧ x ≠ [] ∧ IsMat x c) (k : Nat) :
    seg nr (matMul H xs.flatten) k
      = (rowBlock H nr k).map fun ρ =>
          vsum (List.zipWith rowMul ((List.range nt.length).map fun l => seg nt ρ l) xs) := by
  unfold matMul rowBlock
  rw [seg_map]
  apply List.map_congr_left
  intro ρ hρ
  have hρlen : ρ.length = nt.sum := hH ρ (mem_seg hρ)
  conv => lhs; rw [← flatten_segs nt ρ hρlen]
  apply rowMul_flatten _ _ (by simp [hlen]) hne
  intro i r x hr hxi
  obtain ⟨h1, h2, h3⟩ := hx i x hxi
  have hi : i < nt.length := (List.getElem?_eq_some_iff.mp h1).1
  simp only [List.getElem?_map, List.getElem?_range hi, Option.map_some, Option.some.injEq] at hr
  subst hr
  exact ⟨seg_length_eq h1 ρ (Nat.le_of_eq hρlen.symm), h2, h3⟩

end RowMul
end PyPhysim.C08
