import PyPhysim.Model.C18

/-! C18 — list facts: the cyclic extension reads the root at `i mod len`; reshaping the
row-major flattening of a block gives the block back. -/
namespace PyPhysim.C18P
open PyPhysim.Cazac

theorem cyclic_spec {β} (root : List β) (k j : Nat) {size : Nat} (hj : j ≤ root.length)
    (hsz : k * root.length + j = size) {l : List β} (hl : l = (List.replicate k root).flatten ++ root.take j) :
    l.length = size ∧ ∀ i, i < size → l[i]? = root[i % root.length]? := by
  subst hl hsz
  refine ⟨by rw [List.length_append, List.length_flatten, List.map_replicate, List.sum_replicate_nat,
    List.length_take, Nat.min_eq_left hj], ?_⟩
  -- one repetition at a time: an index inside the first copy reads it, a later one moves a copy down
  induction k with
  | zero =>
    intro i hi
    have hi' : i < j := by rwa [Nat.zero_mul, Nat.zero_add] at hi
    rw [List.replicate_zero, List.flatten_nil, List.nil_append, List.getElem?_take_of_lt hi',
      Nat.mod_eq_of_lt (Nat.lt_of_lt_of_le hi' hj)]
  | succ k ih =>
    intro i hi
    rw [List.replicate_succ, List.flatten_cons, List.append_assoc]
    by_cases h : i < root.length
    · rw [List.getElem?_append_left h, Nat.mod_eq_of_lt h]
    · have h' : root.length ≤ i := Nat.le_of_not_lt h
      rw [List.getElem?_append_right h', Nat.mod_eq_sub_mod h']
      exact ih _ (Nat.sub_lt_left_of_lt_add h'
        (by rwa [Nat.succ_mul, Nat.add_comm _ root.length, Nat.add_assoc] at hi))

theorem extendedZF_spec {β} (root : List β) (size : Nat) (hn : 0 < root.length)
    (hs : root.length ≤ size) :
    ∃ l, extendedZF root size = .ok l ∧ l.length = size ∧
      ∀ i, i < size → l[i]? = root[i % root.length]? := by
  unfold extendedZF
  by_cases hb : size > 2 * root.length
  · -- `size // n` repetitions and the first `size mod n` elements
    rw [if_pos hb, if_neg (Nat.ne_of_gt hn)]
    dsimp only
    rw [← Nat.mod_def]
    exact ⟨_, rfl, cyclic_spec root _ _ (Nat.le_of_lt (Nat.mod_lt size hn))
      (by rw [Nat.mul_comm, Nat.add_comm, Nat.mod_add_div]) rfl⟩
  · -- one repetition and the first `size - n` elements
    rw [if_neg hb, if_pos hs]
    exact ⟨_, rfl, cyclic_spec root 1 (size - root.length)
      (Nat.sub_le_of_le_add (Nat.two_mul _ ▸ Nat.le_of_not_lt hb)) (by rw [Nat.one_mul, Nat.add_sub_cancel' hs])
      (by rw [List.replicate_one, List.flatten_singleton])⟩

theorem flatten_drop_take {β : Type} (rows : List (List β)) (ne : Nat) (h : ∀ r ∈ rows, r.length = ne)
    (c : Nat) (hc : c < rows.length) :
    ((rows.flatten).drop (c * ne)).take ne = rows[c] := by
  induction rows generalizing c with
  | nil => exact absurd hc (Nat.not_lt_zero c)
  | cons R rest ih =>
    have hR : R.length = ne := h R List.mem_cons_self
    rw [List.flatten_cons]
    cases c with
    | zero => rw [Nat.zero_mul, List.drop_zero, List.take_left' hR, List.getElem_cons_zero]
    | succ c =>
      rw [Nat.succ_mul, Nat.add_comm (c * ne), ← List.drop_drop, List.drop_left' hR,
        List.getElem_cons_succ]
      exact ih (fun r hr => h r (List.mem_cons_of_mem _ hr)) c (Nat.lt_of_succ_lt_succ hc)

end PyPhysim.C18P
