import Mathlib.Analysis.SpecialFunctions.Log.Base
import PyPhysim.Proofs.C12Solution

/-!
# C12: a water-filling solution is capacity optimal (over ℝ)

The power `max 0 (μ − a)` maximises `y ↦ log (a + y) − y / μ` over `y ≥ 0` (KKT and concavity of
`log` in one inequality, `log_add_le_tangent`), and the slope `1 / μ` is the same for all
channels, so only the total power matters (`sum_zipWith_le_tangent`).
-/
namespace PyPhysim.C12

/-- For a channel with level `a` the power `q = max 0 (μ − a)` maximises `y ↦ log (a + y) − y / μ`
    over `y ≥ 0`: `log t ≤ t − 1` at `t = (a + y) / (a + q)` is the tangent of `log` at
    `a + q = max a μ`, whose slope is `1 / μ` when the channel is in use and at most `1 / μ` —
    with `y − q = y ≥ 0` — when it is switched off. -/
theorem log_add_le_tangent {a mu y : ℝ} (ha : 0 < a) (hmu : 0 < mu) (hy : 0 ≤ y) :
    Real.log (a + y) ≤ Real.log (a + max 0 (mu - a)) + (y - max 0 (mu - a)) / mu := by
  have hay := add_pos_of_pos_of_nonneg ha hy
  have hq := add_pos_of_pos_of_nonneg ha (le_max_left 0 (mu - a))
  have h := Real.log_le_sub_one_of_pos (div_pos hay hq)
  rw [Real.log_div hay.ne' hq.ne', sub_le_iff_le_add', div_sub_one hq.ne',
    add_sub_add_left_eq_sub] at h
  -- remains: `(y - q) / (a + q) ≤ (y - q) / mu`
  refine h.trans ((add_le_add_iff_left _).mpr ?_)
  rcases le_total mu a with hle | hle
  · rw [max_eq_left (sub_nonpos.mpr hle), add_zero, sub_zero]
    exact div_le_div_of_nonneg_left hy hmu hle
  · rw [max_eq_right (sub_nonneg.mpr hle), add_sub_cancel]

/-- spectral efficiency of one channel with gain `x` and power `y` -/
noncomputable def chanCap (N Es x y : ℝ) : ℝ := Real.logb 2 (1 + x * Es * y / N)

/-- `Σ log₂(1 + g·Es·q/N)` -/
noncomputable def capacity (N Es : ℝ) (g q : List ℝ) : ℝ := (List.zipWith (chanCap N Es) g q).sum

theorem chanCap_eq_log {N Es x y : ℝ} (ha : 0 < N / (Es * x)) (hy : 0 ≤ y) :
    chanCap N Es x y
      = (Real.log (N / (Es * x) + y) - Real.log (N / (Es * x))) / Real.log 2 := by
  -- from the right: `(a + y) / a = 1 + y / a = 1 + y * (Es * x) / N`
  rw [chanCap, ← Real.log_div_log, ← Real.log_div (add_pos_of_pos_of_nonneg ha hy).ne' ha.ne',
    ← one_add_div ha.ne', div_div_eq_mul_div, mul_comm y, mul_comm Es]

theorem chanCap_tangent {N Es mu x y : ℝ} (ha : 0 < N / (Es * x)) (hmu : 0 < mu) (hy : 0 ≤ y) :
    chanCap N Es x y ≤ chanCap N Es x (max 0 (mu - N / (Es * x)))
      + (mu * Real.log 2)⁻¹ * (y - max 0 (mu - N / (Es * x))) := by
  rw [chanCap_eq_log ha hy, chanCap_eq_log ha (le_max_left _ _), ← div_eq_inv_mul,
    ← div_div _ mu, ← add_div, sub_add_eq_add_sub]
  exact div_le_div_of_nonneg_right (sub_le_sub_right (log_add_le_tangent ha hmu hy) _)
    (Real.log_nonneg one_le_two)

/-- the Lagrangian argument: one slope `c` for all channels, so only the totals matter -/
theorem sum_zipWith_le_tangent {f : ℝ → ℝ → ℝ} {F : ℝ → ℝ} {c : ℝ} {g q : List ℝ}
    (h : List.Forall₂ (fun x y => f x y ≤ f x (F x) + c * (y - F x)) g q) :
    (List.zipWith f g q).sum
      ≤ (List.zipWith f g (g.map F)).sum + c * (q.sum - (g.map F).sum) := by
  induction h with
  | nil =>
    show (0 : ℝ) ≤ 0 + c * (0 - 0)
    rw [sub_self, mul_zero, add_zero]
  | cons h1 _ h2 =>
    simp only [List.map_cons, List.zipWith_cons_cons, List.sum_cons]
    -- the two inequalities added, the linear terms collected
    rw [add_sub_add_comm, mul_add, add_add_add_comm]
    exact add_le_add h1 h2

theorem IsWaterFilling.optimal {g p q : List ℝ} {P N Es mu : ℝ}
    (h : IsWaterFilling g P N Es p mu) (hP : 0 < P) (hg : ∀ x ∈ g, 0 < x) (hN : 0 < N)
    (hEs : 0 < Es) (hlen : q.length = g.length) (hq : ∀ y ∈ q, 0 ≤ y) (hqs : q.sum = P) :
    capacity N Es g q ≤ capacity N Es g p := by
  have ha : ∀ x ∈ g, 0 < N / (Es * x) := fun x hx => div_pos hN (mul_pos hEs (hg x hx))
  obtain ⟨x, hx, hlt⟩ := h.exists_level_lt hP
  have := sum_zipWith_le_tangent (f := chanCap N Es) (List.forall₂_iff_zip.mpr ⟨hlen.symm,
    fun hzy => chanCap_tangent (ha _ (List.of_mem_zip hzy).1) ((ha x hx).trans hlt)
      (hq _ (List.of_mem_zip hzy).2)⟩)
  rwa [hqs, ← h.form, h.sum, sub_self, mul_zero, add_zero] at this

end PyPhysim.C12
