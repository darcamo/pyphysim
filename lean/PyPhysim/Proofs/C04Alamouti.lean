import Mathlib.Algebra.BigOperators.Field
import Mathlib.Tactic.Ring
import PyPhysim.Proofs.C04Bridge

/-!
Alamouti: the space-time block code and its matched combiner, by pure algebra
(no kernel): round trip and transmitted energy.  Positions `2b`, `2b+1` of a block carry one
codeword; `alaPartner` names the other position of the codeword a position belongs to, and
both the encoder and the combiner are read through it.
-/
namespace PyPhysim.C04
open Matrix

namespace Pf
variable {Nr B : Nat}

/-- the codeword matrix before the power split, written out: `(s0, s1)ᵀ` on the two antennas in the first
    channel use of a codeword, `(−s1*, s0*)ᵀ` in the second -/
noncomputable def alaRaw (x : Vec ℂ (2 * B)) : Mat ℂ 2 (2 * B) := fun a j =>
  if hj : j.val % 2 = 0 then
    (if a.val = 0 then x j else x ⟨j.val + 1, Nat.add_one_lt_of_even (Nat.even_iff.mpr hj) (even_two_mul B) j.isLt⟩)
  else
    (if a.val = 0 then -(conj (x j)) else conj (x ⟨j.val - 1, Nat.sub_lt_of_lt j.isLt⟩))

def alaPartner (j : Fin (2 * B)) : Fin (2 * B) :=
  if hj : j.val % 2 = 0 then ⟨j.val + 1, Nat.add_one_lt_of_even (Nat.even_iff.mpr hj) (even_two_mul B) j.isLt⟩
  else ⟨j.val - 1, Nat.sub_lt_of_lt j.isLt⟩

theorem alamoutiEncode_ok (x : Vec ℂ (2 * B)) :
    alamoutiEncode x = .ok (fun a j => alaRaw x a j / sqrtNat 2) := by
  unfold alamoutiEncode alamoutiEncodeRaw
  rw [dif_pos (Nat.mul_mod_right 2 B)]
  rfl

theorem alaPartner_val (j : Fin (2 * B)) :
    (alaPartner j).val = if j.val % 2 = 0 then j.val + 1 else j.val - 1 := by
  unfold alaPartner
  split <;> rfl

theorem alaPartner_odd {j : Fin (2 * B)} (hj : j.val % 2 = 0) : ¬ (alaPartner j).val % 2 = 0 := by
  rw [alaPartner_val, if_pos hj, Nat.succ_mod_two_eq_zero_iff, hj]
  exact zero_ne_one

theorem alaPartner_even {j : Fin (2 * B)} (hj : ¬ j.val % 2 = 0) : (alaPartner j).val % 2 = 0 := by
  rw [alaPartner_val, if_neg hj, ← Nat.div_add_mod j.val 2, Nat.mod_two_ne_zero.mp hj,
    Nat.add_sub_cancel, Nat.mul_mod_right]

theorem alaPartner_invol : Function.Involutive (alaPartner (B := B)) := by
  intro j
  apply Fin.ext
  by_cases hj : j.val % 2 = 0
  · rw [alaPartner_val, if_neg (alaPartner_odd hj), alaPartner_val, if_pos hj]
    rfl
  · rw [alaPartner_val, if_pos (alaPartner_even hj), alaPartner_val, if_neg hj]
    exact Nat.sub_add_cancel (Nat.pos_of_ne_zero fun h0 => hj (by rw [h0]))

theorem alaRaw_even (x : Vec ℂ (2 * B)) {j : Fin (2 * B)} (hj : j.val % 2 = 0) :
    alaRaw x 0 j = x j ∧ alaRaw x 1 j = x (alaPartner j) := by
  unfold alaRaw alaPartner
  rw [dif_pos hj, dif_pos hj, dif_pos hj]
  exact ⟨rfl, rfl⟩

theorem alaRaw_odd (x : Vec ℂ (2 * B)) {j : Fin (2 * B)} (hj : ¬ j.val % 2 = 0) :
    alaRaw x 0 j = -(star (x j)) ∧ alaRaw x 1 j = star (x (alaPartner j)) := by
  unfold alaRaw alaPartner
  rw [dif_neg hj, dif_neg hj, dif_neg hj]
  exact ⟨rfl, rfl⟩

theorem matMul_two {m L : Nat} (H : Mat ℂ m 2) (E : Mat ℂ 2 L) (r : Fin m) (j : Fin L) :
    matMul H E r j = H r 0 * E 0 j + H r 1 * E 1 j := by
  rw [matMul, sumFin_eq, Fin.sum_univ_two]

theorem alamoutiDecode_even (H : Mat ℂ Nr 2) (Y : Mat ℂ Nr (2 * B)) {j : Fin (2 * B)}
    (hj : j.val % 2 = 0) :
    alamoutiDecode H Y j =
      (∑ r, (star (H r 0) * Y r j + H r 1 * star (Y r (alaPartner j)))) /
        (frobNorm H * frobNorm H) * sqrtNat 2 := by
  unfold alamoutiDecode alamoutiDecodeRaw alaPartner
  rw [dif_pos hj, dif_pos hj, sumFin_eq, sumFin_eq, ← Finset.sum_add_distrib]
  rfl

theorem alamoutiDecode_odd (H : Mat ℂ Nr 2) (Y : Mat ℂ Nr (2 * B)) {j : Fin (2 * B)}
    (hj : ¬ j.val % 2 = 0) :
    alamoutiDecode H Y j =
      (∑ r, (star (H r 1) * Y r (alaPartner j) + -(H r 0) * star (Y r j))) /
        (frobNorm H * frobNorm H) * sqrtNat 2 := by
  unfold alamoutiDecode alamoutiDecodeRaw alaPartner
  rw [dif_neg hj, dif_neg hj, sumFin_eq, sumFin_eq, ← Finset.sum_add_distrib]
  rfl

/-- matched combining over one receive antenna, for both symbols `u0 = s0/√2`, `u1 = s1/√2` of a
    codeword: the two rows of `H̃ᴴ H̃ = (|h0|² + |h1|²)·1` -/
theorem alamouti_combine (h0 h1 u0 u1 : ℂ) :
    star h0 * (h0 * u0 + h1 * u1) + h1 * star (h0 * -(star u1) + h1 * star u0)
      = (h0 * star h0 + h1 * star h1) * u0 ∧
    star h1 * (h0 * u0 + h1 * u1) + (-h0) * star (h0 * -(star u1) + h1 * star u0)
      = (h0 * star h0 + h1 * star h1) * u1 := by
  simp only [star_add, star_mul', star_neg, star_star]
  constructor <;> ring

/-- the gain of the matched combiner, `‖H‖_F²` -/
noncomputable def alaGain (H : Mat ℂ Nr 2) : ℝ := ∑ r, (Complex.normSq (H r 0) + Complex.normSq (H r 1))

theorem alaGain_eq (H : Mat ℂ Nr 2) :
    ((alaGain H : ℝ) : ℂ) = ∑ r, (H r 0 * star (H r 0) + H r 1 * star (H r 1)) := by
  unfold alaGain
  push_cast
  simp only [Complex.star_def, Complex.mul_conj]

theorem frob_sq (H : Mat ℂ Nr 2) : frobNorm H * frobNorm H = ((alaGain H : ℝ) : ℂ) := by
  have e : ∀ z : ℂ, CScalar.abs z * CScalar.abs z = ((Complex.normSq z : ℝ) : ℂ) := fun z => by
    rw [abs_def, ← Complex.ofReal_mul, Complex.normSq_eq_norm_sq, sq]
  have hre : (sumFin Nr fun i => sumFin 2 fun j => CScalar.abs (H i j) * CScalar.abs (H i j))
      = ((alaGain H : ℝ) : ℂ) := by
    unfold alaGain
    push_cast
    simp only [sumFin_eq, Fin.sum_univ_two, e]
  have hnn : 0 ≤ alaGain H :=
    Finset.sum_nonneg fun r _ => add_nonneg (Complex.normSq_nonneg _) (Complex.normSq_nonneg _)
  rw [frobNorm, hre, sqrt_def, Complex.ofReal_re, ← Complex.ofReal_mul, Real.mul_self_sqrt hnn]

theorem alaGain_pos (H : Mat ℂ Nr 2) (hne : ∃ r a, H r a ≠ 0) : 0 < alaGain H := by
  obtain ⟨r, hr⟩ := hne
  refine Finset.sum_pos' (fun q _ => add_nonneg (Complex.normSq_nonneg _) (Complex.normSq_nonneg _))
    ⟨r, Finset.mem_univ r, ?_⟩
  rcases Fin.exists_fin_two.mp hr with h | h
  · exact add_pos_of_pos_of_nonneg (Complex.normSq_pos.mpr h) (Complex.normSq_nonneg _)
  · exact add_pos_of_nonneg_of_pos (Complex.normSq_nonneg _) (Complex.normSq_pos.mpr h)

theorem alamouti_roundtrip (H : Mat ℂ Nr 2) (hne : ∃ r a, H r a ≠ 0) (x : Vec ℂ (2 * B))
    (j : Fin (2 * B)) :
    alamoutiDecode H (matMul H (fun a j => alaRaw x a j / sqrtNat 2)) j = x j := by
  have hN : ((alaGain H : ℝ) : ℂ) ≠ 0 := Complex.ofReal_ne_zero.mpr (alaGain_pos H hne).ne'
  have hc : (sqrtNat 2 : ℂ) ≠ 0 := sqrtNat_ne_zero (by decide)
  -- the power split `/√2` is real: it goes under the conjugations of the second channel use
  have e1 : ∀ z : ℂ, -(star z) / sqrtNat 2 = -(star (z / sqrtNat 2)) := fun z => by
    rw [star_div₀, star_sqrtNat, neg_div]
  have e2 : ∀ z : ℂ, star z / sqrtNat 2 = star (z / sqrtNat 2) := fun z => by
    rw [star_div₀, star_sqrtNat]
  by_cases hj : j.val % 2 = 0
  · have hp := alaPartner_odd hj
    rw [alamoutiDecode_even H _ hj]
    simp only [matMul_two, alaRaw_even x hj, alaRaw_odd x hp, alaPartner_invol j, e1, e2,
      (alamouti_combine _ _ _ _).1]
    rw [← Finset.sum_mul, ← alaGain_eq, frob_sq, mul_div_cancel_left₀ _ hN, div_mul_cancel₀ _ hc]
  · have hp := alaPartner_even hj
    rw [alamoutiDecode_odd H _ hj]
    simp only [matMul_two, alaRaw_even x hp, alaRaw_odd x hj, alaPartner_invol j, e1, e2,
      (alamouti_combine _ _ _ _).2]
    rw [← Finset.sum_mul, ← alaGain_eq, frob_sq, mul_div_cancel_left₀ _ hN, div_mul_cancel₀ _ hc]

theorem alamouti_colEnergy (x : Vec ℂ (2 * B)) (j : Fin (2 * B)) :
    colEnergy (fun a j => alaRaw x a j / sqrtNat 2) j =
      (x j * star (x j) + x (alaPartner j) * star (x (alaPartner j))) / 2 := by
  have h2 : (sqrtNat 2 : ℂ) * sqrtNat 2 = 2 := sqrtNat_mul_self 2
  have e : ∀ a : ℂ, a / sqrtNat 2 * star (a / sqrtNat 2) = a * star a / 2 := fun a => by
    rw [star_div₀, star_sqrtNat, div_mul_div_comm, h2]
  rw [colEnergy, sumFin_eq, Fin.sum_univ_two]
  simp only [conj_def, e]
  by_cases hj : j.val % 2 = 0
  · rw [(alaRaw_even x hj).1, (alaRaw_even x hj).2, add_div]
  · rw [(alaRaw_odd x hj).1, (alaRaw_odd x hj).2, star_neg, star_star, star_star, neg_mul_neg,
      mul_comm (star (x j)), mul_comm (star (x (alaPartner j))), add_div]

theorem alamouti_totalEnergy (x : Vec ℂ (2 * B)) :
    totalEnergy (fun a j => alaRaw x a j / sqrtNat 2) = vecEnergy x := by
  simp only [totalEnergy, vecEnergy, sumFin_eq, alamouti_colEnergy, conj_def]
  rw [← Finset.sum_div, Finset.sum_add_distrib]
  have e : ∑ j, x (alaPartner j) * star (x (alaPartner j)) = ∑ j, x j * star (x j) :=
    Equiv.sum_comp (alaPartner_invol (B := B)).toPerm (fun j => x j * star (x j))
  rw [e]
  ring

end Pf
end PyPhysim.C04
