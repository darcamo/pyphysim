import PyPhysim.Proofs.C03Conv
import PyPhysim.Proofs.C03Py

/-!
# C03 — one frequency-domain transmission of `TdlChannel` in closed form
(block schedule of the fading generator, concatenated response, what a loop of `set`s at distinct positions leaves at
each position (`getElem?_foldl_set`: the loop of `dense`), per-block multiply), and the same output addressed by the flat
position `b·B + q`
-/
namespace PyPhysim.C03
open PyPhysim.Proto

theorem samplesPerBlock_eq (fft : Nat) : (Generated.samplesPerBlock fft).toNat = 1 := rfl

theorem skipPerBlock_eq (fft : Nat) : Generated.skipPerBlock fft = (fft : Int) - 1 := rfl

/-- fading positions consumed per block: `fft` for Jakes (1 generated + `fft-1` skipped), 1 for Rayleigh -/
def stride (jakes : Bool) (fft : Nat) : Nat := if jakes then fft else 1

theorem nextBlockPos_eq (jakes : Bool) (fft pos : Nat) :
    nextBlockPos jakes fft pos = pos + stride jakes fft := by
  unfold nextBlockPos stride
  rw [samplesPerBlock_eq, skipPerBlock_eq]
  cases jakes
  · rfl
  · rw [if_pos rfl, if_pos rfl, Nat.cast_succ, add_add_sub_cancel, ← Nat.cast_add, Int.toNat_natCast]

theorem blockEndPos_eq (jakes : Bool) (fft nb pos : Nat) :
    blockEndPos jakes fft nb pos = pos + nb * stride jakes fft := by
  induction nb generalizing pos with
  | zero => rw [blockEndPos, Nat.zero_mul, Nat.add_zero]
  | succ nb ih => rw [blockEndPos, ih, nextBlockPos_eq, Nat.succ_mul, Nat.add_assoc, Nat.add_comm (stride _ _)]

section
variable {β γ : Type}

theorem zipIdx_map_eq_tab (ps : List Nat) (G : Nat → Nat → β) :
    ps.zipIdx.map (fun pq => G pq.1 pq.2)
      = tab ps.length (fun q => G (match ps[q]? with | some p => p | none => 0) q) := by
  apply List.ext_getElem?
  intro q
  rw [List.getElem?_map, List.getElem?_zipIdx, getElem?_tab]
  by_cases h : q < ps.length <;> simp [h]

theorem flatMap_blocks_eq_tab (ps : List Nat) (nb : Nat) (G : Nat → Nat → Nat → β) (H : Nat → β)
    (hGH : ∀ b q, q < ps.length →
      G b (match ps[q]? with | some p => p | none => 0) q = H (b * ps.length + q)) :
    (List.range nb).flatMap (fun b => ps.zipIdx.map (fun pq => G b pq.1 pq.2)) = tab (nb * ps.length) H :=
  (List.flatMap_congr fun b _ => zipIdx_map_eq_tab ps (G b)).trans
    (map_range_mul (fun b q hq => (hGH b q hq).symm) nb).symm

theorem zipWith_map_blk {δ : Type} (m : γ → β → δ) (ps : List Nat) (f : Nat → γ) (nb b : Nat) (hb : b < nb)
    (xf : Nat → β) :
    List.zipWith m (ps.map f) (blk (tab (nb * ps.length) xf) ps.length b)
      = ps.zipIdx.map (fun pq => m (f pq.1) (xf (b * ps.length + pq.2))) := by
  have hle : b * ps.length + ps.length ≤ nb * ps.length := Nat.succ_mul b _ ▸ Nat.mul_le_mul_right _ hb
  obtain ⟨r, hr⟩ := Nat.exists_eq_add_of_le hle
  rw [blk, hr, Nat.add_assoc, tab_add, List.drop_left' (tab_length _ _), tab_add,
    List.take_left' (tab_length _ _), tab, List.zipWith_map, List.zipIdx_eq_zip_range', List.map_zip_eq_zipWith,
    List.range_eq_range']
  rfl

theorem getElem?_foldl_set (ts : List (Nat × β)) (acc : List β) (l : Nat) (hs : (ts.map (·.1)).Nodup) :
    (ts.foldl (fun acc dv => acc.set dv.1 dv.2) acc)[l]?
      = acc[l]?.map (fun a => match ts.find? (fun dv => dv.1 == l) with | some dv => dv.2 | none => a) := by
  induction ts generalizing acc with
  | nil => exact Option.map_id'.symm
  | cons t ts ih =>
    rw [List.map_cons, List.nodup_cons] at hs
    rw [List.foldl_cons, ih _ hs.2, List.getElem?_set', List.find?_cons]
    by_cases ht : t.1 = l
    · -- no later write goes to `l`, so this one stays
      have hnone : ts.find? (fun dv => dv.1 == l) = none :=
        List.find?_eq_none.mpr fun dv hdv h => hs.1 (List.mem_map.mpr ⟨dv, hdv, (beq_iff_eq.mp h).trans ht.symm⟩)
      rw [hnone, if_pos ht, beq_iff_eq.mpr ht]
      cases acc[l]? <;> rfl
    · rw [if_neg ht, beq_false_of_ne ht]

end

variable {α : Type} [CommSemiring α]

/-- the one-sample response generated for block `b` of a frequency-domain transmission -/
def blockIR (proc : Proc α) (c : Tdl α) (fft b : Nat) : IR α :=
  genIR proc c (c.pos + b * stride c.jakes fft) 1

theorem blockIR_vals_map (proc : Proc α) (c : Tdl α) (fft b r t : Nat) :
    (blockIR proc c fft b).vals.map (fun h => h r t 0)
      = c.taps.zipIdx.map (fun ta => proc c.link (c.pos + b * stride c.jakes fft) ta.2 r t * ta.1.2) :=
  List.map_map

theorem blockIRs_eq (proc : Proc α) (c : Tdl α) (fft nb pos : Nat) :
    blockIRs proc c fft nb pos = tab nb (fun b => genIR proc c (pos + b * stride c.jakes fft) 1) := by
  induction nb generalizing pos with
  | zero => rfl
  | succ nb ih =>
    rw [blockIRs, ih, nextBlockPos_eq, tab_succ, samplesPerBlock_eq, Nat.zero_mul, Nat.add_zero]
    exact congrArg _ (tab_congr fun b _ => by rw [Nat.succ_mul, Nat.add_assoc, Nat.add_comm (stride _ _)])

theorem blockIRs_eq_tab_blockIR (proc : Proc α) (c : Tdl α) (fft nb : Nat) :
    blockIRs proc c fft nb c.pos = tab nb (blockIR proc c fft) :=
  blockIRs_eq proc c fft nb c.pos

theorem concatVal_tab (i : Nat) (G : Nat → IR α) (hn : ∀ b, (G b).n = 1) (nb : Nat) (r t b : Nat) (hb : b < nb) :
    concatVal i (tab nb G) r t b = (match (G b).vals[i]? with | some h => h r t 0 | none => 0) := by
  induction nb generalizing G b with
  | zero => exact absurd hb (Nat.not_lt_zero b)
  | succ nb ih =>
    rw [tab_succ, concatVal, hn 0]
    cases b with
    | zero => rfl
    | succ b =>
      rw [if_neg (Nat.not_lt.mpr (Nat.le_add_left 1 b)), Nat.add_sub_cancel]
      exact ih (fun i => G (i + 1)) (fun b => hn (b + 1)) b (Nat.lt_of_succ_lt_succ hb)

omit [CommSemiring α] in
theorem foldl_n_tab (G : Nat → IR α) (hn : ∀ b, (G b).n = 1) (nb s : Nat) :
    (tab nb G).foldl (fun s j => s + j.n) s = s + nb := by
  induction nb generalizing G s with
  | zero => rfl
  | succ nb ih =>
    rw [tab_succ, List.foldl_cons, ih (fun i => G (i + 1)) (fun b => hn (b + 1)), hn 0, Nat.add_assoc, Nat.add_comm 1]

theorem concatIR_tab (G : Nat → IR α) (hn : ∀ b, (G b).n = 1) (ds : List Nat) (hd : ∀ b, (G b).delays = ds)
    (L : Nat) (hL : ∀ b, (G b).vals.length = L) (nb : Nat) (hnb : 0 < nb) :
    ∃ last, concatIR (tab nb G) = .ok last ∧ last.n = nb ∧ last.delays = ds ∧
      ∀ r t b, b < nb → last.vals.map (fun h => h r t b) = (G b).vals.map (fun h => h r t 0) := by
  obtain ⟨k, rfl⟩ := Nat.exists_eq_add_one.mpr hnb
  cases k with
  | zero =>
    refine ⟨G 0, rfl, hn 0, hd 0, fun r t b hb => ?_⟩
    rw [Nat.lt_one_iff.mp hb]
  | succ k =>
    refine ⟨{ n := (tab (k + 2) G).foldl (fun s j => s + j.n) 0, delays := (G 0).delays,
              vals := tab (G 0).vals.length (fun i => concatVal i (tab (k + 2) G)) },
      by rw [tab_succ, tab_succ]; rfl, (foldl_n_tab G hn _ 0).trans (Nat.zero_add _), hd 0, fun r t b hb => ?_⟩
    -- both sides are the table of the `L` tap values of block `b`
    rw [tab_map, hL 0, (eq_tab_getD ((G b).vals.map fun h => h r t 0) 0), List.length_map, hL b]
    refine tab_congr fun i hi => ?_
    rw [concatVal_tab i G hn (k + 2) r t b hb, List.getElem?_map,
      List.getElem?_eq_getElem (by rw [hL b]; exact hi)]
    rfl

/-- the response reported after `nb` blocks: sample `b` is the response of block `b` -/
structure IsBlockConcat (proc : Proc α) (c : Tdl α) (fft nb : Nat) (last : IR α) : Prop where
  n_eq : last.n = nb
  delays_eq : last.delays = c.delays
  vals_map : ∀ r t b, b < nb →
    last.vals.map (fun h => h r t b) = (blockIR proc c fft b).vals.map (fun h => h r t 0)

theorem IsBlockConcat.denseAt {proc : Proc α} {c : Tdl α} {fft nb : Nat} {last : IR α}
    (h : IsBlockConcat proc c fft nb last) (r t b : Nat) (hb : b < nb) :
    (blockIR proc c fft b).denseAt r t 0 = last.denseAt r t b := by
  unfold IR.denseAt
  rw [h.delays_eq, h.vals_map r t b hb]
  rfl

/-- the response a frequency-domain transmission of `nb` blocks leaves behind -/
def Tdl.fxIR (proc : Proc α) (c : Tdl α) (fft nb : Nat) : IR α :=
  match concatIR (blockIRs proc c fft nb c.pos) with
  | .ok last => last
  | .error _ => { n := 0, delays := [], vals := [] }

theorem concat_blockIRs (proc : Proc α) (c : Tdl α) (fft nb : Nat) (hnb : 0 < nb) :
    concatIR (blockIRs proc c fft nb c.pos) = .ok (c.fxIR proc fft nb) ∧
      IsBlockConcat proc c fft nb (c.fxIR proc fft nb) := by
  obtain ⟨last, h1, h2, h3, h4⟩ := concatIR_tab (blockIR proc c fft) (fun _ => rfl) c.delays
    (fun _ => rfl) c.taps.length (fun _ => by simp [blockIR, genIR]) nb hnb
  rw [← blockIRs_eq_tab_blockIR] at h1
  rw [Tdl.fxIR, h1]
  exact ⟨rfl, h2, h3, h4⟩

theorem fxIR_blockConcat (proc : Proc α) (c : Tdl α) {sel : Sel} {fft n : Nat} {ps : List Nat} {B nb : Nat}
    (hplan : freqPlan sel fft n = .ok (ps, B, nb)) : IsBlockConcat proc c fft nb (c.fxIR proc fft nb) :=
  (concat_blockIRs proc c fft nb (freqPlan_eq_ok.mp hplan).2.2.1).2

/-- state after a frequency-domain transmission of `nb` blocks -/
def Tdl.afterFx (proc : Proc α) (c : Tdl α) (fft nb : Nat) : Tdl α :=
  { c with pos := c.pos + nb * stride c.jakes fft, last := some (c.fxIR proc fft nb) }

theorem freqSiso_tab (fftK : Fft α) (G : Nat → IR α) (last : IR α) (fft : Nat) (ps : List Nat) (nb : Nat)
    (hG : ∀ r t b, b < nb → (G b).denseAt r t 0 = last.denseAt r t b) (xf : Nat → α) :
    freqSiso fftK (tab nb G) fft ps ps.length (tab (nb * ps.length) xf)
      = freqSpecSiso fftK last fft ps ps.length nb xf := by
  unfold freqSiso freqSpecSiso
  rw [tab_zipIdx, tab_flatMap]
  refine List.flatMap_congr fun b hb => ?_
  rw [hSel, hG 0 0 b (List.mem_range.mp hb), zipWith_map_blk _ _ _ nb b (List.mem_range.mp hb)]
  rfl

theorem freqMimo_tab (fftK : Fft α) (sw : Bool) (G : Nat → IR α) (last : IR α) (fft : Nat) (ps : List Nat)
    (nb nOut nIn : Nat) (hG : ∀ r t b, b < nb → (G b).denseAt r t 0 = last.denseAt r t b) (xf : Nat → Nat → α) :
    freqMimo fftK sw (tab nb G) fft ps ps.length nOut nIn (tab nIn (fun a => tab (nb * ps.length) (xf a)))
      = freqSpec fftK last sw fft ps ps.length nb nOut nIn xf := by
  unfold freqMimo freqSpec
  refine tab_congr fun j _ => ?_
  rw [tab_zipIdx, tab_flatMap]
  refine List.flatMap_congr fun b hb => ?_
  have hb := List.mem_range.mp hb
  -- one output row of one block: every input antenna adds its term to the row, carrier by carrier
  unfold freqRowBlock
  rw [tab_take, tab_zipIdx, zipIdx_map_eq_tab, zeros, replicate_eq_tab]
  refine (List.foldl_map.trans (foldl_tab_add _ _ _ (fun f a => ?_) _ _)).trans (tab_congr fun q _ => zero_add _)
  have hsel : (if sw then hSel fftK (G b) fft ps a j else hSel fftK (G b) fft ps j a)
      = ps.map (fftK (if sw then last.denseAt a j b else last.denseAt j a b) fft) := by
    cases sw <;> exact congrArg (fun d => ps.map (fftK d fft)) (hG _ _ b hb)
  rw [hsel, zipWith_map_blk _ _ _ nb b hb, zipIdx_map_eq_tab ps fun p q =>
    fftK (if sw then last.denseAt a j b else last.denseAt j a b) fft p * xf a (b * ps.length + q)]
  exact zipWith_map_same _ _ _ _

theorem tdl_corruptFreq_siso (proc : Proc α) (fftK : Fft α) (c : Tdl α) (hant : c.ant = none)
    {sel : Sel} {fft n : Nat} {ps : List Nat} {B nb : Nat} (hplan : freqPlan sel fft n = .ok (ps, B, nb))
    (xf : Nat → α) :
    c.corruptFreq proc fftK [tab n xf] fft sel
      = .ok (c.afterFx proc fft nb, [freqSpecSiso fftK (c.fxIR proc fft nb) fft ps B nb xf]) := by
  obtain ⟨-, -, hnb, rfl, rfl, -⟩ := freqPlan_eq_ok.mp hplan
  obtain ⟨hcat, hlast⟩ := concat_blockIRs proc c fft nb hnb
  unfold Tdl.corruptFreq
  simp only [numSymbols, tab_length, hplan, bind, Except.bind, pure, Except.pure, hcat, hant,
    blockEndPos_eq, signalOk_siso c hant, Bool.not_true, Bool.false_eq_true, if_false]
  rw [blockIRs_eq_tab_blockIR, freqSiso_tab _ _ _ _ _ _ hlast.denseAt]
  simp only [Tdl.afterFx, hant]

theorem tdl_corruptFreq_mimo (proc : Proc α) (fftK : Fft α) (c : Tdl α) (nr nt : Nat)
    (hant : c.ant = some (nr, nt)) (hIn : 0 < (c.dims nr nt).2)
    {sel : Sel} {fft n : Nat} {ps : List Nat} {B nb : Nat} (hplan : freqPlan sel fft n = .ok (ps, B, nb))
    (xf : Nat → Nat → α) :
    c.corruptFreq proc fftK (tab (c.dims nr nt).2 (fun a => tab n (xf a))) fft sel
      = .ok (c.afterFx proc fft nb,
             freqSpec fftK (c.fxIR proc fft nb) c.switched fft ps B nb (c.dims nr nt).1 (c.dims nr nt).2 xf) := by
  obtain ⟨-, -, hnb, rfl, rfl, -⟩ := freqPlan_eq_ok.mp hplan
  obtain ⟨hcat, hlast⟩ := concat_blockIRs proc c fft nb hnb
  unfold Tdl.corruptFreq
  simp only [numSymbols_tab _ _ _ hIn, tab_length, hplan, bind, Except.bind, pure, Except.pure, hcat, hant,
    blockEndPos_eq, signalOk_of_length c nr nt hant _ (tab_length _ _), Bool.not_true, Bool.false_eq_true, ne_eq,
    not_true_eq_false, if_false]
  rw [blockIRs_eq_tab_blockIR, freqMimo_tab _ _ _ _ _ _ _ _ _ hlast.denseAt]
  simp only [Tdl.afterFx, hant]

theorem freqAtFlat_block (fftK : Fft α) (ir : IR α) (sw : Bool) (fft : Nat) (ps : List Nat) (nIn : Nat)
    (xf : Nat → Nat → α) (j b q : Nat) (hq : q < ps.length) :
    freqAtFlat fftK ir sw fft ps nIn xf j (b * ps.length + q)
      = freqAt fftK ir sw fft ps.length nIn xf j b (match ps[q]? with | some p => p | none => 0) q := by
  unfold freqAt freqAtFlat
  rw [(mul_add_divMod hq).1, Nat.mul_add_mod_of_lt hq]
  rfl

theorem freqSpec_eq_tab (fftK : Fft α) (ir : IR α) (sw : Bool) (fft : Nat) (ps : List Nat)
    (nb nOut nIn : Nat) (xf : Nat → Nat → α) :
    freqSpec fftK ir sw fft ps ps.length nb nOut nIn xf
      = tab nOut (fun j => tab (nb * ps.length) (freqAtFlat fftK ir sw fft ps nIn xf j)) :=
  tab_congr fun j _ => flatMap_blocks_eq_tab ps nb (fun b p q => freqAt fftK ir sw fft ps.length nIn xf j b p q) _
    (fun b q hq => (freqAtFlat_block fftK ir sw fft ps nIn xf j b q hq).symm)

theorem freqSpecSiso_eq_tab (fftK : Fft α) (ir : IR α) (fft : Nat) (ps : List Nat) (nb : Nat) (xf : Nat → α) :
    freqSpecSiso fftK ir fft ps ps.length nb xf = tab (nb * ps.length) (freqAtSisoFlat fftK ir fft ps xf) :=
  flatMap_blocks_eq_tab ps nb (fun b p q => freqAtSiso fftK ir fft ps.length xf b p q) _ (fun b q hq => by
    rw [freqAtSisoFlat, (mul_add_divMod hq).1, Nat.mul_add_mod_of_lt hq]
    rfl)

end PyPhysim.C03
