import PyPhysim.Generated.OfdmIndex

/-!
C02 — `get_used_subcarrier_indexes` as regenerated from `ofdm.py` (`Generated/OfdmIndex.lean`), computed in the
order of the source: the subcarrier numbers `[c,…,c+h-1,-h,…,-1]` (`gen_numbers`; `c = 0` without guard bands,
`c = 1` with them — the one place where the source branches), then the two slices put back in index order, which
is the normal form `usedIdx` of `Model/C02.lean` for `used = 2·h ≤ fft` (`gen_usedIdx_nat`).  The `gen_*` theorems
of `Properties/C02.lean` state the equality of all three regenerated functions with their normal forms.  A change
of the source functions re-opens these proofs.
-/
namespace PyPhysim.C02
open PyPhysim.Proto
open PyPhysim.Generated.C02

theorem pyBound_natCast {β : Type} (A B : List β) : pyBound (A ++ B).length (A.length : Int) = A.length := by
  rw [pyBound, if_neg (Int.not_lt.mpr (Int.natCast_nonneg _)), Int.toNat_natCast, List.length_append,
    Nat.min_eq_left (Nat.le_add_right _ _)]

theorem pySlice_right {β : Type} (A B : List β) (h : Nat) (hA : A.length = h) :
    pySlice (A ++ B) (some (h : Int)) none = B := by
  subst hA
  unfold pySlice
  simp only
  rw [pyBound_natCast, List.take_length, List.drop_left' rfl]

theorem pySlice_left {β : Type} (A B : List β) (h : Nat) (hA : A.length = h) :
    pySlice (A ++ B) (some (0 : Int)) (some (h : Int)) = A := by
  subst hA
  unfold pySlice
  simp only
  rw [pyBound_natCast, List.take_left' rfl]
  rfl

/-- on an even number of entries `fftshift` swaps the two halves -/
theorem fftshift_append {β : Type} (A B : List β) (h : B.length = A.length) : fftshift (A ++ B) = B ++ A := by
  rw [fftshift, List.length_append, h, ← Nat.two_mul, Nat.mul_div_cancel_left _ Nat.zero_lt_two, Nat.two_mul,
    Nat.add_sub_cancel, List.drop_left' rfl, List.take_left' rfl]

theorem fdiv_two (h : Nat) : Int.fdiv ((2 * h : Nat) : Int) 2 = (h : Int) := by
  rw [Int.fdiv_eq_ediv_of_nonneg _ (by decide), Int.natCast_mul]
  exact Int.mul_ediv_cancel_left _ (by decide)

/-- `_get_used_subcarrier_numbers`: `[0,…,h-1,-h,…,-1]` when every subcarrier is used (`fftshift` of
    `arange(2h) - h = [-h,…,-1] ++ [0,…,h-1]`), `[1,…,h,-h,…,-1]` with guard bands (the two `np.r_`) -/
theorem gen_numbers (fft h : Nat) :
    get_used_subcarrier_numbers (fft : Int) ((2 * h : Nat) : Int)
      = (List.range h).map (fun i : Nat => ((if 2 * h = fft then 0 else 1 : Nat) : Int) + i)
        ++ (List.range h).map (fun i : Nat => -(h : Int) + i) := by
  unfold get_used_subcarrier_numbers
  by_cases he : 2 * h = fft
  · subst he
    rw [if_pos rfl, if_pos rfl, get_subcarrier_numbers, fdiv_two, npArange, Int.toNat_natCast, Nat.two_mul,
      List.range_add, List.map_append, List.map_append,
      fftshift_append _ _ (by simp only [List.length_map]), List.map_map, List.map_map, List.map_map]
    -- entry `h + i` of the second half is `(h + i) - h = 0 + i`, entry `i` of the first is `i - h`
    exact congr
      (congrArg _ (List.map_congr_left fun i _ =>
        (Int.add_right_comm (h : Int) i (-h)).trans (congrArg (· + (i : Int)) (Int.add_right_neg _))))
      (List.map_congr_left fun i _ => Int.sub_eq_add_neg.trans (Int.add_comm _ _))
  · rw [if_neg (mt Int.ofNat_inj.mp he), if_neg he, fdiv_two]
    simp only [npR]
    rw [Int.add_sub_cancel, Int.zero_sub, Int.neg_neg, Int.toNat_natCast]
    rfl

theorem gen_usedIdx_nat (fft h : Nat) (hle : 2 * h ≤ fft) :
    get_used_subcarrier_indexes (fft : Int) ((2 * h : Nat) : Int) = (usedIdx fft (2 * h)).map Int.ofNat := by
  have hlen (f : Nat → Int) : ((List.range h).map f).length = h := by rw [List.length_map, List.length_range]
  have hh : h ≤ fft := Nat.le_trans (Nat.le_mul_of_pos_left h Nat.zero_lt_two) hle
  simp only [get_used_subcarrier_indexes]
  rw [fdiv_two, gen_numbers, pySlice_right _ _ h (hlen _), pySlice_left _ _ h (hlen _), usedIdx,
    Nat.mul_div_cancel_left h Nat.zero_lt_two, List.map_append, List.range'_eq_map_range, List.range'_eq_map_range,
    List.map_map, List.map_map, List.map_map]
  -- upper band: `fft + (-h + i) = (fft - h) + i`, a cast since `h ≤ fft`; the lower band `c + i` is one already
  exact congr (congrArg _ (List.map_congr_left fun i _ =>
    (Int.add_assoc ..).symm.trans (congrArg (· + (i : Int)) (Int.ofNat_sub hh).symm))) rfl

end PyPhysim.C02
