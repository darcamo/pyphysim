import PyPhysim.Proofs.C13Real

/-! # C13 — the objects: setter machines, General / free space, PS7, Okumura–Hata,
antenna gain, the caller machine (α = ℝ)

Each deterministic loss is exhibited as an `affLog slope offset` and each
distance-for-a-loss query as the matching `affLogInv`; monotonicity, injectivity and
the two inverse laws are then those of `C13Real`.  An invariant of a setter machine is
proved for one step and carried over a history by `List.foldlRecOn`. -/
namespace PyPhysim.C13
open PyPhysim.Proto

theorem gen_detDb_eq (s : GenState ℝ) : s.detDb = affLog (10 * s.n) s.C := funext (generalDb_real s.n s.C)

theorem isZero_real (x : ℝ) : isZero x = true ↔ x = 0 := by
  simp only [isZero, zero_real, Bool.and_eq_true, Bool.not_eq_true', decide_eq_false_iff_not, not_lt]
  exact and_comm.trans le_antisymm_iff.symm

theorem whichDbScalar_real (s : GenState ℝ) (p : ℝ) :
    s.whichDbScalar p = if s.n = 0 then .error .ZeroDivisionError
      else .ok (Gen.generalWhichDb s.n s.C p) :=
  if_congr ((isZero_real _).trans (mul_eq_zero.trans
    (or_iff_right (sci_10.trans_ne ten_pos.ne')))) rfl rfl

/-- the cached constant is consistent with the current exponent and frequency -/
def FsInv (s : GenState ℝ) : Prop := s.C = Gen.fsCalcC s.fc s.n

theorem fsInit_inv (n fc : ℝ) : FsInv (fsInit n fc) := rfl

/-- both parameter setters recompute `_C`; the flag setters leave all three alone -/
theorem fsStep_inv (s : GenState ℝ) (o : FsOp ℝ) (h : FsInv s) : FsInv (fsStep s o) := by
  cases o
  exacts [rfl, rfl, h, h]

theorem fsRun_inv {s : GenState ℝ} (h : FsInv s) (ops : List (FsOp ℝ)) : FsInv (fsRun s ops) :=
  List.foldlRecOn ops fsStep h fun s hs o _ => fsStep_inv s o hs

theorem FsInv.eq_fresh : ∀ {s : GenState ℝ}, FsInv s →
    s = { fsInit s.n s.fc with small := s.small, shadow := s.shadow }
  | ⟨n, _, fc, small, shadow⟩, h => congrArg (GenState.mk n · fc small shadow) h

theorem fsCalcC_injOn {n : ℝ} (hn : n ≠ 0) : Set.InjOn (Gen.fsCalcC · n) (Set.Ioi 0) := by
  intro x hx y hy h
  simp only [fsCalcC_real] at h
  have h6 : (0 : ℝ) < 1000000 := by norm_num
  exact mul_right_cancel₀ h6.ne' (log10_strictMonoOn.injOn (mul_pos hx h6) (mul_pos hy h6)
    (sub_left_injective (mul_left_cancel₀ (mul_ne_zero ten_pos.ne' hn) h)))

/-- dB per decade of distance: LOS for no wall, NLOS otherwise -/
noncomputable def ps7Slope (nw : ℕ) : ℝ := if nw = 0 then 18.7 else 36.8

/-- the loss at unit distance: frequency term, constant, 5 dB per wall after the first -/
noncomputable def ps7Offset (fc : ℝ) (nw : ℕ) : ℝ :=
  20 * Real.logb 10 (fc / 1000 / 5) + if nw = 0 then 46.8 else 43.8 + 5 * ((nw : ℝ) - 1)

theorem ps7Slope_pos (nw : ℕ) : 0 < ps7Slope nw := by
  unfold ps7Slope
  split_ifs <;> norm_num

theorem ps7_detDb_eq (s : Ps7State ℝ) (nw : ℕ) :
    s.detDb nw = affLog (ps7Slope nw) (ps7Offset s.fc nw) := by
  funext d
  unfold Ps7State.detDb ps7Slope ps7Offset
  split_ifs <;> simp only [Gen.ps7LosDb, Gen.ps7NlosDb, affLog, log10_real, sci_1000, sci_5] <;> ring

theorem ps7_detWhich_eq (s : Ps7State ℝ) (nw : ℕ) :
    s.detWhich nw = affLogInv (ps7Slope nw) (ps7Offset s.fc nw) := by
  funext p
  unfold Ps7State.detWhich ps7Slope ps7Offset
  split_ifs <;>
    simp only [Gen.ps7LosWhichDb, Gen.ps7NlosWhichDb, affLogInv, log10_real, pow10_real, sci_1000, sci_5] <;>
    congr 1 <;> ring

theorem ps7_detDb_strictMonoOn (s : Ps7State ℝ) (nw : ℕ) : StrictMonoOn (s.detDb nw) (Set.Ioi 0) :=
  ps7_detDb_eq s nw ▸ affLog_strictMonoOn _ (ps7Slope_pos nw)

theorem ps7Offset_injOn (nw : ℕ) : Set.InjOn (ps7Offset · nw) (Set.Ioi 0) := by
  intro x hx y hy h
  have h3 : (0 : ℝ) < 1000 := by norm_num
  have h5 : (0 : ℝ) < 5 := by norm_num
  -- `ps7Offset fc nw` is by definition `affLog 20 _ (fc / 1000 / 5)`
  exact (div_left_inj' h3.ne').1 ((div_left_inj' h5.ne').1
    (affLog_injOn _ (by norm_num) (div_pos (div_pos hx h3) h5) (div_pos (div_pos hy h3) h5) h))

/-- every PS7 entry point tests the sign of its `Int` wall count and goes on with `toNat`;
    given a natural number the test passes -/
theorem walls_nat {β : Type} (nw : ℕ) (e : β) (k : ℕ → β) :
    (if (nw : ℤ) < 0 then e else k (nw : ℤ).toNat) = k nw := by
  rw [if_neg (Int.natCast_nonneg nw).not_gt, Int.toNat_natCast]

theorem ps7_dbScalar_nat (s : Ps7State ℝ) (nw : ℕ) (d : ℝ) :
    s.dbScalar nw d = scalarDb s.small (s.detDb nw) d :=
  walls_nat nw _ fun n => scalarDb s.small (s.detDb n) d

theorem ps7_dbArray_nat (s : Ps7State ℝ) (nw : ℕ) (ds : List ℝ) :
    s.dbArray nw ds = arrayDb s.small (s.detDb nw) ds :=
  walls_nat nw _ fun n => arrayDb s.small (s.detDb n) ds

theorem ps7_whichDb_nat (s : Ps7State ℝ) (nw : ℕ) (p : ℝ) :
    s.whichDb nw p = .ok (s.detWhich nw p) :=
  walls_nat nw _ fun n => Except.ok (s.detWhich n p)

theorem range_guard_iff {v lo hi : ℝ} :
    (!(decide (v < lo) || decide (v > hi))) = true ↔ lo ≤ v ∧ v ≤ hi := by
  simp only [Bool.not_eq_true', Bool.or_eq_false_iff, decide_eq_false_iff_not, gt_iff_lt, not_lt]

theorem ohFcAccepted_iff (v : ℝ) : Gen.ohFcAccepted v = true ↔ 150 ≤ v ∧ v ≤ 1500 :=
  -- the source writes the bounds `150.` (a float literal) and `1500` (an int, whose cast is the numeral)
  range_guard_iff.trans (by rw [sci_int 150]; rfl)

theorem ohHbsAccepted_iff (v : ℝ) : Gen.ohHbsAccepted v = true ↔ 30 ≤ v ∧ v ≤ 200 :=
  range_guard_iff.trans (by rw [sci_int 30, sci_int 200]; rfl)

theorem ohHmsAccepted_iff (v : ℝ) : Gen.ohHmsAccepted v = true ↔ 1 ≤ v ∧ v ≤ 10 :=
  range_guard_iff.trans (by rw [sci_int 1, sci_int 10, Nat.cast_one]; rfl)

theorem ohAreaAccepted_iff (v : String) :
    Gen.ohAreaAccepted v = true ↔ v ∈ ["open", "suburban", "medium city", "large city"] := by
  rw [Gen.ohAreaAccepted, Bool.not_not, List.contains_iff_mem]

/-! Every guarded setter of `ohStep` has the shape `if acc then (s', none) else (s, some err)`:
an invariant needs the new state only when the guard passed, a field of the result is the new or
the old one according to the guard, and a reported error means nothing was stored. -/

theorem guarded_inv {σ : Type} {P : σ → Prop} {acc : Bool} {s s' : σ} {r r' : Option PyErr}
    (h : P s) (h' : acc = true → P s') : P (if acc then (s', r) else (s, r')).1 := by
  cases acc
  exacts [h, h' rfl]

theorem guarded_proj {σ β : Type} (f : σ → β) {acc : Bool} {p : Prop} [Decidable p]
    (hp : acc = true ↔ p) (s s' : σ) (r r' : Option PyErr) :
    f (if acc then (s', r) else (s, r')).1 = if p then f s' else f s :=
  (apply_ite (fun x : σ × Option PyErr => f x.1) ..).trans (if_congr hp rfl rfl)

theorem guarded_rejected {σ : Type} {acc : Bool} {s s' : σ} {e e' : PyErr}
    (h : (if acc then (s', none) else (s, some e')).2 = some e) :
    e = e' ∧ (if acc then (s', none) else (s, some e')).1 = s := by
  cases acc
  exacts [⟨(Option.some.inj h).symm, rfl⟩, nomatch h]

/-- every stored parameter has passed the guard of its setter -/
def OhInv (s : OhState ℝ) : Prop :=
  Gen.ohFcAccepted s.fc ∧ Gen.ohHbsAccepted s.hbs ∧ Gen.ohHmsAccepted s.hms ∧
    Gen.ohAreaAccepted s.area

theorem ohInit_inv : OhInv (ohInit : OhState ℝ) :=
  have hfc : (ohInit : OhState ℝ).fc = 900 := sci_int 900
  have hbs : (ohInit : OhState ℝ).hbs = 30 := sci_int 30
  have hms : (ohInit : OhState ℝ).hms = 1 := (sci_int 1).trans Nat.cast_one
  ⟨(ohFcAccepted_iff _).2 (by rw [hfc]; norm_num), (ohHbsAccepted_iff _).2 (by rw [hbs]; norm_num),
   (ohHmsAccepted_iff _).2 (by rw [hms]; norm_num), by decide⟩

theorem ohStep_inv (s : OhState ℝ) (o : OhOp ℝ) (h : OhInv s) : OhInv (ohStep s o).1 := by
  cases o
  exacts [guarded_inv h fun hv => ⟨hv, h.2⟩, guarded_inv h fun hv => ⟨h.1, hv, h.2.2⟩,
    guarded_inv h fun hv => ⟨h.1, h.2.1, hv, h.2.2.2⟩,
    guarded_inv h fun hv => ⟨h.1, h.2.1, h.2.2.1, hv⟩, h, h]

theorem ohRun_inv {s : OhState ℝ} (h : OhInv s) (ops : List (OhOp ℝ)) : OhInv (ohRun s ops) :=
  List.foldlRecOn ops _ h fun s hs o _ => ohStep_inv s o hs

theorem ohDb_eq (fc hbs a K : ℝ) :
    Gen.ohDb fc hbs a K = affLog (44.9 - 6.55 * Real.logb 10 hbs)
      (69.55 + 26.16 * Real.logb 10 fc - 13.82 * Real.logb 10 hbs - a - K) := by
  funext d
  simp only [Gen.ohDb, log10_real, affLog]
  ring

/-- the distance slope `44.9 − 6.55·log10(h_bs)` is positive on the whole admissible range
    (`h_bs ≤ 200 < 10³`) -/
theorem oh_slope_pos {hbs : ℝ} (h₀ : 30 ≤ hbs) (h₁ : hbs ≤ 200) :
    0 < (44.9 : ℝ) - 6.55 * Real.logb 10 hbs := by
  have : Real.logb 10 hbs ≤ 3 :=
    (Real.logb_le_iff_le_rpow one_lt_ten (lt_of_lt_of_le (by norm_num) h₀)).2
      (h₁.trans (by norm_num))
  exact sub_pos.2 (lt_of_le_of_lt (mul_le_mul_of_nonneg_left this (by norm_num)) (by norm_num))

theorem oh_detDb_strictMonoOn {s : OhState ℝ} (hs : OhInv s) (a K : ℝ) :
    StrictMonoOn (s.detDb a K) (Set.Ioi 0) := by
  obtain ⟨h₀, h₁⟩ := (ohHbsAccepted_iff _).1 hs.2.1
  rw [show s.detDb a K = _ from ohDb_eq s.fc s.hbs a K]
  exact affLog_strictMonoOn _ (oh_slope_pos h₀ h₁)

theorem ok_of_isOk {ε α : Type} : ∀ {r : Except ε α}, r.isOk = true → ∃ a, r = .ok a
  | .ok a, _ => ⟨a, rfl⟩

/-- every branch of the ladder is an `.ok`, which can therefore be moved in front of it -/
theorem ohK_ok (area : String) (fc : ℝ) : ∃ K, Gen.ohK area fc = .ok K := by
  unfold Gen.ohK
  simp only [← apply_ite Except.ok]
  exact ⟨_, rfl⟩

/-- With the values of the branches forgotten (`Except.isOk`) the ladder is a Boolean: it succeeds
    iff one of its string tests does, and these are, up to order, the setter's membership test. -/
theorem ohA_ok {area : String} (h : Gen.ohAreaAccepted area) (fc hms : ℝ) :
    ∃ a, Gen.ohA area fc hms = .ok a := by
  refine ok_of_isOk ?_
  simp only [Gen.ohA, apply_ite Except.isOk]
  simp only [Except.isOk, Except.toBool, ite_self]
  revert h
  simp only [Gen.ohAreaAccepted, Bool.not_not, List.contains_cons, List.contains_nil, Bool.if_true_left,
    Bool.if_false_right, Bool.and_true, Bool.decide_eq_true, Bool.or_comm, Bool.or_left_comm, imp_self]

theorem oh_queries {s : OhState ℝ} (hs : OhInv s) :
    ∃ a K, s.dbScalar = scalarDb s.small (s.detDb a K) ∧ s.dbArray = arrayDb s.small (s.detDb a K) := by
  obtain ⟨a, ha⟩ := ohA_ok hs.2.2.2 s.fc s.hms
  obtain ⟨K, hK⟩ := ohK_ok s.area s.fc
  exact ⟨a, K, funext fun d => by simp only [OhState.dbScalar, ha, hK],
    funext fun ds => by simp only [OhState.dbArray, ha, hK]⟩

theorem minimum_real (a b : ℝ) : minimum a b = min a b := by
  unfold minimum
  split_ifs with h
  · exact (min_eq_right h.le).symm
  · exact (min_eq_left (not_lt.1 h)).symm

/-- attenuation in dB at `x` degrees off boresight -/
noncomputable def antAtt (t am x : ℝ) : ℝ := min (12 * (x / t) ^ 2) am

theorem antGain_eq (g t am x : ℝ) :
    Gen.antGain g t am x = g * Gen.dB2Linear (-antAtt t am x) := by
  -- `sq` is the model's `C13.sq x = x * x`, unfolded and then written `x ^ 2`
  simp only [Gen.antGain, minimum_real, sq, Nat.cast_ofNat, ← pow_two, antAtt]

theorem gain_anti {g : ℝ} (hg : 0 ≤ g) {m₁ m₂ : ℝ} (h : m₁ ≤ m₂) :
    g * Gen.dB2Linear (-m₂) ≤ g * Gen.dB2Linear (-m₁) :=
  mul_le_mul_of_nonneg_left (dB2Linear_mono (neg_le_neg h)) hg

theorem antAtt_zero (t : ℝ) {am : ℝ} (ham : 0 ≤ am) : antAtt t am 0 = 0 := by
  rw [antAtt, zero_div, zero_pow two_ne_zero, mul_zero, min_eq_left ham]

theorem antAtt_mono_abs (t am : ℝ) {x y : ℝ} (h : |x| ≤ |y|) : antAtt t am x ≤ antAtt t am y := by
  refine min_le_min (mul_le_mul_of_nonneg_left ?_ (by norm_num)) le_rfl
  rw [div_pow, div_pow]
  exact div_le_div_of_nonneg_right (sq_le_sq.2 h) (sq_nonneg t)

theorem antAtt_neg (t am x : ℝ) : antAtt t am (-x) = antAtt t am x :=
  le_antisymm (antAtt_mono_abs t am (abs_neg x).le) (antAtt_mono_abs t am (abs_neg x).ge)

/-- the sector pattern for ANY peak gain `g ≥ 0`, floor `am ≥ 0` and beam width `t`: the gain is
    `g` times an antitone function of the attenuation, so each clause is a fact about `antAtt`
    (the peak is the case `|0| ≤ |x|`, the symmetry the case `|-x| = |x|` of monotonicity in `|angle|`) -/
theorem antGain_profile {g am : ℝ} (hg : 0 ≤ g) (ham : 0 ≤ am) (t x y : ℝ) :
    Gen.antGain g t am 0 = g ∧ Gen.antGain g t am x ≤ Gen.antGain g t am 0 ∧
    Gen.antGain g t am (-x) = Gen.antGain g t am x ∧
    (|x| ≤ |y| → Gen.antGain g t am y ≤ Gen.antGain g t am x) ∧
    g * (10 : ℝ) ^ (-am / 10) ≤ Gen.antGain g t am x ∧
    (am ≤ 12 * (x / t) ^ 2 → Gen.antGain g t am x = g * (10 : ℝ) ^ (-am / 10)) := by
  simp only [antGain_eq, ← dB2Linear_real, antAtt_neg]
  refine ⟨?_, gain_anti hg (antAtt_mono_abs _ _ (abs_zero.trans_le (abs_nonneg x))), trivial,
    fun hxy => gain_anti hg (antAtt_mono_abs _ _ hxy), gain_anti hg (min_le_right ..),
    fun hx => ?_⟩
  · rw [antAtt_zero _ ham, neg_zero, dB2Linear_real, zero_div, Real.rpow_zero, mul_one]
  · rw [antAtt, min_eq_right hx]

theorem antNew_eq (k : ℕ) :
    (antNew k : Except PyErr (Ant ℝ)) =
      if k = 3 then .ok ⟨70, 20, Gen.dB2Linear 14⟩
      else if k = 6 then .ok ⟨35, 23, Gen.dB2Linear 17⟩ else .error .ValueError := by
  simp only [antNew, Gen.antParams, beq_iff_eq, (sci_int 70 : (70.0 : ℝ) = 70),
    (sci_int 20 : (20.0 : ℝ) = 20), (sci_int 14 : (14.0 : ℝ) = 14), (sci_int 35 : (35.0 : ℝ) = 35),
    (sci_int 23 : (23.0 : ℝ) = 23), (sci_int 17 : (17.0 : ℝ) = 17)]
  split_ifs <;> rfl

theorem antNew_pos {k : ℕ} {a : Ant ℝ} (h : antNew k = .ok a) : 0 < a.gain0 ∧ 0 < a.am := by
  rw [antNew_eq] at h
  split_ifs at h <;> cases h <;> exact ⟨dB2Linear_pos _, by norm_num⟩

theorem callerRun_cons (c : CallerState ℝ) (o : CallerOp ℝ) (ops : List (CallerOp ℝ)) :
    callerRun c (o :: ops) = callerRun (callerStep c o) ops := rfl

theorem callerRun_append (c : CallerState ℝ) (a b : List (CallerOp ℝ)) :
    callerRun c (a ++ b) = callerRun (callerRun c a) b :=
  List.foldl_append ..

theorem callerRun_obj (c : CallerState ℝ) (ops : List (CallerOp ℝ)) :
    (callerRun c ops).obj = fsRun c.obj (ops.filterMap CallerOp.setter?) := by
  induction ops generalizing c with
  | nil => rfl
  | cons o rest ih =>
    rw [callerRun_cons, ih]
    cases o <;> rfl

theorem callerStep_outs_prefix (c : CallerState ℝ) (o : CallerOp ℝ) :
    c.outs <+: (callerStep c o).outs := by
  cases o
  exacts [List.prefix_rfl, List.prefix_rfl, List.prefix_append .., List.prefix_append ..,
    List.prefix_append ..]

end PyPhysim.C13
