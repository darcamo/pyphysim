import PyPhysim.Proofs.C07Power
import PyPhysim.Proofs.C07Resume
import PyPhysim.Generated.C07SaveRule

/-!
# C07 — a simulation stopped at any point resumes without losing or double counting work

Property theorems, witnesses and worked examples.  Everything is about the model `PyPhysim.Model.C07` (the
C05 runner machine + a durable store + the trace of everything a crash can
separate), tied to `runner.py` / `results.py` by the fault enumeration of
`harness/props/c07.py` and by `Generated/C07SaveRule.lean`, which is re-emitted
from the source on every run (save-rule constants and the file-system steps of
`_save_to_pickle` / `_save_to_json`).  The power-loss theorems (`atomic_protocol_power_safe` …
`fsync_after_rename_not_power_safe`) are about `PyPhysim.Model.C07Power`, the same files with durability.

Quantification: every results type `R`, every merge operation (no law assumed),
every tag type `T` (the parameters of a variation), every `rep_max`, every
`_keep_going`, every number of variations, every save period / time threshold,
every stream of call durations (i.e. every save schedule the rule can produce),
every outcome stream of the interrupted run, **every crash point** (`pre <+: trace`:
any prefix of the trace — inside any repetition, between any two file-system
steps of any save, partial or final), every starting disk, every outcome stream
and schedule of the restart.

Vocabulary: `simC cfg d clock outs` = one `simulate()` on disk `d`; its `trace`;
`d.applyAll pre` = the disk after the events `pre` happened (the crash disk);
`CrashSpec` (Proofs/C07Run) = shape of the partial-results files after a crash;
`Merged` (Proofs/C07Resume) = per variation, final state of the restart = one-go
run over (saved prefix of the crashed run's outcomes) ++ (the restart's outcomes);
`LoadsOk cfg d i` (Proofs/C07Loop) = loading variation `i` from `d` does not raise;
`Reach cfg d` (Proofs/C07Sim) = `d` is left by any number of runs, each killed at an arbitrary
point, starting from the empty folder; `Durable cfg i f` (Proofs/C07Sim) = the file `f` is missing or
complete, holding the merge and count of some sequence of calls, tagged for variation `i`;
`IsVarRun`, `RunsSpec`, `stateOf`, `logOf` = the C05 specification vocabulary.
-/
namespace PyPhysim.C07

open PyPhysim.C05 (Outcome VarState guard after stateOf IsVarRun RunsSpec logOf oks)

variable {R T : Type} [DecidableEq T]

omit [DecidableEq T] in
/-- **Tie to the source (regenerated on every run).**  The file-system steps that
    `_save_to_pickle` / `_save_to_json` perform in the current source are those of
    the `atomic` discipline (open temp file, write, flush, fsync, close, `os.replace` — in
    this order; dropping `flush` or `fsync` or moving them changes the generated list), and the save rule of
    `save_partial_results_maybe` is the model's `Cfg.due` with the constants of the
    source.  If the source goes back to writing in place this stops compiling. -/
theorem generated_save_matches_model {C : Type} (c : C) (cfg : Cfg R T)
    (hp : cfg.period = Generated.C07.savePeriodReps) (hs : cfg.secs = Generated.C07.savePeriodSecs) :
    Generated.C07.savePickleOps c = saveOps .atomic c ∧
    Generated.C07.saveJsonOps c = saveOps .atomic c ∧
    ∀ clk rep, cfg.due clk rep = Generated.C07.dueSave clk.since rep := by
  refine ⟨rfl, rfl, ?_⟩
  intro clk rep
  simp [Cfg.due, Generated.C07.dueSave, hp, hs]

/-- **The C07 machine is the C05 machine plus a store.**  A `simulate()` that
    returns normally split the outcome stream into one complete C05 run per variation
    `0 … n-1`, each started from what `load_partial_results` gave it; results,
    `runned_reps` and the call log are those of these runs; afterwards the
    partial-results file of every variation holds its final state (either write
    discipline).  Periodic saves and the clock influence none of this. -/
theorem simulate_spec (cfg : Cfg R T) (d : Disk R T) (c : Clock) (outs : List (Outcome R))
    (h : (simC cfg d c outs).status = none) :
    ∃ segs sts, RunsSpec cfg.base (startOf cfg d) (List.range cfg.nvar) segs sts ∧
      outs = segs.flatten ++ (simC cfg d c outs).rest ∧
      (simC cfg d c outs).results = sts.map VarState.stored ∧
      (simC cfg d c outs).reps = sts.map (·.rep) ∧
      callLog (simC cfg d c outs).trace = logOf (List.range cfg.nvar) segs ∧
      ∀ j st, (j, st) ∈ (List.range cfg.nvar).zip sts →
        ((d.applyAll (simC cfg d c outs).trace).part j).main = .valid (partOf cfg j st) := by
  obtain ⟨f1, f2, f3, f4⟩ := simC_fields cfg d c outs
  rw [f4] at h
  obtain ⟨segs, sts, t1, t2, t3, t4, t5, t6⟩ :=
    (simVarsC_ran cfg (List.range cfg.nvar) d c outs List.nodup_range).spec.2 h
  rw [f1, f2, f3, simC_callLog, simC_trace_of_none cfg d c outs h]
  refine ⟨segs, sts, t1, t2, t3, t4, t5, fun j st hj => ?_⟩
  rw [finEvs, part_append_fin d _ (List.prefix_refl _) j]
  exact t6 j st hj

/-- **The final results file.**  A `simulate()` that returns normally leaves the
    final results file complete, holding exactly the returned results and
    `runned_reps` (either write discipline; `.pickle` and `.json` targets go through
    the same steps, see `generated_save_matches_model`). -/
theorem final_results_file_written (cfg : Cfg R T) (d : Disk R T) (c : Clock) (outs : List (Outcome R))
    (h : (simC cfg d c outs).status = none) :
    (d.applyAll (simC cfg d c outs).trace).fin.main
      = .valid ⟨(simC cfg d c outs).results, (simC cfg d c outs).reps⟩ := by
  obtain ⟨f1, f2, _, f4⟩ := simC_fields cfg d c outs
  rw [f4] at h
  rw [simC_trace_of_none cfg d c outs h, f1, f2]
  rw [Disk.applyAll_append, Disk.applyAll_fin _ (finEvs cfg _ _), finEvs, finOps_map_fin,
    Slot.applyAll_saveOps_main]

/-- **Every reachable disk is a legal starting point for `resume_exact`**: on a disk
    left behind by any number of interrupted runs (atomic discipline) every variation
    loads without raising — so `resume_exact` applies to the LAST of any number of
    interruptions as well. -/
theorem reachable_disks_load (cfg : Cfg R T) (hmode : cfg.mode = .atomic) (d : Disk R T)
    (h : Reach cfg d) (i : Nat) : LoadsOk cfg d i :=
  (Reach.durable cfg hmode d h i).loadsOk

/-- **A single-variation run (`simulate(i)`) is the same machine restricted to `[i]`.**
    Interrupted at ANY point it leaves the file of `i` as `CrashSpec` says (old file, or
    the merge of a prefix of its outcomes) and touches no other partial file and not the
    final results file; when it returns normally the consumed outcomes are one complete
    C05 run of variation `i` from what was loaded and the partial file holds exactly its
    final state — which is what a later `simulate()` (or a later `simulate(i)`) loads, so
    running the variations one call at a time and then `simulate()` is covered by
    `resume_exact` / `completed_variation_not_rerun`. -/
theorem single_variation_run (cfg : Cfg R T) (i : Nat) (hi : i < cfg.nvar) (d : Disk R T) (c : Clock)
    (outs : List (Outcome R)) :
    (∀ pre, pre <+: (simSingleC cfg i d c outs).trace →
      (∃ segs, segs.flatten <+: outs ∧
        CrashSpec cfg (startOf cfg d) (fun j => (d.part j).main)
          (fun j => ((d.applyAll pre).part j).main) [i] segs) ∧
      (∀ j, j ≠ i → (d.applyAll pre).part j = d.part j) ∧ (d.applyAll pre).fin = d.fin) ∧
    ((simSingleC cfg i d c outs).status = none →
      ∃ seg st, IsVarRun cfg.merge cfg.repMax (cfg.keep i) (startOf cfg d i) seg st ∧
        outs = seg ++ (simSingleC cfg i d c outs).rest ∧
        callLog (simSingleC cfg i d c outs).trace = List.replicate seg.length i ∧
        ((d.applyAll (simSingleC cfg i d c outs).trace).part i).main = .valid (partOf cfg i st) ∧
        startOf cfg (d.applyAll (simSingleC cfg i d c outs).trace) i = some (st.acc, st.rep)) := by
  have hran := simVarsC_ran cfg [i] d c outs (List.pairwise_singleton _ i)
  simp only [simSingleC, hi, if_true]
  refine ⟨fun pre hp => ?_, fun hst => ?_⟩
  · have o3 := (simVarsC_onlyVars cfg [i] d c outs).prefix hp
    exact ⟨hran.crash pre hp _ fun _ _ => rfl, fun j hj => o3.part_notMem (mt List.mem_singleton.mp hj) d,
      o3.fin_eq d⟩
  · obtain ⟨segs, sts, t1, t2, -, -, t5, t6⟩ := hran.spec.2 hst
    obtain ⟨l1, l2⟩ := C05.RunsSpec_lengths cfg.base _ [i] segs sts t1
    obtain ⟨seg, rfl⟩ : ∃ seg, segs = [seg] := List.length_eq_one_iff.mp l1
    obtain ⟨st, rfl⟩ : ∃ st, sts = [st] := List.length_eq_one_iff.mp l2
    have hmain := t6 i st List.mem_cons_self
    exact ⟨seg, st, t1.1, t2.trans (congrArg (· ++ _) List.flatten_singleton), t5.trans (List.append_nil _), hmain,
      startOf_valid cfg _ i st hmain⟩

/-- **`crash_never_worse` (atomic discipline).**  After ANY crash point every
    partial-results file is what it was before the run, or a complete file holding
    the state the variation had after some of its outcomes — never a damaged file;
    the same for the final results file. -/
theorem crash_never_worse (cfg : Cfg R T) (hmode : cfg.mode = .atomic) (d : Disk R T) (c : Clock)
    (outs : List (Outcome R)) (pre : List (Ev R T)) (hp : pre <+: (simC cfg d c outs).trace) :
    (∀ i, ((d.applyAll pre).part i).main = (d.part i).main ∨
      ∃ p s, stateOf cfg.merge (startOf cfg d i) p = some s ∧
        ((d.applyAll pre).part i).main = .valid (partOf cfg i s)) ∧
    ((d.applyAll pre).fin.main = d.fin.main ∨ ∃ full, (d.applyAll pre).fin.main = .valid full) := by
  obtain ⟨⟨segs, _, g2⟩, g3⟩ := simC_crash cfg d c outs pre hp
  refine ⟨?_, ?_⟩
  · intro i
    by_cases hi : i ∈ List.range cfg.nvar
    · rcases CrashSpec.pointwise cfg _ _ _ _ segs g2 i hi with h | ⟨hm, _⟩ | h
      · left; exact h
      · rw [hmode] at hm; cases hm
      · right; exact h
    · left; exact g3 i hi
  · rw [Disk.applyAll_fin]
    have hat := ((simC_allAtomic cfg d c outs hmode).prefix hp).finOps
    rcases Slot.atomic_main d.fin (finOps pre) hat with h | ⟨x, _, h⟩
    · left; exact h
    · right; exact ⟨x, h⟩

/-- **`saved_is_prefix_merge` for one interrupted run (either discipline).**  After
    any crash point the partial-results files have the shape `CrashSpec`: there are
    disjoint consecutive segments of the outcome stream, one per variation, such that
    every variation before the interrupted one completed and its file holds its final
    state, the file of the interrupted one is the old file or holds the state after a
    PREFIX of its segment reached while the guard allowed every step (or is torn —
    in-place discipline only), and no later file was touched; indices that are not
    variations are untouched. -/
theorem saved_is_prefix_merge_run (cfg : Cfg R T) (d : Disk R T) (c : Clock) (outs : List (Outcome R))
    (pre : List (Ev R T)) (hp : pre <+: (simC cfg d c outs).trace) :
    (∃ segs, segs.flatten <+: outs ∧
      CrashSpec cfg (startOf cfg d) (fun j => (d.part j).main)
        (fun j => ((d.applyAll pre).part j).main) (List.range cfg.nvar) segs) ∧
    ∀ j, j ∉ List.range cfg.nvar → ((d.applyAll pre).part j).main = (d.part j).main :=
  simC_crash cfg d c outs pre hp

/-- **`saved_is_prefix_merge` (invariant, atomic discipline).**  On every disk that
    any number of runs, each interrupted at an arbitrary point, can leave behind
    starting from an empty folder, every partial-results file is missing or is a
    complete file whose results are the merge, and whose `current_rep` is the number,
    of the successful outcomes of one sequence of `_run_simulation` calls, tagged
    with the parameters of its own variation. -/
theorem saved_is_prefix_merge (cfg : Cfg R T) (hmode : cfg.mode = .atomic) (d : Disk R T)
    (h : Reach cfg d) (i : Nat) : Durable cfg i (d.part i).main :=
  Reach.durable cfg hmode d h i

/-- **`resume_exact` (atomic discipline).**  Take any disk `d0` on which every
    variation loads, ANY crash point `pre` of a run with ANY outcome stream and
    schedule, and restart with the same parameters (`cfg2`: same tags, same merge,
    same number of variations; `rep_max`, `_keep_going`, schedule may differ) on the
    crash disk with ANY outcome stream and schedule.  Then the restart never raises
    (it can only run out of scripted outcomes, having consumed them all), and when
    it returns normally there are disjoint segments `segs1` of the first stream and
    `segs2` of the second, one per variation, such that (`Merged`) for every
    variation the final merged result and repetition count are those of ONE run over
    `p ++ seg2` started as the interrupted run started, where `p` is a prefix of the
    variation's own segment of the interrupted run (what was durably saved) and
    `seg2` is what the restart executed for it: nothing lost, nothing counted twice,
    nothing taken from another variation; the guard is false at the end (limit or
    stop rule reached); the restart's calls are exactly `|seg2|` per variation, in
    order. -/
theorem resume_exact (cfg cfg2 : Cfg R T) (hmode : cfg.mode = .atomic)
    (htag : ∀ i, cfg2.tag i = cfg.tag i) (hmerge : cfg2.merge = cfg.merge) (hn : cfg2.nvar = cfg.nvar)
    (d0 : Disk R T) (hclean : ∀ i, i < cfg.nvar → LoadsOk cfg d0 i)
    (c1 : Clock) (outs1 : List (Outcome R)) (pre : List (Ev R T))
    (hp : pre <+: (simC cfg d0 c1 outs1).trace) (c2 : Clock) (outs2 : List (Outcome R))
    (e2 : RunEnd R T) (he : e2 = simC cfg2 (d0.applyAll pre) c2 outs2) :
    (e2.status = none ∨ e2.status = some .Exhausted) ∧
    (e2.status = some .Exhausted → e2.rest = []) ∧
    (e2.status = none →
      ∃ segs1 segs2 sts, segs1.flatten <+: outs1 ∧ outs2 = segs2.flatten ++ e2.rest ∧
        e2.results = sts.map VarState.stored ∧ e2.reps = sts.map (·.rep) ∧
        callLog e2.trace = logOf (List.range cfg.nvar) segs2 ∧
        Merged cfg cfg2 (startOf cfg d0) (List.range cfg.nvar) segs1 segs2 sts) := by
  obtain ⟨r1, r2⟩ := simC_resume cfg cfg2 hmode htag hn d0 hclean c1 outs1 pre hp c2 outs2 e2 he
  subst he
  refine ⟨r1, ?_, ?_⟩
  · intro hex
    obtain ⟨_, _, f3, f4⟩ := simC_fields cfg2 (d0.applyAll pre) c2 outs2
    rw [f3]; rw [f4] at hex
    exact (simVarsC_ran cfg2 _ _ c2 outs2 List.nodup_range).exhausted hex
  · intro hst
    obtain ⟨segs1, segs2, sts, g1, g2, g3, g4, g5, g6, g7⟩ := r2 hst
    exact ⟨segs1, segs2, sts, g1, g2, g3, g4, g5,
      Merged.of cfg cfg2 hmerge _ _ _ segs1 segs2 sts g7 g6⟩

/-- **The restart completes.**  In the situation of `resume_exact`: if the restart's
    outcome stream contains at least `n · max(1, rep_max)` successful outcomes (the
    user's `_run_simulation` does not skip for ever), the restart returns normally —
    whatever the crash point, whatever was saved, whatever the stop rule and the
    schedule.  (Together with `resume_exact`: `Exhausted` is the only other ending,
    and only after the whole stream was consumed.) -/
theorem resume_completes (cfg cfg2 : Cfg R T) (hmode : cfg.mode = .atomic)
    (htag : ∀ i, cfg2.tag i = cfg.tag i) (hn : cfg2.nvar = cfg.nvar)
    (d0 : Disk R T) (hclean : ∀ i, i < cfg.nvar → LoadsOk cfg d0 i)
    (c1 : Clock) (outs1 : List (Outcome R)) (pre : List (Ev R T))
    (hp : pre <+: (simC cfg d0 c1 outs1).trace) (c2 : Clock) (outs2 : List (Outcome R))
    (hlen : cfg.nvar * max 1 cfg2.repMax ≤ (oks outs2).length) :
    (simC cfg2 (d0.applyAll pre) c2 outs2).status = none := by
  obtain ⟨_, _, _, r2⟩ := simC_crash_resumed cfg cfg2 hmode htag d0 hclean c1 outs1 pre hp
  rw [(simC_fields cfg2 _ c2 outs2).2.2.2, hn]
  exact (simVarsC_ran cfg2 _ _ c2 outs2 List.nodup_range).completes r2 (by rwa [List.length_range])

/-- **Exactly the requested number of repetitions.**  In the situation of
    `resume_exact`, with the default `_keep_going` in the restart, `rep_max ≥ 1`, a
    restart limit not below the one of the interrupted run, and a starting disk whose
    files did not exceed the limit (e.g. the empty folder): a restart that returns
    normally reports exactly `rep_max` repetitions for EVERY variation. -/
theorem resume_exact_count (cfg cfg2 : Cfg R T) (hmode : cfg.mode = .atomic)
    (htag : ∀ i, cfg2.tag i = cfg.tag i) (hmerge : cfg2.merge = cfg.merge) (hn : cfg2.nvar = cfg.nvar)
    (hkeep : ∀ i a k r, cfg2.keep i a k r = true) (hmax : 1 ≤ cfg.repMax) (hle : cfg.repMax ≤ cfg2.repMax)
    (d0 : Disk R T) (hclean : ∀ i, i < cfg.nvar → LoadsOk cfg d0 i)
    (hstart : ∀ i, i < cfg.nvar → ∀ a n, startOf cfg d0 i = some (a, n) → n ≤ cfg.repMax)
    (c1 : Clock) (outs1 : List (Outcome R)) (pre : List (Ev R T))
    (hp : pre <+: (simC cfg d0 c1 outs1).trace) (c2 : Clock) (outs2 : List (Outcome R))
    (h : (simC cfg2 (d0.applyAll pre) c2 outs2).status = none) :
    (simC cfg2 (d0.applyAll pre) c2 outs2).reps = List.replicate cfg.nvar cfg2.repMax := by
  obtain ⟨_, r2⟩ := simC_resume cfg cfg2 hmode htag hn d0 hclean c1 outs1 pre hp c2 outs2 _ rfl
  obtain ⟨segs1, segs2, sts, _, _, _, g4, _, g6, g7⟩ := r2 h
  rw [g4, Resumed.reps_exact cfg cfg2 hkeep hmax hle _ _ _ segs1 segs2 sts
    (fun i hi => hstart i (List.mem_range.mp hi)) g7 g6]
  simp [List.map_const']

/-- **Started from scratch, interrupted anywhere, restarted with the same
    configuration**: exactly `rep_max` repetitions per variation. -/
theorem resume_from_scratch_exact_count (cfg : Cfg R T) (hmode : cfg.mode = .atomic)
    (hkeep : ∀ i a k r, cfg.keep i a k r = true) (hmax : 1 ≤ cfg.repMax)
    (c1 : Clock) (outs1 : List (Outcome R)) (pre : List (Ev R T))
    (hp : pre <+: (simC cfg Disk.empty c1 outs1).trace) (c2 : Clock) (outs2 : List (Outcome R))
    (h : (simC cfg (Disk.empty.applyAll pre) c2 outs2).status = none) :
    (simC cfg (Disk.empty.applyAll pre) c2 outs2).reps = List.replicate cfg.nvar cfg.repMax :=
  resume_exact_count cfg cfg hmode (fun _ => rfl) rfl rfl hkeep hmax (Nat.le_refl _) Disk.empty
    (fun i _ e => by simp [loadPart, Disk.empty])
    (fun i _ a n hs => by simp [startOf, loadPart, Disk.empty] at hs) c1 outs1 pre hp c2 outs2 h

/-- **Any number of interruptions.**  On every disk reachable by interrupted runs
    (atomic discipline) a restart never raises: an interruption never leaves behind
    a file that makes the restart fail. -/
theorem restart_never_fails (cfg : Cfg R T) (hmode : cfg.mode = .atomic) (d : Disk R T)
    (h : Reach cfg d) (c : Clock) (outs : List (Outcome R)) :
    (simC cfg d c outs).status = none ∨ (simC cfg d c outs).status = some .Exhausted := by
  rw [(simC_fields cfg d c outs).2.2.2]
  exact (simVarsC_ran cfg (List.range cfg.nvar) d c outs List.nodup_range).spec.1
    fun i _ => (Reach.durable cfg hmode d h i).loadsOk

/-- **No variation that had reached the limit is executed again.**  In a run that
    returns normally, a variation whose loaded partial results already hold
    `rep_max` (or more) repetitions receives no `_run_simulation` call. -/
theorem completed_variation_not_rerun (cfg : Cfg R T) (d : Disk R T) (c : Clock) (outs : List (Outcome R))
    (h : (simC cfg d c outs).status = none) (i : Nat) (a : R) (n : Nat)
    (hs : startOf cfg d i = some (a, n)) (hn : cfg.repMax ≤ n) :
    Ev.call i ∉ (simC cfg d c outs).trace := by
  rw [(simC_fields cfg d c outs).2.2.2] at h
  rw [simC_trace_of_none cfg d c outs h]
  intro hmem
  rcases List.mem_append.mp hmem with hmem | hmem
  · exact (simVarsC_ran cfg _ d c outs List.nodup_range).not_rerun h hs hn hmem
  · obtain ⟨_, _, hop⟩ := List.mem_map.mp hmem
    cases hop

/-- **Temp files and the final results file never influence a run**: two disks that
    hold the same partial-results files give the same run (same trace, results,
    status), whatever temp files lie around and whatever state the final file is in —
    so a leftover `.tmp` of a hard kill, or its removal by exception unwinding
    (`Disk.sweep`), or a half-written final file make no difference to a restart. -/
theorem restart_ignores_temp_files (cfg : Cfg R T) (d d' : Disk R T)
    (h : ∀ i, (d.part i).main = (d'.part i).main) (c : Clock) (outs : List (Outcome R)) :
    simC cfg d c outs = simC cfg d' c outs ∧ simC cfg d.sweep c outs = simC cfg d c outs :=
  ⟨simC_mainEq cfg d d' c outs h, simC_mainEq cfg _ _ c outs (MainEq.sweep d)⟩

/-- **`mismatch_refused`.**  If the partial-results file of a variation `j < n` was
    saved for other parameters (its tag differs), `simulate()` does not return
    normally, makes NO call for `j`, performs NO file-system step on `j`'s file (the
    store of `j` is unchanged — nothing is merged into it or over it), and whatever it
    raises is the load error of some variation (`ValueError` for foreign parameters)
    or `Exhausted`; if every other variation loads, it is `ValueError` (or the
    scripted stream ran out before `j` was reached). -/
theorem mismatch_refused (cfg : Cfg R T) (d : Disk R T) (c : Clock) (outs : List (Outcome R))
    (j : Nat) (hj : j < cfg.nvar) (x : Part R T) (hx : (d.part j).main = .valid x) (htag : x.tag ≠ cfg.tag j) :
    (simC cfg d c outs).status ≠ none ∧
    Ev.call j ∉ (simC cfg d c outs).trace ∧
    (d.applyAll (simC cfg d c outs).trace).part j = d.part j ∧
    (∀ e, (simC cfg d c outs).status = some e →
      e = .Exhausted ∨ ∃ k, k < cfg.nvar ∧ loadPart cfg d k = .error e) ∧
    ((∀ k, k < cfg.nvar → k ≠ j → LoadsOk cfg d k) →
      (simC cfg d c outs).status = some .ValueError ∨ (simC cfg d c outs).status = some .Exhausted) := by
  have hbad : loadPart cfg d j = .error .ValueError := by simp [loadPart, hx, htag]
  obtain ⟨a1, a2, a3, a4⟩ :=
    (simVarsC_ran cfg _ d c outs List.nodup_range).refused (List.mem_range.mpr hj) hbad
  rw [simC_of_some cfg d c outs a1]
  refine ⟨a1, a3, by rw [Disk.applyAll_part, a2]; rfl,
    fun e he => (a4 e he).imp_right fun ⟨k, hk, hk'⟩ => ⟨k, List.mem_range.mp hk, hk'⟩, fun hall => ?_⟩
  cases hs : (simVarsC cfg (List.range cfg.nvar) d c outs).status with
  | none => exact absurd hs a1
  | some e =>
    rcases a4 e hs with rfl | ⟨k, hk, hk'⟩
    · exact .inr rfl
    · by_cases hkj : k = j
      · subst hkj; rw [hbad] at hk'; cases hk'; exact .inl rfl
      · exact absurd hk' (hall k (List.mem_range.mp hk) hkj e)

/-- **A refused restart changes nothing (R4).**  If the partial results of the FIRST
    variation cannot be used (saved for other parameters: `ValueError`; unreadable:
    `LoadError`), `simulate()` raises that error having done nothing at all: no call,
    no file-system step, no result — so the folder is exactly as it was and a
    following restart with the right parameters behaves as if the refused one had
    never happened. -/
theorem refused_restart_changes_nothing (cfg cfgOk : Cfg R T) (d : Disk R T) (c c' : Clock)
    (outs outs' : List (Outcome R)) (hn : 0 < cfg.nvar) (e : Err) (h : loadPart cfg d 0 = .error e) :
    simC cfg d c outs = ⟨[], [], [], outs, c, some e⟩ ∧
    d.applyAll (simC cfg d c outs).trace = d ∧
    simC cfgOk (d.applyAll (simC cfg d c outs).trace) c' outs' = simC cfgOk d c' outs' := by
  have h1 : simC cfg d c outs = ⟨[], [], [], outs, c, some e⟩ := by
    obtain ⟨k, hk⟩ := Nat.exists_eq_add_one_of_ne_zero (Nat.ne_of_gt hn)
    unfold simC
    rw [hk, List.range_succ_eq_map]
    have hrun := runVarC_error cfg 0 d c outs e h
    rw [simVarsC_cons_error cfg 0 _ d c outs e (congrArg VarRun.res hrun), hrun]
  refine ⟨h1, ?_, ?_⟩ <;> rw [h1] <;> rfl

omit [DecidableEq T] in
/-- **The write protocol is power-loss safe.**  From a slot whose results file is
    missing or complete-and-durable, after ANY prefix of
    `[open tmp, write, flush, fsync, close, rename]` followed by a power loss (every file
    cut to what its last `fsync` made durable; performed renames persist) the file under
    the results name is the OLD complete file or the NEW complete file — and durable
    again.  Where each step is used: `flush` before `fsync` puts the data where `fsync`
    can see it (`no_flush_not_power_safe`), `fsync` before the rename makes it durable
    (`no_fsync_not_power_safe`), the rename comes after both
    (`fsync_after_rename_not_power_safe`). -/
theorem atomic_protocol_power_safe {C : Type} (s : PSlot C) (hs : s.Sound) (c : C) (q : List (SlotOp C))
    (hq : q <+: saveOps .atomic c) :
    ((s.applyAll q).powerLoss.view.main = s.view.main ∨ (s.applyAll q).powerLoss.view.main = .valid c) ∧
    (s.applyAll q).powerLoss.Sound := by
  obtain ⟨h2, h3⟩ := PSlot.block_prefix s hs c q hq
  refine ⟨?_, h3⟩
  rw [h2]
  have hat : ∀ op ∈ q, op.isAtomic = true := fun op hop => saveOps_atomic_isAtomic c op (hq.subset hop)
  rcases Slot.atomic_main s.view q hat with h | ⟨x, hx, h⟩
  · left; exact h
  · right
    obtain ⟨r, hr⟩ := hq
    have : x ∈ contents (saveOps .atomic c) := by rw [← hr, contents_append]; exact List.mem_append_left _ hx
    rw [contents_saveOps] at this
    rw [h, List.mem_singleton.mp this]

/-- **A power loss at any point of a run leaves what a process kill at that point
    leaves** (atomic protocol; starting disk sound, e.g. empty or left by earlier power
    losses): for EVERY prefix `pre` of the trace the results files after the power loss
    are those of the process-level crash disk `d.applyAll pre` — so `crash_never_worse`,
    `saved_is_prefix_merge_run`, `resume_exact`, `resume_exact_count`,
    `resume_completes` hold verbatim for power losses — and the disk is sound again
    (any number of power losses). -/
theorem power_loss_is_a_crash_point (cfg : Cfg R T) (hm : cfg.mode = .atomic) (pd : PDisk R T)
    (hs : pd.Sound) (c : Clock) (outs : List (Outcome R)) (pre : List (Ev R T))
    (hp : pre <+: (simC cfg pd.view c outs).trace) :
    (∀ i, (((pd.applyAll pre).powerLoss.view).part i).main = ((pd.view.applyAll pre).part i).main) ∧
    ((pd.applyAll pre).powerLoss.view).fin.main = (pd.view.applyAll pre).fin.main ∧
    (pd.applyAll pre).powerLoss.Sound ∧
    ∀ (cfg2 : Cfg R T) (c2 : Clock) (outs2 : List (Outcome R)),
      simC cfg2 (pd.applyAll pre).powerLoss.view c2 outs2 = simC cfg2 (pd.view.applyAll pre) c2 outs2 := by
  obtain ⟨hb1, hb2⟩ := simC_blocks cfg hm pd.view c outs
  have hpart := fun i => PSlot.blocks_prefix (hb1 i) _ (hs.1 i) _ (partOps_prefix i hp)
  have hfin := PSlot.blocks_prefix hb2 _ hs.2 _ (finOps_prefix hp)
  have h1 : ∀ i, (((pd.applyAll pre).powerLoss.view).part i).main = ((pd.view.applyAll pre).part i).main := by
    intro i
    show ((pd.applyAll pre).part i).powerLoss.view.main = _
    rw [PDisk.applyAll_part, Disk.applyAll_part]; exact (hpart i).1
  refine ⟨h1, ?_, ⟨fun i => ?_, ?_⟩, fun cfg2 c2 outs2 => simC_mainEq cfg2 _ _ c2 outs2 h1⟩
  · show (pd.applyAll pre).fin.powerLoss.view.main = _
    rw [PDisk.applyAll_fin, Disk.applyAll_fin]; exact hfin.1
  · show ((pd.applyAll pre).part i).powerLoss.Sound
    rw [PDisk.applyAll_part]; exact (hpart i).2
  · show (pd.applyAll pre).fin.powerLoss.Sound
    rw [PDisk.applyAll_fin]; exact hfin.2

/-- **Negative witness: `flush` dropped** (`fsync` then only sees what the OS already
    has — nothing): after the complete sequence the new file is under the results name
    but not durable; a power loss leaves it with zero length — neither the old nor the new
    file. -/
theorem no_flush_not_power_safe :
    ((⟨some ⟨none, some 1, some 1⟩, none⟩ : PSlot Nat).applyAll
      [.tmpOpen, .tmpWrite 2, .tmpFsync, .tmpClose, .rename 2]).powerLoss.view.main = .torn := rfl

/-- **Negative witness: `fsync` dropped.** -/
theorem no_fsync_not_power_safe :
    ((⟨some ⟨none, some 1, some 1⟩, none⟩ : PSlot Nat).applyAll
      [.tmpOpen, .tmpWrite 2, .tmpFlush, .tmpClose, .rename 2]).powerLoss.view.main = .torn := rfl

/-- **Negative witness: `fsync` moved after the rename.**  The complete sequence ends
    well, but a power loss between the rename and the `fsync` leaves a zero-length file. -/
theorem fsync_after_rename_not_power_safe :
    ((⟨some ⟨none, some 1, some 1⟩, none⟩ : PSlot Nat).applyAll
      [.tmpOpen, .tmpWrite 2, .tmpFlush, .tmpClose, .rename 2, .syncMain]).powerLoss.view.main = .valid 2 ∧
    ((⟨some ⟨none, some 1, some 1⟩, none⟩ : PSlot Nat).applyAll
      [.tmpOpen, .tmpWrite 2, .tmpFlush, .tmpClose, .rename 2]).powerLoss.view.main = .torn := ⟨rfl, rfl⟩

/-! ## The in-place discipline (the code before the `fix:` commit) -/

/-- the statement that fails for in-place writing: "after every crash point of a run
    started in an empty folder, a restart with the same configuration does not raise" -/
def RestartNeverRaises (cfg : Cfg Nat Nat) : Prop :=
  ∀ (outs1 outs2 : List (Outcome Nat)) (pre : List (Ev Nat Nat)),
    pre <+: (simC cfg Disk.empty ⟨0, []⟩ outs1).trace →
    (simC cfg (Disk.empty.applyAll pre) ⟨0, []⟩ outs2).status = none ∨
    (simC cfg (Disk.empty.applyAll pre) ⟨0, []⟩ outs2).status = some .Exhausted

/-- a one-variation configuration, `rep_max = 2`, default `_keep_going` -/
def witnessCfg (m : Mode) : Cfg Nat Nat := ⟨(· + ·), 2, 1, fun _ _ _ _ => true, fun _ => 7, 500, 300, m⟩

/-- **`torn_breaks_restart` (negative witness, in-place discipline).**  One variation,
    `rep_max = 2`: the run is killed right after `open(name, 'wb')` of the
    end-of-variation save (3 events: two calls, the truncation).  The file is torn
    and the restart raises `LoadError` (observed on the code before the fix:
    `EOFError` / `UnpicklingError`) — so the full statement is false for in-place
    writing, while it is a theorem (`restart_never_fails`) for the atomic discipline. -/
theorem torn_breaks_restart : ¬ RestartNeverRaises (witnessCfg .inPlace) := by
  intro h
  have := h [.ok 1, .ok 1] [.ok 1, .ok 1]
    ((simC (witnessCfg .inPlace) Disk.empty ⟨0, []⟩ [.ok 1, .ok 1]).trace.take 3) (List.take_prefix _ _)
  revert this
  decide +kernel

/-! ## Non-vacuity: the hypotheses are satisfiable by non-trivial values -/

/-- the witness configuration with atomic writing: the same crash point (after the
    temp file was opened) does no damage; the restart runs both repetitions again and
    reports exactly 2 -/
example :
    callLog ((simC (witnessCfg .atomic) Disk.empty ⟨0, []⟩ [.ok 1, .ok 1]).trace.take 3) = [0, 0] ∧
    (simC (witnessCfg .atomic) (Disk.empty.applyAll
        ((simC (witnessCfg .atomic) Disk.empty ⟨0, []⟩ [.ok 1, .ok 1]).trace.take 3))
      ⟨0, []⟩ [.ok 4, .ok 8, .ok 16]).status = none ∧
    (simC (witnessCfg .atomic) (Disk.empty.applyAll
        ((simC (witnessCfg .atomic) Disk.empty ⟨0, []⟩ [.ok 1, .ok 1]).trace.take 3))
      ⟨0, []⟩ [.ok 4, .ok 8, .ok 16]).reps = [2] ∧
    (simC (witnessCfg .atomic) (Disk.empty.applyAll
        ((simC (witnessCfg .atomic) Disk.empty ⟨0, []⟩ [.ok 1, .ok 1]).trace.take 3))
      ⟨0, []⟩ [.ok 4, .ok 8, .ok 16]).results.map (·.acc) = [12] := by
  decide +kernel

/-- a two-variation configuration, `rep_max = 3`, tags = variation index -/
def exampleCfg : Cfg Nat Nat := ⟨(· + ·), 3, 2, fun _ _ _ _ => true, fun i => i, 500, 300, .atomic⟩

/-- two variations, `rep_max = 3`, a skip, a time-triggered periodic save (a call of
    301 s): killed in the middle of variation 0 right after that save (9 events), the
    restart continues variation 0 from the saved 2 repetitions (tokens 1+2), runs only
    what is missing (one call), then variation 1; every token is counted once -/
example :
    (callLog ((simC exampleCfg Disk.empty ⟨0, [0, 0, 301]⟩ [.ok 1, .skip, .ok 2, .ok 4, .ok 8]).trace.take 9),
     (simC exampleCfg (Disk.empty.applyAll
        ((simC exampleCfg Disk.empty ⟨0, [0, 0, 301]⟩ [.ok 1, .skip, .ok 2, .ok 4, .ok 8]).trace.take 9))
        ⟨0, []⟩ [.ok 16, .ok 32, .ok 64, .ok 128, .ok 256]).status,
     callLog (simC exampleCfg (Disk.empty.applyAll
        ((simC exampleCfg Disk.empty ⟨0, [0, 0, 301]⟩ [.ok 1, .skip, .ok 2, .ok 4, .ok 8]).trace.take 9))
        ⟨0, []⟩ [.ok 16, .ok 32, .ok 64, .ok 128, .ok 256]).trace,
     (simC exampleCfg (Disk.empty.applyAll
        ((simC exampleCfg Disk.empty ⟨0, [0, 0, 301]⟩ [.ok 1, .skip, .ok 2, .ok 4, .ok 8]).trace.take 9))
        ⟨0, []⟩ [.ok 16, .ok 32, .ok 64, .ok 128, .ok 256]).reps,
     (simC exampleCfg (Disk.empty.applyAll
        ((simC exampleCfg Disk.empty ⟨0, [0, 0, 301]⟩ [.ok 1, .skip, .ok 2, .ok 4, .ok 8]).trace.take 9))
        ⟨0, []⟩ [.ok 16, .ok 32, .ok 64, .ok 128, .ok 256]).results.map (·.acc))
      = ([0, 0, 0], none, [0, 1, 1, 1], [3, 3], [1 + 2 + 16, 32 + 64 + 128]) := by
  decide +kernel

/-- a file saved for other parameters is refused with `ValueError`, without a call -/
example :
    ((simC (witnessCfg .atomic) ⟨fun _ => ⟨.valid ⟨⟨5, 0, 1⟩, 0⟩, false⟩, ⟨.absent, false⟩⟩ ⟨0, []⟩
        [.ok 1, .ok 1]).status,
     callLog (simC (witnessCfg .atomic) ⟨fun _ => ⟨.valid ⟨⟨5, 0, 1⟩, 0⟩, false⟩, ⟨.absent, false⟩⟩ ⟨0, []⟩
        [.ok 1, .ok 1]).trace)
      = (some .ValueError, []) := by
  decide +kernel

end PyPhysim.C07
