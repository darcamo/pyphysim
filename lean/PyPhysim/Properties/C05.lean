import PyPhysim.Proofs.C05Runner
import PyPhysim.Proofs.C05Params
import PyPhysim.Proofs.C05Result
import PyPhysim.Proofs.C05Exact
import PyPhysim.Proofs.C05Gen

/-!
# C05 — the Monte Carlo runner runs exactly the requested repetitions per variation

Property theorems only.  Everything is about the model `PyPhysim.Model.C05`
(tied to `runner.py`, `parameters.py`, `results.py` by the exact correspondence
of `harness/props/c05.py`).  Quantification: every results type `R`, every merge
operation (no law assumed), every `rep_max`, every `_keep_going` predicate of
(merged results, skip counter, repetition index) per variation, every loaded
start state, every outcome stream (finite list; running out of outcomes is the
explicit `exhausted` / `starved` case, i.e. non-termination of a real program
that skips for ever), every list of variations, every runner state.

Vocabulary (`Model/C05Spec.lean`): `IsVarRun … start seg st` — the segment `seg`
of the stream is exactly one complete run of a variation started from `start`
and ending in `st`: `st` is the fold of `seg`, the guard is false on `st` and was
true (or there was no result yet) after every proper prefix.

The labels R1 … R16 on theorems are the input classes of `/verif/DESIGN.md` (tables of §9.2b and §9.2d):
R4 a call that raises leaves the object unchanged, R15 distinct values that are merely close, R16 argument
identity and buffer reuse, and so on.
-/
namespace PyPhysim.C05

variable {R : Type}

/-- **Minimal prefix.**  A variation that ends normally consumed a prefix `seg` of
    the stream that is exactly one complete run: the final state is the fold of
    `seg`, the guard `keep ∧ rep < rep_max` is false there, and it held after every
    proper prefix — so the number of `_run_simulation` calls is the least `p` for
    which the guard fails after `p` outcomes.  Holds for fresh and resumed starts. -/
theorem run_consumes_minimal_prefix (merge : R → R → R) (repMax : Nat) (keep : Keep R)
    (start : Option (R × Nat)) (outs : List (Outcome R)) (e : VarEnd R)
    (h : runVariation merge repMax keep start outs = .done e) (hex : e.exhausted = false) :
    ∃ seg, outs = seg ++ e.rest ∧ IsVarRun merge repMax keep start seg e.st ∧
      e.st.calls = seg.length := by
  obtain ⟨seg, h1, h2⟩ := runVariation_isVarRun merge repMax keep start outs e h hex
  exact ⟨seg, h1, h2, stateOf_calls merge start seg e.st h2.1⟩

/-- **Stored result = merge of exactly the successful repetitions** (fresh variation):
    the consumed outcomes contain at least one success `r₁` and the result is
    `merge (… (merge r₁ r₂) …) rₖ` over the successes in order; the recorded count is
    `k`; the skip counter is the number of skips; every call is one or the other.
    (Also true when the stream ran out.) -/
theorem run_acc_is_merge (merge : R → R → R) (repMax : Nat) (keep : Keep R)
    (outs : List (Outcome R)) (e : VarEnd R)
    (h : runVariation merge repMax keep none outs = .done e) :
    ∃ seg r rs, outs = seg ++ e.rest ∧ oks seg = r :: rs ∧
      e.st.acc = rs.foldl merge r ∧
      e.st.rep = (oks seg).length ∧
      e.st.skipped = skips seg ∧
      e.st.calls = seg.length ∧
      e.st.rep + e.st.skipped = e.st.calls := by
  obtain ⟨seg, h1, h2, _, _, _⟩ := runVariation_done merge repMax keep none outs e h
  simp only [stateOf, freshState] at h2
  split at h2
  · simp at h2
  · rename_i r rs hoks
    simp only [Option.some.injEq] at h2
    refine ⟨seg, r, rs, h1, hoks, ?_⟩
    rw [← h2]
    exact ⟨rfl, rfl, rfl, rfl, oks_length_add_skips seg⟩

/-- The same for a variation resumed from loaded partial results `(a, n)`: the
    result is the loaded one merged with the new successes, the count is `n` plus
    their number, skips are not counted. -/
theorem run_resumed_acc_is_merge (merge : R → R → R) (repMax : Nat) (keep : Keep R)
    (a : R) (n : Nat) (outs : List (Outcome R)) (e : VarEnd R)
    (h : runVariation merge repMax keep (some (a, n)) outs = .done e) :
    ∃ seg, outs = seg ++ e.rest ∧
      e.st.acc = (oks seg).foldl merge a ∧
      e.st.rep = n + (oks seg).length ∧
      e.st.skipped = skips seg ∧
      e.st.calls = seg.length := by
  obtain ⟨seg, h1, h2, _, _, _⟩ := runVariation_done merge repMax keep (some (a, n)) outs e h
  simp only [stateOf, Option.some.injEq] at h2
  rw [← h2]
  exact ⟨seg, h1, rfl, rfl, Nat.zero_add _, Nat.zero_add _⟩

/-- **A skipped repetition is never counted**: inserting a skip anywhere in the
    consumed outcomes changes neither the merged result nor the repetition count of
    the fold that the run is proved equal to. -/
theorem skip_not_counted (merge : R → R → R) (s : VarState R) (p q : List (Outcome R)) :
    (after merge s (p ++ .skip :: q)).acc = (after merge s (p ++ q)).acc ∧
    (after merge s (p ++ .skip :: q)).rep = (after merge s (p ++ q)).rep ∧
    (after merge s (p ++ .skip :: q)).skipped = (after merge s (p ++ q)).skipped + 1 := by
  simp only [after, oks_append, skips_append, oks, skips]
  refine ⟨trivial, trivial, ?_⟩
  omega

/-- **Until the limit or the stop rule.**  A fresh variation with `rep_max ≥ 1` that
    ends normally has `rep ≤ rep_max`, and it stopped because the limit was reached
    or because `_keep_going` returned false on the merged results. -/
theorem run_stops_at_limit_or_rule (merge : R → R → R) (repMax : Nat) (keep : Keep R)
    (outs : List (Outcome R)) (e : VarEnd R) (hmax : 1 ≤ repMax)
    (h : runVariation merge repMax keep none outs = .done e) (hex : e.exhausted = false) :
    e.st.rep ≤ repMax ∧
    (e.st.rep = repMax ∨ keep e.st.acc e.st.skipped e.st.rep = false) := by
  obtain ⟨used, hs⟩ := runVariation_done merge repMax keep none outs e h
  have hle : e.st.rep ≤ repMax :=
    rep_le_of_running merge repMax keep none used e.st hs.running hs.final (fun _ _ h => nomatch h) hmax
  have hg := hs.stopped hex
  simp only [guard, Bool.and_eq_false_iff, decide_eq_false_iff_not] at hg
  exact ⟨hle, hg.symm.imp (fun hr => Nat.le_antisymm hle (Nat.not_lt.mp hr)) id⟩

/-- The only way a variation produces no result at all: it is fresh and every
    outcome of the stream was a skip (a program that skips for ever). -/
theorem starved_only_by_skips (merge : R → R → R) (repMax : Nat) (keep : Keep R)
    (start : Option (R × Nat)) (outs : List (Outcome R)) (c : Nat)
    (h : runVariation merge repMax keep start outs = .starved c) :
    start = none ∧ c = outs.length ∧ oks outs = [] := by
  cases start with
  | none =>
    obtain ⟨h1, h2⟩ := firstRun_starved merge repMax keep outs 0 c h
    exact ⟨rfl, h1.trans (Nat.zero_add _), h2⟩
  | some ar => cases h

/-- **Progress** (the hypotheses above are satisfiable for every stream that is long
    enough): a fresh variation whose stream contains at least `rep_max ≥ 1` successful
    outcomes ends normally — `rep_max` bounds the number of counted repetitions
    whatever `_keep_going` answers and however many skips are interleaved. -/
theorem run_terminates_within_limit (merge : R → R → R) (repMax : Nat) (keep : Keep R)
    (outs : List (Outcome R)) (hmax : 1 ≤ repMax) (hok : repMax ≤ (oks outs).length) :
    ∃ e, runVariation merge repMax keep none outs = .done e ∧ e.exhausted = false := by
  -- a run that does not end normally has consumed the whole stream and would go on
  have going : ∀ used, outs = used ++ [] → (stateOf merge none used = none ∨
      ∃ s, stateOf merge none used = some s ∧ guard repMax keep s = true) → False := fun used hu hgo => by
    have hlt := startRep_add_oks_lt hgo
    rw [← List.append_nil used, ← hu, Nat.max_eq_right hmax] at hlt
    exact Nat.lt_irrefl _ (Nat.lt_of_le_of_lt (Nat.le_trans hok (Nat.le_add_left _ _)) hlt)
  cases h : runVariation merge repMax keep none outs with
  | starved c =>
    refine (going outs (List.append_nil _).symm (.inl ?_)).elim
    rw [stateOf, freshState, (firstRun_starved merge repMax keep outs 0 c h).2]
  | done e =>
    refine ⟨e, rfl, ?_⟩
    cases hex : e.exhausted with
    | false => rfl
    | true =>
      obtain ⟨used, hs⟩ := runVariation_done merge repMax keep none outs e h
      exact (going used ((hs.ranOut hex).1 ▸ hs.split) (.inr ⟨_, hs.final, (hs.ranOut hex).2⟩)).elim

/-- **A skip in the first repetition is retried** (the code as repaired by
    `fix:` commit 7b4c01f; the code before it let `SkipThisOne` escape from `simulate()` here): after `k` leading skips the
    first success starts the variation with `rep = 1` and `k` recorded skips. -/
theorem first_rep_skip_retried (merge : R → R → R) (repMax : Nat) (keep : Keep R)
    (k : Nat) (r : R) (os : List (Outcome R)) :
    runVariation merge repMax keep none (List.replicate k .skip ++ .ok r :: os)
      = .done (loop merge repMax keep ⟨r, 1, k, k + 1⟩ os) := by
  simp only [runVariation]
  simpa using firstRun_skips_then_ok merge repMax keep r os k 0



/-- A resumed variation that had already reached the limit gets no further
    repetition: its complete run is the empty segment. -/
theorem completed_variation_not_rerun (merge : R → R → R) (repMax : Nat) (keep : Keep R)
    (a : R) (n : Nat) (seg : List (Outcome R)) (st : VarState R) (hn : repMax ≤ n)
    (h : IsVarRun merge repMax keep (some (a, n)) seg st) :
    seg = [] ∧ st = ⟨a, n, 0, 0⟩ :=
  isVarRun_at_limit merge repMax keep a n seg st hn h

/-- **Every combination, in the documented order, entry `i` belongs to combination
    `i`.**  A `simulate()` that returns normally split the consumed stream into one
    complete run per variation `0, 1, …, n-1` in that order (`RunsSpec`; the start of
    variation `i` is what was loaded for `i` before the call); the call log is
    `|seg₀|` calls to variation 0, then `|seg₁|` calls to variation 1, …; the stored
    result and the `runned_reps` entry at position `i` are those of run `i`;
    `results.runned_reps` is the same list; with a results file the partial file of
    variation `i` holds run `i`, without one nothing is written. -/
theorem simulate_all_spec (cfg : Cfg R) (r : Runner R) (outs : List (Outcome R))
    (h : (simulateAll cfg r outs).status = none) :
    ∃ segs sts, RunsSpec cfg r.load (List.range cfg.nvar) segs sts ∧
      outs = segs.flatten ++ (simulateAll cfg r outs).rest ∧
      (simulateAll cfg r outs).log = logOf (List.range cfg.nvar) segs ∧
      (simulateAll cfg r outs).runner.results = sts.map VarState.stored ∧
      (simulateAll cfg r outs).runner.reps = .list (sts.map (·.rep)) ∧
      (simulateAll cfg r outs).runner.resultsReps = some (.list (sts.map (·.rep))) ∧
      (r.file = true → ∀ j st, (j, st) ∈ (List.range cfg.nvar).zip sts →
          (simulateAll cfg r outs).runner.store.lookup j = some st.saved) ∧
      (r.file = false → (simulateAll cfg r outs).runner.store = r.store) := by
  rw [simulateAll_eq] at h ⊢
  obtain ⟨segs, sts, h1, h2, h3, h4, h5, _, h9, h10⟩ :=
    simVars_spec cfg (List.range cfg.nvar) r.clear outs List.nodup_range h
  have hreps := h5 [] rfl
  exact ⟨segs, sts, h1, h2, h3, h4.trans (List.nil_append _), hreps,
    by rw [show (simVars cfg (List.range cfg.nvar) r.clear outs).status = none from h]; exact congrArg some hreps,
    h9, h10⟩

/-- One stored result and one `runned_reps` entry per variation: after a completed
    `simulate()` both lists have exactly `n = Π lengths` entries (what the lookup
    theorems below assume). -/
theorem simulate_all_lengths (cfg : Cfg R) (r : Runner R) (outs : List (Outcome R))
    (h : (simulateAll cfg r outs).status = none) :
    (simulateAll cfg r outs).runner.results.length = cfg.nvar ∧
    ∃ l, (simulateAll cfg r outs).runner.reps = .list l ∧ l.length = cfg.nvar := by
  obtain ⟨segs, sts, h1, _, _, h4, h5, _⟩ := simulate_all_spec cfg r outs h
  have hl := (RunsSpec_lengths cfg _ _ segs sts h1).2
  rw [List.length_range] at hl
  exact ⟨by rw [h4, List.length_map, hl], _, h5, by rw [List.length_map, hl]⟩

/-- **Order of execution**: the log of a completed `simulate()` never goes back to
    an earlier variation and names only variations `< n`. -/
theorem simulate_all_order (cfg : Cfg R) (r : Runner R) (outs : List (Outcome R))
    (h : (simulateAll cfg r outs).status = none) :
    (simulateAll cfg r outs).log.Pairwise (· ≤ ·) ∧
    ∀ i ∈ (simulateAll cfg r outs).log, i < cfg.nvar := by
  obtain ⟨segs, sts, _, _, h3, _⟩ := simulate_all_spec cfg r outs h
  rw [h3]
  refine ⟨logOf_sorted _ segs List.pairwise_lt_range, ?_⟩
  intro i hi
  exact List.mem_range.mp (mem_logOf _ segs i hi)

/-- **Every combination is run**: without loaded partial results each of the `n`
    variations receives at least one `_run_simulation` call. -/
theorem simulate_all_runs_every_variation (cfg : Cfg R) (r : Runner R) (outs : List (Outcome R))
    (hf : r.file = false) (h : (simulateAll cfg r outs).status = none) :
    ∀ i, i < cfg.nvar → i ∈ (simulateAll cfg r outs).log := by
  obtain ⟨segs, sts, h1, _, h3, _⟩ := simulate_all_spec cfg r outs h
  intro i hi
  rw [h3]
  have h1' := RunsSpec_congr cfg _ (fun _ => none) _ segs sts (fun j _ => load_nofile r j hf) h1
  exact mem_logOf_of_ne_nil cfg _ _ segs sts h1' (RunsSpec_fresh_ne_nil cfg _ segs sts h1') i
    (List.mem_range.mpr hi)

/-- **Repeated `simulate()` starts from cleared results**: without a results file
    the outcome of `simulate()` does not depend on what the runner held before
    (results, `runned_reps`, even stale store contents): it equals the outcome on a
    brand-new runner. -/
theorem repeated_simulate_fresh (cfg : Cfg R) (r : Runner R) (outs : List (Outcome R))
    (hf : r.file = false) :
    (simulateAll cfg r outs).log = (simulateAll cfg (Runner.new false) outs).log ∧
    (simulateAll cfg r outs).rest = (simulateAll cfg (Runner.new false) outs).rest ∧
    (simulateAll cfg r outs).status = (simulateAll cfg (Runner.new false) outs).status ∧
    (simulateAll cfg r outs).runner.results = (simulateAll cfg (Runner.new false) outs).runner.results ∧
    (simulateAll cfg r outs).runner.reps = (simulateAll cfg (Runner.new false) outs).runner.reps ∧
    (simulateAll cfg r outs).runner.resultsReps
      = (simulateAll cfg (Runner.new false) outs).runner.resultsReps := by
  -- the two cleared runners differ in the store only, which a runner without a file ignores
  have hclear : r.clear = { (Runner.new false : Runner R).clear with store := r.store } := by
    rw [Runner.clear, hf]; rfl
  rw [simulateAll_eq, simulateAll_eq, hclear,
    simVars_nofile_store cfg _ (Runner.new false : Runner R).clear outs r.store rfl]
  exact ⟨rfl, rfl, rfl, rfl, rfl, rfl⟩

/-- **A single index runs only that variation.**  With a results file and
    `0 ≤ idx < n`, a call that returns normally consumed exactly one complete run of
    variation `idx` (started from its partial file, if any), every logged call went
    to `idx`, `runned_reps` is that run's count, nothing is appended to the results,
    the partial file of `idx` holds the run and no other file is touched. -/
theorem simulate_single_spec (cfg : Cfg R) (r : Runner R) (idx : Int) (outs : List (Outcome R))
    (hf : r.file = true) (h0 : 0 ≤ idx) (hn : idx.toNat < cfg.nvar)
    (h : (simulateSingle cfg r idx outs).status = none) :
    ∃ seg st, IsVarRun cfg.merge cfg.repMax (cfg.keep idx.toNat) (r.load idx.toNat) seg st ∧
      outs = seg ++ (simulateSingle cfg r idx outs).rest ∧
      (simulateSingle cfg r idx outs).log = List.replicate seg.length idx.toNat ∧
      (simulateSingle cfg r idx outs).runner.reps = .single st.rep ∧
      (simulateSingle cfg r idx outs).runner.results = [] ∧
      (simulateSingle cfg r idx outs).runner.store.lookup idx.toNat = some st.saved ∧
      ∀ j, j ≠ idx.toNat →
        (simulateSingle cfg r idx outs).runner.store.lookup j = r.store.lookup j := by
  rw [simulateSingle_eq cfg r idx outs hf h0 hn] at h ⊢
  obtain ⟨e, seg, heq, hseg, hrun, hcalls⟩ := oneVar_of_status_none h
  rw [heq]
  exact ⟨seg, e.st, hrun, hseg, congrArg (List.replicate · _) hcalls, rfl,
    (save_fields r.clear idx.toNat e.st).2.1,
    (lookup_save r.clear idx.toNat idx.toNat e.st).trans (if_pos ⟨hf, rfl⟩),
    fun j hj => (lookup_save r.clear idx.toNat j e.st).trans (if_neg (fun h => hj h.2))⟩

/-- An index outside `0 … n-1` runs nothing (and clears the results). -/
theorem simulate_single_out_of_range (cfg : Cfg R) (r : Runner R) (idx : Int)
    (outs : List (Outcome R)) (hf : r.file = true) (hout : ¬ (0 ≤ idx ∧ idx.toNat < cfg.nvar)) :
    (simulateSingle cfg r idx outs).log = [] ∧ (simulateSingle cfg r idx outs).rest = outs ∧
    (simulateSingle cfg r idx outs).runner = r.clear := by
  unfold simulateSingle
  simp [hf, hout]

/-- **A rejected call leaves the runner as it was** (R4): without a results file a
    single-variation call is refused before anything runs or is cleared — results,
    `runned_reps`, partial files and the stream are untouched. -/
theorem simulate_single_needs_file (cfg : Cfg R) (r : Runner R) (idx : Int)
    (outs : List (Outcome R)) (hf : r.file = false) :
    (simulateSingle cfg r idx outs).status = some .RuntimeError ∧
    (simulateSingle cfg r idx outs).log = [] ∧ (simulateSingle cfg r idx outs).rest = outs ∧
    (simulateSingle cfg r idx outs).runner = r := by
  unfold simulateSingle
  simp [hf]

/-- `get_num_unpacked_variations` = number of combinations = product of the lengths. -/
theorem num_variations_eq_prod {V : Type} (ps : List (Param V)) :
    (combos ps).length = prod (dimsOf ps) := by
  rw [dimsOf_eq]; exact length_product _

/-- **Unpack order.**  Combination `i` carries, for the `k`-th name in sorted order,
    the value at position `dₖ(i)` of that parameter, where `d(i)` is the mixed-radix
    expansion of `i` over the lengths (first sorted name most significant, last
    fastest). -/
theorem unpack_order {V : Type} (ps : List (Param V)) (i : Nat) (hi : i < prod (dimsOf ps)) :
    (combos ps)[i]? = pick ((sortParams ps).map (·.2)) (digits (dimsOf ps) i) := by
  rw [dimsOf_eq] at hi ⊢
  exact getElem?_product _ i hi

/-- The digits really are the mixed-radix expansion: each is below the length of
    its parameter and `Σ dₖ · Π_{j>k} len_j = i`. -/
theorem unpack_digits (dims : List Nat) (i : Nat) (hi : i < prod dims) :
    (digits dims i).length = dims.length ∧
    fromDigits dims (digits dims i) = i ∧
    ∀ (k d x : Nat), dims[k]? = some d → (digits dims i)[k]? = some x → x < d :=
  ⟨digits_length dims i, fromDigits_digits dims i hi, digits_lt dims i hi⟩

/-- The names are used in sorted order: `sortParams` is a permutation of the
    unpacked parameters whose names are non-decreasing. -/
theorem unpack_names_sorted {V : Type} (ps : List (Param V)) :
    (sortParams ps).Perm ps ∧ (sortParams ps).Pairwise (fun a b => a.1 ≤ b.1) :=
  ⟨sortParams_perm ps, sortParams_sorted ps⟩

/-- the full lookup statement (false for the current code when a value is listed
    twice, see `pack_indexes_dup_first`) -/
def PackIndexesStatement (V : Type) [BEq V] : Prop :=
  ∀ (ps : List (Param V)) (fixed : List (String × V)) (idx : List Nat),
    packIndexes ps fixed = .ok idx →
    idx = (List.range (prod (dimsOf ps))).filter (fun i =>
        match (combos ps)[i]? with
        | some c => comboMatches fixed (sortParams ps) c
        | none => false)

/-- **Lookup by fixed values returns precisely the matching combinations**, in
    increasing order, for duplicate-free value lists (the hypothesis the code needs,
    `pack_indexes_dup_first`): `i` is returned iff combination `i` carries every
    fixed value of an unpacked parameter. -/
theorem pack_indexes_spec_partial {V : Type} [BEq V] [LawfulBEq V] (ps : List (Param V))
    (fixed : List (String × V)) (idx : List Nat)
    (hnd : ∀ p ∈ ps, p.2.Nodup) (h : packIndexes ps fixed = .ok idx) :
    idx = (List.range (prod (dimsOf ps))).filter (fun i =>
        match (combos ps)[i]? with
        | some c => comboMatches fixed (sortParams ps) c
        | none => false) := by
  obtain ⟨sel, hs, rfl⟩ := exceptMap_eq_ok ((packIndexes_eq ps fixed).symm.trans h)
  have hsel := selectors_forall₂ fixed _ sel hs
  rw [dimsOf, slice_eq_filter hsel 0, ← dimsOf]
  refine (List.map_congr_left (fun i _ => Nat.zero_add i)).trans
    ((List.map_id' _).trans (List.filter_congr (fun i hi => ?_)))
  have hget := unpack_order ps i (List.mem_range.mp hi)
  cases hc : (combos ps)[i]? with
  | none =>
    rw [List.getElem?_eq_none_iff, num_variations_eq_prod] at hc
    exact absurd (List.mem_range.mp hi) (Nat.not_lt.mpr hc)
  | some c =>
    exact selMatch_eq_comboMatches hsel _ c
      (fun p hp => hnd p ((sortParams_perm ps).mem_iff.mp hp)) (hget.symm.trans hc)

/-- The only rejection: `ValueError`, raised exactly because a fixed value of an
    unpacked parameter is not among that parameter's values (then no combination
    matches). -/
theorem pack_indexes_error {V : Type} [BEq V] [LawfulBEq V] (ps : List (Param V))
    (fixed : List (String × V)) (e : Err) (h : packIndexes ps fixed = .error e) :
    e = .ValueError ∧
    ∃ name vals w, (name, vals) ∈ ps ∧ fixed.lookup name = some w ∧ w ∉ vals := by
  obtain ⟨h1, name, vals, w, hm, h2⟩ := selectors_error fixed (sortParams ps) e
    (exceptMap_eq_error ((packIndexes_eq ps fixed).symm.trans h))
  exact ⟨h1, name, vals, w, (sortParams_perm ps).mem_iff.mp hm, h2⟩

/-- **Negative witness (known finding)**: with the value `1` listed twice in the
    unpacked parameter `a = [1, 2, 1]`, looking up `a = 1` returns only variation 0
    although variations 0 and 2 both carry it: the full statement is false for the
    code as it is. -/
theorem pack_indexes_dup_first : ¬ PackIndexesStatement Nat := by
  intro h
  have hs : sortParams [("a", [1, 2, 1])] = [("a", [1, 2, 1])] := by simp [sortParams]
  have := h [("a", [1, 2, 1])] [("a", 1)] [0] (packIndexes_single "a" [1, 2, 1] 1 0 rfl)
  simp only [combos, dimsOf, hs] at this
  revert this
  decide +kernel

/-- **The results lookup returns the results of precisely the matching
    combinations**, in order, when one result per variation is stored. -/
theorem lookup_precise_partial {V X : Type} [BEq V] [LawfulBEq V] (ps : List (Param V))
    (results : List X) (fixed : List (String × V)) (out : List X)
    (hnd : ∀ p ∈ ps, p.2.Nodup) (hlen : results.length = prod (dimsOf ps))
    (hfx : fixed.isEmpty = false) (h : resultValues ps results fixed = .ok out) :
    out = ((List.range (prod (dimsOf ps))).filter (fun i =>
        match (combos ps)[i]? with
        | some c => comboMatches fixed (sortParams ps) c
        | none => false)).filterMap (fun i => results[i]?) := by
  rw [resultValues, if_neg (by rw [hfx]; exact Bool.false_ne_true)] at h
  split at h
  · cases h
  · next idx hp =>
    split at h
    · cases h
    · cases h
      rw [lookupValues_eq, hlen, pack_indexes_spec_partial ps fixed idx hnd hp]
      refine congrArg (List.filterMap _) (List.filter_congr (fun i hi => ?_))
      rw [Bool.eq_iff_iff, decide_eq_true_iff, List.mem_filter]
      exact ⟨fun h => h.2, fun h => ⟨hi, h⟩⟩

/-- With an empty dictionary of fixed values every stored result is returned. -/
theorem lookup_no_constraint {V X : Type} [BEq V] (ps : List (Param V)) (results : List X)
    (hne : results.isEmpty = false) :
    resultValues ps results ([] : List (String × V)) = .ok results := by
  simp [resultValues, hne]

/-- `add` (or `params[name] = value`) installs the new value — a value list of any
    other length included — and touches nothing else. -/
theorem content_after_add (s : PState) (name : String) (v : PVal) :
    (s.step (.add name v)).2 = none ∧
    (s.step (.add name v)).1.params.lookup name = some v ∧
    (∀ m, m ≠ name → (s.step (.add name v)).1.params.lookup m = s.params.lookup m) ∧
    (s.step (.add name v)).1.unpacked = s.unpacked := by
  refine ⟨rfl, ?_, ?_, rfl⟩
  · simp [PState.step, lookup_dictSet]
  · intro m hm; simp [PState.step, lookup_dictSet, hm]

/-- `remove` of a stored parameter also takes it out of the unpacked set and leaves
    every other parameter as it was; of an unknown one it raises `KeyError` and
    changes nothing. -/
theorem content_after_remove (s : PState) (name : String) (hn : s.unpacked.Nodup) :
    (s.params.lookup name = none →
        s.step (.remove name) = (s, some .KeyError)) ∧
    (s.params.lookup name ≠ none →
        (s.step (.remove name)).2 = none ∧
        name ∉ (s.step (.remove name)).1.unpacked ∧
        (∀ m, m ≠ name → (s.step (.remove name)).1.params.lookup m = s.params.lookup m) ∧
        (∀ m, m ≠ name → (m ∈ (s.step (.remove name)).1.unpacked ↔ m ∈ s.unpacked))) := by
  constructor
  · intro h; simp [PState.step, h]
  · intro h
    cases hl : s.params.lookup name with
    | none => exact absurd hl h
    | some w =>
      simp only [PState.step, hl]
      refine ⟨trivial, ?_, ?_, ?_⟩
      · exact fun hm => (List.Nodup.mem_erase_iff hn).mp hm |>.1 rfl
      · intro m hm; exact lookup_dictDel_ne name m hm s.params
      · intro m hm; exact List.mem_erase_of_ne hm

/-- **A rejected call leaves the parameters object as it was** (R4): whenever
    `add` / `remove` / `set_unpack_parameter` raises, the state is the one before. -/
theorem rejected_param_call_leaves_state (s : PState) (op : POp)
    (h : (s.step op).2 ≠ none) : (s.step op).1 = s := by
  cases op with
  | add name v => exact absurd rfl h
  | remove name =>
    rw [PState.step] at h ⊢
    split at h
    · rfl
    · exact absurd rfl h
  | setUnpack name b =>
    rw [PState.step] at h ⊢
    split at h
    · rfl
    · rfl
    · split at h
      · exact absurd rfl h
      · split at h
        · exact absurd rfl h
        · next hb hm => rw [if_neg hb, if_neg hm]

/-- The unpacked set of every object reachable by any history of calls is
    duplicate-free (it is a set). -/
theorem params_reachable_wf (ops : List POp) : (PState.empty.run ops).unpacked.Nodup :=
  run_unpacked_nodup ops PState.empty (by simp [PState.empty])

/-- Two parameter objects (reachable or not) with duplicate-free unpacked sets and the same
    content — same dictionary, same unpacked set — answer every look-up alike. -/
theorem lookup_depends_only_on_content {X : Type} (s s' : PState) (hn : s.unpacked.Nodup)
    (hn' : s'.unpacked.Nodup) (hc : SameContent s s') (results : List X)
    (fixed : List (String × Int)) :
    s.lookup results fixed = s'.lookup results fixed := by
  unfold PState.lookup
  rcases view_sameContent s s' hn hn' hc with ⟨h1, h2⟩ | ⟨ps, ps', h1, h2, h3⟩
  · rw [h1, h2]
  · -- every look-up reads the parameters through `sortParams` only
    rw [h1, h2]
    simp only [Except.map, dimsOf, combos, resultValues, packIndexes, h3]

/-- **No stale derived state.**  Whatever histories of `add` / replace / `remove` /
    `set_unpack_parameter` calls (failed ones included) produced two parameter
    objects, if they now store the same thing — same dictionary, same unpacked set —
    then every look-up agrees on them: number of variations, the list of
    combinations, `get_pack_indexes(fixed)` and `get_result_values_list(name, fixed)`
    for every `fixed` and every stored results list.  In particular a look-up after
    any history equals the look-up on a freshly built object with the current
    content (take for `ops'` any sequence of calls that builds it). -/
theorem lookup_no_stale_state {X : Type} (ops ops' : List POp)
    (hc : SameContent (PState.empty.run ops) (PState.empty.run ops'))
    (results : List X) (fixed : List (String × Int)) :
    (PState.empty.run ops).lookup results fixed = (PState.empty.run ops').lookup results fixed :=
  lookup_depends_only_on_content _ _ (params_reachable_wf ops) (params_reachable_wf ops') hc results fixed

/-- **Exact look-ups (R15).**  The model sees the values of the parameters only through
    `==`: every look-up commutes with ANY injective renaming `f` of the values — the
    variations carry the renamed values in the same order, `get_pack_indexes` and
    `get_result_values_list` return the same positions / results.  So it does not matter
    how close the images of two distinct values are (`f` = base integer ↦ a member of a
    cluster of floats 1 ulp, 1e-13, a relative 1e-6 apart, or all below 1e-8): they stay
    distinct and each one is looked up exactly; no tolerance, rounding or threshold
    identifies them. -/
theorem lookup_exact {V W X : Type} [BEq V] [LawfulBEq V] [BEq W] [LawfulBEq W] (f : V → W)
    (hf : ∀ a b, f a = f b → a = b) (ps : List (Param V)) (results : List X)
    (fixed : List (String × V)) :
    combos (relabel f ps) = (combos ps).map (List.map f) ∧
    packIndexes (relabel f ps) (relabelFixed f fixed) = packIndexes ps fixed ∧
    resultValues (relabel f ps) results (relabelFixed f fixed) = resultValues ps results fixed :=
  ⟨combos_relabel f ps, packIndexes_relabel f hf ps fixed, resultValues_relabel f hf ps results fixed⟩

/-- **Distinct listed values are looked up separately (R15)**, whatever they are: two
    different values of an unpacked parameter never resolve to the same variation, and
    each resolves to the position where it is listed. -/
theorem close_values_looked_up_separately {V : Type} [BEq V] [LawfulBEq V] (name : String)
    (vals : List V) (v w : V) (hv : v ∈ vals) (hw : w ∈ vals) (hne : v ≠ w) :
    ∃ k j, packIndexes [(name, vals)] [(name, v)] = .ok [k] ∧
           packIndexes [(name, vals)] [(name, w)] = .ok [j] ∧
           vals[k]? = some v ∧ vals[j]? = some w ∧ k ≠ j := by
  obtain ⟨k, hk⟩ := indexOf_of_mem v vals hv
  obtain ⟨j, hj⟩ := indexOf_of_mem w vals hw
  refine ⟨k, j, packIndexes_single name vals v k hk, packIndexes_single name vals w j hj,
    (indexOf_some v vals k hk).1, (indexOf_some w vals j hj).1, ?_⟩
  intro e
  subst e
  exact hne (indexOf_separates v w vals k hk hj)

/-- **A setter called with ANY new value takes effect (R15)**: after `add(name, v)` the
    object stores exactly `v`, and storing a different value — however close — gives a
    different stored value: there is no "unchanged, skip" path in the model. -/
theorem setter_takes_effect_for_every_new_value (s : PState) (name : String) (v v' : PVal)
    (hne : v' ≠ v) :
    (s.step (.add name v)).1.params.lookup name = some v ∧
    (s.step (.add name v')).1.params.lookup name ≠ (s.step (.add name v)).1.params.lookup name := by
  have h1 := (content_after_add s name v).2.1
  have h2 := (content_after_add s name v').2.1
  refine ⟨h1, ?_⟩
  rw [h1, h2]
  exact fun e => hne (Option.some.inj e)

/-- **Refilling a container that is bound to two parameters (R16).**  The object holds
    contents: overwriting in place the one container that was handed over for the
    parameters `a` and `b` is the replacement of both value lists, and after any history
    every look-up is the same whichever of the two is considered replaced first — and,
    by `lookup_no_stale_state`, the same as on an object freshly built with the new
    contents. -/
theorem refill_of_shared_container {X : Type} (ops : List POp) (a b : String) (v : PVal)
    (hab : a ≠ b) (results : List X) (fixed : List (String × Int)) :
    (PState.empty.run (ops ++ [.add a v, .add b v])).lookup results fixed =
    (PState.empty.run (ops ++ [.add b v, .add a v])).lookup results fixed := by
  apply lookup_no_stale_state
  rw [PState.run_append, PState.run_append]
  exact sameContent_add_comm _ a b v v hab

/-- **The accumulated value / total lists of a stored result hold the values of ALL
    merged repetitions, in order** — for every result type (MISCTYPE included) as soon
    as the first result accumulates; type and accumulate flag are those of the first. -/
theorem merged_lists_are_concat (r : RVal) (rs : List RVal) (h : r.acc = true) :
    (rs.foldl RVal.merge r).vlist = r.vlist ++ rs.flatMap (·.vlist) ∧
    (rs.foldl RVal.merge r).tlist = r.tlist ++ rs.flatMap (·.tlist) ∧
    (rs.foldl RVal.merge r).ty = r.ty ∧ (rs.foldl RVal.merge r).acc = true := by
  obtain ⟨h1, h2⟩ := foldl_merge_lists_acc rs r h
  obtain ⟨h3, h4⟩ := foldl_merge_ty_acc rs r
  exact ⟨h1, h2, h3, by rw [h4, h]⟩

/-- A result that does not accumulate keeps its (empty) lists whatever is merged. -/
theorem merged_lists_untouched_without_accumulate (r : RVal) (rs : List RVal) (h : r.acc = false) :
    (rs.foldl RVal.merge r).vlist = r.vlist ∧ (rs.foldl RVal.merge r).tlist = r.tlist := by
  induction rs generalizing r with
  | nil => exact ⟨rfl, rfl⟩
  | cons b rs ih =>
    obtain ⟨h1, h2⟩ := ih (r.merge b) (by rw [merge_acc]; exact h)
    rw [List.foldl_cons, h1, h2, merge_vlist, merge_tlist]
    simp [h]

/-- SUM / RATIO / CHOICE: value, total and `num_updates` of the stored result are the
    sums over the merged repetitions. -/
theorem merged_counts_are_sums (r : RVal) (rs : List RVal) (h : r.ty ≠ .misc) :
    (rs.foldl RVal.merge r).n = r.n + (rs.map (·.n)).sum ∧
    (rs.foldl RVal.merge r).value = r.value + (rs.map (·.value)).sum ∧
    (rs.foldl RVal.merge r).total = r.total + (rs.map (·.total)).sum := by
  induction rs generalizing r with
  | nil => exact ⟨(Nat.add_zero _).symm, (Int.add_zero _).symm, (Int.add_zero _).symm⟩
  | cons b rs ih =>
    obtain ⟨h1, h2, h3⟩ := ih (r.merge b) (by rw [merge_ty]; exact h)
    obtain ⟨m1, m2, m3, _⟩ := merge_scalars_add r b h
    simp only [List.foldl_cons, List.map_cons, List.sum_cons]
    rw [h1, h2, h3, m1, m2, m3]
    exact ⟨Nat.add_assoc .., Int.add_assoc .., Int.add_assoc ..⟩

/-- MISC: value, total and `num_updates` are those of the LAST merged repetition. -/
theorem merged_misc_is_last (r l : RVal) (rs : List RVal) (h : r.ty = .misc) :
    ((rs ++ [l]).foldl RVal.merge r).value = l.value ∧ ((rs ++ [l]).foldl RVal.merge r).n = l.n ∧
    ((rs ++ [l]).foldl RVal.merge r).total = l.total := by
  rw [List.foldl_append]
  simp only [List.foldl_cons, List.foldl_nil]
  have hty : (rs.foldl RVal.merge r).ty = .misc := by rw [(foldl_merge_ty_acc rs r).1]; exact h
  obtain ⟨m1, m2, m3, _⟩ := merge_scalars_misc (rs.foldl RVal.merge r) l hty
  exact ⟨m2, m1, m3⟩

/-- **Through the runner**: the result stored for a combination accumulates the values
    of every successful repetition of that combination, in execution order, and of no
    skipped one — the composition of `run_acc_is_merge` with the fold lemmas, for any
    `rep_max`, stop rule, skip pattern and result type. -/
theorem stored_result_accumulates_every_repetition (repMax : Nat) (keep : Keep RVal)
    (outs : List (Outcome RVal)) (e : VarEnd RVal)
    (h : runVariation RVal.merge repMax keep none outs = .done e) :
    ∃ seg r rs, outs = seg ++ e.rest ∧ oks seg = r :: rs ∧
      e.st.acc.ty = r.ty ∧ e.st.acc.acc = r.acc ∧
      (r.acc = true → e.st.acc.vlist = (oks seg).flatMap (·.vlist) ∧
                      e.st.acc.tlist = (oks seg).flatMap (·.tlist)) ∧
      (r.acc = false → e.st.acc.vlist = r.vlist ∧ e.st.acc.tlist = r.tlist) := by
  obtain ⟨seg, r, rs, h1, h2, h3, _⟩ := run_acc_is_merge RVal.merge repMax keep outs e h
  refine ⟨seg, r, rs, h1, h2, ?_, ?_, ?_, ?_⟩
  · rw [h3]; exact (foldl_merge_ty_acc rs r).1
  · rw [h3]; exact (foldl_merge_ty_acc rs r).2
  · intro ha
    rw [h3, h2, List.flatMap_cons, List.flatMap_cons]
    exact foldl_merge_lists_acc rs r ha
  · intro ha
    rw [h3]; exact merged_lists_untouched_without_accumulate r rs ha

/-! ## Non-vacuity: the hypotheses are satisfiable by non-trivial values -/

/-- three repetitions of an accumulating MISCTYPE result (two updates each) and of an
    accumulating RATIOTYPE result: lists of all repetitions, last value / summed value -/
example :
    let m (a : Int) := ((RVal.new .misc true).update a 0).update (a + 1) 0
    let q (a : Int) := (RVal.new .ratio true).update a 8
    (([m 4, m 9].foldl RVal.merge (m 1)).vlist, ([m 4, m 9].foldl RVal.merge (m 1)).value,
     ([m 4, m 9].foldl RVal.merge (m 1)).n,
     ([q 2, q 3].foldl RVal.merge (q 1)).vlist, ([q 2, q 3].foldl RVal.merge (q 1)).tlist,
     ([q 2, q 3].foldl RVal.merge (q 1)).value, ([q 2, q 3].foldl RVal.merge (q 1)).n)
    = ([1, 2, 4, 5, 9, 10], 10, 2, [1, 2, 3], [8, 8, 8], 6, 3) := by decide +kernel


/-- two different histories with the same final content: one replaces the value list
    of `a` by a list of another length, removes and re-adds `b`, fails twice on the
    way; the other builds the object directly, in another order -/
example :
    let h1 : List POp := [.add "a" (.list [1, 2]), .add "b" (.list [5]), .setUnpack "a" true,
      .setUnpack "zz" true, .add "a" (.list [7, 8, 9]), .remove "b", .remove "b",
      .add "b" (.list [3, 4]), .setUnpack "b" true, .add "c" (.scalar 0)]
    let h2 : List POp := [.add "c" (.scalar 0), .add "b" (.list [3, 4]), .add "a" (.list [7, 8, 9]),
      .setUnpack "b" true, .setUnpack "a" true]
    ((PState.empty.run h1).params, (PState.empty.run h1).unpacked,
      (PState.empty.run h2).params, (PState.empty.run h2).unpacked)
    = ([("a", .list [7, 8, 9]), ("b", .list [3, 4]), ("c", .scalar 0)], ["b", "a"],
       [("c", .scalar 0), ("b", .list [3, 4]), ("a", .list [7, 8, 9])], ["a", "b"]) := by
  decide +kernel


/-- R15: the grid `a = [3, 4, 5]` renamed by the injective `b ↦ 2400000000 + 200 b` (values a
    relative 1e-7 apart): the renamed `4` is found at position 1, the renamed `6`, which is
    just as close but not listed, is refused -/
example :
    let f : Nat → Nat := fun b => 2400000000 + 200 * b
    (packIndexes (relabel f [("a", [3, 4, 5])]) (relabelFixed f [("a", 4)]),
     packIndexes (relabel f [("a", [3, 4, 5])]) (relabelFixed f [("a", 6)]),
     combos (relabel f [("a", [3, 4, 5])]))
      = (.ok [1], .error .ValueError, [[2400000600], [2400000800], [2400001000]]) := by
  intro f
  have hs : sortParams (relabel f [("a", [3, 4, 5])]) = relabel f [("a", [3, 4, 5])] := by
    simp [relabel, sortParams]
  simp only [packIndexes, combos, hs]
  decide +kernel

/-- a variation with a skip in the first repetition, a stop rule that fires before
    the limit (`sum < 5`), and a left-over stream -/
example :
    (match runVariation (· + ·) 10 (fun acc _ _ => decide (acc < 5)) none
        [.skip, .ok 2, .skip, .ok 2, .ok 3, .ok 9] with
     | .done e => (e.st.acc, e.st.rep, e.st.skipped, e.st.calls, e.rest.length, e.exhausted)
     | .starved _ => (0, 0, 0, 0, 0, true)) = (7, 3, 2, 5, 1, false) := by decide +kernel

/-- a 2×2 grid, rep_max 2, no file: four variations, eight calls, in order -/
example :
    let cfg : Cfg Nat := ⟨(· + ·), 2, [2, 2], fun _ _ _ _ => true⟩
    let t := simulateAll cfg (Runner.new false) (List.replicate 9 (.ok 1))
    (t.status, t.log, t.runner.reps, t.rest.length)
      = (none, [0, 0, 1, 1, 2, 2, 3, 3], Reps.list [2, 2, 2, 2], 1) := by decide +kernel

/-- unsorted names, three unpacked parameters: order, count and a lookup -/
example :
    let ps : List (Param Nat) := [("b", [1, 2]), ("a", [5, 6, 7]), ("B", [9])]
    ((sortParams ps).map (·.1), (combos ps).length, (combos ps)[3]?,
      packIndexes ps [("a", 6), ("zz", 0)])
      = (["B", "a", "b"], 6, some [9, 6, 2], .ok [2, 3]) := by
  simp only [combos, packIndexes, sortParams_b_a_B]
  decide +kernel

/-! ## The control skeleton regenerated from the source

`Generated/C05Loop.lean` is re-emitted on every run from the AST of
`SimulationRunner._simulate_for_current_params_common` (harness/gen/c05.py: symbolic
execution, private helpers inlined, `while True` + `break` accepted): an automaton whose
states are the points at which the method waits for a repetition.  The theorems below are
re-checked against that file, so an edit of the source that changes a test, an update,
their order or the shape of the loop breaks one of them. -/

open PyPhysim.Generated.C05Loop in
/-- **The regenerated loop is the model.**  For every results type, merge, `rep_max`,
    `_keep_going`, loaded start and outcome stream: running the automaton regenerated from
    the source (entry: partial results loaded or first repetition, retried until it is not
    skipped; guard `keep ∧ rep < rep_max` before every further repetition; `ok` merges and
    counts, `skip` only moves `num_skipped_reps`; return) gives exactly the hand model's
    `runVariation` — same final state, same number of calls, same rest of the stream, same
    `exhausted` / `starved` outcome.  All theorems above therefore hold of the regenerated
    machine. -/
theorem generated_loop_matches_model (merge : R → R → R) (repMax : Nat) (keep : Keep R)
    (start : Option (R × Nat)) (outs : List (Outcome R)) :
    genResult (run merge repMax keep (entry repMax keep start) 0 outs)
      = runVariation merge repMax keep start outs := by
  cases start with
  | none => simpa [runVariation, gen_entry_fresh] using gen_run_first merge repMax keep outs 0
  | some p =>
    obtain ⟨a, n⟩ := p
    have := gen_run_loop merge repMax keep outs ⟨a, n, 0, 0⟩
    rw [← gen_entry_loaded] at this
    simpa [runVariation] using this

open PyPhysim.Generated.C05Loop in
/-- **Final save = what is returned.**  Whenever the regenerated machine returns, the
    final `save_partial_results` call received exactly the returned `current_rep`, results
    and `num_skipped_reps` value (this is what `Runner.save` of the model stores). -/
theorem generated_final_save_is_returned (merge : R → R → R) (repMax : Nat) (keep : Keep R)
    (start : Option (R × Nat)) (outs : List (Outcome R)) (rep : Nat) (acc : R) (skipped : Nat)
    (saved : Saved R)
    (h : (run merge repMax keep (entry repMax keep start) 0 outs).1 = .ret rep acc skipped saved) :
    saved = ⟨acc, skipped, rep⟩ := by
  have := savedIsReturned_run merge repMax keep outs _ 0 (savedIsReturned_entry repMax keep start)
  rw [h] at this
  exact this

/-- **Order of the two stop tests in the source**: on every path that goes on to another
    repetition `_keep_going` is consulted first, then `current_rep < rep_max` (with a pure
    `keep` the two orders are indistinguishable for `generated_loop_matches_model`; the order
    matters for a `_keep_going` with side effects, so it is recorded here). -/
theorem generated_guard_order :
    PyPhysim.Generated.C05Loop.guardTests = [["keep", "limit"]] := by decide

/-- **Periodic save**: `save_partial_results_maybe` is called exactly once per iteration of
    the `while` loop (program point 1), after a merged AND after a skipped repetition, and not
    in the retry loop of the first repetition (program point 0). -/
theorem generated_periodic_save_once_per_iteration :
    PyPhysim.Generated.C05Loop.periodicSaveCalls
      = [(0, "ok", 0), (0, "skip", 0), (1, "ok", 1), (1, "skip", 1)] := by decide

open PyPhysim.Generated.C05Loop in
/-- the regenerated machine on a stream with a skipped first repetition, a stop rule that
    fires before the limit and a left-over outcome (same stream as the `runVariation` example
    above) -/
example :
    (match run (· + ·) 10 (fun acc _ _ => decide (acc < 5)) (entry 10 (fun acc _ _ => decide (acc < 5)) none) 0
        [.skip, .ok 2, .skip, .ok 2, .ok 3, .ok 9] with
     | (.ret rep acc skipped saved, n, rest) => (rep, acc, skipped, saved.rep, n, rest.length)
     | _ => (0, 0, 0, 0, 0, 0)) = (3, 7, 2, 3, 5, 1) := by decide +kernel


open PyPhysim.Generated.C05Grid in
/-- **The regenerated index computations are the model's.**  `Generated/C05Grid.lean` is
    re-emitted from the AST of `SimulationParameters.get_unpacked_params_list` and
    `get_num_unpacked_variations` (loops summarised as maps).  For every set of unpacked
    parameters: the list of combinations is `combos` (product over the name-SORTED
    parameters, last name fastest — so `unpack_order` holds of it),
    element `i` pairs the sorted names with combination `i` and carries `_unpack_index = i`,
    and the number of variations — a product of the lengths taken in the iteration order of a
    Python set, i.e. in ANY order `lens` — is the model's `prod (dimsOf ps)`. -/
theorem generated_grid_matches_model {V : Type} (ps : List (Param V)) :
    unpackedValues ps = combos ps ∧
    (∀ i, variation ps i = ((combos ps)[i]?).map (fun c => (((sortParams ps).map (·.1)).zip c, i))) ∧
    (∀ lens : List Nat, lens.Perm (dimsOf ps) → numVariations lens = prod (dimsOf ps)) :=
  ⟨gen_unpackedValues ps, gen_variation ps,
   fun lens h => (gen_numVariations lens).trans (prod_perm h)⟩

open PyPhysim.Generated.C05Grid in
/-- three unsorted names: element 3 of the regenerated list -/
example :
    variation [("b", [1, 2]), ("a", [5, 6, 7]), ("B", [9])] 3
      = some ([("B", 9), ("a", 6), ("b", 2)], 3) ∧ numVariations [2, 3, 1] = 6 := by
  refine ⟨?_, by decide +kernel⟩
  simp only [variation, unpackedValues, unpackedNames, sortParams_b_a_B]
  decide +kernel

end PyPhysim.C05
