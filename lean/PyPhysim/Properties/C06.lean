import PyPhysim.Proofs.C06
import PyPhysim.Proofs.C06Stats
import PyPhysim.Proofs.C06Grid
import PyPhysim.Proofs.C06Heap
import PyPhysim.Proofs.C06Pointwise
import PyPhysim.Proofs.C06Copy
import PyPhysim.Proofs.C06Combine
import PyPhysim.Proofs.C06Append
import PyPhysim.Proofs.C06Gen
import PyPhysim.Proofs.C06GenSim
import PyPhysim.Generated.C06Result

/-!
# C06 — combining simulation results is independent of how repetitions were grouped

Property theorems and worked examples.  The definitions are the hand models of
`pyphysim/simulations/results.py` and `parameters.py`
(`PyPhysim.Model.C06`: `Result.update / merge / get_result / get_result_mean /
get_result_var / __eq__`; `PyPhysim.Model.C06Heap`: `SimulationResults` on an
explicit heap of shared objects, `merge_all_results`, `append_all_results`,
`combine_simulation_parameters`, `get_pack_indexes`, `combine_simulation_results`),
of the source **after** the `fix:` commits listed under C06 in `known_findings.json`.  They are
tied to the code by the exact differential scripts of `harness/props/c06.py`, and — for the
arithmetic core of `Result` (`update`, `_assert_can_merge` + `merge`, `get_result`,
`get_result_mean`, `get_result_var`) — by regeneration: `PyPhysim.Generated.C06` (module `Generated/C06Result.lean`) is re-emitted from
the current AST of `results.py` on every run (`harness/gen/c06.py`) and the `generated_*` theorems
below prove it equal to the hand model; likewise the control structure of
`SimulationResults.add_result / append_result / add_new_result / merge_all_results`
(`PyPhysim.Generated.C06Sim`, `harness/gen/c06sim.py`).

`fresh nm ty acc k` is the object `Result(nm, ty, acc, choice_num=k)`;
`foldUpd f xs` the object after the script `for o in xs: r.update(*o)`;
`foldUpdM` / `evalTree` / `mergeM` are the same computations with Python's
exception propagation (`.ok` = nothing was raised).
-/
namespace PyPhysim.C06
open PyPhysim.C06M PyPhysim.Proto

/-- **Clause "accumulating into one object = splitting in two and merging"** (SUM, RATIO,
    CHOICE; accumulation on or off): for every two chunks of valid observations, neither the two
    partial scripts nor the merge raises, and the merged object has *every attribute* (value,
    total, result sums, update count, value/total lists) equal to the object that received the
    concatenated sequence. -/
theorem fold_update_append (nm : String) (ty : Ty) (acc : Bool) (k : Nat) (hm : ty ≠ .misc)
    (xs ys : List Obs) (hx : ∀ o ∈ xs, validObs (fresh nm ty acc k) o)
    (hy : ∀ o ∈ ys, validObs (fresh nm ty acc k) o) :
    foldUpdM (fresh nm ty acc k) xs = .ok (foldUpd (fresh nm ty acc k) xs)
      ∧ foldUpdM (fresh nm ty acc k) ys = .ok (foldUpd (fresh nm ty acc k) ys)
      ∧ mergeM (foldUpd (fresh nm ty acc k) xs) (foldUpd (fresh nm ty acc k) ys)
          = .ok (foldUpd (fresh nm ty acc k) (xs ++ ys))
      ∧ foldUpdM (fresh nm ty acc k) (xs ++ ys) = .ok (foldUpd (fresh nm ty acc k) (xs ++ ys)) := by
  refine ⟨foldUpdM_ok hx, foldUpdM_ok hy, mergeM_foldUpd_fresh nm ty acc k hm xs ys, foldUpdM_ok ?_⟩
  intro o ho
  exact (List.mem_append.mp ho).elim (hx o) (hy o)

/-- **Clause "merging in any grouping"**: `Result.merge` is associative on results created with
    the same constructor arguments, all four types, and raises in neither order. -/
theorem merge_assoc (a b c : Res) (hab : Compat a b) (hbc : Compat b c) :
    ∃ x, (mergeM a b >>= fun ab => mergeM ab c) = .ok x
       ∧ (mergeM b c >>= fun bc => mergeM a bc) = .ok x := by
  refine ⟨mergeCore (mergeCore a b) c, ?_, ?_⟩
  · simp only [mergeM_ok hab, bind, Except.bind, mergeM_ok ((compat_mergeCore hab).symm.trans (hab.trans hbc))]
  · simp only [mergeM_ok hbc, bind, Except.bind, mergeM_ok (hab.trans (compat_mergeCore hbc)), mergeCore_assoc c hab]

/-- **Main clause** — for *every* finite sequence of valid `update` calls, *every* partition
    into contiguous chunks (empty chunks included) and *every* association order of the merges
    (= every binary tree whose leaves concatenate to the sequence), for SUM, RATIO and CHOICE
    results with accumulation on or off: accumulating each chunk into its own new object and
    merging along the tree raises nothing and yields exactly the object obtained by
    accumulating the whole sequence into one object. -/
theorem any_partition_any_association (nm : String) (ty : Ty) (acc : Bool) (k : Nat)
    (hm : ty ≠ .misc) (t : MTree (List Obs))
    (hv : ∀ o ∈ t.flatten, validObs (fresh nm ty acc k) o) :
    evalTree (fresh nm ty acc k) t = .ok (foldUpd (fresh nm ty acc k) t.flatten)
      ∧ evalTree (fresh nm ty acc k) t = foldUpdM (fresh nm ty acc k) t.flatten := by
  have h := evalTree_eq_foldUpd nm ty acc k hm t hv
  exact ⟨h, by rw [h, foldUpdM_ok hv]⟩

/-- … hence two groupings of the same sequence give the same object, so the same value, total,
    update count, mean, variance and `==` (all are functions of the object). -/
theorem grouping_independent (nm : String) (ty : Ty) (acc : Bool) (k : Nat) (hm : ty ≠ .misc)
    (t₁ t₂ : MTree (List Obs)) (hflat : t₁.flatten = t₂.flatten)
    (hv : ∀ o ∈ t₁.flatten, validObs (fresh nm ty acc k) o) :
    ∃ r, evalTree (fresh nm ty acc k) t₁ = .ok r ∧ evalTree (fresh nm ty acc k) t₂ = .ok r
      ∧ getResult r = getResult (foldUpd (fresh nm ty acc k) t₁.flatten)
      ∧ getMean r = getMean (foldUpd (fresh nm ty acc k) t₁.flatten)
      ∧ getVar r = getVar (foldUpd (fresh nm ty acc k) t₁.flatten)
      ∧ eqPy r (foldUpd (fresh nm ty acc k) t₁.flatten) = .ok true := by
  refine ⟨_, evalTree_eq_foldUpd nm ty acc k hm t₁ hv, ?_, rfl, rfl, rfl, ?_⟩
  · rw [hflat]; exact evalTree_eq_foldUpd nm ty acc k hm t₂ (hflat ▸ hv)
  · exact eqPy_self _

/-- Merging *already computed* compatible results (any history, all four types incl. MISC) along
    two trees with the same leaves gives the same object: only the left-to-right order of the
    operands matters, never the grouping. -/
theorem merge_association_irrelevant (c : Res) (t₁ t₂ : MTree Res) (hl : t₁.leaves = t₂.leaves)
    (hc : ∀ x ∈ t₁.leaves, Compat c x) :
    ∃ r, evalRes t₁ = .ok r ∧ evalRes t₂ = .ok r := by
  obtain ⟨x, l, e1, h1⟩ := evalRes_eq_mergeSeq c t₁ hc
  obtain ⟨y, l', e2, h2⟩ := evalRes_eq_mergeSeq c t₂ (hl ▸ hc)
  rw [hl, e2] at e1
  injection e1 with ex el
  rw [ex, el] at h2
  exact ⟨_, h1, h2⟩

/-- SUM results: value, result sum = Σ v; squared sum = Σ v²; count = number of calls; total is
    never touched; the value list is the observation sequence; mean = Σ v / n. -/
theorem stats_sum (nm : String) (acc : Bool) (k : Nat) (xs : List Obs) :
    let r := foldUpd (fresh nm .sum acc k) xs
    r.value = (xs.map (·.v)).sum ∧ r.total = 0 ∧ r.n = xs.length
      ∧ r.rsum = (xs.map (·.v)).sum ∧ r.rsq = (xs.map (fun o => o.v * o.v)).sum
      ∧ r.vlist = (if acc then xs.map (·.v) else [])
      ∧ (xs ≠ [] → getResult r = .ok (.num (xs.map (·.v)).sum)
            ∧ getMean r = .ok ((xs.map (·.v)).sum / (xs.length : Rat))) := by
  intro r
  have hr : r = _ := foldUpd_sum (fresh nm .sum acc k) rfl xs
  -- the start record holds zeros and empty lists
  simp only [fresh, Rat.zero_add, Nat.zero_add, List.nil_append] at hr
  rw [hr]
  refine ⟨rfl, rfl, rfl, rfl, rfl, rfl, fun hne => ?_⟩
  simp only [getResult, getMean, List.length_eq_zero_iff, hne, if_false, and_self]

/-- … and `get_result_var` of a SUM result is the population variance of the observations,
    `(1/n) Σ (vᵢ − mean)²`. -/
theorem variance_is_population_variance (nm : String) (acc : Bool) (k : Nat) (xs : List Obs)
    (hne : xs ≠ []) :
    getVar (foldUpd (fresh nm .sum acc k) xs)
      = .ok (((xs.map (·.v)).map (fun x =>
            (x - (xs.map (·.v)).sum / (xs.length : Rat)) * (x - (xs.map (·.v)).sum / (xs.length : Rat)))).sum
          / (xs.length : Rat)) := by
  have hn : xs.length ≠ 0 := fun h => hne (List.length_eq_zero_iff.mp h)
  have hv := var_identity (xs.map (·.v)) fun h => hne (List.map_eq_nil_iff.mp h)
  rw [List.length_map, List.map_map (g := fun x : Rat => x * x)] at hv
  rw [foldUpd_sum _ rfl]
  simp only [getVar, fresh, Nat.zero_add, hn, if_false, Rat.zero_add]
  exact congrArg Except.ok hv

/-- RATIO results: value = Σ v, total = Σ t, result sum = Σ v/t, squared sum = Σ (v/t)²,
    count = number of calls; `get_result` = Σ v / Σ t. -/
theorem stats_ratio (nm : String) (acc : Bool) (k : Nat) (xs : List Obs)
    (hv : ∀ o ∈ xs, validObs (fresh nm .ratio acc k) o) :
    let r := foldUpd (fresh nm .ratio acc k) xs
    r.value = (xs.map (·.v)).sum ∧ r.total = (xs.map totalOf).sum ∧ r.n = xs.length
      ∧ r.rsum = (xs.map ratioOf).sum ∧ r.rsq = (xs.map (fun o => ratioOf o * ratioOf o)).sum
      ∧ r.vlist = (if acc then xs.map (·.v) else []) ∧ r.tlist = (if acc then xs.map totalOf else [])
      ∧ (xs ≠ [] → (xs.map totalOf).sum ≠ 0 →
            getResult r = .ok (.num ((xs.map (·.v)).sum / (xs.map totalOf).sum))
            ∧ getMean r = .ok ((xs.map ratioOf).sum / (xs.length : Rat))) := by
  intro r
  have hr : r = _ := foldUpd_ratio (fresh nm .ratio acc k) rfl xs hv
  -- the start record holds zeros and empty lists
  simp only [fresh, Rat.zero_add, Nat.zero_add, List.nil_append] at hr
  rw [hr]
  refine ⟨rfl, rfl, rfl, rfl, rfl, rfl, rfl, fun hne h0 => ?_⟩
  simp only [getResult, getMean, List.length_eq_zero_iff, hne, h0, if_false, and_self]

/-- CHOICE results: entry `i` of the array counts the observations that selected choice `i`
    (numpy index normalisation included), total = count = number of calls. -/
theorem stats_choice (nm : String) (acc : Bool) (k : Nat) (xs : List Obs)
    (hv : ∀ o ∈ xs, validObs (fresh nm .choice acc k) o) :
    let r := foldUpd (fresh nm .choice acc k) xs
    (∀ i, r.counts[i]? = if i < k then some (hits k xs i) else none)
      ∧ r.total = (xs.length : Rat) ∧ r.n = xs.length ∧ r.rsum = 0 ∧ r.rsq = 0
      ∧ r.vlist = (if acc then xs.map (·.v) else []) := by
  intro r
  have h1 := foldUpd_choice_counts (fresh nm .choice acc k) rfl xs hv
  obtain ⟨hn, h2, h3, h4, _, h6, _⟩ := foldUpd_choice_rest (fresh nm .choice acc k) rfl xs hv
  -- the start record holds zeros and empty lists
  refine ⟨fun i => ?_, h2.trans (Rat.zero_add _), hn.trans (Nat.zero_add _), h3, h4, h6⟩
  rw [h1 i]
  simp only [fresh, if_true, List.length_replicate, List.getElem?_replicate, apply_ite (Option.map _),
    Option.map_some, Option.map_none, Nat.zero_add]

/-- **Clause "for misc results the last observation wins"**: for every merge tree whose last
    chunk is not empty the merged value (and `get_result`) is the last observation of the whole
    sequence; with accumulation on, the value list is the whole sequence.  (The update count of
    a merged MISC result is that of the last chunk — MISC merge replaces.) -/
theorem misc_last_wins (nm : String) (acc : Bool) (k : Nat) (t : MTree (List Obs))
    (hlast : t.last ≠ []) (hflat : t.flatten ≠ []) (hsuffix : t.flatten.getLast hflat = t.last.getLast hlast) :
    ∃ r, evalTree (fresh nm .misc acc k) t = .ok r
      ∧ r.value = (t.flatten.getLast hflat).v
      ∧ getResult r = .ok (.num (t.flatten.getLast hflat).v)
      ∧ r.vlist = (if acc then t.flatten.map (·.v) else []) := by
  have hv : ((t.last.map (·.v)).getLast?).getD 0 = (t.flatten.getLast hflat).v := by
    rw [List.getLast?_map, List.getLast?_eq_some_getLast hlast, hsuffix]; rfl
  have hn : t.last.length ≠ 0 := fun h => hlast (List.length_eq_zero_iff.mp h)
  refine ⟨_, evalTree_misc nm acc k t, hv, ?_, rfl⟩
  simp only [getResult, fresh, hn, if_false, hv]

/-- the last observation of the flattened tree is the last observation of its last chunk
    (discharges `hsuffix` of `misc_last_wins`) -/
theorem misc_last_chunk_is_suffix (t : MTree (List Obs)) (hlast : t.last ≠ []) :
    ∃ h : t.flatten ≠ [], t.flatten.getLast h = t.last.getLast hlast := by
  induction t with
  | leaf xs => exact ⟨hlast, rfl⟩
  | node l r _ ihr =>
    obtain ⟨h, e⟩ := ihr hlast
    exact ⟨List.append_ne_nil_of_right_ne_nil _ h, (List.getLast_append_of_ne_nil _ h).trans e⟩

/-- **Negative witness (known finding)**: with an *empty* chunk after data the last observation
    does not win — merging a never-updated MISC result resets the value, and `get_result`
    answers "Nothing yet", while the single object holds 7. -/
theorem misc_empty_chunk_resets :
    evalTree (fresh "x" .misc false 0) (.node (.leaf [⟨7, none⟩]) (.leaf []))
        = .ok (fresh "x" .misc false 0)
      ∧ getResult (fresh "x" .misc false 0) = .ok .nothing
      ∧ getResult (foldUpd (fresh "x" .misc false 0) [⟨7, none⟩]) = .ok (.num 7) := by
  decide +kernel

/-- `update` raises iff the observation is not valid for the object's type, and then with the
    exception kind of the code: RATIO without total → ValueError, total 0 → ZeroDivisionError,
    CHOICE non-integer → AssertionError, CHOICE index out of range → IndexError.  **A call that
    raises leaves the object exactly as it was** (R4); a successful call counts one update. -/
theorem update_raises_iff_invalid (r : Res) (o : Obs) :
    ((update r o).2 = none ↔ validObs r o)
      ∧ (r.ty = .ratio → o.t = none → (update r o).2 = some .ValueError)
      ∧ (r.ty = .ratio → o.t = some 0 → (update r o).2 = some .ZeroDivisionError)
      ∧ (r.ty = .choice → o.v.den ≠ 1 → (update r o).2 = some .AssertionError)
      ∧ (r.ty = .choice → o.v.den = 1 → pyIndex r.counts.length o.v.num = none →
            (update r o).2 = some .IndexError)
      ∧ ((update r o).2 ≠ none → (update r o).1 = r)
      ∧ (validObs r o → (update r o).1.n = r.n + 1) := by
  refine ⟨⟨fun h => ?_, update_ok⟩, ?_, ?_, ?_, ?_, update_err_unchanged r o, update_n_ok⟩
  · exact Classical.byContradiction (fun hv => update_err_of_invalid hv h)
  · intro ht ho; simp [update, ht, ho]
  · intro ht ho; simp [update, ht, ho]
  · intro ht hd; simp [update, ht, hd]
  · intro ht hd hi; simp [update, ht, hd, hi]

/-- a rejected update in the middle of a history is as if it had never been made: the history
    continues exactly like the one of an object that never saw the call (R4) -/
theorem rejected_update_is_invisible (r : Res) (o : Obs) (xs ys : List Obs) (h : ¬ validObs (foldUpd r xs) o) :
    foldUpd r (xs ++ o :: ys) = foldUpd r (xs ++ ys) := by
  rw [foldUpd_append, foldUpd_append, foldUpd_cons,
    update_err_unchanged _ _ (update_err_of_invalid h)]

/-- `merge` of results with different type or name, of a non-accumulating result into an
    accumulating one, or of CHOICE results with a different number of choices raises
    `AssertionError` and **leaves `self` untouched** (the argument is never written anyway) (R4). -/
theorem merge_rejects_incompatible (a b : Res)
    (h : a.ty ≠ b.ty ∨ a.name ≠ b.name ∨ (a.acc = true ∧ b.acc = false)
          ∨ (a.ty = .choice ∧ a.counts.length ≠ b.counts.length)) :
    merge a b = (a, some .AssertionError) :=
  merge_rejected h

/-- whenever `merge` raises an assertion, `self` is unchanged (R4) -/
theorem merge_rejected_unchanged (a b : Res) (e : PyErr) (h : mergeGuard a b = some e) :
    merge a b = (a, some e) := by
  simp [merge, h]

/-- **Clause "merging whole result sets obeys the same law per name"**: if `self` is not empty,
    `other` holds every name of `self`, and the last results of `self` are distinct objects,
    none of them an object of `other`, with matching constructor arguments, then
    `merge_all_results` raises nothing and replaces, for every name, the last result of `self`
    by its `Result.merge` with the last result of `other` of that name; no other object, no list
    and no dictionary changes.  (`A nm` / `B nm` are the addresses of `self[nm][-1]` /
    `other[nm][-1]`.) -/
theorem merge_all_pointwise (m : Mach) (s o : Nat) (A B : String → Nat)
    (hs : s < m.sims.length) (ho : o < m.sims.length) (hne : dictOf m s ≠ [])
    (hnd : ((dictOf m s).map (·.1)).Nodup) (hnsr : nsr ∉ (dictOf m s).map (·.1))
    (hnsro : dictGet? (dictOf m o) nsr = none)
    (hA : ∀ nm ∈ (dictOf m s).map (·.1), lastOf m (dictOf m s) nm = .ok (A nm))
    (hB : ∀ nm ∈ (dictOf m s).map (·.1), lastOf m (dictOf m o) nm = .ok (B nm))
    (hinj : ∀ n1 ∈ (dictOf m s).map (·.1), ∀ n2 ∈ (dictOf m s).map (·.1), A n1 = A n2 → n1 = n2)
    (hsep : ∀ n1 ∈ (dictOf m s).map (·.1), ∀ n2 ∈ (dictOf m s).map (·.1), A n1 ≠ B n2)
    (hc : ∀ nm ∈ (dictOf m s).map (·.1),
        ∃ ra rb, m.res[A nm]? = some ra ∧ m.res[B nm]? = some rb ∧ Compat ra rb) :
    (mergeAll m s o).2 = none
      ∧ (∀ nm ∈ (dictOf m s).map (·.1), ∀ ra rb, m.res[A nm]? = some ra → m.res[B nm]? = some rb →
            (mergeAll m s o).1.res[A nm]? = some (mergeCore ra rb))
      ∧ (∀ a, (∀ nm ∈ (dictOf m s).map (·.1), a ≠ A nm) → (mergeAll m s o).1.res[a]? = m.res[a]?)
      ∧ (mergeAll m s o).1.lists = m.lists ∧ (mergeAll m s o).1.sims = m.sims := by
  have h : SeqOK m s [o] A (fun _ => B) :=
    { hs := hs, hne := hne, hnd := hnd, hnsr := hnsr, hA := hA, hinj := hinj
      ho := List.forall_mem_singleton.mpr ⟨ho, hnsro⟩
      hB := List.forall_mem_singleton.mpr hB
      hsep := List.forall_mem_singleton.mpr hsep
      hc := fun nm hnm =>
        let ⟨ra, rb, h1, h2, h3⟩ := hc nm hnm
        ⟨ra, h1, List.forall_mem_singleton.mpr ⟨rb, h2, h3⟩⟩ }
  obtain ⟨res, he, p2, p3, -⟩ := h.step
  rw [he]
  exact ⟨rfl, p2, p3, rfl, rfl⟩

/-- **… for a whole sequence of result sets** (the Monte-Carlo runner's loop
    `for rep: cur.merge_all_results(rep_results)`): per name, the last result of `self` ends up
    as the left-to-right `Result.merge` of the operands' last results, whatever the number of
    operands (`SeqOK` bundles the hypotheses of `merge_all_pointwise` for every operand, all
    stated on the initial heap). -/
theorem merge_all_sequence_law (m : Mach) (s : Nat) (os : List Nat) (A : String → Nat)
    (B : Nat → String → Nat) (h : SeqOK m s os A B) :
    ∀ nm ∈ (dictOf m s).map (·.1), ∀ ra, m.res[A nm]? = some ra →
      (runS s m (os.map SOp.mergeAll)).res[A nm]?
        = some (mergeSeq ra (os.filterMap (fun o => m.res[B o nm]?))) := by
  revert h
  induction os generalizing m with
  | nil => exact fun _ nm _ ra hra => hra
  | cons o rest ih =>
    intro h nm hnm ra hra
    obtain ⟨res, he, p2, p3, h1⟩ := h.step
    obtain ⟨_, -, hc⟩ := h.hc nm hnm
    obtain ⟨rb, hrb, -⟩ := hc o List.mem_cons_self
    simp only [List.map_cons, runS, List.foldl_cons, stepS, he]
    refine (ih _ h1 nm hnm (mergeCore ra rb) (p2 nm hnm ra rb hra hrb)).trans ?_
    simp only [List.filterMap_cons, hrb, mergeSeq, List.foldl_cons]
    -- the operands' cells are none of the receivers
    exact congrArg (fun l => some (List.foldl mergeCore (mergeCore ra rb) l)) (List.filterMap_congr fun o' ho' =>
      p3 _ fun n2 hn2 e => h.hsep o' (List.mem_cons_of_mem _ ho') n2 hn2 nm hnm e.symm)

/-- **… hence grouping independence at the set level**: if, for a name, `self` holds the
    accumulation of `xs₀` and every operand holds the accumulation of its own chunk, then after
    merging all operands `self` holds the accumulation of the concatenated sequence — the same
    object as one result set that had seen every repetition (SUM, RATIO, CHOICE). -/
theorem merge_all_sequence_is_accumulation (m : Mach) (s : Nat) (os : List Nat) (A : String → Nat)
    (B : Nat → String → Nat) (h : SeqOK m s os A B) (nm : String) (hnm : nm ∈ (dictOf m s).map (·.1))
    (ty : Ty) (acc : Bool) (k : Nat) (hm : ty ≠ .misc) (xs₀ : List Obs) (chunk : Nat → List Obs)
    (h0 : m.res[A nm]? = some (foldUpd (fresh nm ty acc k) xs₀))
    (hch : ∀ o ∈ os, m.res[B o nm]? = some (foldUpd (fresh nm ty acc k) (chunk o))) :
    (runS s m (os.map SOp.mergeAll)).res[A nm]?
      = some (foldUpd (fresh nm ty acc k) (xs₀ ++ (os.map chunk).flatten)) := by
  rw [merge_all_sequence_law m s os A B h nm hnm _ h0, List.filterMap_congr hch, List.filterMap_eq_map',
    ← mergeSeq_foldUpd nm ty acc k hm, List.map_map]
  rfl

/-- **a rejected `merge_all_results` changes nothing** (R4): when the validation pass finds a
    missing name (`KeyError`), an empty list or an incompatible pair of results (`AssertionError`),
    for an ordinary name or for `'num_skipped_reps'`, the call raises and the whole heap — `self`,
    `other`, every Result — is exactly as before. -/
theorem merge_all_rejected_unchanged (m : Mach) (s o : Nat) (e : PyErr) (hne : dictOf m s ≠ [])
    (h : checkNames (dictOf m s) (dictOf m o) m ((dictOf m s).map (·.1)) = some e
          ∨ (checkNames (dictOf m s) (dictOf m o) m ((dictOf m s).map (·.1)) = none ∧ checkNsr m s o = some e)) :
    s < m.sims.length → o < m.sims.length → mergeAll m s o = (m, some e) := by
  intro hs ho
  rw [mergeAll, if_pos ⟨hs, ho⟩, if_neg hne]
  rcases h with h | ⟨h1, h2⟩
  · rw [h]
  · rw [h1, h2]

/-- a type mismatch in the *second* name is found before the first name is merged: the
    pre-repair code left `self` half merged here -/
theorem merge_all_rejected_witness :
    let r := fun (nm : String) (ty : Ty) (v : Rat) => (update (fresh nm ty false 0) ⟨v, some 2⟩).1
    let m : Mach :=
      { res := [r "a" .sum 3, r "b" .sum 4, r "a" .sum 5, r "b" .ratio 6], lists := [[0], [1], [2], [3]],
        sims := [⟨[("a", 0), ("b", 1)], ⟨[], []⟩⟩, ⟨[("a", 2), ("b", 3)], ⟨[], []⟩⟩] }
    mergeAll m 0 1 = (m, some .AssertionError)
      ∧ (mergeAllOld m 0 1).2 = some .AssertionError ∧ (mergeAllOld m 0 1).1 ≠ m := by
  decide +kernel

/-- **a rejected `combine_simulation_results` changes nothing** (R4): whatever the reason
    (different parameters, different result names, ill-formed operands) the heap is unchanged. -/
theorem combine_rejected_unchanged (m : Mach) (s1 s2 : Nat) (e : PyErr)
    (h : (combine m s1 s2).2 = some e) : (combine m s1 s2).1 = m := by
  rcases combine_cases m s1 s2 with ⟨e', he⟩ | ⟨_, _, _, _, hc, _⟩
  · rw [he]
  · rw [hc] at h; cases h

/-- merging into an **empty** object (repaired source): nothing is raised and `self` then
    denotes exactly the results of `other` (name by name, in order). -/
theorem merge_all_into_empty_copies (m : Mach) (s o : Nat) (hs : s < m.sims.length)
    (ho : o < m.sims.length) (hempty : dictOf m s = []) (hvo : ∀ e ∈ dictOf m o, ValidEntry m e)
    (hnd : ((dictOf m o).map (·.1)).Nodup) :
    (mergeAll m s o).2 = none ∧ view (mergeAll m s o).1 s = view m o := by
  rw [mergeAll, if_pos ⟨hs, ho⟩, if_pos hempty]
  refine ⟨rfl, ?_⟩
  rw [copyDict_view s (dictOf m o) m hs (by rw [hempty]; intro e he; cases he) hvo
    (by rw [hempty]; intro e _; rfl) hnd]
  simp only [view, hempty, List.map_nil, List.nil_append]

/-- **Clause "merging never mutates the merged-in operand"**, one call, exceptions included:
    `merge_all_results` writes only to the last result of each list of `self`; every other
    Result object, *every* list object and every other SimulationResults object that existed
    before is unchanged; afterwards the objects `self` can write through are the old ones or
    objects created by this call (so nothing of `other` has been captured). -/
theorem merge_all_frame (m : Mach) (s o : Nat) (hwf : WfS m s) :
    Frame (· ∈ writeSet m s) s m (mergeAll m s o).1
      ∧ (∀ a ∈ writeSet (mergeAll m s o).1 s, a ∈ writeSet m s ∨ m.res.length ≤ a)
      ∧ WfS (mergeAll m s o).1 s :=
  have g := mergeAll_grows m s o hwf
  ⟨g.frame.mono (fun _ ha hw => hw.elim id (fun hge => absurd ha (Nat.not_lt.mpr hge))), g.write, g.wfS⟩

/-- … and **for every later history**: if no Result object of `w` is one of the objects `s`
    can write through (in particular when `w` shares no object with `s`), then after *any*
    sequence of `s.merge_all_results(·)` calls (with any operands, `w` included, raising or
    not) and of updates through `s[name][-1]`, `w` still denotes exactly the same results, and
    the separation still holds. -/
theorem merge_never_mutates_operand (m : Mach) (s w : Nat) (ops : List SOp) (h : Watch m s w) :
    view (runS s m ops) w = view m w ∧ Watch (runS s m ops) s w := by
  induction ops generalizing m with
  | nil => exact ⟨rfl, h⟩
  | cons op rest ih =>
    obtain ⟨h1, v1⟩ := watch_step m s w op h
    obtain ⟨v2, h2⟩ := ih (stepS s m op) h1
    exact ⟨v2.trans v1, h2⟩

/-- `Result.merge` on the heap writes the receiver only. -/
theorem result_merge_frame (m : Mach) (a b a' : Nat) (h : a' ≠ a) :
    (mergeR m a b).1.res[a']? = m.res[a']? ∧ (mergeR m a b).1.lists = m.lists
      ∧ (mergeR m a b).1.sims = m.sims :=
  ⟨(mergeR_writes m a b).res a' h, (mergeR_writes m a b).lists, (mergeR_writes m a b).sims⟩

/-- three objects: `a` empty, `b = {x: [Result(3)]}`, `c = {x: [Result(5)]}` -/
def aliasWitness : Mach :=
  { res := [(update (fresh "x" .sum false 0) ⟨3, none⟩).1, (update (fresh "x" .sum false 0) ⟨5, none⟩).1],
    lists := [[0], [1]],
    sims := [⟨[], ⟨[], []⟩⟩, ⟨[("x", 0)], ⟨[], []⟩⟩, ⟨[("x", 1)], ⟨[], []⟩⟩] }

/-- **Negative witness for the source before the repair** (`self._results[name] = other[name]`):
    after `a.merge_all_results(b); a.merge_all_results(c)` with `a` initially empty, `b` has
    changed (it now holds 8 with 2 updates) — the history `[mergeAll b, mergeAll c]` violates the
    clause; this is the input replayed on the code by the oracle. -/
theorem merge_into_empty_aliased_before_fix :
    view (runSOld 0 aliasWitness [.mergeAll 1, .mergeAll 2]) 1 ≠ view aliasWitness 1
      ∧ view (runS 0 aliasWitness [.mergeAll 1, .mergeAll 2]) 1 = view aliasWitness 1
      ∧ view (runS 0 aliasWitness [.mergeAll 1, .mergeAll 2]) 0
          = [("x", [foldUpd (fresh "x" .sum false 0) [⟨3, none⟩, ⟨5, none⟩]])] := by
  decide +kernel

/-- **The `'num_skipped_reps'` special case** (modelled exactly, documented here): when only
    `other` carries that bookkeeping result, `merge_all_results` first creates it in `self` with
    `add_new_result(name, SUMTYPE, 0)` — i.e. already *updated once with 0*, the same convention
    `SimulationRunner` uses — and then merges: the value (number of skipped repetitions) adds up,
    the update count is one more than the operand's. -/
theorem num_skipped_reps_created_with_one_update :
    let m : Mach :=
      { res := [foldUpd (fresh "x" .sum false 0) [⟨3, none⟩], foldUpd (fresh "x" .sum false 0) [⟨5, none⟩],
                foldUpd (fresh nsr .sum false 0) [⟨0, some 0⟩, ⟨1, none⟩, ⟨1, none⟩]],
        lists := [[0], [1], [2]],
        sims := [⟨[("x", 0)], ⟨[], []⟩⟩, ⟨[("x", 1), (nsr, 2)], ⟨[], []⟩⟩] }
    (mergeAll m 0 1).2 = none
      ∧ view (mergeAll m 0 1).1 0
          = [("x", [foldUpd (fresh "x" .sum false 0) [⟨3, none⟩, ⟨5, none⟩]]),
             (nsr, [foldUpd (fresh nsr .sum false 0) [⟨0, some 0⟩, ⟨0, some 0⟩, ⟨1, none⟩, ⟨1, none⟩]])]
      ∧ view (mergeAll m 0 1).1 1 = view m 1 := by
  decide +kernel

/-- `append_all_results` never changes a Result object (it shares them). -/
theorem append_all_never_touches_results (m : Mach) (s o : Nat) : (appendAll m s o).1.res = m.res := by
  unfold appendAll; split
  · exact appendLists_res s m _
  · rfl

/-- appending results of one name and type to the list `self` already has under that name
    extends *that list object*, in order, and raises nothing (the inner loop of
    `append_all_results`). -/
theorem append_extends_list (s : Nat) (m : Mach) (as : List Nat) (nm : String) (ls a0 : Nat)
    (tl : List Nat) (r0 : Res) (hd : dictGet? (dictOf m s) nm = some ls) (hl : listAt m ls = a0 :: tl)
    (hlt : ls < m.lists.length) (hr0 : m.res[a0]? = some r0)
    (has : ∀ a ∈ as, ∃ r, m.res[a]? = some r ∧ r.name = nm ∧ r.ty = r0.ty) :
    (appendElems s m as).2 = none ∧ (appendElems s m as).1.sims = m.sims
      ∧ (appendElems s m as).1.lists = m.lists.set ls (a0 :: tl ++ as) := by
  induction as generalizing m tl with
  | nil =>
    refine ⟨rfl, rfl, ?_⟩
    simp only [listAt, List.getElem?_eq_getElem hlt] at hl
    simp only [appendElems, List.append_nil, ← hl, List.set_getElem_self]
  | cons a rest ih =>
    obtain ⟨r, hr, hn, ht⟩ := has a List.mem_cons_self
    have hl' : listAt (setList m ls (a0 :: tl ++ [a])) ls = a0 :: (tl ++ [a]) := by
      simp only [listAt, setList, List.getElem?_set_self hlt]; rfl
    -- `setList` changes one list object: the dictionaries and the Result cells are the same terms
    obtain ⟨i1, i2, i3⟩ := ih (setList m ls (a0 :: tl ++ [a])) (tl ++ [a]) hd hl'
      (Nat.lt_of_lt_of_eq hlt List.length_set.symm) hr0 (fun a' h' => has a' (List.mem_cons_of_mem _ h'))
    simp only [appendElems, appendResult, hr, hn, hd, hl, hr0, ht, if_true]
    refine ⟨i1, i2, i3.trans ?_⟩
    simp only [setList, List.set_set, List.append_assoc, List.cons_append, List.nil_append]

/-- … and appending results of a name `self` does not have yet creates one new list object
    holding exactly these results, in order, under a new last key; no other object changes. -/
theorem append_new_name_creates_list (s : Nat) (m : Mach) (a : Nat) (rest : List Nat) (nm : String)
    (r : Res) (hs : s < m.sims.length) (hd : dictGet? (dictOf m s) nm = none) (hr : m.res[a]? = some r)
    (hn : r.name = nm) (has : ∀ a' ∈ rest, ∃ r', m.res[a']? = some r' ∧ r'.name = nm ∧ r'.ty = r.ty) :
    (appendElems s m (a :: rest)).2 = none
      ∧ (appendElems s m (a :: rest)).1.res = m.res
      ∧ (appendElems s m (a :: rest)).1.lists = m.lists ++ [a :: rest]
      ∧ dictOf (appendElems s m (a :: rest)).1 s = dictOf m s ++ [(nm, m.lists.length)]
      ∧ ∀ j, j ≠ s → (appendElems s m (a :: rest)).1.sims[j]? = m.sims[j]? := by
  let m1 := setDict ⟨m.res, m.lists ++ [[a]], m.sims⟩ s (dictSet (dictOf m s) nm m.lists.length)
  have hstep : appendResult m s a = (m1, none) := by
    simp only [appendResult, hr, hn, hd, addResult]; rfl
  have hd0 : dictOf m1 s = dictSet (dictOf m s) nm m.lists.length := dictOf_setDict _ s _ hs
  obtain ⟨i1, i2, i3⟩ := append_extends_list s m1 rest nm m.lists.length a [] r
    (hd0 ▸ dictGet?_dictSet_self _ _ _)
    (by simp only [listAt, m1, setDict, List.getElem?_concat_length])
    (Nat.lt_of_lt_of_eq (Nat.lt_add_one _) (List.length_append (bs := [[a]])).symm) hr has
  simp only [appendElems, hstep]
  refine ⟨i1, appendElems_res s _ rest, i3.trans ?_, (dictOf_congr i2 s).trans (hd0.trans (dictSet_append hd)),
    fun j hj => ?_⟩
  · exact List.set_append_right _ _ (Nat.le_refl _) |>.trans (by rw [Nat.sub_self]; rfl)
  · rw [i2]
    exact List.getElem?_modify_ne _ _ (Ne.symm hj)

/-- Full statement for `append_all_results` (per name the lists are concatenated, new names are
    appended in the operand's order).  **Partial**: proved are `append_all_never_touches_results`,
    `append_extends_list` and `append_new_name_creates_list` (what happens for one name of the
    operand, both cases); the composition over all names of the operand (the outer loop) is
    covered by the exact correspondence scripts and the `append_all_results` oracle only.
    `append_all_results` is not part of the property's statement (it is listed as a mechanism);
    by design it *shares* the Result objects. -/
def AppendAllConcatStatement : Prop :=
  ∀ (m : Mach) (s o : Nat), s ≠ o → s < m.sims.length → o < m.sims.length →
    (∀ e ∈ dictOf m s, ValidEntry m e) → (∀ e ∈ dictOf m o, ValidEntry m e) →
    ((dictOf m o).map (·.1)).Nodup → (∀ l ∈ reachLists m s, l ∉ reachLists m o) →
    (∀ e ∈ dictOf m o, ∀ a ∈ listAt m e.2, ∃ r, m.res[a]? = some r ∧ r.name = e.1) →
    (∀ e ∈ view m s, ∀ e' ∈ view m o, e.1 = e'.1 → ∀ r ∈ e.2, ∀ r' ∈ e'.2, r.ty = r'.ty) →
    (appendAll m s o).2 = none ∧
      view (appendAll m s o).1 s =
        (view m s).map (fun e => (e.1, e.2 ++ ((view m o).lookup e.1).getD []))
          ++ (view m o).filter (fun e => ((view m s).lookup e.1).isNone && !e.2.isEmpty)

/-- `np.union1d` on the values of an unpacked parameter: exactly the values of either operand,
    strictly increasing (hence without duplicates). -/
theorem union_grid_spec (a b : List Rat) :
    (∀ x, x ∈ union1d a b ↔ x ∈ a ∨ x ∈ b) ∧ (union1d a b).Pairwise (· < ·) :=
  ⟨mem_union1d a b, sorted_union1d a b⟩

/-- values that are distinct but close (noise powers 1·10⁻⁹, 2·10⁻⁹, 4·10⁻⁹; carrier frequencies
    2.4·10⁹ and 2.40001·10⁹) stay distinct in the union grid, are found at their own index, and a
    close but absent value is *absent* (`ValueError`, swallowed by `combine` as "no result for this
    combination") — an instance of `union_grid_spec` / `pack_index_spec`; parameter values are
    exact rationals in the model, so no tolerance can enter. -/
theorem close_values_stay_distinct :
    union1d [1/1000000000, 2/1000000000] [2/1000000000, 4/1000000000]
        = [1/1000000000, 2/1000000000, 4/1000000000]
      ∧ packIndex [[1/1000000000, 2/1000000000, 4/1000000000]] [2/1000000000] = .ok 1
      ∧ packIndex [[1/1000000000, 4/1000000000]] [2/1000000000] = .error .ValueError
      ∧ union1d [2400000000] [2400010000] = [2400000000, 2400010000]
      ∧ packIndex [[2400000000]] [2400010000] = .error .ValueError
      ∧ union1d [2, 3] [2, 5/2] = [2, 5/2, 3] := by
  decide +kernel

/-- **The axis order of the grid is `sorted(names)`** — one order, used for the enumeration of the
    combinations (`product`), for the row-major index (`packIndex`) and for the union: `Params.norm`
    is a permutation of the parameter lists, sorted by name in the lexicographic order of the
    Unicode code points (Python's order on `str`), whatever the insertion order was. -/
theorem param_order_is_sorted (p : Params) :
    p.norm.unp.Perm p.unp ∧ p.norm.unp.Pairwise (fun a b => a.1 ≤ b.1)
      ∧ p.norm.fixed.Perm p.fixed ∧ p.norm.fixed.Pairwise (fun a b => a.1 ≤ b.1) :=
  ⟨perm_sortByName _, sorted_sortByName _, perm_sortByName _, sorted_sortByName _⟩

/-- the code-point order on the names that distinguish it from "natural" or case-insensitive
    orders: `user10 < user2`, `ant16 < ant4`, `x10 < x9`, `B < a`, `SNR < snr < snr2`,
    digits before `_` before letters -/
theorem param_order_witness :
    (sortByName [("user2", [(1 : Rat)]), ("user10", [2]), ("user1", [3])]).map (·.1) = ["user1", "user10", "user2"]
      ∧ (sortByName [("ant4", (0 : Nat)), ("ant16", 0)]).map (·.1) = ["ant16", "ant4"]
      ∧ (sortByName [("x9", (0 : Nat)), ("x10", 0)]).map (·.1) = ["x10", "x9"]
      ∧ (sortByName [("a", (0 : Nat)), ("B", 0)]).map (·.1) = ["B", "a"]
      ∧ (sortByName [("snr2", (0 : Nat)), ("snr", 0), ("SNR", 0)]).map (·.1) = ["SNR", "snr", "snr2"]
      ∧ (sortByName [("p", (0 : Nat)), ("_p", 0), ("1p", 0)]).map (·.1) = ["1p", "_p", "p"] := by
  decide +kernel

/-- `combine_simulation_parameters`: raises `RuntimeError` unless parameter names, unpacked names
    and fixed values agree; otherwise fixed parameters are kept and every unpacked parameter gets
    the union of the two value lists. -/
theorem combine_params_spec (p1 p2 : Params) :
    (p1.norm.fixed = p2.norm.fixed ∧ p1.norm.unp.map (·.1) = p2.norm.unp.map (·.1) →
        combineParams p1 p2 = .ok ⟨p1.norm.fixed,
          List.zipWith (fun a b => (a.1, union1d a.2 b.2)) p1.norm.unp p2.norm.unp⟩)
      ∧ (¬ (p1.norm.fixed = p2.norm.fixed ∧ p1.norm.unp.map (·.1) = p2.norm.unp.map (·.1)) →
        combineParams p1 p2 = .error .RuntimeError) := by
  unfold combineParams
  generalize p1.norm = q1
  generalize p2.norm = q2
  constructor
  · rintro ⟨h1, h2⟩
    simp [combineParamsSorted, h1, h2]
  · intro h
    -- when the names agree it is the comparison of the fixed values that fails
    exact ite_eq_left_iff.mpr fun hn => if_pos fun e => h ⟨e, not_not.mp (not_or.mp hn).2⟩

/-- `get_pack_indexes` of a full combination: the index it returns is the position of the
    combination in the enumeration order of `get_unpacked_params_list`; it raises (`ValueError`)
    exactly when the combination is not in the operand's grid. -/
theorem pack_index_spec (vals : List (List Rat)) (c : List Rat) (hlen : c.length = vals.length) :
    (∀ i, packIndex vals c = .ok i → (product vals)[i]? = some c)
      ∧ (∀ e, packIndex vals c = .error e → e = .ValueError ∧ c ∉ product vals) :=
  have h := packIndex_spec vals c hlen
  ⟨fun i hi => by rw [hi] at h; exact h, fun e he => by rw [he] at h; exact h⟩

/-- **Clause "combining result sets … obeys the same law per parameter combination"**
    (structure): a successful `combine_simulation_results` returns a *new* object whose
    parameters are the combined parameters, with the result names of the first operand in
    order, and whose `k`-th result of every name is the cell of the `k`-th combination of the
    union grid: an empty object merged with the first operand's result of that combination if it
    has one, then with the second's (`cellOf`). -/
theorem combine_results_spec (m m' : Mach) (s1 s2 : Nat) (x1 x2 : Sim)
    (h1 : m.sims[s1]? = some x1) (h2 : m.sims[s2]? = some x2) (h : combine m s1 s2 = (m', none)) :
    ∃ p, combineParams x1.params x2.params = .ok p
      ∧ m'.sims.length = m.sims.length + 1
      ∧ (m'.sims[m.sims.length]?).map (·.params) = some p
      ∧ (view m' m.sims.length).map (·.1) = x1.dict.map (·.1)
      ∧ ∀ row ∈ view m' m.sims.length, ∃ l1 l2 a0 tl r0,
          dictGet? x1.dict row.1 = some l1 ∧ dictGet? x2.dict row.1 = some l2
          ∧ listAt m l1 = a0 :: tl ∧ m.res[a0]? = some r0
          ∧ row.2.length = (product (p.unp.map (·.2))).length
          ∧ ∀ (k : Nat) (c : List Rat), (product (p.unp.map (·.2)))[k]? = some c →
              ∃ r : Res, row.2[k]? = some r
                ∧ cellOf m (fresh row.1 r0.ty false r0.counts.length) (listAt m l1) (listAt m l2)
                    (x1.params.norm.unp.map (·.2)) (x2.params.norm.unp.map (·.2)) c = .ok r := by
  rcases combine_cases m s1 s2 with ⟨e, he⟩ | ⟨xs, ys, d, p, hc, y1, y2, g1, g2, hp, hrows⟩
  · rw [he] at h; cases h
  rw [h1] at g1; rw [h2] at g2
  cases g1; cases g2
  rw [hc] at h; cases h
  exact ⟨p, hp, List.length_append, by rw [List.getElem?_concat_length]; rfl,
    combineRows_spec m _ _ _ _ _ _ _ hrows⟩

/-- **… (content of a cell)**: for a combination present in both operands, in one, or in none,
    the cell is the merge of the operands' results of that combination into an empty object
    (no exception when the results have the operand's name/type/array length). -/
theorem combine_cell_law (m : Mach) (f : Res) (l1 l2 : List Nat) (v1 v2 : List (List Rat))
    (c : List Rat) (hf : f.acc = false) :
    (∀ i1 a1 r1 i2 a2 r2, packIndex v1 c = .ok i1 → l1[i1]? = some a1 → m.res[a1]? = some r1 →
        packIndex v2 c = .ok i2 → l2[i2]? = some a2 → m.res[a2]? = some r2 →
        CompatL f r1 → CompatL f r2 →
        cellOf m f l1 l2 v1 v2 c = .ok (mergeCore (mergeCore f r1) r2))
      ∧ (∀ i1 a1 r1, packIndex v1 c = .ok i1 → l1[i1]? = some a1 → m.res[a1]? = some r1 →
          packIndex v2 c = .error .ValueError → CompatL f r1 →
          cellOf m f l1 l2 v1 v2 c = .ok (mergeCore f r1))
      ∧ (∀ i2 a2 r2, packIndex v1 c = .error .ValueError →
          packIndex v2 c = .ok i2 → l2[i2]? = some a2 → m.res[a2]? = some r2 → CompatL f r2 →
          cellOf m f l1 l2 v1 v2 c = .ok (mergeCore f r2))
      ∧ (packIndex v1 c = .error .ValueError → packIndex v2 c = .error .ValueError →
          cellOf m f l1 l2 v1 v2 c = .ok f) := by
  refine ⟨fun i1 a1 r1 i2 a2 r2 h1 hl1 hr1 h2 hl2 hr2 hc1 hc2 => ?_, fun i1 a1 r1 h1 hl1 hr1 h2 hc1 => ?_,
    fun i2 a2 r2 h1 h2 hl2 hr2 hc2 => ?_, fun h1 h2 => ?_⟩
  · simp only [cellOf, mergeIfPresent_present h1 hl1 hr1 hc1,
      mergeIfPresent_present h2 hl2 hr2 (compatL_mergeCore_left hf hc1 hc2)]
  · simp only [cellOf, mergeIfPresent_present h1 hl1 hr1 hc1, mergeIfPresent_absent h2]
  · simp only [cellOf, mergeIfPresent_absent h1, mergeIfPresent_present h2 hl2 hr2 hc2]
  · simp only [cellOf, mergeIfPresent_absent h1, mergeIfPresent_absent h2]

/-- **… (the law)**: when the operands' results of a combination are the accumulations of the
    observation sequences `xs₁`, `xs₂` (any accumulation flags), the cell equals the object that
    accumulates `xs₁ ++ xs₂` into one new result — SUM, RATIO, CHOICE; one-operand case alike. -/
theorem combine_cell_is_accumulation (nm : String) (ty : Ty) (acc₁ acc₂ : Bool) (k : Nat)
    (hm : ty ≠ .misc) (xs₁ xs₂ : List Obs) :
    mergeCore (mergeCore (fresh nm ty false k) (foldUpd (fresh nm ty acc₁ k) xs₁))
          (foldUpd (fresh nm ty acc₂ k) xs₂)
        = foldUpd (fresh nm ty false k) (xs₁ ++ xs₂)
      ∧ mergeCore (fresh nm ty false k) (foldUpd (fresh nm ty acc₁ k) xs₁)
        = foldUpd (fresh nm ty false k) xs₁ :=
  have h1 := mergeCore_into acc₁ hm (Compat.refl (fresh nm ty false k)) nofun (shaped_fresh _ _ _ _) xs₁
  ⟨by rw [h1, mergeCore_into (acc₀ := false) acc₂ hm (compat_foldUpd _ (Compat.refl _)) nofun
      (shaped_foldUpd _ (shaped_fresh _ _ _ _)), foldUpd_append], h1⟩

/-- **Clause "never mutates the operands" for `combine_simulation_results`** (raising or not):
    every Result object, list object and SimulationResults object that existed before the call
    is unchanged — the call only allocates. -/
theorem combine_never_mutates_operands (m : Mach) (s1 s2 : Nat) :
    (∀ a, a < m.res.length → (combine m s1 s2).1.res[a]? = m.res[a]?)
      ∧ (∀ l, l < m.lists.length → (combine m s1 s2).1.lists[l]? = m.lists[l]?)
      ∧ (∀ j, j < m.sims.length → (combine m s1 s2).1.sims[j]? = m.sims[j]?) := by
  rcases combine_cases m s1 s2 with ⟨e, he⟩ | ⟨_, _, _, _, hc, _⟩
  · rw [he]; exact ⟨fun _ _ => rfl, fun _ _ => rfl, fun _ _ => rfl⟩
  · rw [hc]
    exact ⟨fun _ ha => List.getElem?_append_left ha, fun _ hl => List.getElem?_append_left hl,
      fun _ hj => List.getElem?_append_left hj⟩

/-! ## equivalent entry points and derived objects (R8, R13) -/

/-- **`Result.create` = constructor, then `update`** (every type, accumulation on/off; for CHOICE the
    `total` argument is the number of choices): same object, same exception. -/
theorem create_is_constructor_then_update (nm : String) (ty : Ty) (v t : Rat) (acc : Bool) :
    (ty ≠ .choice → createRes nm ty v t acc = foldUpdM (fresh nm ty acc 0) [⟨v, some t⟩])
      ∧ (∀ k : Nat, t = (k : Rat) → k ≠ 0 →
          createRes nm .choice v t acc = foldUpdM (fresh nm .choice acc k) [⟨v, none⟩]) := by
  constructor
  · intro h
    cases ty
    · simp only [createRes, foldUpdM]
    · simp only [createRes, foldUpdM]
    · simp only [createRes, foldUpdM]
    · exact absurd rfl h
  · intro k hk hk0
    subst hk
    -- a natural number is an admissible number of choices
    have hk : choiceNumOf (k : Rat) = .ok k := by
      rw [choiceNumOf, if_neg (not_not.mpr (Rat.den_natCast k)), Rat.num_natCast,
        if_neg (Int.not_lt.mpr (Int.natCast_nonneg k)), Int.toNat_natCast]
    simp only [createRes, if_neg (Nat.cast_ne_zero.mpr hk0 : (k : Rat) ≠ 0), hk, foldUpdM]

/-- **`add_new_result` = `add_result(Result.create(...))`**, and the `'num_skipped_reps'` result
    `merge_all_results` creates is `add_new_result(name, SUMTYPE, 0)`. -/
theorem add_new_result_is_create_then_add (m : Mach) (s : Nat) (nm : String) (ty : Ty) (v t : Rat) :
    addNewResult m s nm ty v t
        = (match createRes nm ty v t false with
           | .error e => (m, some e)
           | .ok r => addResult (allocRes m r).1 s (allocRes m r).2)
      ∧ addNewSumZero m s nm = addNewResult m s nm .sum 0 0 :=
  ⟨rfl, rfl⟩

/-- **a deep copy (or pickle round trip) of a Result is an independent object**: it has the same
    attributes, a new address, and updates of either leave the other unchanged. -/
theorem copy_is_independent (m m1 : Mach) (a a' : Nat) (h : copyRes m a = (m1, some a')) :
    m1.res[a']? = m.res[a]? ∧ a' = m.res.length ∧ a' ≠ a
      ∧ (∀ o, (updR m1 a' o).1.res[a]? = m.res[a]?)
      ∧ (∀ o, (updR m1 a o).1.res[a']? = m.res[a]?) := by
  unfold copyRes at h
  cases hr : m.res[a]? with
  | none => rw [hr] at h; cases h
  | some r =>
    rw [hr] at h
    cases h
    have halt : a < m.res.length := (List.getElem?_eq_some_iff.mp hr).1
    have hne : m.res.length ≠ a := Nat.ne_of_gt halt
    have hnew : (allocRes m r).1.res[m.res.length]? = some r := GenSim.res_allocRes m r
    have hold : (allocRes m r).1.res[a]? = some r := (List.getElem?_append_left halt).trans hr
    exact ⟨hnew, rfl, hne, fun o => ((updR_writes _ _ o).res _ (Ne.symm hne)).trans hold,
      fun o => ((updR_writes _ _ o).res _ hne).trans hnew⟩

/-- **a deep copy (or pickle round trip) of a result set** is a new object (the last one) that
    denotes the same results; every object that existed before is unchanged. -/
theorem copy_of_result_set (m : Mach) (s : Nat) (x : Sim) (hx : m.sims[s]? = some x)
    (hv : ∀ e ∈ x.dict, ValidEntry m e) :
    view (copySim m s) m.sims.length = view m s
      ∧ (∀ a, a < m.res.length → (copySim m s).res[a]? = m.res[a]?)
      ∧ (∀ l, l < m.lists.length → (copySim m s).lists[l]? = m.lists[l]?)
      ∧ (∀ j, j < m.sims.length → (copySim m s).sims[j]? = m.sims[j]?) := by
  simp only [copySim, hx]
  refine ⟨?_, fun a ha => List.getElem?_append_left ha, fun l hl => List.getElem?_append_left hl,
    fun j hj => List.getElem?_append_left hj⟩
  set olds := dedupNat ((x.dict.flatMap (fun e => listAt m e.2)).filter (· < m.res.length)) with holds
  apply List.ext_getElem?
  intro i
  simp only [view, dictOf, List.getElem?_append_right (Nat.le_refl _), Nat.sub_self, List.getElem?_cons_zero,
    List.getElem?_map, hx]
  cases hi : x.dict[i]? with
  | none =>
    simp only [List.getElem?_zipWith', hi, Option.map_none, Option.bind_fun_none]
  | some e =>
    have hilt : i < x.dict.length := (List.getElem?_eq_some_iff.mp hi).1
    have he : e ∈ x.dict := List.mem_of_getElem? hi
    simp only [List.getElem?_zipWith, List.getElem?_range hilt, hi, Option.map_some, Option.some.injEq,
      Prod.mk.injEq, true_and]
    simp only [viewList, listAt, List.getElem?_append_right (Nat.le_add_right _ _), Nat.add_sub_cancel_left,
      List.getElem?_map, hi, Option.map_some, List.filterMap_map]
    -- a copied element denotes the same result
    refine List.filterMap_congr fun a ha => ?_
    have hmem : a ∈ olds := by
      rw [holds, mem_dedupNat, List.mem_filter]
      exact ⟨List.mem_flatMap.mpr ⟨e, he, ha⟩, decide_eq_true ((hv e he).2 a ha)⟩
    rw [Function.comp_apply, List.getElem?_append_right (Nat.le_add_right _ _), Nat.add_sub_cancel_left]
    refine getElem?_filterMap_posOf _ (fun b hb => ?_) hmem
    rw [List.getElem?_eq_getElem (of_decide_eq_true (List.mem_filter.mp ((mem_dedupNat _ b).mp hb)).2)]
    rfl

/-! ## the insertion order of the result names is not part of the value of a result set -/

/-- a result set whose results were added in another order (`reorderDict`, all names listed)
    answers every lookup by name exactly as before -/
theorem reorder_keeps_lookups (d : Dict) (names : List String) (nm : String) (h : nm ∈ names) :
    dictGet? (reorderDict d names) nm = dictGet? d nm := by
  rw [dictGet?_reorderDict]; simp [h]

/-- **`combine_simulation_results` pairs the operands' results by NAME**: replacing either
    operand by one that answers the same lookups (e.g. the same results added in another order)
    yields exactly the same new results for every name and combination. -/
theorem combine_pairs_results_by_name (m : Mach) (d1 d1' d2 d2' : Dict) (v1 v2 combos : List (List Rat))
    (names : List String) (h1 : ∀ k, dictGet? d1' k = dictGet? d1 k) (h2 : ∀ k, dictGet? d2' k = dictGet? d2 k) :
    combineRows m d1' d2' v1 v2 combos names = combineRows m d1 d2 v1 v2 combos names := by
  induction names with
  | nil => rfl
  | cons nm rest ih =>
    unfold combineRows
    rw [h1 nm, h2 nm, ih]

/-- **`merge_all_results` finds the results of `other` by NAME**: the validation pass and the merge
    loop are the same for every `other` that answers the same lookups. -/
theorem merge_all_pairs_results_by_name (m : Mach) (ds od od' : Dict) (names : List String)
    (h : ∀ k, dictGet? od' k = dictGet? od k) :
    checkNames ds od' m names = checkNames ds od m names
      ∧ mergeNames ds od' m names = mergeNames ds od m names := by
  refine ⟨?_, ?_⟩
  · induction names with
    | nil => rfl
    | cons nm rest ih =>
      unfold checkNames
      rw [lastOf_congr_dict h nm, ih]
  · induction names generalizing m with
    | nil => rfl
    | cons nm rest ih => simp only [mergeNames, lastOf_congr_dict h nm, ih]

/-- two operands holding the same-typed results `a`, `b`, added in opposite orders: the
    combination merges `a` with `a` and `b` with `b` (a positional pairing would raise, or under
    `python -O` silently merge `a` with `b`), gives the same results as with operand 2 in the
    order of operand 1, and `merge_all_results` likewise -/
theorem result_order_witness :
    let r := fun (nm : String) (v : Rat) => foldUpd (fresh nm .sum false 0) [⟨v, none⟩]
    let m : Mach :=
      { res := [r "a" 1, r "b" 2, r "b" 30, r "a" 40], lists := [[0], [1], [2], [3]],
        sims := [⟨[("a", 0), ("b", 1)], ⟨[], []⟩⟩, ⟨[("b", 2), ("a", 3)], ⟨[], []⟩⟩] }
    (combine m 0 1).2 = none
      ∧ view (combine m 0 1).1 2
          = [("a", [foldUpd (fresh "a" .sum false 0) [⟨1, none⟩, ⟨40, none⟩]]),
             ("b", [foldUpd (fresh "b" .sum false 0) [⟨2, none⟩, ⟨30, none⟩]])]
      ∧ view (combine (reorderSim m 1 ["a", "b"]) 0 1).1 2 = view (combine m 0 1).1 2
      ∧ (mergeAll m 0 1).2 = none
      ∧ view (mergeAll m 0 1).1 0
          = [("a", [foldUpd (fresh "a" .sum false 0) [⟨1, none⟩, ⟨40, none⟩]]),
             ("b", [foldUpd (fresh "b" .sum false 0) [⟨2, none⟩, ⟨30, none⟩]])]
      ∧ view (mergeAll (reorderSim m 1 ["a", "b"]) 0 1).1 0 = view (mergeAll m 0 1).1 0 := by
  decide +kernel

/-! ## non-vacuity: the hypotheses above are satisfiable by non-trivial values -/

/-- a RATIO sequence with accumulation, split in three chunks (one empty), two groupings -/
example :
    let f := fresh "ber" .ratio true 0
    let xs : List Obs := [⟨3, some 4⟩, ⟨1, some 2⟩, ⟨-5, some 8⟩]
    (∀ o ∈ xs, validObs f o)
      ∧ evalTree f (.node (.leaf [⟨3, some 4⟩]) (.node (.leaf []) (.leaf [⟨1, some 2⟩, ⟨-5, some 8⟩])))
          = .ok (foldUpd f xs)
      ∧ (foldUpd f xs).value = -1 ∧ (foldUpd f xs).total = 14 ∧ (foldUpd f xs).n = 3 := by
  decide +kernel

/-- a CHOICE sequence (with a negative index) is valid -/
example : ∀ o ∈ ([⟨1, none⟩, ⟨-1, none⟩, ⟨3, none⟩] : List Obs), validObs (fresh "c" .choice false 4) o := by
  decide +kernel

/-- `Watch` holds on a concrete machine with two populated, unrelated objects -/
example : Watch aliasWitness 1 2 ∧ Watch aliasWitness 0 1 :=
  ⟨⟨by decide, by unfold WfS; decide +kernel, by unfold WfS; decide +kernel, by decide +kernel⟩,
   ⟨by decide, by unfold WfS; decide +kernel, by unfold WfS; decide +kernel, by decide +kernel⟩⟩

/-- the hypotheses of `merge_all_pointwise` hold for `b.merge_all_results(c)` on that machine -/
example :
    let m := aliasWitness
    dictOf m 1 ≠ [] ∧ ((dictOf m 1).map (·.1)).Nodup ∧ nsr ∉ (dictOf m 1).map (·.1)
      ∧ lastOf m (dictOf m 1) "x" = .ok 0 ∧ lastOf m (dictOf m 2) "x" = .ok 1
      ∧ (mergeAll m 1 2).2 = none
      ∧ view (mergeAll m 1 2).1 1 = [("x", [foldUpd (fresh "x" .sum false 0) [⟨3, none⟩, ⟨5, none⟩]])] := by
  decide +kernel

/-- `combine_simulation_results` succeeds on two result sets over the grids `p ∈ {1,2}` and
    `p ∈ {2,3}` and yields, for `p = 1,2,3`, the accumulations of `[1]`, `[2,3]`, `[4]` -/
example :
    let r := fun (v : Rat) => foldUpd (fresh "x" .sum true 0) [⟨v, none⟩]
    let m : Mach :=
      { res := [r 1, r 2, r 3, r 4], lists := [[0, 1], [2, 3]],
        sims := [⟨[("x", 0)], ⟨[("f", 3)], [("p", [1, 2])]⟩⟩, ⟨[("x", 1)], ⟨[("f", 3)], [("p", [2, 3])]⟩⟩] }
    (combine m 0 1).2 = none
      ∧ view (combine m 0 1).1 2
          = [("x", [foldUpd (fresh "x" .sum false 0) [⟨1, none⟩],
                    foldUpd (fresh "x" .sum false 0) [⟨2, none⟩, ⟨3, none⟩],
                    foldUpd (fresh "x" .sum false 0) [⟨4, none⟩]])]
      ∧ (((combine m 0 1).1.sims[2]?).map (·.params) = some ⟨[("f", 3)], [("p", [1, 2, 3])]⟩)
      ∧ view (combine m 0 1).1 0 = view m 0 ∧ view (combine m 0 1).1 1 = view m 1 := by
  decide +kernel

/-- `SeqOK` is satisfiable: `b.merge_all_results(c)` on the three-object machine -/
example : SeqOK aliasWitness 1 [2] (fun _ => 0) (fun _ _ => 1) :=
  { hs := by decide, hne := by decide +kernel, hnd := by decide +kernel, hnsr := by decide +kernel,
    hA := by decide +kernel
    hinj := fun _ h1 _ h2 _ => (List.mem_singleton.mp h1).trans (List.mem_singleton.mp h2).symm
    ho := by decide +kernel, hB := by decide +kernel, hsep := by decide +kernel,
    hc := fun nm _ => ⟨_, rfl, fun o ho => by
      cases List.mem_singleton.mp ho
      exact ⟨_, rfl, ⟨rfl, rfl, rfl, rfl⟩⟩⟩ }

/-! ## Tie by regeneration: the functions re-emitted from `results.py` are the hand model

`PyPhysim.Generated.C06` (module `Generated/C06Result.lean`) is rewritten from the current source
on every run; the theorems below are therefore re-checked against what the code says now.  A
semantic edit of `Result.update / _assert_can_merge / merge / get_result / get_result_mean /
get_result_var` either leaves the translated fragment (tie broken) or makes one of them fail. -/

/-- **Tie (regeneration), `Result.update`**: for EVERY record and EVERY observation the function
    re-emitted from the source (`possible_updates` dispatch, the four per-type update functions,
    `num_updates += 1` last, nothing stored before a `raise`) returns the same object and the same
    exception as the hand model `update`, about which the property theorems are stated. -/
theorem generated_update_matches_model (r : Res) (o : Obs) :
    Generated.C06.update r o = update r o := by
  unfold Generated.C06.update update
  cases r.ty
  · rfl
  · rfl
  · rfl
  · -- the integer test is written the other way round
    exact (ite_not _ _ _).symm

/-- the same as an equation between functions: every theorem of this file about `update`,
    `foldUpd`, `foldUpdM`, `evalTree` is a theorem about the regenerated `Result.update` -/
theorem generated_update_is_model : Generated.C06.update = update :=
  funext fun r => funext fun o => generated_update_matches_model r o

/-- **Tie (regeneration), `Result._assert_can_merge` + `Result.merge`**: for every two records that
    represent Python `Result` objects (`OneValue`: the attribute `_value` is either a number or, for
    CHOICE, an array — established by the constructor and kept by `update` / `merge`, see
    `one_value_invariant`) the re-emitted `merge` (all assertions first; list extension under
    `accumulate_values_bool`; MISC replaces, the other types add) returns the same object and the
    same exception as the hand model `merge`.  `other` is an object different from `self`. -/
theorem generated_merge_matches_model (a b : Res) (ha : OneValue a) (hb : OneValue b) :
    Generated.C06.merge a b = merge a b := by
  have hl : ∀ t, t ≠ .choice → a.ty = t → b.ty = t → a.counts.length = b.counts.length :=
    fun t ht h1 h2 => by rw [ha.1 (h1 ▸ ht), hb.1 (h2 ▸ ht)]
  unfold Generated.C06.merge
  -- per type: the tree of assertions is `merge_of_tests`; what is left is which attributes the branch leaves alone
  cases hta : a.ty with
  | sum | ratio =>
    have hm : a.ty ≠ .misc := hta ▸ by decide
    have hc := ha.1 (hta ▸ by decide)
    refine merge_of_tests hta _ _ (hl _ (by decide) hta) (fun _ h => ?_) (fun _ h => ?_)
    · rw [mergeCore_add a b hm, hta, h, hc]; rfl
    · rw [mergeCore_add a b hm, hta, h, hc]; rfl
  | misc =>
    have hc := ha.1 (hta ▸ by decide)
    refine merge_of_tests hta _ _ (hl _ (by decide) hta) (fun ht h => ?_) (fun ht h => ?_)
    · rw [mergeCore_misc a b hta, hta, h, hb.1 (ht ▸ by decide), hc]; rfl
    · rw [mergeCore_misc a b hta, hta, h, hb.1 (ht ▸ by decide), hc]; rfl
  | choice =>
    have hm : a.ty ≠ .misc := hta ▸ by decide
    refine merge_of_tests_choice hta _ _ (fun ht h => ?_) (fun ht h => ?_)
    · rw [mergeCore_add a b hm, hta, h, hb.2 ht, Rat.add_zero]; rfl
    · rw [mergeCore_add a b hm, hta, h, hb.2 ht, Rat.add_zero]; rfl

/-- the hypothesis of `generated_merge_matches_model` is an invariant of every reachable object:
    it holds for `Result(name, type, accumulate, choice_num)` and is kept by every `update` and
    `merge` call, raising or not -/
theorem one_value_invariant :
    (∀ nm ty acc k, OneValue (fresh nm ty acc k))
      ∧ (∀ nm ty acc cn r, mkRes nm ty acc cn = .ok r → OneValue r)
      ∧ (∀ r o, OneValue r → OneValue (update r o).1)
      ∧ (∀ a b, OneValue a → OneValue b → OneValue (merge a b).1) := by
  have hf : ∀ nm ty acc k, OneValue (fresh nm ty acc k) := fun nm ty acc k =>
    ⟨shaped_fresh nm ty acc k, fun _ => rfl⟩
  refine ⟨hf, fun nm ty acc cn r h => ?_, fun r o h => ⟨shaped_update o h.1, fun hc => ?_⟩, fun a b ha hb => ?_⟩
  · -- the constructor returns `fresh` or raises
    cases cn with
    | some k => cases (mkRes_eq_fresh nm ty acc k).symm.trans h; exact hf nm ty acc k
    | none =>
      by_cases hc : ty = .choice
      · subst hc; cases h
      · cases (mkRes_none_eq_fresh nm ty acc hc).symm.trans h; exact hf nm ty acc 0
  · rw [update_ty] at hc
    exact (update_value_of_choice r o hc).trans (h.2 hc)
  · cases hg : mergeGuard a b with
    | some e => rw [merge, hg]; exact ha
    | none =>
      have hc := compatL_of_mergeGuard ha.1 hb.1 hg
      rw [merge_okL hc]
      refine ⟨shaped_mergeCore_of_ty ha.1 hb.1 hc.ty, fun h => ?_⟩
      rw [mergeCore_ty] at h
      rw [mergeCore_add a b (h ▸ by decide)]
      show a.value + b.value = 0
      rw [ha.2 h, hb.2 (hc.ty ▸ h), Rat.add_zero]


/-- `OneValue` is satisfiable by non-trivial objects of both kinds (a RATIO result after one
    update, a CHOICE result with three choices after one update), and the regenerated `merge`
    of two such objects succeeds -/
example :
    let r := (update (fresh "x" .ratio true 0) ⟨3, some 4⟩).1
    let c := (update (fresh "c" .choice false 3) ⟨2, none⟩).1
    OneValue r ∧ OneValue c ∧ r.value = 3 ∧ c.counts = [0, 0, 1]
      ∧ (Generated.C06.merge r r).2 = none ∧ (Generated.C06.merge r r).1.value = 6
      ∧ (Generated.C06.merge c c).1.counts = [0, 0, 2] := by
  decide +kernel

/-- **Tie (regeneration), observers**: `get_result` (incl. "Nothing yet", `value / total` for RATIO
    and CHOICE), `get_result_mean`, `get_result_var` as re-emitted from the source equal the hand
    model's `getResult`, `getMean`, `getVar` for EVERY record (`get_confidence_interval` calls
    scipy and is not translated). -/
theorem generated_getters_match_model (r : Res) :
    Generated.C06.getResult r = getResult r
      ∧ Generated.C06.getMean r = getMean r
      ∧ Generated.C06.getVar r = getVar r := by
  unfold Generated.C06.getResult getResult Generated.C06.getMean getMean Generated.C06.getVar getVar
  cases r.ty <;> exact ⟨rfl, rfl, rfl⟩

/-- the integer type codes read from the class body (`Result.SUMTYPE … CHOICETYPE`) are the ones
    the line protocol of the correspondence check uses (`0 1 2 3`), and `update` converts `value` and
    `total` (numpy scalars / 0-d arrays) to Python numbers before they reach arithmetic, an attribute
    or a list -/
theorem generated_type_codes_and_conversion :
    Generated.C06.tyCode .sum = 0 ∧ Generated.C06.tyCode .ratio = 1 ∧ Generated.C06.tyCode .misc = 2
      ∧ Generated.C06.tyCode .choice = 3 ∧ Generated.C06.updateConvertsNumpy = true := by
  decide

/-- **Tie (regeneration), `SimulationResults.add_result / append_result / add_new_result`**: the
    functions re-emitted from the source (which list object is created or extended under which
    name, `ValueError` for a result of another type, `add_new_result` = `Result.create` +
    `add_result`) equal the hand model on EVERY machine, for every address and argument. -/
theorem generated_add_append_match_model (m : Mach) (s a : Nat) (name : String) (ty : Ty) (v t : Rat) :
    Generated.C06Sim.addResult m s a = addResult m s a
      ∧ Generated.C06Sim.appendResult m s a = appendResult m s a
      ∧ Generated.C06Sim.addNewResult m s name ty v t = addNewResult m s name ty v t :=
  ⟨GenSim.addResult_eq m s a, GenSim.appendResult_eq m s a, GenSim.addNewResult_eq m s name ty v t⟩

/-- **Tie (regeneration), `SimulationResults.merge_all_results`**: the control structure
    re-emitted from the source — an empty `self` adopts deep copies of every list of `other`
    (name by name, in `other`'s order); otherwise `_assert_can_merge` of the last results of every
    name of `self` except `'num_skipped_reps'`, then of `'num_skipped_reps'` (against a new SUM
    result when `self` has none) **before anything is changed**, then `merge` of the last results
    name by name, then the `'num_skipped_reps'` tail (created with `add_new_result(…, SUMTYPE, 0)`
    when absent) — computes the same machine and the same exception as the hand model `mergeAll`,
    for every machine in which `other`'s dictionary has no key twice (a Python `dict`).  So
    `merge_all_frame`, `merge_never_mutates_operand`, `merge_all_pointwise`,
    `merge_all_rejected_unchanged` … are theorems about the regenerated function. -/
theorem generated_merge_all_matches_model (m : Mach) (s o : Nat)
    (hnd : ((dictOf m o).map (·.1)).Nodup) :
    Generated.C06Sim.mergeAll m s o = mergeAll m s o :=
  GenSim.mergeAll_eq m s o hnd

/-- the hypothesis of `generated_merge_all_matches_model` holds on the three-object witness
    machine, and the regenerated function there does what the hand model does: it merges `c`
    into `b` without raising -/
example :
    ((dictOf aliasWitness 2).map (·.1)).Nodup
      ∧ (Generated.C06Sim.mergeAll aliasWitness 1 2).2 = none
      ∧ Generated.C06Sim.mergeAll aliasWitness 1 2 = mergeAll aliasWitness 1 2 := by
  decide +kernel


/-! ## R15 — distinct values that are merely close; R16 — argument identity and buffer reuse -/

/-- **R15, `setter_takes_effect_for_every_new_value`** (MISC, "the last observation wins"): whatever the
    object held before, after `update(v)` the value IS `v`, `get_result()` returns `v`, the call is counted
    and never raises — in particular a new value different from the old one replaces it however close the
    two are (values are exact rationals: there is no tolerance in the model). -/
theorem setter_takes_effect_for_every_new_value (r : Res) (o : Obs) (h : r.ty = .misc) :
    (update r o).2 = none ∧ (update r o).1.value = o.v ∧ (update r o).1.n = r.n + 1
      ∧ getResult (update r o).1 = .ok (.num o.v)
      ∧ (update r o).1.vlist = (if r.acc then r.vlist ++ [o.v] else r.vlist)
      ∧ (o.v ≠ r.value → (update r o).1.value ≠ r.value) := by
  simp [update, h, getResult]

/-- **R15, equality is exact**: `==` of two non-CHOICE results holds iff every compared attribute is
    *equal* (no closeness); hence two SUM or MISC objects with the same past that received two different
    observations `v ≠ w` never compare equal, whatever `|v - w|` is. -/
theorem eq_is_exact (a b : Res) (ha : a.ty ≠ .choice) (hb : b.ty ≠ .choice) :
    (eqPy a b = .ok true ↔
      (a.name = b.name ∧ a.ty = b.ty ∧ a.total = b.total ∧ a.acc = b.acc ∧ a.vlist = b.vlist
        ∧ a.tlist = b.tlist ∧ a.rsq = b.rsq ∧ a.rsum = b.rsum ∧ a.value = b.value))
      ∧ (eqPy a b = .ok true ∨ eqPy a b = .ok false) := by
  unfold eqPy
  rw [if_neg (fun h => hb h.2.1), if_neg ha]
  exact ⟨by simp only [Except.ok.injEq, Bool.and_eq_true, beq_iff_eq, decide_eq_true_eq, and_assoc],
    (Bool.eq_false_or_eq_true _).imp (congrArg _) (congrArg _)⟩

/-- … the consequence named in `eq_is_exact`: the same SUM or MISC object updated once with `v`, once with
    `w ≠ v` (any totals) gives two objects for which `==` returns `False`. -/
theorem close_observations_compare_unequal (r : Res) (v w : Rat) (t t' : Option Rat)
    (h : r.ty = .sum ∨ r.ty = .misc) (hvw : v ≠ w) :
    eqPy (update r ⟨v, t⟩).1 (update r ⟨w, t'⟩).1 = .ok false := by
  have hc : r.ty ≠ .choice := fun e => by rcases h with h | h <;> cases h.symm.trans e
  obtain ⟨hiff, ht | hf⟩ :=
    eq_is_exact _ _ ((update_ty r ⟨v, t⟩).trans_ne hc) ((update_ty r ⟨w, t'⟩).trans_ne hc)
  · have := (hiff.mp ht).2.2.2.2.2.2.2.2
    rcases h with h | h <;> simp only [update, h, add_right_inj] at this <;> exact absurd this hvw
  · exact hf

/-- the neighbouring doubles 0.3 / 0.30000000000000004 and the noise powers 4·10⁻¹² / 4·10⁻¹³ as
    observations of a MISC and a SUM result: stored exactly, compared unequal -/
theorem close_observations_witness :
    (update (fresh "x" .misc false 0) ⟨5404319552844595/18014398509481984, none⟩).1.value
        ≠ (update (fresh "x" .misc false 0) ⟨5404319552844596/18014398509481984, none⟩).1.value
      ∧ eqPy (update (fresh "x" .sum false 0) ⟨4/1000000000000, none⟩).1
             (update (fresh "x" .sum false 0) ⟨4/10000000000000, none⟩).1 = .ok false
      ∧ (update (update (fresh "x" .misc true 0) ⟨4/1000000000000, none⟩).1 ⟨4/10000000000000, none⟩).1.value
          = 4/10000000000000 := by
  decide +kernel

/-- **R15, `lookup_exact`**: `list(values).index(x)` (the look-up inside `get_pack_indexes`) returns `i`
    iff `values[i]` IS `x` and no earlier element is; it fails (`ValueError`: "no result for this
    combination") iff `x` is not an element — the other elements of the grid, however close to `x`, play
    no role. -/
theorem lookup_exact (x : Rat) (vals : List Rat) :
    (∀ i, indexOf? x vals = some i ↔ vals[i]? = some x ∧ ∀ j, j < i → vals[j]? ≠ some x)
      ∧ (indexOf? x vals = none ↔ x ∉ vals) :=
  ⟨indexOf?_eq_some_iff x vals, indexOf?_eq_none_iff x vals⟩

/-- **R16, the result of a merge depends on the contents at call time, not on which object holds them**:
    merging an operand at address `b` or an equal-content object at another address `b'` gives the same
    machine; the receiver becomes `merge ra rb` of the two records read at the call. -/
theorem merge_depends_on_contents_only (m : Mach) (a b b' : Nat) (h : m.res[b]? = m.res[b']?) :
    mergeR m a b = mergeR m a b' := by
  unfold mergeR; rw [h]

/-- **R16, one operand object refilled between two merges**: `a.merge(b); b.update(o); a.merge(b)` with
    `a ≠ b` — the refill does not reach back into the receiver (the first merge kept no reference to the
    operand), and the second merge reads the operand's NEW contents. -/
theorem operand_refilled_between_merges (m : Mach) (a b : Nat) (ra rb : Res) (o : Obs) (hab : a ≠ b)
    (ha : m.res[a]? = some ra) (hb : m.res[b]? = some rb) :
    let m1 := (mergeR m a b).1
    let m2 := (updR m1 b o).1
    m2.res[a]? = some (merge ra rb).1
      ∧ m2.res[b]? = some (update rb o).1
      ∧ (mergeR m2 a b).1.res[a]? = some (merge (merge ra rb).1 (update rb o).1).1
      ∧ (mergeR m2 a b).1.res[b]? = some (update rb o).1 := by
  intro m1 m2
  have hmerge {m : Mach} {ra rb : Res} (ha : m.res[a]? = some ra) (hb : m.res[b]? = some rb) :
      (mergeR m a b).1.res[a]? = some (merge ra rb).1 := mergeR_eq ha hb ▸ setRes_get_self ha
  have h1b : m1.res[b]? = some rb := ((mergeR_writes m a b).res b (Ne.symm hab)).trans hb
  have h2a : m2.res[a]? = some (merge ra rb).1 :=
    ((updR_writes m1 b o).res a hab).trans (hmerge ha hb)
  have h2b : m2.res[b]? = some (update rb o).1 := updR_spec o h1b
  exact ⟨h2a, h2b, hmerge h2a h2b, ((mergeR_writes m2 a b).res b (Ne.symm hab)).trans h2b⟩

/-- **R16, the same object in both roles**: `a.merge(a)` never raises and doubles every sufficient
    statistic (SUM, RATIO, CHOICE; the value lists are appended to themselves when accumulating). -/
theorem self_merge_doubles (a : Res) (hm : a.ty ≠ .misc) :
    (merge a a).2 = none ∧ (merge a a).1.n = a.n + a.n ∧ (merge a a).1.value = a.value + a.value
      ∧ (merge a a).1.total = a.total + a.total ∧ (merge a a).1.rsum = a.rsum + a.rsum
      ∧ (merge a a).1.rsq = a.rsq + a.rsq
      ∧ (merge a a).1.counts = List.zipWith (· + ·) a.counts a.counts
      ∧ (merge a a).1.vlist = (if a.acc then a.vlist ++ a.vlist else a.vlist) := by
  rw [merge_ok (Compat.refl a), mergeCore_add a a hm]
  exact ⟨rfl, rfl, rfl, rfl, rfl, rfl, rfl, rfl⟩

/-- the hypotheses of `close_observations_compare_unequal` and `operand_refilled_between_merges` are
    satisfiable: a SUM object; a heap with a receiver at address 0 and an operand at address 1 -/
example :
    ((fresh "x" .sum false 0).ty = .sum ∨ (fresh "x" .sum false 0).ty = .misc)
      ∧ (0 : Nat) ≠ 1
      ∧ (⟨[fresh "x" .sum true 0, (update (fresh "x" .sum true 0) ⟨3, none⟩).1], [], []⟩ : Mach).res[0]?
          = some (fresh "x" .sum true 0)
      ∧ (⟨[fresh "x" .sum true 0, (update (fresh "x" .sum true 0) ⟨3, none⟩).1], [], []⟩ : Mach).res[1]?
          = some (update (fresh "x" .sum true 0) ⟨3, none⟩).1 := by
  decide +kernel

end PyPhysim.C06
