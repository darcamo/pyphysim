import PyPhysim.Proofs.C19HexCluster
import PyPhysim.Proofs.C19Square
import PyPhysim.Proofs.C19Sec3
import PyPhysim.Proofs.C19State
import PyPhysim.Proofs.C19Close
import PyPhysim.Proofs.C19Users
import PyPhysim.Proofs.C19Border
import PyPhysim.Generated.C19Tables

/-!
# C19 — cell geometry: containment, user placement and cluster layout are exact

Property theorems only.  The model (`PyPhysim.Model.C19`, `C19Cluster`, `C19State`, `C19Users`,
`C19Spec`) is tied to `cell/shapes.py`, `cell/cell.py`, `pointprocess/pointprocess.py` by the correspondence of
`harness/props/c19.py` (the same definitions run at `Float` in the driver; 1e-9 of the shape
scale on coordinates, exact on discrete decisions taken away from ties).

Conventions: points are `(re, im)`; a rotation of `θ` degrees enters as the unit vector
`u = exp(jπθ/180) = Circ.cisDeg θ`, every theorem holds for every `u` with `norm2 u = 1`
(all rotations in `[-720, 720]` and beyond); `dist2` is the squared Euclidean distance.
`matplotlib.path.Path.contains_point` (the polygon test of `Shape.is_point_inside_shape`) and
`np.random` are parameters: `inside : Pt α → Bool` (from the histories of calls on: `inside : List (Pt α) → Pt α → Bool`,
the test of the current vertex list) and an explicit stream of draws.
Binary64 rounding is outside the theorems.
-/
set_option linter.unusedSectionVars false

namespace PyPhysim.C19
open PyPhysim.Proto

section ordered_field
variable {α : Type} [Field α] [LinearOrder α] [IsStrictOrderedRing α]

/-- `Shape.vertices` places a shape by a rotation and a translation, and that is an isometry:
    distances between placed points are those of the unplaced shape, for every position and every
    rotation.  (This is what lifts every distance statement below to all rotations.) -/
theorem rot_isometry (pos u p q : Pt α) (hu : norm2 u = 1) :
    dist2 (padd pos (rot u p)) (padd pos (rot u q)) = dist2 p q := by
  rw [dist2_padd_left, dist2_rot, hu, one_mul]

/-- **Rectangle / CellSquare containment (repaired test).**  For every pair of corners, every
    rotation and every query point, `Rectangle.is_point_inside_shape` holds exactly when the point
    is a convex combination of the four vertices `Shape.vertices` reports. -/
theorem rect_contains_iff (first second u p : Pt α) (hu : norm2 u = 1) :
    rectInside (mkRect first second) u p = true ↔
      InHull (place (mkRect first second).pos u (rectVerts (mkRect first second))) p :=
  rectInside_iff_inHull _ u hu (mkRect_lower_le_upper first second).1 (mkRect_lower_le_upper first second).2 p

/-- … and the same for the `CellSquare` a cluster creates (centre handed to `CellBase.__init__`). -/
theorem square_contains_iff (side : α) (centre u p : Pt α) (hu : norm2 u = 1) :
    rectInside (squareCell side centre) u p = true ↔ InHull (squareCellVerts side u centre) p :=
  rectInside_iff_inHull _ u hu pmin_le_pmax pmin_le_pmax p

/-- `CellBase.add_user(absolute position)` adds exactly the points the containment test accepts and
    raises `ValueError` for every other point. -/
theorem add_user_iff_inside (inside : Pt α → Bool) (p : Pt α) :
    (addUser inside p = .ok p ↔ inside p = true) ∧ (addUser inside p = .error .ValueError ↔ inside p = false) := by
  unfold addUser
  cases inside p <;> simp

/-- **Border point lies on the boundary, in exactly the requested direction, scaled by the ratio.**
    For every polygon, centre, direction `d` and ratio: when `get_border_point` returns `p` there is a
    step `t > 0` with `b = pos + t·d` on an edge of the polygon (so `b` is on the ray from the centre
    in direction `d`), `p = pos + ratio·(b - pos)`, and no boundary point on the open ray is nearer
    to the centre than `b` (only edges whose line passes through the centre are excepted). -/
theorem border_point_on_boundary (pos : Pt α) (verts : List (Pt α)) (d : Pt α) (ratio : α) (p : Pt α)
    (h : borderPoint pos verts d ratio = .ok p) :
    ∃ t, 0 < t ∧ OnBoundary verts (padd pos (smul t d)) ∧ p = padd pos (smul (ratio * t) d) ∧
      ∀ e ∈ cyc verts, cross (psub e.1 pos) (psub e.2 pos) ≠ 0 → ∀ t', 0 < t' →
        OnSegment e.1 e.2 (padd pos (smul t' d)) → t ≤ t' := by
  unfold borderPoint at h
  split at h
  · cases h
  · rename_i t hb
    obtain ⟨ht, ⟨e, he, hseg⟩, hfirst⟩ := borderStep_sound hb
    rw [cyc_map] at he
    obtain ⟨e0, he0, rfl⟩ := List.mem_map.mp he
    refine ⟨t, ht, ⟨e0, he0, (onSegment_padd pos).mpr hseg⟩, ?_, ?_⟩
    · rw [← Except.ok.inj h, Nat.cast_one, lerp_padd_smul]
    · intro e' he' hne t' ht' hs'
      apply hfirst (psub e'.1 pos, psub e'.2 pos) _ hne t' ht' ((onSegment_padd pos).mp hs')
      rw [cyc_map]
      exact List.mem_map.mpr ⟨e', he', rfl⟩

/-- **A border point exists for every angle** of every polygon whose edges all run
    counter-clockwise as seen from the centre (star-shaped around a centre strictly inside). -/
theorem border_point_exists (pos : Pt α) (verts : List (Pt α)) (hne : verts ≠ [])
    (hstar : StarCCW (verts.map (fun v => psub v pos))) (d : Pt α) (hd : d ≠ (0, 0)) (ratio : α) :
    ∃ p, borderPoint pos verts d ratio = .ok p :=
  borderPoint_exists pos verts hne hstar d hd ratio

/-- Every non-degenerate rectangle, in every rotation, has a border point in every direction. -/
theorem rect_border_point_exists (first second u d : Pt α) (hu : norm2 u = 1) (h1 : first.1 ≠ second.1)
    (h2 : first.2 ≠ second.2) (hd : d ≠ (0, 0)) (ratio : α) :
    ∃ p, borderPoint (mkRect first second).pos
      (place (mkRect first second).pos u (rectVerts (mkRect first second))) d ratio = .ok p := by
  obtain ⟨a, b, c, e⟩ := mkRect_centre_inside first second h1 h2
  exact placed_border_point_exists (List.cons_ne_nil _ _) (rect_star a b c e) _ u d hu hd ratio

/-- `add_border_user` validates the ratio: the user is placed with a ratio in `[0, 1]` (exactly `1`
    is nudged inside by `eps`), every ratio outside `[0, 1]` raises `ValueError`. -/
theorem border_user_ratio (ratio eps : α) (he0 : 0 ≤ eps) (he1 : eps ≤ 1) :
    (ratio < 0 ∨ 1 < ratio → validateRatio ratio eps = .error .ValueError) ∧
    (∀ r, validateRatio ratio eps = .ok r → 0 ≤ r ∧ r ≤ 1 ∧ (ratio ≠ 1 → r = ratio)) := by
  refine ⟨validateRatio_outside eps, fun r hr => ?_⟩
  rw [validateRatio_eq] at hr
  split_ifs at hr with h1 h2
  · obtain rfl := Except.ok.inj hr
    exact ⟨sub_nonneg.mpr he1, sub_le_self 1 he0, fun hne => absurd h1 hne⟩
  · obtain rfl := Except.ok.inj hr
    exact ⟨not_lt.mp fun h => h2 (Or.inl h), not_lt.mp fun h => h2 (Or.inr h), fun _ => rfl⟩

/-- **Randomly placed users are inside their cell and not closer to the centre than requested.**
    For every containment test, centre, radius, `min_dist_ratio` and every stream of draws: if
    `add_random_user` places a user at `p` after `m` pairs of draws then `p` is inside the cell, is
    not closer to the centre than `ratio·radius`, is the candidate built from the `m`-th pair, every
    earlier candidate was outside or too close, and the final `add_user` accepts `p`. -/
theorem random_user_postcondition [Circ α] (inside : Pt α → Bool) (pos : Pt α) (R ratio : α)
    (us : List (α × α)) (p : Pt α) (m : ℕ) (h : addRandomUser inside pos R ratio us = some (p, m)) :
    inside p = true ∧ ¬ (dist pos p < ratio * R) ∧ addUser inside p = .ok p ∧
      ∃ k, m = k + 1 ∧ us[k]?.map (candidate pos R) = some p ∧
        ∀ j, j < k → ∃ uj, us[j]? = some uj ∧
          (inside (candidate pos R uj) = false ∨ dist pos (candidate pos R uj) < ratio * R) := by
  obtain ⟨k, hm, hp, hacc, hrej⟩ := firstAccepted_spec us 0 p m h
  simp only [acceptable, Bool.and_eq_true, Bool.not_eq_true', decide_eq_false_iff_not] at hacc
  refine ⟨hacc.1, hacc.2, (add_user_iff_inside inside p).1.mpr hacc.1, k, by omega, hp, ?_⟩
  intro j hj
  obtain ⟨uj, h1, h2⟩ := hrej j hj
  refine ⟨uj, h1, ?_⟩
  simp only [acceptable, Bool.and_eq_false_iff, Bool.not_eq_false', decide_eq_true_eq] at h2
  exact h2

/-- … in particular a user placed at random in a `CellSquare`, in any rotation, is a convex
    combination of the cell's four vertices (this is what the rotation-blind test violated). -/
theorem square_random_user_in_cell [Circ α] (side : α) (centre u : Pt α) (hu : norm2 u = 1) (R ratio : α)
    (us : List (α × α)) (p : Pt α) (m : ℕ)
    (h : addRandomUser (rectInside (squareCell side centre) u) centre R ratio us = some (p, m)) :
    InHull (squareCellVerts side u centre) p ∧ ¬ (dist centre p < ratio * R) := by
  obtain ⟨hin, hd, _⟩ := random_user_postcondition _ centre R ratio us p m h
  exact ⟨(square_contains_iff side centre u p hu).mp hin, hd⟩

/-- every candidate is in the square `pos ± radius` (which contains the hexagon and the square cell) -/
theorem random_candidate_in_box (pos : Pt α) (R : α) (hR : 0 ≤ R) (u : α × α)
    (h1 : 0 ≤ u.1) (h1' : u.1 < 1) (h2 : 0 ≤ u.2) (h2' : u.2 < 1) :
    pos.1 - R ≤ (candidate pos R u).1 ∧ (candidate pos R u).1 ≤ pos.1 + R ∧
    pos.2 - R ≤ (candidate pos R u).2 ∧ (candidate pos R u).2 ≤ pos.2 + R := by
  have hR2 := mul_nonneg zero_le_two hR
  simp only [candidate, Nat.cast_one, Nat.cast_ofNat]
  -- the distances to the two sides of the box are `2·x·R` and `2·(1 - x)·R`
  exact ⟨le_of_sub_eq_mul hR2 h1 (by ring), le_of_sub_eq_mul hR2 h1'.le (by ring),
    le_of_sub_eq_mul hR2 h2 (by ring), le_of_sub_eq_mul hR2 h2'.le (by ring)⟩

/-- **Centred around the cluster position**: for every non-empty list of raw cell positions
    (hexagon rings of any size, square grids), every rotation and every cluster position, the mean
    of the cell centres is the cluster position. -/
theorem cluster_centroid (raw : List (Pt α)) (hne : raw ≠ []) (u pos : Pt α) :
    meanPt (clusterCentres raw u pos) = pos := by
  have hn : ((raw.length : ℕ) : α) ≠ 0 := Nat.cast_ne_zero.mpr (mt List.length_eq_zero_iff.mp hne)
  simp only [clusterCentres, meanPt, List.length_map]
  rw [sumPts_map_shift]
  -- `(S - n·(S/n) + n·pos)/n` in each coordinate
  simp only [List.length_map, padd, psub, smul, ← mul_div_assoc, mul_div_cancel_left₀ _ hn, sub_self, zero_add]

/-- Distances between cell centres do not depend on the rotation, the centring or the position. -/
theorem cluster_distances_invariant (raw : List (Pt α)) (u pos : Pt α) (hu : norm2 u = 1) (i j : ℕ)
    (ci cj : Pt α) (hi : (clusterCentres raw u pos)[i]? = some ci)
    (hj : (clusterCentres raw u pos)[j]? = some cj) :
    ∃ pi pj, raw[i]? = some pi ∧ raw[j]? = some pj ∧ dist2 ci cj = dist2 pi pj := by
  obtain ⟨pi, pj, h1, h2, h3, _⟩ := clusterCentres_pair hi hj
  exact ⟨pi, pj, h1, h2, by rw [h3, hu, one_mul]⟩

/-- **Congruent cells**: every cell of a cluster is the same polygon translated to its centre. -/
theorem cells_congruent (base : List (Pt α)) (u ci cj : Pt α) :
    (cellVerts base u ci).map (fun v => psub v ci) = (cellVerts base u cj).map (fun v => psub v cj) := by
  simp only [cellVerts, place_rel]

/-- `k × k` cells are laid out for a perfect square … -/
theorem square_cluster_accepts (side : α) (k : ℕ) :
    squareRaw side (k * k) = .ok ((List.range (k * k)).map (squareRawPt side k)) := by
  simp only [squareRaw, Nat.sqrt_eq, if_true]

/-- … and every other cell count raises `ValueError`. -/
theorem square_cluster_rejects (side : α) (n : ℕ) (h : ¬ ∃ k, k * k = n) :
    squareRaw side n = .error .ValueError := by
  rw [squareRaw, if_neg fun hc => h ⟨_, hc⟩]

/-- **Squares: no two cells closer than one side**, in any rotation, at any position. -/
theorem square_cluster_min_distance (side : α) (k : ℕ) (u pos : Pt α) (hu : norm2 u = 1) (i j : ℕ)
    (hij : i ≠ j) (ci cj : Pt α)
    (hi : (clusterCentres ((List.range (k * k)).map (squareRawPt side k)) u pos)[i]? = some ci)
    (hj : (clusterCentres ((List.range (k * k)).map (squareRawPt side k)) u pos)[j]? = some cj) :
    side * side ≤ dist2 ci cj := by
  obtain ⟨hin, hjn, hd, _⟩ := range_centres hu hi hj
  exact hd ▸ squareRaw_min_dist side hin hjn hij

/-- **Squares: grid neighbours are exactly one side apart** — the next cell of the same row and the
    cell one row further. -/
theorem square_cluster_neighbours (side : α) (k : ℕ) (hk : 0 < k) (u pos : Pt α) (hu : norm2 u = 1)
    (i : ℕ) (ci : Pt α)
    (hi : (clusterCentres ((List.range (k * k)).map (squareRawPt side k)) u pos)[i]? = some ci) :
    (∀ cj, (i + 1) % k ≠ 0 →
        (clusterCentres ((List.range (k * k)).map (squareRawPt side k)) u pos)[i + 1]? = some cj →
        dist2 ci cj = side * side) ∧
    (∀ cj, (clusterCentres ((List.range (k * k)).map (squareRawPt side k)) u pos)[i + k]? = some cj →
        dist2 ci cj = side * side) := by
  constructor
  · intro cj hrow hj
    obtain ⟨_, _, hd, _⟩ := range_centres hu hi hj
    exact hd.trans (squareRaw_adjacent_h side k i hrow)
  · intro cj hj
    obtain ⟨_, hjn, hd, _⟩ := range_centres hu hi hj
    exact hd.trans (squareRaw_adjacent_v side k i hk hjn)

/-- **Squares touch without overlapping**: any two cells of a square cluster lie on different sides
    of a line (so the interiors of the two squares are disjoint), in any rotation. -/
theorem square_cluster_separated (side : α) (hs : 0 ≤ side) (k : ℕ) (u pos : Pt α) (hu : norm2 u = 1)
    (i j : ℕ) (hij : i ≠ j) (ci cj : Pt α)
    (hi : (clusterCentres ((List.range (k * k)).map (squareRawPt side k)) u pos)[i]? = some ci)
    (hj : (clusterCentres ((List.range (k * k)).map (squareRawPt side k)) u pos)[j]? = some cj) :
    Separated (squareCellVerts side u ci) (squareCellVerts side u cj) := by
  obtain ⟨hin, hjn, _, hsub⟩ := range_centres hu hi hj
  exact square_sep side hs hu hsub (square_axis side hs hin hjn hij)

/-- points requested inside a `w × h` rectangle are inside it, for all draws in `[0, 1)` -/
theorem points_in_rectangle_range (w h u v : α) (hw : 0 ≤ w) (hh : 0 ≤ h) (hu : 0 ≤ u) (hu' : u < 1)
    (hv : 0 ≤ v) (hv' : v < 1) :
    -(w / 2) ≤ (ppRectPoint w h u v).1 ∧ (ppRectPoint w h u v).1 ≤ w / 2 ∧
    -(h / 2) ≤ (ppRectPoint w h u v).2 ∧ (ppRectPoint w h u v).2 ≤ h / 2 := by
  simp only [ppRectPoint, Nat.cast_one, Nat.cast_ofNat]
  -- the distances to the two ends of the range are `w·(1 - u)` and `w·u`
  exact ⟨le_of_sub_eq_mul hw hu'.le (by ring), le_of_sub_eq_mul hw hu (by ring),
    le_of_sub_eq_mul hh hv'.le (by ring), le_of_sub_eq_mul hh hv (by ring)⟩
end ordered_field

section real
open Real

/-- **Hexagon vertices.**  For every radius, position and rotation the six vertices
    `Hexagon.vertices` reports are at distance `radius` from the centre, consecutive vertices
    (cyclically) are `radius` apart — a regular hexagon — and before placement vertex `k` is
    `radius·exp(j(-120° + 60°k))`. -/
theorem hex_vertices_regular (R : ℝ) (pos u : Pt ℝ) (hu : norm2 u = 1) :
    (∀ v ∈ place pos u (hexVerts R), dist2 pos v = R * R) ∧
    (∀ e ∈ cyc (place pos u (hexVerts R)), dist2 e.1 e.2 = R * R) ∧
    hexVerts R = [smul R (E 8), smul R (E 10), smul R (E 0), smul R (E 2), smul R (E 4), smul R (E 6)] := by
  refine ⟨?_, ?_, hexVerts_eq R⟩
  · intro v hv
    obtain ⟨w, hw, rfl⟩ := List.mem_map.mp hv
    rw [dist2_self_padd, norm2_rot, hu, one_mul, hex_norm2 R w hw]
  · intro e he
    rw [place, cyc_map] at he
    obtain ⟨e0, he0, rfl⟩ := List.mem_map.mp he
    exact (rot_isometry pos u e0.1 e0.2 hu).trans (hex_cyc R e0 he0).1

/-- Every hexagon cell (radius `> 0`), in every rotation, has a border point in every direction. -/
theorem hex_border_point_exists (R : ℝ) (hR : 0 < R) (pos u d : Pt ℝ) (hu : norm2 u = 1) (hd : d ≠ (0, 0))
    (ratio : ℝ) : ∃ p, borderPoint pos (place pos u (hexVerts R)) d ratio = .ok p := by
  exact placed_border_point_exists (List.cons_ne_nil _ _) (hex_star R hR) pos u d hu hd ratio

/-- **3-sector cell vertices.**  The twelve vertices `Cell3Sec` reports (the outer vertices of the
    union of its three sector hexagons) are at angles `-120° + 30°k` with radii repeating
    `R, R/√3, R, 2R/√3`. -/
theorem sec3_vertices (R : ℝ) :
    sec3Verts R =
      [smul R (E 8), smul (R / Real.sqrt 3) (E 9), smul R (E 10), smul (2 * R / Real.sqrt 3) (E 11),
       smul R (E 12), smul (R / Real.sqrt 3) (E 13), smul R (E 14), smul (2 * R / Real.sqrt 3) (E 15),
       smul R (E 16), smul (R / Real.sqrt 3) (E 17), smul R (E 18), smul (2 * R / Real.sqrt 3) (E 19)] :=
  sec3Verts_eq R

/-- Every 3-sector cell (radius `> 0`), in every rotation, has a border point in every direction. -/
theorem sec3_border_point_exists (R : ℝ) (hR : 0 < R) (pos u d : Pt ℝ) (hu : norm2 u = 1) (hd : d ≠ (0, 0))
    (ratio : ℝ) : ∃ p, borderPoint pos (place pos u (sec3Verts R)) d ratio = .ok p := by
  exact placed_border_point_exists (sec3Verts_eq R ▸ List.cons_ne_nil _ _) (sec3_star R hR) pos u d hu hd ratio

/-- `exp(j·30°·k)` is the unit vector the code computes for the angle `30k` degrees -/
theorem E_is_cisDeg (k : ℕ) : (Circ.cisDeg (((30 * k : ℕ)) : ℝ) : Pt ℝ) = E k ∧ norm2 (E k) = 1 :=
  ⟨cisDeg_mul30 k, E_norm2 k⟩

/-- every angle in degrees gives a unit direction, so the theorems stated for unit `u` cover all
    rotations and all border-point angles -/
theorem cisDeg_is_unit (a : ℝ) : norm2 (Circ.cisDeg a : Pt ℝ) = 1 := norm2_cos_sin _

/-- **Circle containment**: `Circle.is_point_inside_shape` is the open disc of the circle's radius. -/
theorem circle_contains_iff (pos : Pt ℝ) (r : ℝ) (hr : 0 < r) (p : Pt ℝ) :
    circleInside pos r p = true ↔ dist2 pos p < r * r := by
  unfold circleInside
  rw [decide_eq_true_eq]
  simp only [dist, Circ.sqrt]
  rw [Real.sqrt_lt' hr, sq]

/-- … and the twelve vertices a `Circle` reports lie on that circle. -/
theorem circle_vertices_on_circle (pos : Pt ℝ) (r : ℝ) :
    ∀ v ∈ place pos (1, 0) (circleVerts r), dist2 pos v = r * r := by
  intro v hv
  simp only [place, circleVerts, List.mem_map, List.mem_range] at hv
  obtain ⟨w, ⟨k, _, rfl⟩, rfl⟩ := hv
  rw [dist2_self_padd, norm2_rot, norm2_smul, cisDeg_is_unit]
  simp only [norm2, mul_one, mul_zero, add_zero, one_mul]

/-- **Circle border point**: in exactly the requested direction, at distance `ratio·radius`. -/
theorem circle_border_point (pos : Pt ℝ) (r ratio ang : ℝ) :
    psub (circleBorderPoint pos r (Circ.cisDeg ang) ratio) pos = smul (ratio * r) (Circ.cisDeg ang) ∧
    dist2 pos (circleBorderPoint pos r (Circ.cisDeg ang) ratio) = (ratio * r) * (ratio * r) := by
  constructor
  · simp only [circleBorderPoint, psub, padd, smul]
    congr 1 <;> ring
  · rw [circleBorderPoint, dist2_self_padd, norm2_smul, cisDeg_is_unit, mul_one, mul_comm r]

/-! ### hexagon clusters (sizes 1 … 19, hence {1,3,4,7,13,19}; also the 3-sector layout, which
uses the same centres) -/

/-- **First ring: exactly two apothems.**  Cells `2…7` are two apothems (`2·height`) from cell `1`
    and from their next neighbour on the ring, for every cell radius, rotation and position. -/
theorem hex_cluster_first_ring (n : ℕ) (hn : n ≤ 19) (R : ℝ) (u pos : Pt ℝ) (hu : norm2 u = 1) (i : ℕ)
    (h1 : 1 ≤ i) (h6 : i ≤ 6) (c0 ci : Pt ℝ) (h0 : (clusterCentres (hexRaw R n) u pos)[0]? = some c0)
    (hi : (clusterCentres (hexRaw R n) u pos)[i]? = some ci) :
    dist2 c0 ci = (2 * hexHeight R) * (2 * hexHeight R) ∧
      ∀ cn, (clusterCentres (hexRaw R n) u pos)[i % 6 + 1]? = some cn →
        dist2 ci cn = (2 * hexHeight R) * (2 * hexHeight R) := by
  obtain ⟨_, hin, hd, _⟩ := hex_centres_dist hu h0 hi
  obtain ⟨h, h'⟩ := lat_ring1 i (hin.trans_le hn) h1 h6
  constructor
  · rw [hd, ← (latD_apothems R).1, ← h]
  · intro cn hcn
    obtain ⟨_, _, hd, _⟩ := hex_centres_dist hu hi hcn
    rw [hd, ← (latD_apothems R).1, ← h']

/-- **Second ring** (sizes 13, 19): distances from the centre cell alternate `3·radius`, `4·height`. -/
theorem hex_cluster_second_ring (n : ℕ) (hn : n ≤ 19) (R : ℝ) (u pos : Pt ℝ) (hu : norm2 u = 1) (i : ℕ)
    (h7 : 7 ≤ i) (c0 ci : Pt ℝ) (h0 : (clusterCentres (hexRaw R n) u pos)[0]? = some c0)
    (hi : (clusterCentres (hexRaw R n) u pos)[i]? = some ci) :
    dist2 c0 ci = if (i - 7) % 2 = 0 then (3 * R) * (3 * R) else (4 * hexHeight R) * (4 * hexHeight R) := by
  obtain ⟨_, hin, hd, _⟩ := hex_centres_dist hu h0 hi
  rw [hd, lat_ring2 i (hin.trans_le hn) h7, ← (latD_apothems R).2.1, ← (latD_apothems R).2.2]
  split_ifs <;> rfl

/-- **No two centres closer than two apothems**, for every size `≤ 19`, rotation and position. -/
theorem hex_cluster_min_distance (n : ℕ) (hn : n ≤ 19) (R : ℝ) (u pos : Pt ℝ) (hu : norm2 u = 1) (i j : ℕ)
    (hij : i ≠ j) (ci cj : Pt ℝ) (hi : (clusterCentres (hexRaw R n) u pos)[i]? = some ci)
    (hj : (clusterCentres (hexRaw R n) u pos)[j]? = some cj) :
    (2 * hexHeight R) * (2 * hexHeight R) ≤ dist2 ci cj := by
  obtain ⟨hin, hjn, hd, _⟩ := hex_centres_dist hu hi hj
  rw [hd, ← (latD_apothems R).1]
  have h := lat_min i (hin.trans_le hn) j (hjn.trans_le hn) hij
  exact mul_le_mul_of_nonneg_left (Int.cast_le.mpr h) (div_nonneg (mul_self_nonneg R) zero_le_four)

/-- **Cells touch**: every cell but the first is exactly two apothems from an earlier cell (so the
    cluster is connected through touching cells, for every size). -/
theorem hex_cluster_touching (n : ℕ) (hn : n ≤ 19) (R : ℝ) (u pos : Pt ℝ) (hu : norm2 u = 1) (i : ℕ)
    (h1 : 1 ≤ i) (ci : Pt ℝ) (hi : (clusterCentres (hexRaw R n) u pos)[i]? = some ci) :
    ∃ j cj, j < i ∧ (clusterCentres (hexRaw R n) u pos)[j]? = some cj ∧
      dist2 ci cj = (2 * hexHeight R) * (2 * hexHeight R) := by
  have hin : i < n := (hex_centres_dist hu hi hi).1
  obtain ⟨j, hj, hd⟩ := lat_touch i (hin.trans_le hn) h1
  obtain ⟨cj, hcj⟩ := clusterCentres_exists (hexRaw R n) u pos j
    (by rw [hexRaw, List.length_map, List.length_range]; exact hj.trans hin)
  obtain ⟨_, _, hdist, _⟩ := hex_centres_dist hu hi hcj
  exact ⟨j, cj, hj, hcj, by rw [hdist, hd, (latD_apothems R).1]⟩

/-- **Hexagons touch without overlapping**: any two cells of a hexagon cluster lie on different sides
    of a line (so the interiors of the two hexagons are disjoint), in any rotation. -/
theorem hex_cluster_separated (n : ℕ) (hn : n ≤ 19) (R : ℝ) (hR : 0 ≤ R) (u pos : Pt ℝ) (hu : norm2 u = 1)
    (i j : ℕ) (hij : i ≠ j) (ci cj : Pt ℝ)
    (hi : (clusterCentres (hexRaw R n) u pos)[i]? = some ci)
    (hj : (clusterCentres (hexRaw R n) u pos)[j]? = some cj) :
    Separated (cellVerts (hexVerts R) u ci) (cellVerts (hexVerts R) u cj) := by
  obtain ⟨hin, hjn, _, hsub⟩ := hex_centres_dist hu hi hj
  obtain ⟨k, hk3, hk⟩ := lat_sep i (hin.trans_le hn) j (hjn.trans_le hn) hij
  have h3 := div_nonneg (Real.sqrt_nonneg 3) zero_le_four
  -- along the edge normal `E (2k+1)` the centres are `√3/4·|latDot| ≥ √3` radii apart:
  -- the excess over two apothems is `R·√3/4·(|latDot| - 4)`
  apply hex_sep R hR hu k hsub
  rw [psub_smul, latPt_sub, dot_smul, dot_E_lat k hk3, abs_mul, abs_mul, abs_of_nonneg hR, abs_of_nonneg h3,
    ← Int.cast_abs]
  exact le_of_sub_eq_mul (mul_nonneg hR h3) (Int.cast_le.mpr hk) (by ring)

/-- **Distance matrix**: entry `(i, j)` is the Euclidean distance from user `i` to cell `j`:
    non-negative with square `dist2`. -/
theorem dist_matrix_euclidean (users cells : List (Pt ℝ)) (i j : ℕ) (us c : Pt ℝ)
    (hu : users[i]? = some us) (hc : cells[j]? = some c) :
    ∃ x, (distMatrix users cells)[i]?.bind (fun row => row[j]?) = some x ∧ 0 ≤ x ∧ x * x = dist2 us c :=
  ⟨dist us c, by simp only [distMatrix, List.getElem?_map, hu, hc, Option.map_some, Option.bind_some],
    Real.sqrt_nonneg _, Real.mul_self_sqrt (add_nonneg (mul_self_nonneg _) (mul_self_nonneg _))⟩

/-- the matrix has one row per user and one column per cell -/
theorem dist_matrix_shape (users cells : List (Pt ℝ)) :
    (distMatrix users cells).length = users.length ∧ ∀ row ∈ distMatrix users cells, row.length = cells.length := by
  refine ⟨List.length_map _, fun row hr => ?_⟩
  obtain ⟨_, _, rfl⟩ := List.mem_map.mp hr
  exact List.length_map _

/-- **Points requested inside a circle (annulus) fall inside it**: for all draws `u, v` with
    `u < 1` the point is at distance `ρ` from the origin with `min_radius ≤ ρ ≤ max_radius`. -/
theorem points_in_circle_range (rmax rmin u v : ℝ) (h1 : rmin ≤ rmax) (hu' : u < 1) :
    norm2 (ppCirclePoint rmax rmin u v) = ppRadius rmax rmin u * ppRadius rmax rmin u ∧
    rmin ≤ ppRadius rmax rmin u ∧ ppRadius rmax rmin u ≤ rmax := by
  have h := sub_nonneg.mpr h1
  refine ⟨by rw [ppCirclePoint, norm2_smul, norm2_conj, cisRad_unit, mul_one],
    le_add_of_nonneg_left (mul_nonneg (Real.sqrt_nonneg u) h), ?_⟩
  exact le_sub_iff_add_le.mp (mul_le_of_le_one_left h (Real.sqrt_le_one.mpr hu'.le))
end real

section state
variable {α : Type} [Field α] [LinearOrder α] [IsStrictOrderedRing α] [Circ α]

/-- **No stale derived state.**  For every cell class (`Cell`, `Cell3Sec` with its three sector
    cells, `CellSquare` with its stored corners) and every history of `pos` / `radius` / `rotation`
    setter calls and `move_by_relative_coordinate` / `move_by_relative_polar_coordinate` calls
    (radii positive), the stored state equals the state of a freshly constructed cell
    with the current position, radius and rotation — which are the values the last setters wrote. -/
theorem no_stale_state (k : CellKind) (hs : 0 < Circ.sqrt ((2 : ℕ) : α)) (ops : List (CellOp α)) (p : Pt α)
    (R θ : α) (hR : 0 < R) (hok : OpsOk ops) :
    let st := run (fresh k p R θ) ops
    st = fresh k st.pos st.radius st.rot ∧ (st.pos, st.radius, st.rot) = params p R θ ops := by
  intro st
  have h : st = _ := (run_fresh_params k hs ops p R θ hR hok).1
  simp only [h, fresh_pos, fresh_radius, fresh_rot, and_self]

/-- … hence **every query** after the history — vertices, containment, border point, whole-cell
    random placement, the sector cells (positions, radii, rotations) and per-sector placement —
    is the query on the freshly constructed cell. -/
theorem queries_after_history_are_fresh (k : CellKind) (hs : 0 < Circ.sqrt ((2 : ℕ) : α))
    (ops : List (CellOp α)) (p : Pt α) (R θ : α) (hR : 0 < R) (hok : OpsOk ops)
    (inside : List (Pt α) → Pt α → Bool) :
    let st := run (fresh k p R θ) ops
    let fr := fresh k st.pos st.radius st.rot
    stVerts st = stVerts fr ∧ (∀ q, stInside inside st q = stInside inside fr q) ∧
    (∀ ang ratio, stBorder st ang ratio = stBorder fr ang ratio) ∧
    (∀ ratio us, stRandomUser inside st ratio us = stRandomUser inside fr ratio us) ∧
    st.secs = fr.secs ∧
    (∀ j ratio us, stRandomUserInSector inside st j ratio us = stRandomUserInSector inside fr j ratio us) := by
  intro st fr
  have h : st = fr := (no_stale_state k hs ops p R θ hR hok).1
  rw [← h]
  exact ⟨rfl, fun _ => rfl, fun _ _ => rfl, fun _ _ => rfl, rfl, fun _ _ _ => rfl⟩

/-- In particular the sector cells of a `Cell3Sec` always have the sector radius of the *current*
    radius and sit at the sector centres of the *current* position, radius and rotation. -/
theorem sectors_follow_setters (hs : 0 < Circ.sqrt ((2 : ℕ) : α)) (ops : List (CellOp α)) (p : Pt α)
    (R θ : α) (hR : 0 < R) (hok : OpsOk ops) :
    let st := run (fresh .sec3 p R θ) ops
    st.secs = mkSectors st.pos st.radius st.rot ∧ ∀ s ∈ st.secs, s.radius = secRadius st.radius := by
  intro st
  have h : st = _ := (no_stale_state .sec3 hs ops p R θ hR hok).1
  refine ⟨congrArg CellState.secs h, fun s hmem => ?_⟩
  rw [h] at hmem
  obtain ⟨_, _, rfl⟩ := List.mem_map.mp hmem
  rfl

/-- the constructor `CellSquare(pos, side, rotation)` is the fresh square cell of radius `√2·side/2` -/
theorem square_constructor_is_fresh (p : Pt α) (side θ : α) (hs : 0 < Circ.sqrt ((2 : ℕ) : α)) :
    freshSquare p side θ = fresh .square p (Circ.sqrt ((2 : ℕ) : α) * side / ((2 : ℕ) : α)) θ := by
  have e : sideOfRadius (Circ.sqrt ((2 : ℕ) : α) * side / ((2 : ℕ) : α)) = side := by
    rw [sideOfRadius, mul_div_cancel₀ _ (Nat.cast_ne_zero.mpr two_ne_zero), mul_div_cancel_left₀ _ hs.ne']
  rw [freshSquare, fresh, e]

/-- a `CellWrap` stores only its own position: after any history on the wrapped cell (and any move of
    the wrap) its vertices are those of a wrap around the freshly constructed cell. -/
theorem wrap_no_stale_state (k : CellKind) (hs : 0 < Circ.sqrt ((2 : ℕ) : α)) (ops : List (CellOp α))
    (p wp : Pt α) (R θ : α) (hR : 0 < R) (hok : OpsOk ops) :
    let st := run (fresh k p R θ) ops
    wrapVerts { pos := wp, inner := st } = wrapVerts { pos := wp, inner := fresh k st.pos st.radius st.rot } :=
  congrArg (fun s => wrapVerts { pos := wp, inner := s }) (no_stale_state k hs ops p R θ hR hok).1
end state

/-! ## robustness facts that are expressible on the model

The model's functions take logical values (numbers, points, lists) and return values: a result cannot
depend on the element type or memory layout of an argument and cannot alias an argument or an
earlier result (R1–R3 are therefore facts about the *tie* and are checked by correspondence /
oracles).  Stated below: rejected calls (R4), every mutator incl. the `move_by_*` helpers (R7),
homogeneity in the input scale (R6). -/

section robustness
variable {α : Type} [Field α] [LinearOrder α] [IsStrictOrderedRing α] [Circ α]

/-- **A rejected call leaves the object as it was** (R4): if `add_user` (point outside), or
    `add_border_user` (ratio outside `[0,1]`, no border point) raises, the rest of the history runs on
    the unchanged object — as if the call had never been made. -/
theorem rejected_call_leaves_object (inside : List (Pt α) → Pt α → Bool) (eps : α) (o : CellObj α)
    (c : Call α) (cs : List (Call α)) (e : PyErr) (h : callStep inside eps o c = .error e) :
    callRun inside eps o (c :: cs) = callRun inside eps o cs := by
  simp only [callRun, h]

/-- … and the rejections are exactly: a point the containment test refuses, a ratio outside `[0,1]`
    (or a direction without border point). -/
theorem rejected_calls_characterised (inside : List (Pt α) → Pt α → Bool) (eps : α) (o : CellObj α) (p : Pt α) :
    (callStep inside eps o (.addUser p) = .error .ValueError ↔ stInside inside o.st p = false) ∧
    (∀ op, ∃ o', callStep inside eps o (.set op) = .ok o') ∧
    (∃ o', callStep inside eps o .deleteUsers = .ok o') := by
  refine ⟨?_, fun op => ⟨_, rfl⟩, ⟨_, rfl⟩⟩
  simp only [callStep]
  cases stInside inside o.st p <;> simp

/-- **Users follow the cell under every kind of move** (R7): `pos = …`,
    `move_by_relative_coordinate`, `move_by_relative_polar_coordinate` all go through the same
    position update, after which the stored state is the setter's and every user has kept its
    position relative to the centre; `radius` / `rotation` setters do not touch the users. -/
theorem users_follow_every_move (inside : List (Pt α) → Pt α → Bool) (eps : α) (o o' : CellObj α)
    (op : CellOp α) (h : callStep inside eps o (.set op) = .ok o') :
    o'.st = step o.st op ∧ o'.users.length = o.users.length ∧
    (op.isMove = true → ∀ (i : ℕ) (u : Pt α), (o.users[i]? : Option (Pt α)) = some u →
        ∃ u', o'.users[i]? = some u' ∧ psub u' o'.st.pos = psub u o.st.pos) ∧
    (op.isMove = false → o'.users = o.users) := by
  obtain rfl := Except.ok.inj h
  refine ⟨rfl, ?_, fun hm i u hu => ?_, fun hm => ?_⟩
  · cases op.isMove
    · rfl
    · exact List.length_map _
  · simp only [hm, if_true, List.getElem?_map, hu, Option.map_some]
    exact ⟨_, rfl, psub_padd_psub u _ _⟩
  · simp only [hm]; rfl

/-- the two `move_by_*` helpers are the `pos` setter at the moved position -/
theorem move_helpers_are_pos_setter (st : CellState α) (d : Pt α) (r a : α) :
    step st (.moveBy d) = step st (.setPos (padd st.pos d)) ∧
    step st (.movePolar r a) = step st (.setPos (padd st.pos (smul r (Circ.cisRad a)))) :=
  ⟨rfl, rfl⟩

/-- **No hidden absolute scale in the border search** (R6): multiplying the polygon (taken relative
    to the centre) by any `k > 0` multiplies the step to the border by `k`. -/
theorem border_scale_covariant (k : α) (hk : 0 < k) (rel : List (Pt α)) (d : Pt α) :
    borderStep (rel.map (smul k)) d = (borderStep rel d).map (fun t => k * t) := by
  unfold borderStep
  rw [cyc_map, List.filterMap_map, ← minOpt_map (fun _ _ h => mul_lt_mul_of_pos_left h hk), List.map_filterMap]
  exact congrArg minOpt (List.filterMap_congr fun e _ => edgeStep_scale hk d e.1 e.2)

/-- **No hidden absolute scale in the rectangle test** (R6): multiplying centre, corners and query
    point by any `k > 0` does not change the answer. -/
theorem rect_contains_scale_invariant (k : α) (hk : 0 < k) (r : Rect α) (u p : Pt α) :
    rectInside { pos := smul k r.pos, lower := smul k r.lower, upper := smul k r.upper } u (smul k p)
      = rectInside r u p := by
  simp only [rectInside, psub_smul, rot_smul]
  simp only [smul, mul_lt_mul_iff_right₀ hk]
end robustness

section placement
variable {α : Type} [Field α] [LinearOrder α] [IsStrictOrderedRing α] [Circ α]

/-- **`CellBase.add_random_users(num_users, color, min_dist_ratio)`**: for every stream of draws,
    exactly `num_users` users are placed, each inside the cell and not closer to the centre than
    `min_dist_ratio·radius`. -/
theorem cell_random_users_postcondition (c : CellGeom α) (ratio : α) (n : ℕ) (us rest : List (α × α))
    (ps : List (Pt α)) (h : addRandomUsers c ratio n us = some (ps, rest)) :
    ps.length = n ∧ ∀ p ∈ ps, c.inside p = true ∧ ¬ (dist c.pos p < ratio * c.radius) :=
  addRandomUsers_spec c ratio n us ps rest h

/-- **`Cluster.add_random_users` honours every argument, for every argument form** (one id, a list of
    ids, all cells; scalar or per-cell `num_users`, `user_color`, `min_dist_ratio`): for every stream of
    draws, every placed user belongs to a request `(id, num, colour, ratio)` of the call, lies in THAT
    cell (inside it, not closer to its centre than THAT request's `ratio·radius`), carries THAT
    request's colour; the number of users is the sum of the requested numbers, also cell by cell. -/
theorem cluster_random_users_postcondition (cells : List (CellGeom α)) (ids : Option (List ℕ)) (nums : Arg ℕ)
    (colors : Arg (Option String)) (ratios : Arg α) (us rest : List (α × α)) (pl : List (Placed α))
    (h : clusterAddRandomUsers cells ids nums colors ratios us = .ok (some (pl, rest))) :
    let reqs := mkReqs (match ids with | none => (List.range cells.length).map (· + 1) | some l => l)
      nums colors ratios
    pl.length = (reqs.map (·.num)).sum ∧
    (∀ u ∈ pl, ∃ r ∈ reqs, ∃ c, cells[r.id - 1]? = some c ∧ u.cell = r.id - 1 ∧ u.color = r.color ∧
        c.inside u.pos = true ∧ ¬ (dist c.pos u.pos < r.ratio * c.radius)) ∧
    ∀ i, (pl.filter (fun u => u.cell = i)).length = ((reqs.filter (fun r => r.id - 1 = i)).map (·.num)).sum := by
  intro reqs
  obtain ⟨h1, h2, h3⟩ := clusterPlace_spec cells reqs us rest pl (by cases ids <;> exact h)
  refine ⟨h1, ?_, h3⟩
  intro u hu
  obtain ⟨r, hr, c, hc, hcell, hcol, hok⟩ := h2 u hu
  exact ⟨r, hr, c, hc, hcell, hcol, hok.1, hok.2⟩

/-- the requests carry the arguments position by position: request `k` has the `k`-th id and the
    `k`-th (or the only) number, colour and ratio — a scalar `min_dist_ratio` reaches every cell -/
theorem cluster_requests_carry_arguments (ids : List ℕ) (nums : Arg ℕ) (colors : Arg (Option String))
    (ratios : Arg α) (k : ℕ) (r : Req α) (h : (mkReqs ids nums colors ratios)[k]? = some r) :
    ids[k]? = some r.id ∧ (nums.expand ids.length)[k]? = some r.num ∧
    (colors.expand ids.length)[k]? = some r.color ∧ (ratios.expand ids.length)[k]? = some r.ratio ∧
    (∀ x, ratios = .one x → r.ratio = x) ∧ (∀ x, nums = .one x → r.num = x) ∧ (∀ x, colors = .one x → r.color = x) := by
  simp only [mkReqs, List.getElem?_map, List.getElem?_zip_eq_some, Option.map_eq_some_iff] at h
  obtain ⟨⟨⟨⟨_, _⟩, _⟩, _⟩, ⟨⟨⟨a, b⟩, c⟩, d⟩, rfl⟩ := h
  refine ⟨a, b, c, d, ?_, ?_, ?_⟩
  · rintro x rfl
    exact expand_one d
  · rintro x rfl
    exact expand_one b
  · rintro x rfl
    exact expand_one c

/-- **cluster path = cell path**: placing through the cluster in an existing cell is that cell's
    `add_random_users(num, colour, ratio)` with the same arguments on the same draws; a cell id that
    does not exist raises `IndexError`. -/
theorem cluster_path_is_cell_path (cells : List (CellGeom α)) (r : Req α) (us : List (α × α)) :
    (∀ c, 1 ≤ r.id → cells[r.id - 1]? = some c →
      clusterPlaceOne cells r us = .ok ((addRandomUsers c r.ratio r.num us).map (fun pr =>
        (pr.1.map (fun p => { cell := r.id - 1, pos := p, color := r.color }), pr.2)))) ∧
    (r.id = 0 ∨ cells.length < r.id → clusterPlaceOne cells r us = .error .IndexError) := by
  unfold clusterPlaceOne
  refine ⟨fun c h1 hc => ?_, fun h => ?_⟩
  · rw [if_neg (Nat.pos_iff_ne_zero.mp h1), hc]
  · split_ifs with h0
    · rfl
    · rw [List.getElem?_eq_none (Nat.le_sub_one_of_lt (h.resolve_left h0))]

/-- **equivalent entry points (R8)**: `add_random_users(n+1, …)` is `add_random_user(…)` followed by
    `add_random_users(n, …)` on the remaining draws — placing several users at once is placing them
    one by one with the same colour and ratio. -/
theorem random_users_are_repeated_single_placements (c : CellGeom α) (ratio : α) (n : ℕ) (us : List (α × α)) :
    addRandomUsers c ratio 0 us = some ([], us) ∧
    addRandomUsers c ratio (n + 1) us =
      (match addRandomUser c.inside c.pos c.radius ratio us with
       | none => none
       | some (p, m) => (addRandomUsers c ratio n (us.drop m)).map (fun pr => (p :: pr.1, pr.2))) := by
  refine ⟨rfl, ?_⟩
  simp only [addRandomUsers]
  rcases addRandomUser c.inside c.pos c.radius ratio us with _ | ⟨p, m⟩
  · rfl
  · simp only
    cases addRandomUsers c ratio n (us.drop m) <;> rfl

/-- **relative = absolute (R8)**: `add_user` with a relative position is `add_user` with the absolute
    position `rel·scale + pos`; and `ratio=None` of `get_border_point` is `ratio=1`. -/
theorem add_user_relative_is_absolute (inside : Pt α → Bool) (pos rel : Pt α) (scale : α) (verts : List (Pt α)) (d : Pt α) :
    addUserRel inside pos scale rel = addUser inside (padd (smul scale rel) pos) ∧
    borderPointOpt pos verts d none = borderPoint pos verts d 1 ∧
    ∀ r, borderPointOpt pos verts d (some r) = borderPoint pos verts d r := by
  refine ⟨rfl, ?_, fun r => rfl⟩
  simp only [borderPointOpt, Nat.cast_one]

/-- **insertion order (R12)**: the users of a cluster, in the order the distance matrix lists them (cell by
    cell), depend only on the per-cell sequences of additions, not on how additions to DIFFERENT cells
    were interleaved. -/
theorem users_by_cell_order_independent (n : ℕ) (adds₁ adds₂ : List (ℕ × Pt α))
    (h : ∀ i, i < n → adds₁.filter (fun a => a.1 == i) = adds₂.filter (fun a => a.1 == i)) :
    usersByCell n adds₁ = usersByCell n adds₂ := by
  unfold usersByCell
  apply List.flatMap_congr
  intro i hi
  rw [h i (List.mem_range.mp hi)]
end placement

/-! ## values that are merely close are different values (R15); results depend on the contents of the
arguments at call time only (R16)

The model's functions take the exact value of every argument: there is no tolerance, no rounded key,
no "unchanged → skip" test and no memo in it, and the theorems below say so where the code compares,
looks up or stores by value.  (Whether the *code* has acquired such a shortcut is a fact about the tie:
the correspondence streams `R15:*` / `R16:*` of `harness/props/c19_r1516.py` feed pairs of close
values, and one argument buffer refilled between calls, to the code and to this model.) -/

section close
variable {α : Type} [Field α] [LinearOrder α] [IsStrictOrderedRing α] [Circ α]

/-- **A setter takes effect for every new value** (R15): after any history of setter / move calls, calling
    `radius = r`, `pos = q` or `rotation = t` with ANY value — however close to the current one —
    leaves exactly the freshly constructed cell with that value (sector cells re-derived, square
    corners moved / rescaled), and the value read back is the value written. -/
theorem setter_takes_effect_for_every_new_value (k : CellKind) (hs : 0 < Circ.sqrt ((2 : ℕ) : α))
    (ops : List (CellOp α)) (p : Pt α) (R θ : α) (hR : 0 < R) (hok : OpsOk ops) :
    let st := run (fresh k p R θ) ops
    (∀ r, 0 ≤ r → step st (.setRadius r) = fresh k st.pos r st.rot ∧ (step st (.setRadius r)).radius = r) ∧
    (∀ q, step st (.setPos q) = fresh k q st.radius st.rot ∧ (step st (.setPos q)).pos = q) ∧
    (∀ t, step st (.setRot t) = fresh k st.pos st.radius t ∧ (step st (.setRot t)).rot = t) := by
  intro st
  obtain ⟨h, hpos⟩ := run_fresh_params k hs ops p R θ hR hok
  have h : st = _ := h
  simp only [h, fresh_pos, fresh_radius, fresh_rot]
  obtain ⟨hq, hr, ht⟩ := step_fresh k _ _ _ hs hpos
  exact ⟨fun r h0 => ⟨hr r h0, (congrArg CellState.radius (hr r h0)).trans (fresh_radius ..)⟩,
    fun q => ⟨hq q, (congrArg CellState.pos (hq q)).trans (fresh_pos ..)⟩,
    fun t => ⟨ht t, (congrArg CellState.rot (ht t)).trans (fresh_rot ..)⟩⟩

/-- **Different values give different cells** (R15): two freshly constructed cells are equal only if
    position, radius and rotation are equal; two setter calls with different values leave different
    states; and hexagons of different radii are different polygons in every position and rotation —
    nothing identifies `R` with `R·(1+1e-6)` or `1e-12` with `1e-13`. -/
theorem distinct_values_distinct_cells (k : CellKind) (st : CellState α) :
    (∀ (p p' : Pt α) (R R' θ θ' : α), fresh k p R θ = fresh k p' R' θ' → p = p' ∧ R = R' ∧ θ = θ') ∧
    (∀ r r', r ≠ r' → step st (.setRadius r) ≠ step st (.setRadius r')) ∧
    (∀ q q', q ≠ q' → step st (.setPos q) ≠ step st (.setPos q')) ∧
    (∀ t t', t ≠ t' → step st (.setRot t) ≠ step st (.setRot t')) ∧
    (∀ (pos u : Pt α) (R R' : α), norm2 u = 1 → place pos u (hexVerts R) = place pos u (hexVerts R') → R = R') := by
  refine ⟨fun p p' R R' θ θ' h => ?_, ?_, ?_, ?_, fun pos u R R' hu h => ?_⟩
  · exact ⟨by simpa only [fresh_pos] using congrArg CellState.pos h,
      by simpa only [fresh_radius] using congrArg CellState.radius h,
      by simpa only [fresh_rot] using congrArg CellState.rot h⟩
  · exact fun r r' hne h => hne (congrArg (·.2.1) (params_eq_of_step_eq h))
  · exact fun q q' hne h => hne (congrArg (·.1) (params_eq_of_step_eq h))
  · exact fun t t' hne h => hne (congrArg (·.2.2) (params_eq_of_step_eq h))
  · -- the first vertex is `(-R/2, -height R)`
    have h' := place_injective hu h
    simp only [hexVerts, List.cons.injEq, Prod.mk.injEq] at h'
    exact (div_left_inj' (Nat.cast_ne_zero.mpr two_ne_zero)).mp (neg_injective h'.1.1)

/-- **The ratio of `add_border_user` is compared exactly** (R15): every ratio in `[0, 1)` — `1e-15` as well
    as `1 - 1e-9` — is used as it is, only `1` itself is replaced by `1 - eps`, and every ratio below `0`
    or above `1`, by however little, is rejected. -/
theorem border_ratio_compared_exactly (ratio eps : α) :
    (0 ≤ ratio → ratio < 1 → validateRatio ratio eps = .ok ratio) ∧
    (ratio = 1 → validateRatio ratio eps = .ok (1 - eps)) ∧
    (ratio < 0 ∨ 1 < ratio → validateRatio ratio eps = .error .ValueError) := by
  refine ⟨fun h0 h1 => ?_, fun h => ?_, validateRatio_outside eps⟩
  · rw [validateRatio_eq, if_neg h1.ne, if_neg (not_or.mpr ⟨not_lt.mpr h0, not_lt.mpr h1.le⟩)]
  · rw [validateRatio_eq, if_pos h]

/-- **The class-level cache of `Cluster` is looked up exactly and holds nothing that depends on the
    cluster** (R15 `lookup_exact`): for every sequence of hexagonal clusters constructed one after the
    other in one process (any sizes, radii, rotations, positions, in any order, starting from the empty
    cache) every cluster has the centres computed from scratch for ITS OWN size, radius, rotation and
    position. -/
theorem cluster_cache_lookup_exact (reqs : List (ℕ × α × Pt α × Pt α)) :
    clusterSeq ([] : NormCache α) reqs
      = reqs.map (fun r => clusterCentres (hexRaw r.2.1 r.1) r.2.2.1 r.2.2.2) :=
  clusterSeq_spec reqs [] fun _ _ h => nomatch h

/-- **A history of placement calls depends on the contents of each call only** (R16): for every
    sequence of `add_user` / `add_border_user` calls on one cell (accepted or rejected), the geometry
    is untouched and the users are the old users followed by exactly what the same calls add to a
    user-less cell of the same geometry. -/
theorem placement_history_depends_on_contents_only (inside : List (Pt α) → Pt α → Bool) (eps : α)
    (cs : List (Call α)) (o : CellObj α) (h : ∀ c ∈ cs, c.isPlacement = true) :
    (callRun inside eps o cs).st = o.st ∧
    (callRun inside eps o cs).users = o.users ++ (callRun inside eps { st := o.st, users := [] } cs).users := by
  induction cs generalizing o with
  | nil => exact ⟨rfl, (List.append_nil _).symm⟩
  | cons c cs ih =>
    obtain ⟨hc, hcs⟩ := List.forall_mem_cons.mp h
    simp only [callRun, callStep_placement inside eps _ c hc]
    cases placedPoint inside eps o.st c with
    | error e => exact ih o hcs
    | ok p =>
      obtain ⟨i1, i2⟩ := ih { o with users := o.users ++ [p] } hcs
      obtain ⟨_, j2⟩ := ih { st := o.st, users := [] ++ [p] } hcs
      exact ⟨i1, i2.trans ((List.append_assoc _ _ _).trans (congrArg (o.users ++ ·) j2.symm))⟩

/-- … in particular (R16) **the k-th call equals the call on a fresh object, and earlier results are
    not changed by later calls**: after the calls `cs`, one more call `c` leaves the users of `cs` as a
    prefix and appends what `c` alone adds to a user-less cell with the same geometry — whatever
    arguments the earlier calls had. -/
theorem kth_call_equals_fresh_call (inside : List (Pt α) → Pt α → Bool) (eps : α) (cs : List (Call α))
    (c : Call α) (o : CellObj α) (h : ∀ x ∈ cs, x.isPlacement = true) (hc : c.isPlacement = true) :
    (callRun inside eps o (cs ++ [c])).users
      = (callRun inside eps o cs).users ++ (callRun inside eps { st := o.st, users := [] } [c]).users := by
  rw [callRun_append]
  obtain ⟨h1, _⟩ := placement_history_depends_on_contents_only inside eps cs o h
  obtain ⟨_, h2⟩ := placement_history_depends_on_contents_only inside eps [c] (callRun inside eps o cs)
    (List.forall_mem_singleton.mpr hc)
  rw [h2, h1]
end close

/-- non-vacuity (R15): a ratio one part in a million below `1` is passed on as it is; one part in a
    million above is rejected -/
example : validateRatio (999999 / 1000000 : ℚ) (1 / 1000000000000000) = .ok (999999 / 1000000) ∧
    validateRatio (1000001 / 1000000 : ℚ) (1 / 1000000000000000) = .error .ValueError := by
  decide +kernel

/-- non-vacuity (R16): a history of placement calls -/
example : ∀ c ∈ [Call.addUser ((0 : ℚ), (0 : ℚ)), .borderUser 30 (1 / 2), .addUser (1, 1)], c.isPlacement = true := by
  decide

/-- non-vacuity: two ids, a scalar number of users and per-cell ratios give two requests -/
example :
    (mkReqs [1, 2] (.one 1) (.one none) (.many [(0 : ℚ), 1/2])).map (fun r => (r.id, r.num, r.ratio))
      = [(1, 1, 0), (2, 1, 1/2)] := by decide +kernel

/-- the hypothesis `0 < sqrt 2` of the state theorems holds for the real scalar -/
theorem sqrt_two_pos_real : 0 < (Circ.sqrt ((2 : ℕ) : ℝ) : ℝ) := by
  simp only [Circ.sqrt]
  exact Real.sqrt_pos.mpr (by norm_num)

/-- **Negative witness for the `CellSquare` setters as they were before the repair** (`stepStale`: the
    `pos` setter stored the new centre and left the corners): after moving the square with corners
    `0`, `2+2j` to `5+5j` the cell does not contain its own centre. -/
theorem square_pos_setter_was_stale :
    let st := stepStale ({ kind := .square, pos := ((1 : ℚ), (1 : ℚ)), radius := 1, rot := 0,
                           lower := (0, 0), upper := (2, 2), secs := [] } : CellState ℚ) (.setPos (5, 5))
    rectInside { pos := st.pos, lower := st.lower, upper := st.upper } (1, 0) st.pos = false := by
  decide +kernel

/-- **The literal tables of the current source are the constants of the model.**
    `Generated/C19Tables.lean` is re-emitted from `shapes.py` / `cell.py` on every run; this theorem
    states that the hexagon walks in steps of `60°·k` (`hexStep`), has six vertices, the circle has
    twelve vertices `30°` apart (`circleVerts`), the 3-sector cell takes vertices `[0,1]`, `[0,1,2,3]`,
    `[2,3,4,5]`, `[4,5]` of sectors `1, 2, 3, 1` rotated by `30°` (`sec3Verts`), the first ring has six
    cells at `30° + 60°k` and distance `2·height`, the second ring twelve cells at `30°k` and distances
    alternating `3·radius`, `4·height`, with cells `1…6` / `7…18` in the rings (`hexNorm`). -/
theorem source_tables :
    Generated.C19.hexStepDeg = (List.range 5).map (fun k => 60 * k) ∧
    Generated.C19.hexVertexCount = 6 ∧
    Generated.C19.circleVertexCount = 12 ∧
    Generated.C19.sec3Pick = [(1, [0, 1]), (2, [0, 1, 2, 3]), (3, [2, 3, 4, 5]), (1, [4, 5])] ∧
    Generated.C19.sec3HexRotation = 30 ∧
    Generated.C19.ring1Deg = (List.range 6).map (fun k => 30 + 60 * k) ∧
    Generated.C19.ring2Deg = (List.range 12).map (fun k => 30 * k) ∧
    Generated.C19.ring1Dist = (0, 2) ∧
    Generated.C19.ring2Dists = [(3, 0), (0, 4)] ∧
    Generated.C19.ring1End = 7 ∧ Generated.C19.ring2Start = 7 := by decide

/-- **Negative witness for the test as it was before the repair** (`rectInsideUnrotated` ignores the
    rotation): the square with corners `∓1∓j` rotated by `u = 3/5 + 4/5j` contains `13/10 + 1/5j`
    (it is a convex combination of the reported vertices) but the old test says "outside". -/
theorem rect_unrotated_test_fails :
    rectInsideUnrotated (mkRect ((-1 : ℚ), (-1 : ℚ)) (1, 1)) (13/10, 1/5) = false ∧
    InHull (place (mkRect ((-1 : ℚ), (-1 : ℚ)) (1, 1)).pos (3/5, 4/5)
      (rectVerts (mkRect ((-1 : ℚ), (-1 : ℚ)) (1, 1)))) (13/10, 1/5) := by
  refine ⟨by decide +kernel, ?_⟩
  rw [← rect_contains_iff _ _ _ _ (by norm_num [norm2])]
  decide +kernel

/-- non-vacuity: the repaired border search on the 10 × 1 rectangle in direction `(4/5, 3/5)`
    returns the point `2/3 + 1/2j` of the top edge (the old heuristic left the rectangle here) -/
example : borderPoint ((0 : ℚ), (0 : ℚ)) [(-5, -1/2), (5, -1/2), (5, 1/2), (-5, 1/2)] (4/5, 3/5) 1
    = .ok (2/3, 1/2) := by decide +kernel

/-- non-vacuity: a stream whose first candidate is rejected and whose second is accepted -/
example : firstAccepted (fun p : Pt ℚ => decide (p.1 < 1/2)) (candidate (0, 0) 1) [(9/10, 1/2), (1/2, 1/2)] 0
    = some ((0, 0), 2) := by decide +kernel

/-- non-vacuity: the hypotheses of the cluster theorems are satisfiable (cell 2 of a 3 × 3 grid) -/
example : (clusterCentres ((List.range (3 * 3)).map (squareRawPt (2 : ℚ) 3)) (3/5, 4/5) (1, 1))[2]?
    = some (3/5, 19/5) := by decide +kernel

end PyPhysim.C19
