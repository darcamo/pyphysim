import PyPhysim.Proofs.C04Mrt
import PyPhysim.Proofs.C04Alamouti
import PyPhysim.Proofs.C04Round
import PyPhysim.Proofs.C04Energy
import PyPhysim.Proofs.C04Limit
import PyPhysim.Proofs.C04Mse
import PyPhysim.Proofs.C04Gmd
import PyPhysim.Proofs.C04Examples
import PyPhysim.Proofs.C04Close
import PyPhysim.Proofs.C04GmdFromSvd

/-!
# C04 — MIMO schemes recover data over any full-rank channel within the power budget

Property theorems only.  All statements are about the executable model
`PyPhysim.C04` (`Model/C04.lean`) instantiated at `ℂ`; the correspondence check of
`harness/props/c04.py` ties the same definitions, compiled at binary64, to
`pyphysim/mimo/mimo.py`.

External kernels are parameters with contracts (checked numerically on every case
the harness runs):

* `Gp` = result of `np.linalg.pinv(A)`: `IsPinv A Gp` (the four Moore–Penrose conditions);
* `Ws` = result of `np.linalg.solve(A, B)`: `IsSolve A B Ws` (`A · Ws = B`);
* `(U, S, _)`, `(_, _, VH)` = results of the two `np.linalg.svd` calls of `SVDMimo`:
  `U · diag S · VH = H`, `Uᴴ U = 1`, `VH · VHᴴ = 1`;
* `(Q, R, _)`, `(_, _, P)` = results of the two `gmd` calls of `GMDMimo`:
  `Q · R · Pᴴ = H`, `Pᴴ P = 1` — a hypothesis of the *contract-conditional* theorems
  `gmd_roundtrip`, `encode_energy_gmd` (they hold for ANY routine with that contract).
  `util.misc.gmd` is pyphysim's own code, and its sweep is not only a contract: the
  `…_from_svd` theorems (section "GMD MIMO from the SVD contract alone") take the results of
  the executable model of the sweep (`PyPhysim.LinAlg.gmd`, `Model/C20Gmd.lean`, proved correct
  in `Proofs/C20GmdInv*.lean`) and assume only the contract of the full `np.linalg.svd`
  (`IsFullSvd`: `U Σ V_H = H`, unitary factors, positive non-increasing singular values).

`FullColRank H` is `IsUnit (Hᴴ H)`.

The labels R1 … R16 on theorems are the input classes of `/verif/DESIGN.md` (tables of §9.2b and §9.2d):
R4 a call that raises leaves the object unchanged, R15 distinct values that are merely close, R16 argument
identity and buffer reuse, and so on.
-/
namespace PyPhysim.C04
open PyPhysim.Proto Matrix Filter Topology

variable {Nr Nt n : Nat}

/-- **ZF defining equation.** For a channel of full column rank every matrix satisfying
    the contract of `pinv` is a left inverse of the channel: `W_zf · H = 1`. -/
theorem zf_defining (H : Mat ℂ Nr Nt) (Gp : Mat ℂ Nt Nr) (hr : FullColRank H) (hp : IsPinv H Gp) :
    matMul (zfFilter Gp) H = eye :=
  hp.left_inv hr

/-- … and it is *the* least-squares left inverse `(Hᴴ H)⁻¹ Hᴴ`: `(Hᴴ H) · W_zf = Hᴴ`,
    which determines it uniquely. -/
theorem zf_normal_equation (H : Mat ℂ Nr Nt) (Gp : Mat ℂ Nt Nr) (hp : IsPinv H Gp) :
    matMul (matMul (cT H) H) (zfFilter Gp) = cT H :=
  hp.normal

/-- uniqueness of the ZF filter under the `pinv` contract -/
theorem zf_unique (H : Mat ℂ Nr Nt) (G G' : Mat ℂ Nt Nr) (hr : FullColRank H)
    (hp : IsPinv H G) (hp' : IsPinv H G') : G = G' :=
  hr.cancel (hp.normal.trans hp'.normal.symm)

/-- **MMSE defining equation.** Whatever `np.linalg.solve` returns for the two arguments
    the code builds satisfies `(Hᴴ H + σ² I) · W = Hᴴ`. -/
theorem mmse_defining (H : Mat ℂ Nr Nt) (nv : ℂ) (Ws : Mat ℂ Nt Nr)
    (hs : IsSolve (mmseLhs H nv) (mmseRhs H) Ws) :
    matMul (madd (matMul (cT H) H) (smul nv eye)) (mmseFilter Ws) = cT H := hs

/-- the MMSE system is uniquely solvable for every channel (any shape, any rank) as soon
    as the noise variance is positive -/
theorem mmse_unique (H : Mat ℂ Nr Nt) (s : ℝ) (hs : 0 < s) (W W' : Mat ℂ Nt Nr)
    (h : IsSolve (mmseLhs H (s : ℂ)) (mmseRhs H) W) (h' : IsSolve (mmseLhs H (s : ℂ)) (mmseRhs H) W') :
    W = W' :=
  mmseLhs_cancel H hs (h.trans h'.symm)

/-- **MMSE vs ZF.** `(Hᴴ H + σ² I)(W_zf − W_mmse) = σ² W_zf`, i.e.
    `W_zf − W_mmse = σ² (Hᴴ H + σ² I)⁻¹ W_zf`. -/
theorem mmse_minus_zf (H : Mat ℂ Nr Nt) (nv : ℂ) (Gp Ws : Mat ℂ Nt Nr) (hp : IsPinv H Gp)
    (hs : IsSolve (mmseLhs H nv) (mmseRhs H) Ws) :
    matMul (mmseLhs H nv) (msub (zfFilter Gp) (mmseFilter Ws)) = smul nv (zfFilter Gp) := by
  unfold zfFilter mmseFilter
  rw [matMul_msub, hs, mmseLhs_matMul, hp.normal]
  exact funext fun i => funext fun j => add_sub_cancel_left _ _

/-- **MMSE is the minimum-mean-square-error receiver.**  For unit-power uncorrelated
    symbols and white noise of variance `σ² > 0` the result of `solve` has a mean square
    error `‖W H − 1‖_F² + σ²‖W‖_F²` not larger than that of any other linear receiver `W'`
    — this, not only the normal equation, is what "MMSE filter" means. -/
theorem mmse_minimises_mse (H : Mat ℂ Nr Nt) (s : ℝ) (hs : 0 < s) (Ws : Mat ℂ Nt Nr)
    (h : IsSolve (mmseLhs H (s : ℂ)) (mmseRhs H) Ws) (W' : Mat ℂ Nt Nr) :
    (mseOf H (s : ℂ) (mmseFilter Ws)).re ≤ (mseOf H (s : ℂ) W').re := by
  have e := Pf.mse_add H s Ws (msub W' Ws) (Pf.push_through H hs h)
  rw [show madd Ws (msub W' Ws) = W' from funext fun i => funext fun j => add_sub_cancel _ _] at e
  rw [mmseFilter, e, Complex.add_re, Complex.add_re, Complex.re_ofReal_mul]
  exact le_add_of_nonneg_right (add_nonneg (Pf.totalEnergy_re_nonneg _)
    (mul_nonneg hs.le (Pf.totalEnergy_re_nonneg _)))

/-- `FullColRank` is the textbook notion: the rank equals the number of transmit antennas -/
theorem fullColRank_iff_rank (H : Mat ℂ Nr Nt) : FullColRank H ↔ (toM H).rank = Nt :=
  Pf.isUnit_gram_iff_rank H

/-- **BLAST with ZF** (noise variance not positive ⇒ the code selects the `pinv` branch):
    for every full-column-rank channel, every block whose length is a multiple of `Nt`
    (that is: whenever `encode` succeeds) decoding the noise-free channel output returns
    the data, symbol by symbol (Fortran-order reshape on both sides). -/
theorem blast_roundtrip (H : Mat ℂ Nr Nt) (hr : FullColRank H) (Gp Ws : Mat ℂ Nt Nr)
    (hp : IsPinv H Gp) (nv : ℂ) (hnv : ¬ 0 < nv.re) (x : Vec ℂ n) (E : Mat ℂ Nt (n / Nt))
    (hE : blastEncode Nt x = .ok E) (j : Nat) (hj : j < n) (hj' : j < Nt * (n / Nt)) :
    blastDecode (blastFilter nv Gp Ws) (matMul H E) ⟨j, hj'⟩ = x ⟨j, hj⟩ :=
  Pf.blast_decode_encode (hp.left_inv hr) Ws hnv hE j hj hj'

/-- **MRC** is `Blast` on a channel with a single transmit antenna (`Nt = 1`): every
    non-zero channel vector recovers every block of every length. -/
theorem mrc_roundtrip (H : Mat ℂ Nr 1) (hne : ∃ r, H r 0 ≠ 0) (Gp Ws : Mat ℂ 1 Nr)
    (hp : IsPinv H Gp) (nv : ℂ) (hnv : ¬ 0 < nv.re) (x : Vec ℂ n) (j : Nat) (hj : j < n)
    (hj' : j < 1 * (n / 1)) :
    ∃ E, blastEncode 1 x = .ok E ∧
      blastDecode (blastFilter nv Gp Ws) (matMul H E) ⟨j, hj'⟩ = x ⟨j, hj⟩ := by
  have hr : FullColRank H := fullColRank_col hne
  have hE : blastEncode 1 x = .ok _ := Pf.lengthGuard_accepts Nat.one_pos (Nat.mod_one n)
  exact ⟨_, hE, blast_roundtrip H hr Gp Ws hp nv hnv x _ hE j hj hj'⟩

/-- **SVD MIMO** (code after the `full_matrices=False` repair).  `(U, S)` come from the
    thin SVD computed in `_calc_receive_filter`, `VH` from the SVD computed in
    `_calc_precoder`; together they factor the channel, `U` has orthonormal columns and
    `VH` is unitary.  Then every block `encode` accepts is recovered (C-order reshape). -/
theorem svd_roundtrip (H : Mat ℂ Nr Nt) (hr : FullColRank H) (U : Mat ℂ Nr Nt) (S : Vec ℂ Nt)
    (VH : Mat ℂ Nt Nt) (hf : matMul (matMul U (diagM S)) VH = H)
    (hU : matMul (cT U) U = eye) (hV : matMul VH (cT VH) = eye)
    (x : Vec ℂ n) (E : Mat ℂ Nt (n / Nt)) (hE : precodeC (svdPrecoder VH) x = .ok E)
    (j : Nat) (hj : j < n) (hj' : j < Nt * (n / Nt)) :
    decodeC (svdFilter Nt U S) (matMul H E) ⟨j, hj'⟩ = x ⟨j, hj⟩ := by
  rw [Pf.svdPrecoder_eq] at hE
  rw [Pf.svdFilter_eq]
  exact Pf.precoded_decode_encode
    (Pf.svd_filter_channel_precoder hf hU hV (Pf.sing_ne_zero hf hr)) hE j hj hj'

/-- **GMD MIMO with ZF** (CONTRACT-CONDITIONAL form: `gmd` may be any routine with the stated
    contract; for the `gmd` that exists see `gmd_roundtrip_from_svd`).  `P` comes from the `gmd`
    call in `_calc_precoder`, `(Q, R)` from the one in `_calc_receive_filter`; `Gp` is what `pinv`
    returns for the equivalent channel `Q·R` the code hands to it.  Under the `gmd` contract
    (`Q R Pᴴ = H`, `Pᴴ P = 1`) every block `encode` accepts is recovered. -/
theorem gmd_roundtrip (H : Mat ℂ Nr Nt) (hr : FullColRank H) (Q : Mat ℂ Nr Nr) (R : Mat ℂ Nr Nt)
    (P : Mat ℂ Nt Nt) (hf : matMul (matMul Q R) (cT P) = H) (hP : matMul (cT P) P = eye)
    (Gp Ws : Mat ℂ Nt Nr) (hp : IsPinv (gmdChannelEq Q R) Gp) (nv : ℂ) (hnv : ¬ 0 < nv.re)
    (x : Vec ℂ n) (E : Mat ℂ Nt (n / Nt)) (hE : precodeC (gmdPrecoder P) x = .ok E)
    (j : Nat) (hj : j < n) (hj' : j < Nt * (n / Nt)) :
    decodeC (blastFilter nv Gp Ws) (matMul H E) ⟨j, hj'⟩ = x ⟨j, hj⟩ := by
  have hQR : gmdChannelEq Q R = matMul H P := Pf.eq_matMul_of_matMul_cT hf hP
  have hGH := hp.left_inv (hQR ▸ Pf.fullColRank_mul_unitary hr hP)
  rw [Pf.gmdPrecoder_eq] at hE
  rw [Pf.blastFilter_zf nv hnv]
  exact Pf.precoded_decode_encode (hQR ▸ hGH) hE j hj hj'

/-- **MRT** (single receive antenna): every channel vector with at least one non-zero tap
    (zero taps are allowed: `exp(−j·angle 0) = 1`) recovers every block of any length. -/
theorem mrt_roundtrip (h : Vec ℂ Nt) (hne : ∃ i, h i ≠ 0) (x : Vec ℂ n) (j : Fin n) :
    mrtDecode h (matMul (fun (_ : Fin 1) i => h i) (mrtEncode h x)) j = x j :=
  Pf.mrt_roundtrip h hne x j

/-- **Alamouti** (`Nt = 2`, any number of receive antennas): no kernel, pure algebra.
    Every non-zero channel recovers every block of even length; `encode` accepts every
    even length. -/
theorem alamouti_roundtrip {B : Nat} (H : Mat ℂ Nr 2) (hne : ∃ r a, H r a ≠ 0) (x : Vec ℂ (2 * B)) :
    ∃ E, alamoutiEncode x = .ok E ∧ ∀ j, alamoutiDecode H (matMul H E) j = x j :=
  ⟨_, Pf.alamoutiEncode_ok x, fun j => Pf.alamouti_roundtrip H hne x j⟩

/-- **MMSE → ZF.**  For a full-column-rank channel, any family `W σ²` of results of
    `np.linalg.solve` on the arguments the code builds (one for every `σ² > 0`) converges,
    entry by entry, to the zero-forcing filter as `σ² → 0⁺`. -/
theorem mmse_tendsto_zf (H : Mat ℂ Nr Nt) (hr : FullColRank H) (Gp : Mat ℂ Nt Nr) (hp : IsPinv H Gp)
    (W : ℝ → Mat ℂ Nt Nr)
    (hs : ∀ s : ℝ, 0 < s → IsSolve (mmseLhs H (s : ℂ)) (mmseRhs H) (W s)) (i : Fin Nt) (j : Fin Nr) :
    Tendsto (fun s => mmseFilter (W s) i j) (𝓝[>] 0) (𝓝 (zfFilter Gp i j)) :=
  Pf.mmse_tendsto_entry hr hp W hs i j

/-- the contracts are satisfiable for every channel the property quantifies over: a
    full-column-rank channel has a Moore–Penrose inverse, and the MMSE system has a
    solution for every positive noise variance (so none of the theorems is vacuous) -/
theorem kernels_exist (H : Mat ℂ Nr Nt) :
    (FullColRank H → ∃ G, IsPinv H G) ∧
    (∀ s : ℝ, 0 < s → ∃ W, IsSolve (mmseLhs H (s : ℂ)) (mmseRhs H) W) :=
  ⟨exists_isPinv, fun _ hs => exists_isSolve H hs⟩

/-- **Energy, Blast / MRC.**  Every channel use radiates `1/Nt` of the energy of the `Nt`
    symbols it carries; the whole block radiates `1/Nt` of the block's symbol energy; hence
    the average energy per channel use equals the mean symbol energy. -/
theorem encode_energy_blast (x : Vec ℂ n) (E : Mat ℂ Nt (n / Nt)) (hE : blastEncode Nt x = .ok E) :
    (∃ h : n % Nt = 0, ∀ j, colEnergy E j = colEnergy (reshapeF Nt x h) j / (Nt : ℂ)) ∧
    totalEnergy E = vecEnergy x / (Nt : ℂ) ∧
    (0 < n → totalEnergy E / ((n / Nt : ℕ) : ℂ) = vecEnergy x / (n : ℂ)) := by
  obtain ⟨hNt, h, rfl⟩ := Pf.blastEncode_ok hE
  exact (Pf.precoded_energy (Pf.precoder_gram (by rw [cT_eye, eye_matMul])) hNt h _ x
    (Pf.totalEnergy_reshapeF x h)).imp (⟨h, ·⟩) id

/-- **Energy, SVD MIMO.**  The same, for every precoder result `VH` with `VH · VHᴴ = 1`
    (the `svd` contract). -/
theorem encode_energy_svd (VH : Mat ℂ Nt Nt) (hV : matMul VH (cT VH) = eye) (x : Vec ℂ n)
    (E : Mat ℂ Nt (n / Nt)) (hE : precodeC (svdPrecoder VH) x = .ok E) :
    (∃ h : n % Nt = 0, ∀ j, colEnergy E j = colEnergy (reshapeC Nt x h) j / (Nt : ℂ)) ∧
    totalEnergy E = vecEnergy x / (Nt : ℂ) ∧
    (0 < n → totalEnergy E / ((n / Nt : ℕ) : ℂ) = vecEnergy x / (n : ℂ)) := by
  rw [Pf.svdPrecoder_eq] at hE
  obtain ⟨hNt, h, rfl⟩ := Pf.lengthGuard_ok hE
  exact (Pf.precoded_energy (Pf.precoder_gram (by rw [cT_cT]; exact hV)) hNt h _ x
    (Pf.totalEnergy_reshapeC x h)).imp (⟨h, ·⟩) id

/-- **Energy, GMD MIMO** (CONTRACT-CONDITIONAL form; for the `gmd` that exists see
    `gmd_encode_energy_from_svd`).  The same, for every `gmd` result `P` with `Pᴴ P = 1`. -/
theorem encode_energy_gmd (P : Mat ℂ Nt Nt) (hP : matMul (cT P) P = eye) (x : Vec ℂ n)
    (E : Mat ℂ Nt (n / Nt)) (hE : precodeC (gmdPrecoder P) x = .ok E) :
    (∃ h : n % Nt = 0, ∀ j, colEnergy E j = colEnergy (reshapeC Nt x h) j / (Nt : ℂ)) ∧
    totalEnergy E = vecEnergy x / (Nt : ℂ) ∧
    (0 < n → totalEnergy E / ((n / Nt : ℕ) : ℂ) = vecEnergy x / (n : ℂ)) := by
  rw [Pf.gmdPrecoder_eq] at hE
  obtain ⟨hNt, h, rfl⟩ := Pf.lengthGuard_ok hE
  exact (Pf.precoded_energy (Pf.precoder_gram hP) hNt h _ x (Pf.totalEnergy_reshapeC x h)).imp (⟨h, ·⟩) id

/-- **Energy, MRT.**  One symbol per channel use; every channel use radiates exactly the
    energy of its symbol (each of the `Nt ≥ 1` antennas radiates `1/Nt` of it), for every
    channel, including zero taps. -/
theorem encode_energy_mrt (h : Vec ℂ Nt) (hNt : 0 < Nt) (x : Vec ℂ n) :
    (∀ j, colEnergy (mrtEncode h x) j = x j * conj (x j)) ∧
    totalEnergy (mrtEncode h x) = vecEnergy x := by
  have hcol := Pf.mrt_colEnergy h hNt x
  exact ⟨hcol, congrArg (sumFin n) (funext hcol)⟩

/-- **Energy, Alamouti.**  One symbol per channel use on average; every channel use
    radiates the mean of the energies of the two symbols of its codeword, and the whole
    block radiates exactly the energy of the symbols it carries. -/
theorem encode_energy_alamouti {B : Nat} (x : Vec ℂ (2 * B)) :
    ∃ E, alamoutiEncode x = .ok E ∧
      (∀ j, colEnergy E j = (x j * conj (x j) + x (Pf.alaPartner j) * conj (x (Pf.alaPartner j))) / 2) ∧
      totalEnergy E = vecEnergy x :=
  ⟨_, Pf.alamoutiEncode_ok x, Pf.alamouti_colEnergy x, Pf.alamouti_totalEnergy x⟩

/-- `Blast.encode` (hence `MRC.encode`) raises `ValueError` exactly for the block lengths
    that are not a multiple of the number of layers -/
theorem blast_encode_rejects (hNt : 0 < Nt) (x : Vec ℂ n) :
    n % Nt ≠ 0 ↔ blastEncode Nt x = .error .ValueError := Pf.lengthGuard_error hNt

/-- so do `SVDMimo.encode` and `GMDMimo.encode` -/
theorem precode_rejects (hNt : 0 < Nt) (W : Mat ℂ Nt Nt) (x : Vec ℂ n) :
    n % Nt ≠ 0 ↔ precodeC W x = .error .ValueError := Pf.lengthGuard_error hNt

/-- … and all three accept every block length that is a multiple of the layers (the
    hypothesis `encode … = .ok E` of the round-trip theorems is exactly "length is a
    multiple of `Nt`") -/
theorem encode_accepts (hNt : 0 < Nt) (W : Mat ℂ Nt Nt) (x : Vec ℂ n) (h : n % Nt = 0) :
    (∃ E, blastEncode Nt x = .ok E) ∧ (∃ E, precodeC W x = .ok E) :=
  ⟨⟨_, Pf.lengthGuard_accepts hNt h⟩, ⟨_, Pf.lengthGuard_accepts hNt h⟩⟩

/-- `Alamouti.encode` fails (`IndexError`) on every odd block length -/
theorem alamouti_encode_rejects_odd (x : Vec ℂ n) (h : n % 2 = 1) :
    alamoutiEncode x = .error .IndexError := by
  unfold alamoutiEncode alamoutiEncodeRaw
  rw [dif_neg (Nat.mod_two_ne_zero.mpr h)]
  rfl

/-- the channel shapes the schemes accept: Alamouti needs `Nt = 2`, MRT needs `Nr = 1`,
    MRC turns a vector into a single-transmit-antenna column -/
theorem shape_guards (nr nt len : Nat) :
    (alamoutiShape [nr, nt] = .error .ValueError ↔ nt ≠ 2) ∧
    (misoShape [nr, nt] = .error .ValueError ↔ nr ≠ 1) ∧
    (nt = 2 → alamoutiShape [nr, nt] = .ok (nr, nt)) ∧
    (nr = 1 → misoShape [nr, nt] = .ok (nr, nt)) ∧
    misoShape [len] = .ok (1, len) ∧ mrcShape [len] = .ok (len, 1) := by
  refine ⟨⟨fun e h => ?_, fun h => if_pos h⟩, ⟨fun e h => ?_, fun h => if_pos h⟩,
    fun h => if_neg (not_not_intro h), fun h => if_neg (not_not_intro h), rfl, rfl⟩
  · exact nomatch e.symm.trans (if_neg (not_not_intro h))
  · exact nomatch e.symm.trans (if_neg (not_not_intro h))

/-- `set_noise_var` rejects exactly the negative values; `None` selects zero forcing -/
theorem noise_var_guard (s : ℝ) :
    (setNoiseVar (some (s : ℂ)) = .error .ValueError ↔ s < 0) ∧
    (0 ≤ s → setNoiseVar (some (s : ℂ)) = .ok (s : ℂ)) ∧
    setNoiseVar (none : Option ℂ) = .ok 0 :=
  ⟨⟨fun e => lt_of_not_ge fun h => (nomatch e.symm.trans (Pf.setNoiseVar_ofReal h)),
    fun h => if_neg (mt of_decide_eq_true (not_le.mpr h))⟩, Pf.setNoiseVar_ofReal, rfl⟩

/-- `Blast.encode` is the linear precoding `W · X` with the `W = 1/√Nt` that
    `_calc_precoder` reports (the matrix `calc_SINRs` works with) -/
theorem blast_encode_is_precoding (x : Vec ℂ n) (E : Mat ℂ Nt (n / Nt)) (hE : blastEncode Nt x = .ok E) :
    ∃ h : n % Nt = 0, E = matMul (blastPrecoder Nt) (reshapeF Nt x h) := by
  obtain ⟨_, h, hEm⟩ := Pf.blastEncode_ok hE
  exact ⟨h, Pf.blastPrecoder_eq ▸ hEm⟩

/-- **One Givens step of `gmd`** (the 2×2 algebra on its own; the WHOLE sweep — permutation
    bookkeeping, existence of a straddling partner, array bounds — is proved for the executable
    model, see `gmd_contract_from_svd` below and `Properties/C20.lean: gmd_correct_complex`): for
    `δ2 ≤ σ̄ ≤ δ1`, `δ2 < δ1` the rotations the code builds are orthogonal and map
    `diag(δ1, δ2)` to `[[σ̄, x], [0, y]]` with the stored `x = s c (δ2² − δ1²)/σ̄`,
    `y = δ1 δ2 / σ̄`. -/
theorem gmd_step_preserves (d1 d2 sb : ℝ) (h2 : 0 ≤ d2) (h12 : d2 < d1) (hlo : d2 ≤ sb) (hhi : sb ≤ d1)
    (hsb : sb ≠ 0) :
    let c := Real.sqrt ((sb ^ 2 - d2 ^ 2) / (d1 ^ 2 - d2 ^ 2))
    let s := Real.sqrt (1 - c ^ 2)
    let G1 : Matrix (Fin 2) (Fin 2) ℝ := !![c, -s; s, c]
    let G2 : Matrix (Fin 2) (Fin 2) ℝ := (1 / sb) • !![c * d1, -s * d2; s * d2, c * d1]
    G2ᵀ * !![d1, 0; 0, d2] * G1 = !![sb, s * c * (d2 ^ 2 - d1 ^ 2) / sb; 0, d1 * d2 / sb] ∧
    G1ᵀ * G1 = 1 ∧ G2ᵀ * G2 = 1 :=
  (Pf.gmd_cs _ _ _ (pow_lt_pow_left₀ h12 h2 two_ne_zero)
    (pow_le_pow_left₀ h2 hlo 2) (pow_le_pow_left₀ (h2.trans hlo) hhi 2)).elim
    (Pf.gmd_step d1 d2 sb _ _ hsb)

/-! ## GMD MIMO from the SVD contract alone

`GMDMimo` runs `gmd(*np.linalg.svd(channel))` — once in `_calc_precoder` (keeps `P`), once in
`_calc_receive_filter` (keeps `Q`, `R`); the real code therefore calls numpy's SVD TWICE on the same
array.  `np.linalg.svd` is a deterministic function of the array contents, so both calls return
the same triple `(U, S, V_H)` (the harness checks this on every case: contract `gmd-two-calls`),
and `gmd` is a function of that triple: below ONE triple and ONE result `gmdCall U S V_H σ̄` of the
executable model of the sweep stand for both calls.  (Two *different* valid SVDs of one channel
would in general not fit together: `Q₂ R₂ P₁ᴴ ≠ H`.)

What is assumed: the contract `IsFullSvd` of LAPACK's SVD and, in the round trip, the contract of
`pinv`.  What is not assumed: anything about `gmd`. -/

/-- **The `gmd` contract is a theorem (central lemma).**  For every channel with a full SVD
    `U Σ V_H = H` (unitary `U`, `V_H`, positive non-increasing singular values) and every `σ̄ > 0`
    with `σ̄^p = ∏ S`, `p = min(Nr, Nt) ≥ 1`, the model of the code's `gmd(U, S, V_H)` raises
    nothing and returns `(Q, R, P)` with `Q R Pᴴ = H`, `Pᴴ P = 1`, `Qᴴ Q = 1`, `R` upper triangular
    with the constant diagonal `σ̄` — exactly what `gmd_roundtrip` / `encode_energy_gmd` take as a
    hypothesis, plus the two clauses that make it a geometric-mean decomposition. -/
theorem gmd_contract_from_svd (H : Mat ℂ Nr Nt) (U : Mat ℂ Nr Nr) (S : Fin (min Nr Nt) → ℝ)
    (VH : Mat ℂ Nt Nt) (hsvd : IsFullSvd H U S VH) (hp : 0 < min Nr Nt) (sb : ℝ) (hsb : 0 < sb)
    (hprod : sb ^ (min Nr Nt) = ∏ i, S i) :
    ∃ Q R P, gmdCall U S VH sb = .ok (Q, R, P) ∧ IsGmd H sb Q R P :=
  Pf.gmd_contract_of_svd H U S VH hsvd hp sb hsb hprod

/-- … in particular for the `σ̄ = exp(mean(log S))` the code computes (read over the reals) -/
theorem gmd_contract_from_svd_code_sigma_bar (H : Mat ℂ Nr Nt) (U : Mat ℂ Nr Nr)
    (S : Fin (min Nr Nt) → ℝ) (VH : Mat ℂ Nt Nt) (hsvd : IsFullSvd H U S VH) (hp : 0 < min Nr Nt) :
    ∃ Q R P, gmdCall U S VH (gmdSigmaBar S) = .ok (Q, R, P) ∧ IsGmd H (gmdSigmaBar S) Q R P :=
  Pf.gmd_contract_of_svd H U S VH hsvd hp _ (Pf.gmdSigmaBar_spec S hp hsvd.pos).1
    (Pf.gmdSigmaBar_spec S hp hsvd.pos).2

/-- **Positive singular values are full column rank** (`Nt ≤ Nr`; conversely full column rank
    forces `Nt ≤ Nr`): the hypothesis `FullColRank H` of the contract-conditional theorems is part
    of the SVD contract. -/
theorem fullColRank_from_svd (H : Mat ℂ Nr Nt) (U : Mat ℂ Nr Nr) (S : Fin (min Nr Nt) → ℝ)
    (VH : Mat ℂ Nt Nt) :
    (IsFullSvd H U S VH → Nt ≤ Nr → FullColRank H) ∧ (FullColRank H → Nt ≤ Nr) :=
  ⟨fun hsvd h => Pf.fullColRank_of_svd H U S VH hsvd h, Pf.le_of_fullColRank H⟩

/-- **GMD MIMO with ZF, from the SVD contract alone.**  For every channel with `1 ≤ Nt ≤ Nr` and a
    full SVD with positive singular values, the sweep succeeds, and with the `P`, `Q`, `R` IT
    RETURNS (not an assumed decomposition): precoder `P/√Nt`, equivalent channel `Q·R` handed to
    `pinv`, zero-forcing branch — every block `encode` accepts is recovered from the noise-free
    channel output, symbol by symbol. -/
theorem gmd_roundtrip_from_svd (H : Mat ℂ Nr Nt) (U : Mat ℂ Nr Nr) (S : Fin (min Nr Nt) → ℝ)
    (VH : Mat ℂ Nt Nt) (hsvd : IsFullSvd H U S VH) (hNt0 : 0 < Nt) (hNt : Nt ≤ Nr) :
    ∃ Q R P, gmdCall U S VH (gmdSigmaBar S) = .ok (Q, R, P) ∧
      ∀ (Gp Ws : Mat ℂ Nt Nr), IsPinv (gmdChannelEq Q R) Gp → ∀ nv : ℂ, ¬ 0 < nv.re →
      ∀ (n : Nat) (x : Vec ℂ n) (E : Mat ℂ Nt (n / Nt)), precodeC (gmdPrecoder P) x = .ok E →
      ∀ (j : Nat) (hj : j < n) (hj' : j < Nt * (n / Nt)),
        decodeC (blastFilter nv Gp Ws) (matMul H E) ⟨j, hj'⟩ = x ⟨j, hj⟩ := by
  obtain ⟨Q, R, P, hok, hg⟩ :=
    gmd_contract_from_svd_code_sigma_bar H U S VH hsvd (Nat.lt_min.mpr ⟨lt_of_lt_of_le hNt0 hNt, hNt0⟩)
  exact ⟨Q, R, P, hok, fun Gp Ws hp nv hnv n x E hE j hj hj' =>
    gmd_roundtrip H (Pf.fullColRank_of_svd H U S VH hsvd hNt) Q R P hg.factor hg.p_unitary Gp Ws hp nv hnv
      x E hE j hj hj'⟩

/-- **Energy, GMD MIMO, from the SVD contract alone** (any shape with `min(Nr, Nt) ≥ 1`): with the
    `P` the sweep returns, every channel use radiates `1/Nt` of the energy of the `Nt` symbols it
    carries, the block `1/Nt` of the block's symbol energy, the average per channel use is the mean
    symbol energy. -/
theorem gmd_encode_energy_from_svd (H : Mat ℂ Nr Nt) (U : Mat ℂ Nr Nr) (S : Fin (min Nr Nt) → ℝ)
    (VH : Mat ℂ Nt Nt) (hsvd : IsFullSvd H U S VH) (hp : 0 < min Nr Nt) :
    ∃ Q R P, gmdCall U S VH (gmdSigmaBar S) = .ok (Q, R, P) ∧
      ∀ (n : Nat) (x : Vec ℂ n) (E : Mat ℂ Nt (n / Nt)), precodeC (gmdPrecoder P) x = .ok E →
        (∃ h : n % Nt = 0, ∀ j, colEnergy E j = colEnergy (reshapeC Nt x h) j / (Nt : ℂ)) ∧
        totalEnergy E = vecEnergy x / (Nt : ℂ) ∧
        (0 < n → totalEnergy E / ((n / Nt : ℕ) : ℂ) = vecEnergy x / (n : ℂ)) := by
  obtain ⟨Q, R, P, hok, hg⟩ := gmd_contract_from_svd_code_sigma_bar H U S VH hsvd hp
  exact ⟨Q, R, P, hok, fun n x E hE => encode_energy_gmd P hg.p_unitary x E hE⟩

/-- **What the GMD post-processing sees.**  With the `Q`, `R`, `P` the sweep returns, the channel
    between the precoder `P` and the matched rotation `Qᴴ` is `Qᴴ (H P) = R`: upper triangular, every
    layer with the same gain `σ̄`, the geometric mean of the singular values (`σ̄ > 0`,
    `σ̄^p = ∏ S`); and the equivalent channel the code hands to `pinv` / `solve` is `Q R = H P`. -/
theorem gmd_equal_gain_layers_from_svd (H : Mat ℂ Nr Nt) (U : Mat ℂ Nr Nr) (S : Fin (min Nr Nt) → ℝ)
    (VH : Mat ℂ Nt Nt) (hsvd : IsFullSvd H U S VH) (hp : 0 < min Nr Nt) :
    ∃ Q R P, gmdCall U S VH (gmdSigmaBar S) = .ok (Q, R, P) ∧
      matMul (cT Q) (matMul H P) = R ∧ gmdChannelEq Q R = matMul H P ∧
      (∀ i j, j.val < i.val → R i j = 0) ∧
      (∀ i j, i.val = j.val → i.val < min Nr Nt → R i j = ((gmdSigmaBar S : ℝ) : ℂ)) ∧
      0 < gmdSigmaBar S ∧ gmdSigmaBar S ^ (min Nr Nt) = ∏ i, S i := by
  obtain ⟨Q, R, P, hok, hg⟩ := gmd_contract_from_svd_code_sigma_bar H U S VH hsvd hp
  exact ⟨Q, R, P, hok, Pf.gmd_triangular H _ Q R P hg, Pf.gmd_channelEq_eq H _ Q R P hg, hg.upper, hg.diag,
    Pf.gmdSigmaBar_spec S hp hsvd.pos⟩

/-! ## the scheme objects as state machines: no stale derived state

`Model/C04Obj.lean`: an object is constructed with a channel and then driven by any
history of `set_channel_matrix`, `set_noise_var`, `encode`, `decode`,
precoder / filter and SINR queries (`Op`).  The kernels are a function parameter `K`. -/

/-- **After ANY history the object is its current configuration and nothing else.**
    The state reached is `(scheme, channel, noise variance)` with the channel / noise
    variance of the last *accepted* `set_channel_matrix` / `set_noise_var` call (`cfgChan`,
    `cfgNv`, defined over the history independently of `step`; rejected calls and all
    `encode` / `decode` / query calls leave no trace). -/
theorem object_state_is_configuration (K : Kernels ℂ) (ops : List (Op ℂ)) (o : Obj ℂ) :
    run K o ops = ⟨o.scheme, cfgChan o.scheme o.chan ops, cfgNv o.scheme o.nv ops⟩ :=
  Pf.run_state K ops o

/-- **Every observation after a history equals the one of a freshly configured object.**
    `o0 = cls(c0)` driven through `ops`, versus `f = cls(cL)` followed by
    `set_noise_var(vL)`, where `cL` stores the channel and `vL` the noise variance the
    history leaves configured: `encode`, `decode`, the precoder / receive filter pair and
    the SINRs agree — whatever was decoded, with whatever filter, earlier in the history. -/
theorem history_eq_fresh_object (K : Kernels ℂ) (s : Scheme) (c0 cL : ChanArg ℂ) (o0 f : Obj ℂ)
    (h0 : construct s c0 = .ok o0) (hf : construct s cL = .ok f) (ops : List (Op ℂ))
    (hc : f.chan = cfgChan s o0.chan ops) (vL : Option ℂ)
    (hv : s.blastFamily = true → setNoiseVar vL = .ok (cfgNv s o0.nv ops)) (obs : Op ℂ) :
    (step K (run K o0 ops) obs).2 = (step K (run K f [.setNoiseVar vL]) obs).2 := by
  obtain ⟨hs0, hn0, _⟩ := Pf.construct_ok h0
  obtain ⟨hsf, hnf, _⟩ := Pf.construct_ok hf
  rw [Pf.run_state K ops o0, Pf.run_state K _ f, hs0, hsf, ← hc]
  refine congrArg (fun v => (step K ⟨s, f.chan, v⟩ obs).2) ?_
  cases hb : s.blastFamily with
  | true =>
    dsimp only [cfgNv]
    rw [if_pos hb, hv hb]
  | false => rw [Pf.cfgNv_of_not_blastFamily s hb, Pf.cfgNv_of_not_blastFamily s hb, hn0, hnf]

/-- observations never change the state (so they cannot make a later observation stale) -/
theorem observation_keeps_state (K : Kernels ℂ) (o : Obj ℂ) (op : Op ℂ)
    (h : ∀ c, op ≠ .setChannel c) (h' : ∀ v, op ≠ .setNoiseVar v) : (step K o op).1 = o := by
  cases op with
  | setChannel c => exact absurd rfl (h c)
  | setNoiseVar v => exact absurd rfl (h' v)
  | _ => rfl

/-- **Round trip after any history (Blast / MRC).**  Whatever the object did before
    (decodes with an MMSE filter included), once the configured noise variance is `None`/`0`
    (not positive) and the configured channel `c` has full column rank, decoding the
    noise-free channel output of what the object encodes returns the data. -/
theorem blast_object_roundtrip_after_history (K : Kernels ℂ) (o0 : Obj ℂ)
    (hs : o0.scheme = .blast ∨ o0.scheme = .mrc) (ops : List (Op ℂ)) (c : Chan ℂ)
    (hoc : (run K o0 ops).chan = some c)
    (hr : FullColRank c.H) (hp : IsPinv c.H (K.pinv c.H))
    (hnv : ¬ 0 < (run K o0 ops).nv.re) (x : Vec ℂ n) (E : Mat ℂ c.nt (n / c.nt))
    (hE : (step K (run K o0 ops) (.encode n x)).2 = .mat _ _ E) :
    ∃ d : Vec ℂ (c.nt * (n / c.nt)),
      (step K (run K o0 ops) (.decode _ _ (matMul c.H E))).2 = .vec _ d ∧
      ∀ (j : Nat) (hj : j < n) (hj' : j < c.nt * (n / c.nt)), d ⟨j, hj'⟩ = x ⟨j, hj⟩ := by
  rw [← (congrArg Obj.scheme (Pf.run_state K ops o0) :)] at hs
  generalize run K o0 ops = o at hoc hnv hE hs ⊢
  obtain ⟨s, _, v⟩ := o
  cases hoc
  -- both classes encode with `blastEncode` and decode with the Blast filter; the row-count guard
  -- of `decode` passes (`dif_pos rfl`)
  obtain rfl | rfl := hs <;>
    exact ⟨_, dif_pos rfl, Pf.blast_decode_encode (hp.left_inv hr) _ hnv (Pf.outOfExcept_mat hE)⟩

/-- **SNR sweep on one object.**  `set_noise_var(σ²)` replaces the stored noise variance and
    nothing else, and the receive filter the object then computes for its channel `c` tends,
    entry by entry, to the zero-forcing filter it computes after `set_noise_var(0)` /
    `set_noise_var(None)`. -/
theorem object_sweep_tendsto_zf (K : Kernels ℂ) (o : Obj ℂ) (hb : o.scheme.blastFamily = true)
    (c : Chan ℂ) (hr : FullColRank c.H) (hp : IsPinv c.H (K.pinv c.H))
    (hsol : ∀ s : ℝ, 0 < s → IsSolve (mmseLhs c.H (s : ℂ)) (mmseRhs c.H)
      (K.solve (mmseLhs c.H (s : ℂ)) (mmseRhs c.H))) :
    (∀ s : ℝ, 0 ≤ s → (step K o (.setNoiseVar (some (s : ℂ)))).1 = { o with nv := (s : ℂ) }) ∧
    (step K o (.setNoiseVar none)).1 = { o with nv := 0 } ∧
    ∀ i j, Tendsto (fun s : ℝ => blastFilterK K c.H (s : ℂ) i j) (𝓝[>] 0)
      (𝓝 (blastFilterK K c.H 0 i j)) := by
  refine ⟨Pf.step_setNoiseVar_real K o hb, Pf.step_setNoiseVar_none K o hb, fun i j => ?_⟩
  -- both filters are `√Nt` times a kernel result: `pinv` at `0`, `solve` at every `s > 0`
  rw [show blastFilterK K c.H 0 i j = _ from congrFun (congrFun (Pf.blastFilterK_zero K c.H) i) j]
  refine tendsto_nhdsWithin_congr (fun s hs => ?_)
    ((Pf.mmse_tendsto_entry hr hp _ hsol i j).const_mul (sqrtNat c.nt))
  exact (congrFun (congrFun (Pf.blastFilterK_pos K c.H s hs) i) j).symm

/-- **Same configuration, same object (R7: any entry point, any order, any repetition).**
    Two objects of the same class — built with or without a channel (`construct`,
    `constructEmpty`), driven through ANY two histories — are in the same state as soon as
    the histories leave the same channel and the same noise variance configured; hence
    every later `encode` / `decode` / query agrees. -/
theorem same_configuration_same_object (K : Kernels ℂ) (o1 o2 : Obj ℂ) (ops1 ops2 : List (Op ℂ))
    (hs : o1.scheme = o2.scheme)
    (hc : cfgChan o1.scheme o1.chan ops1 = cfgChan o2.scheme o2.chan ops2)
    (hv : cfgNv o1.scheme o1.nv ops1 = cfgNv o2.scheme o2.nv ops2) :
    run K o1 ops1 = run K o2 ops2 := by
  rw [Pf.run_state K ops1 o1, Pf.run_state K ops2 o2, hc, hv, hs]

/-- **A call that raises leaves the object exactly as it was (R4).**  Whatever operation
    returns a Python exception (rejected channel shape, negative noise variance,
    `set_noise_var` on a class without it, bad block length, wrong number of rows, missing
    channel …) the state is unchanged. -/
theorem rejected_call_keeps_state (K : Kernels ℂ) (o : Obj ℂ) (op : Op ℂ) (e : PyErr)
    (h : (step K o op).2 = .err e) : (step K o op).1 = o := by
  -- a setter that changes the state returns `None`
  cases op with
  | setChannel c =>
    revert h
    dsimp only [step]
    cases storeChan o.scheme c with
    | ok _ => exact nofun
    | error _ => exact fun _ => rfl
  | setNoiseVar v =>
    revert h
    dsimp only [step]
    cases o.scheme.blastFamily with
    | false => exact fun _ => rfl
    | true =>
      cases setNoiseVar v with
      | ok _ => exact nofun
      | error _ => exact fun _ => rfl
  | _ => rfl

/-- **Constructor path = setter path.**  `cls(channel)` is `cls()` followed by the class's
    own `set_channel_matrix(channel)`: the same object when the channel is accepted, the same
    exception (and a still channel-less object) when it is rejected. -/
theorem constructor_is_setter (K : Kernels ℂ) (s : Scheme) (c : ChanArg ℂ) :
    (∀ o, construct s c = .ok o ↔ step K (constructEmpty s) (.setChannel c) = (o, .done)) ∧
    (∀ e, construct s c = .error e ↔
      step K (constructEmpty s) (.setChannel c) = (constructEmpty s, .err e)) := by
  dsimp only [construct, step, constructEmpty]
  -- injectivity of the constructors in the matching case, their disjointness in the other
  cases storeChan s c <;>
    simp only [Except.ok.injEq, Except.error.injEq, Out.err.injEq, Obj.mk.injEq, Prod.mk.injEq, reduceCtorEq,
      and_true, true_and, and_false, and_self, implies_true]

/-- **Later replacement = constructor.**  Re-pointing any object of the class (whatever
    channel it had, in whatever layout) with `set_channel_matrix(channel)` gives the object
    `cls(channel)` builds (noise variance at its default), hence the same `encode` /
    `decode` / stored channel / SINRs afterwards. -/
theorem replacement_is_constructor (K : Kernels ℂ) (s : Scheme) (c : ChanArg ℂ) (o o' : Obj ℂ)
    (h : construct s c = .ok o) (hs : o'.scheme = s) (hn : o'.nv = 0) (obs : Op ℂ) :
    step K o' (.setChannel c) = (o, .done) ∧
    (step K (step K o' (.setChannel c)).1 obs).2 = (step K o obs).2 := by
  obtain ⟨hso, hno, ch, hc, hch⟩ := Pf.construct_ok h
  rw [Pf.step_setChannel_ok K o' c ch (hs ▸ hc)]
  -- the two objects agree field by field: scheme `s`, channel `ch`, noise variance `0`
  obtain ⟨_, _, _⟩ := o
  obtain ⟨_, _, _⟩ := o'
  subst hso hch hs hn hno
  exact ⟨rfl, rfl⟩

/-- **The documented channel layouts are the same channel.**  A vector of `Nr` gains and
    the `Nr × 1` column are stored identically by MRC (as `Nr × 1`), a vector of `Nt` gains
    and the `1 × Nt` row identically by MRT (as `1 × Nt`), a 2-vector and the `1 × 2` row
    identically by Alamouti — so by the two theorems above every observation agrees,
    whichever layout and whichever entry point was used; reading `_channel` returns that
    2-D matrix. -/
theorem channel_layouts_agree (K : Kernels ℂ) (n : Nat) (v : Vec ℂ n) (w : Vec ℂ 2) :
    storeChan .mrc (.vec n v) = storeChan .mrc (.mat n 1 (fun i _ => v i)) ∧
    storeChan .mrt (.vec n v) = storeChan .mrt (.mat 1 n (fun _ j => v j)) ∧
    storeChan .alamouti (.vec 2 w) = storeChan .alamouti (.mat 1 2 (fun _ j => w j)) ∧
    storeChan .mrc (.vec n v) = .ok ⟨n, 1, fun i _ => v i⟩ ∧
    (∀ o, construct .mrc (.vec n v) = .ok o →
      (step K o .channel).2 = .mat n 1 (fun i _ => v i)) := by
  refine ⟨rfl, rfl, rfl, rfl, ?_⟩
  intro o ho
  cases ho
  rfl

/-! ## argument forms and read-back of the configuration (R8, R11) -/

/-- **Omitted / `None` noise variance of `_calc_receive_filter` is `0.0`** (the default
    argument, the explicit `None` and the explicit `0.0` select the same zero-forcing
    filter). -/
theorem filter_default_noise_var (K : Kernels ℂ) (o : Obj ℂ) :
    step K o (.filters none) = step K o (.filters (some 0)) := rfl

/-- **What was configured is what is read back, after any history**: `_channel` is the
    last accepted channel (as a 2-D matrix, `None` if there never was one), `_noise_var`
    the last accepted noise variance, `getNumberOfLayers()` the `Nt` of that channel
    (`1` for MRT / Alamouti) — queries in between (`encode`, `decode`, `calc_*`,
    `getNumberOfLayers`, reading attributes) leave no trace (`observation_keeps_state`). -/
theorem configuration_read_back (K : Kernels ℂ) (o : Obj ℂ) (ops : List (Op ℂ)) :
    (step K (run K o ops) .channel).2 =
      (match cfgChan o.scheme o.chan ops with
       | some c => .mat c.nr c.nt c.H
       | none => .done) ∧
    (o.scheme.blastFamily = true →
      (step K (run K o ops) .noiseVar).2 = .vec 1 (fun _ => cfgNv o.scheme o.nv ops)) := by
  rw [Pf.run_state K ops o]
  refine ⟨?_, ?_⟩
  · cases cfgChan o.scheme o.chan ops <;> rfl
  · exact fun hb => if_pos hb

/-! ## R15 — distinct values that are merely close

The model is a function of the *exact* value: no comparison in it has a tolerance.  The
theorems below say what a tolerance (an `isclose`, a rounded key, an absolute threshold)
would break. -/

/-- **A setter takes effect for every new value** (noise variance): whatever the object held,
    after `set_noise_var(σ²)` it holds exactly `σ²` — read back bit for bit — and the object
    has changed as soon as `σ²` differs from the old value, by however little. -/
theorem setter_takes_effect_for_every_new_value (K : Kernels ℂ) (o : Obj ℂ)
    (hb : o.scheme.blastFamily = true) (s : ℝ) (hs : 0 ≤ s) :
    (step K o (.setNoiseVar (some (s : ℂ)))).1.nv = (s : ℂ) ∧
    (step K (step K o (.setNoiseVar (some (s : ℂ)))).1 .noiseVar).2 = .vec 1 (fun _ => (s : ℂ)) ∧
    ((s : ℂ) ≠ o.nv → (step K o (.setNoiseVar (some (s : ℂ)))).1 ≠ o) := by
  rw [Pf.step_setNoiseVar_real K o hb s hs]
  refine ⟨rfl, if_pos hb, ?_⟩
  intro hne h
  exact hne (congrArg Obj.nv h)

/-- **… and so does `set_channel_matrix`**: an accepted channel is stored as it is (and read
    back as it is), and the object has changed as soon as the stored channel differs. -/
theorem channel_setter_takes_effect_for_every_new_value (K : Kernels ℂ) (o : Obj ℂ) (c : ChanArg ℂ)
    (ch : Chan ℂ) (h : storeChan o.scheme c = .ok ch) :
    (step K o (.setChannel c)).1.chan = some ch ∧
    (step K (step K o (.setChannel c)).1 .channel).2 = .mat ch.nr ch.nt ch.H ∧
    (o.chan ≠ some ch → (step K o (.setChannel c)).1 ≠ o) := by
  rw [Pf.step_setChannel_ok K o c ch h]
  refine ⟨rfl, rfl, ?_⟩
  intro hne h'
  exact hne (congrArg Obj.chan h').symm

/-- **Close channels are different channels.**  Two matrices of one shape that differ in a
    single entry — by a relative `1e-6`, by one unit in the last place — configure different
    objects: no "unchanged, skip" shortcut is sound. -/
theorem close_channels_give_distinct_objects (K : Kernels ℂ) (o : Obj ℂ) (nr nt : Nat)
    (H H' : Mat ℂ nr nt) (ch ch' : Chan ℂ) (h : storeChan o.scheme (.mat nr nt H) = .ok ch)
    (h' : storeChan o.scheme (.mat nr nt H') = .ok ch') (hne : H ≠ H') :
    (step K o (.setChannel (.mat nr nt H))).1 ≠ (step K o (.setChannel (.mat nr nt H'))).1 := by
  rw [Pf.step_setChannel_ok K o _ ch h, Pf.step_setChannel_ok K o _ ch' h']
  intro e
  have e2 : ch = ch' := Option.some.inj (congrArg Obj.chan e)
  rw [Pf.storeChan_mat_ok h, Pf.storeChan_mat_ok h'] at e2
  injection e2 with _ _ h3
  exact hne h3

/-- **The MMSE / zero-forcing decision is the exact test `0 < σ²`.**  For every positive
    noise variance, however small, the Blast-family filter is `√Nt` times what `solve`
    returned for that very `σ²`; for `σ² = 0` it is `√Nt` times the pseudo-inverse. -/
theorem filter_decision_is_exact (K : Kernels ℂ) (H : Mat ℂ Nr Nt) :
    (∀ s : ℝ, 0 < s → blastFilterK K H (s : ℂ) =
      fun i j => K.solve (mmseLhs H (s : ℂ)) (mmseRhs H) i j * sqrtNat Nt) ∧
    blastFilterK K H 0 = fun i j => K.pinv H i j * sqrtNat Nt := by
  -- `toM` and `•` of the two lemmas unfold to the entries; only the order of the product differs
  exact ⟨fun s hs => (Pf.blastFilterK_pos K H s hs).trans (funext fun _ => funext fun _ => mul_comm _ _),
    (Pf.blastFilterK_zero K H).trans (funext fun _ => funext fun _ => mul_comm _ _)⟩

/-- **Different noise variances never share an MMSE filter.**  If one matrix satisfies the
    MMSE defining equation of a non-zero channel for `σ²` and for `σ'²`, then `σ² = σ'²`:
    a filter kept from a close-but-different noise variance always violates the defining
    equation. -/
theorem mmse_filter_separates_noise_variances (H : Mat ℂ Nr Nt) (v v' : ℂ) (W : Mat ℂ Nt Nr)
    (hH : ∃ i j, H i j ≠ 0) (h : IsSolve (mmseLhs H v) (mmseRhs H) W)
    (h' : IsSolve (mmseLhs H v') (mmseRhs H) W) : v = v' := by
  by_contra hne
  obtain ⟨i, j, hij⟩ := hH
  have h0 : (fun _ _ => 0) = mmseRhs H := by
    rw [← h, Pf.mmse_common_solution hne (h.trans h'.symm), matMul_zero]
  exact hij (star_eq_zero.mp (congrFun (congrFun h0 j) i).symm)

/-- **A negligible noise variance is not zero.**  For a channel of full column rank with at
    least one transmit antenna, the zero-forcing filter satisfies the MMSE defining equation
    of NO non-zero noise variance — treating a small `σ²` as `0` always breaks the equation. -/
theorem zf_filter_is_not_an_mmse_filter (H : Mat ℂ Nr Nt) (Gp : Mat ℂ Nt Nr) (hNt : 0 < Nt)
    (hr : FullColRank H) (hp : IsPinv H Gp) (s : ℂ) (hs : s ≠ 0) :
    ¬ IsSolve (mmseLhs H s) (mmseRhs H) (zfFilter Gp) := by
  intro h
  have hG : Gp = fun _ _ => 0 :=
    Pf.mmse_common_solution hs (h.trans (by rw [mmseLhs_zero]; exact hp.normal.symm))
  have h1 := hp.left_inv hr
  rw [hG, zero_matMul] at h1
  exact zero_ne_one ((congrFun (congrFun h1 ⟨0, hNt⟩) ⟨0, hNt⟩).trans (if_pos rfl))

/-! ## R16 — argument identity and buffer reuse

`Model/C04Buf.lean`: a caller with ONE preallocated channel array (`refill`, `setBuffer`,
`setFresh`, `observe`), the code as it is (`codeRun`: `set_channel_matrix` keeps the array
object) against value semantics (`valRun`: the object works with the contents at call time,
which is what `Op.setChannel` of `Model/C04Obj.lean` takes). -/

/-- **Whatever was handed over before, the last contents win.**  After any history — the same
    array with other contents included — `set_channel_matrix(c)` leaves the object that the
    contents `c` define; nothing of the earlier channels survives. -/
theorem last_handed_over_contents_win (K : Kernels ℂ) (o : Obj ℂ) (ops : List (Op ℂ)) (c : ChanArg ℂ)
    (ch : Chan ℂ) (h : storeChan o.scheme c = .ok ch) :
    run K o (ops ++ [.setChannel c]) = ⟨o.scheme, some ch, cfgNv o.scheme o.nv ops⟩ := by
  rw [Pf.run_append_one, Pf.run_state K ops o,
    Pf.step_setChannel_ok K ⟨o.scheme, cfgChan o.scheme o.chan ops, cfgNv o.scheme o.nv ops⟩ c ch h]

/-- **A refilled buffer that is handed over again is a fresh value.**  As long as the caller
    passes its array to `set_channel_matrix` again after every refill (the loop of a Monte
    Carlo simulation), the code — which keeps the array object — makes exactly the
    observations of value semantics: the k-th call sees the contents of the k-th refill. -/
theorem refilled_buffer_equals_fresh_object {β : Type} (b : β) (ops : List (Buf.BOp β))
    (h : Buf.disciplined false ops = true) :
    Buf.codeRun ⟨b, none, false⟩ ops = Buf.valRun ⟨b, none⟩ ops :=
  Buf.disciplined_runs_agree ops _ _ false ⟨rfl, fun _ => rfl, fun _ => rfl⟩ h

/-- **Known finding, negative witness on the model of the code.**  The discipline is needed:
    `set_channel_matrix(buf); buf[...] = 1; observe` — the code works with the new contents
    `1`, value semantics with the contents `0` that were handed over
    (`C04:set_channel_matrix:keeps-the-callers-array`; replayed on the library by the
    `reuse` oracle, mode `after-call`). -/
theorem channel_kept_by_reference_fails :
    Buf.codeRun (β := Nat) ⟨0, none, false⟩ [.setBuffer, .refill 1, .observe] = [some 1] ∧
    Buf.valRun (β := Nat) ⟨0, none⟩ [.setBuffer, .refill 1, .observe] = [some 0] := by
  decide

/-- the `pinv` contract and full column rank hold for the 2×1 channel `[1, j]ᵀ` with
    `G = [1/2, −j/2]` (hypotheses of `zf_*`, `blast_roundtrip`, `mrc_roundtrip`, `mmse_*`) -/
example : FullColRank Ex.H ∧ IsPinv Ex.H Ex.G := Ex.pinv_contract

/-- the `svd` contract of `svd_roundtrip` / `encode_energy_svd` holds for `[2, 0]ᵀ` -/
example : FullColRank Ex.H2 ∧ matMul (matMul Ex.U2 (diagM Ex.S2)) Ex.VH2 = Ex.H2 ∧
    matMul (cT Ex.U2) Ex.U2 = eye ∧ matMul Ex.VH2 (cT Ex.VH2) = eye :=
  ⟨Ex.H2_fullColRank, Ex.svd_contract⟩

/-- the `gmd` contract of `gmd_roundtrip` / `encode_energy_gmd` holds for `[2, 0]ᵀ` -/
example : matMul (matMul Ex.Q2 Ex.H2) (cT Ex.P2) = Ex.H2 ∧ matMul (cT Ex.P2) Ex.P2 = eye :=
  Ex.gmd_contract

/-- the hypotheses of the `…_from_svd` theorems hold for the channel `diag(4, 1)` with its SVD
    `1 · diag(4, 1) · 1` (`σ̄ = 2`: the sweep performs a genuine rotation): `IsFullSvd`,
    `0 < min Nr Nt`, `Nt ≤ Nr` -/
example : IsFullSvd Ex.H3 eye LinAlg.GmdInv.exS eye ∧ 0 < min 2 2 ∧ 2 ≤ 2 := Ex.fullSvd_contract

/-- a channel vector with a zero tap still satisfies the MRT hypothesis -/
example : ∃ i, (fun i : Fin 2 => if i.val = 0 then (0 : ℂ) else Complex.I) i ≠ 0 :=
  ⟨1, Complex.I_ne_zero⟩

/-- encode succeeds on a block of two layers × two channel uses (hypothesis `hE`) -/
example : ∃ E, blastEncode 2 (fun i : Fin 4 => (i.val : ℂ)) = .ok E :=
  ⟨_, Pf.lengthGuard_accepts (by decide) (by decide)⟩

/-- the hypotheses of `gmd_step_preserves` hold for `δ = (4, 1)`, `σ̄ = 2` -/
example : (0:ℝ) ≤ 1 ∧ (1:ℝ) < 4 ∧ (1:ℝ) ≤ 2 ∧ (2:ℝ) ≤ 4 ∧ (2:ℝ) ≠ 0 := by norm_num

/-- the hypotheses of `history_eq_fresh_object` are satisfiable by a non-trivial history:
    a Blast object built on `[1, j]ᵀ`, switched to MMSE, re-pointed to `[2, 0]ᵀ` and switched
    back to zero forcing is configured like `Blast([2, 0]ᵀ)` followed by `set_noise_var(None)` -/
example (y : Mat ℂ 2 1) :
    ∃ o0 f : Obj ℂ, construct .blast (.mat 2 1 Ex.H) = .ok o0 ∧ construct .blast (.mat 2 1 Ex.H2) = .ok f ∧
      f.chan = cfgChan .blast o0.chan
        [.setNoiseVar (some ((1 / 2 : ℝ) : ℂ)), .decode 2 1 y, .setChannel (.mat 2 1 Ex.H2), .setNoiseVar none] ∧
      setNoiseVar (none : Option ℂ) = .ok (cfgNv .blast o0.nv
        [.setNoiseVar (some ((1 / 2 : ℝ) : ℂ)), .decode 2 1 y, .setChannel (.mat 2 1 Ex.H2), .setNoiseVar none]) := by
  refine ⟨_, _, rfl, rfl, rfl, ?_⟩
  dsimp only [cfgNv]
  cases setNoiseVar (some ((1 / 2 : ℝ) : ℂ)) <;> rfl

/-- `same_configuration_same_object` is not vacuous: `Blast()` followed by `set_noise_var(1/2)`,
    a rejected 1-D channel, `set_channel_matrix([1, j]ᵀ)` and a repeated `set_noise_var(1/2)`
    leaves the configuration of `Blast([1, j]ᵀ)` followed by `set_noise_var(1/2)` -/
example : cfgChan .blast (constructEmpty (α := ℂ) .blast).chan
      [.setNoiseVar (some ((1 / 2 : ℝ) : ℂ)), .setChannel (.vec 2 (fun _ => 1)), .setChannel (.mat 2 1 Ex.H),
        .setNoiseVar (some ((1 / 2 : ℝ) : ℂ))]
    = cfgChan .blast (some ⟨2, 1, Ex.H⟩) [.setNoiseVar (some ((1 / 2 : ℝ) : ℂ))] := rfl

/-- the hypotheses of `mmse_filter_separates_noise_variances` are satisfiable (`filter_decision_is_exact`
    has none): the channel `[1, j]ᵀ` is non-zero and its MMSE system has a solution for the
    tiny noise variance `4·10⁻¹²` -/
example : (∃ i j, Ex.H i j ≠ 0) ∧
    ∃ W, IsSolve (mmseLhs Ex.H (((4e-12 : ℝ)) : ℂ)) (mmseRhs Ex.H) W := by
  exact ⟨⟨0, 0, one_ne_zero⟩, exists_isSolve Ex.H Ex.tiny_pos⟩

/-- `zf_filter_is_not_an_mmse_filter` is not vacuous: `[1, j]ᵀ` with `G = [1/2, −j/2]` and one
    transmit antenna -/
example : (0 < 1) ∧ FullColRank Ex.H ∧ IsPinv Ex.H Ex.G ∧ (((4e-12 : ℝ)) : ℂ) ≠ 0 := by
  exact ⟨Nat.one_pos, Ex.pinv_contract.1, Ex.pinv_contract.2, Complex.ofReal_ne_zero.mpr Ex.tiny_pos.ne'⟩

/-- `close_channels_give_distinct_objects`: `[1, j]ᵀ` and `[2, 0]ᵀ` are both accepted by Blast -/
example : storeChan (α := ℂ) .blast (.mat 2 1 Ex.H) = .ok ⟨2, 1, Ex.H⟩ ∧
    storeChan (α := ℂ) .blast (.mat 2 1 Ex.H2) = .ok ⟨2, 1, Ex.H2⟩ := ⟨rfl, rfl⟩

/-- a disciplined Monte Carlo loop (hypothesis of `refilled_buffer_equals_fresh_object`):
    hand over, observe, refill, hand over again, observe twice, replace by a fresh array, observe -/
example : Buf.disciplined (β := Nat) false
    [.setBuffer, .observe, .refill 1, .setBuffer, .observe, .observe, .refill 2, .setFresh 3, .observe] = true := rfl

end PyPhysim.C04
