import PyPhysim.Proofs.C13Policy
import PyPhysim.Proofs.C13Models
import PyPhysim.Proofs.C13Friis

/-!
# C13 — path-loss and antenna-gain models are monotone, invertible and unit-consistent

Every numeric formula, literal, setter guard and
decision ladder (`PyPhysim.C13.Gen.*`) is **regenerated from the current
source** by `harness/gen/c13.py`; the object / setter machines, the
negative-loss policy and the scalar / array dispatch are the hand model
`Model/C13.lean`, tied to the code by the correspondence of
`harness/props/c13.py`.  The scalar is `ℝ`, `log10 = Real.logb 10`,
`10 ** x = (10:ℝ) ^ x`.  Admissible distance = positive real.  Shadowing off.
-/
namespace PyPhysim.C13
open PyPhysim.Proto

/-- Tie: both PathLossFreeSpace setters in the current source store the value
    and recompute `_C` from (`_fc`, `n`) (pattern checked by the translator). -/
theorem fs_setters_recompute_C_in_source :
    Gen.fsSetter_n_recomputesC = true ∧ Gen.fsSetter_fc_recomputesC = true := ⟨rfl, rfl⟩

/-- "These relations keep holding after any sequence of changes": after ANY
    sequence of `n` / `fc` / flag setter calls on a `PathLossFreeSpace(n₀, fc₀)`
    the cached constant is `C = 10·n·(log10(fc·10⁶) − 4.3779…)` for the
    CURRENT `n`, `fc`. -/
theorem fs_C_invariant (n₀ fc₀ : ℝ) (ops : List (FsOp ℝ)) :
    let s := fsRun (fsInit n₀ fc₀) ops
    s.C = 10 * s.n * (Real.logb 10 (s.fc * 1000000) - 4.377911390697565) :=
  (fsRun_inv (fsInit_inv n₀ fc₀) ops).trans (fsCalcC_real _ _)

/-- history independence: after any setter history the free-space object
    answers every query exactly like a freshly constructed
    `PathLossFreeSpace(n, fc)` with the current parameters and flag. -/
theorem fs_history_independent (n₀ fc₀ : ℝ) (ops : List (FsOp ℝ)) :
    let s := fsRun (fsInit n₀ fc₀) ops
    s = { fsInit s.n s.fc with small := s.small, shadow := s.shadow } :=
  (fsRun_inv (fsInit_inv n₀ fc₀) ops).eq_fresh

/-- a setter call is what determines the parameter in force afterwards -/
theorem fs_last_setter_wins (n₀ fc₀ v : ℝ) (ops : List (FsOp ℝ)) :
    (fsRun (fsInit n₀ fc₀) (ops ++ [.setN v])).n = v ∧
    (fsRun (fsInit n₀ fc₀) (ops ++ [.setFc v])).fc = v :=
  ⟨congrArg GenState.n (List.foldl_concat ..), congrArg GenState.fc (List.foldl_concat ..)⟩

/-- Okumura–Hata: after ANY sequence of (accepted or rejected) setter calls on
    a fresh object the parameters are inside the ranges the setters enforce and
    the area type is one of the four valid ones. -/
theorem oh_ranges_after_history (ops : List (OhOp ℝ)) :
    let s := ohRun (ohInit : OhState ℝ) ops
    (150 ≤ s.fc ∧ s.fc ≤ 1500) ∧ (30 ≤ s.hbs ∧ s.hbs ≤ 200) ∧ (1 ≤ s.hms ∧ s.hms ≤ 10) ∧
      s.area ∈ ["open", "suburban", "medium city", "large city"] := by
  obtain ⟨h₁, h₂, h₃, h₄⟩ := ohRun_inv ohInit_inv ops
  exact ⟨(ohFcAccepted_iff _).1 h₁, (ohHbsAccepted_iff _).1 h₂, (ohHmsAccepted_iff _).1 h₃,
    (ohAreaAccepted_iff _).1 h₄⟩

/-- a value outside the range raises RuntimeError and leaves the object unchanged -/
theorem oh_rejected_setter_is_noop (s : OhState ℝ) (o : OhOp ℝ) (e : PyErr)
    (h : (ohStep s o).2 = some e) : e = .RuntimeError ∧ (ohStep s o).1 = s := by
  cases o with
  | setSmall | setShadow => cases h
  | _ => exact guarded_rejected h

/-- the guards are exactly the documented ranges -/
theorem oh_guard_ranges (v : ℝ) :
    (Gen.ohFcAccepted v = true ↔ 150 ≤ v ∧ v ≤ 1500) ∧
    (Gen.ohHbsAccepted v = true ↔ 30 ≤ v ∧ v ≤ 200) ∧
    (Gen.ohHmsAccepted v = true ↔ 1 ≤ v ∧ v ≤ 10) :=
  ⟨ohFcAccepted_iff v, ohHbsAccepted_iff v, ohHmsAccepted_iff v⟩

/-- General / 3GPP / free space, exponent `n ≥ 0`, any constant, either flag:
    scalar queries are non-decreasing in the distance and a sorted array of
    distances gives a sorted array of losses. -/
theorem general_monotone (s : GenState ℝ) (hn : 0 ≤ s.n) :
    (∀ d₁ d₂ x₁ x₂, s.dbScalar d₁ = .ok x₁ → s.dbScalar d₂ = .ok x₂ → d₁ ≤ d₂ → x₁ ≤ x₂) ∧
    (∀ ds xs, (∀ d ∈ ds, 0 < d) → ds.Pairwise (· ≤ ·) → s.dbArray ds = .ok xs →
      xs.Pairwise (· ≤ ·)) := by
  have hf : MonotoneOn s.detDb (Set.Ioi 0) :=
    gen_detDb_eq s ▸ affLog_monotoneOn _ (mul_nonneg (by norm_num) hn)
  exact ⟨scalarDb_mono hf, arrayDb_mono hf⟩

/-- … in particular after any setter history of a free-space object whose
    current exponent is non-negative -/
theorem fs_monotone_after_history (n₀ fc₀ : ℝ) (ops : List (FsOp ℝ))
    (hn : 0 ≤ (fsRun (fsInit n₀ fc₀) ops).n) (d₁ d₂ x₁ x₂ : ℝ)
    (h₁ : (fsRun (fsInit n₀ fc₀) ops).dbScalar d₁ = .ok x₁)
    (h₂ : (fsRun (fsInit n₀ fc₀) ops).dbScalar d₂ = .ok x₂) (h : d₁ ≤ d₂) : x₁ ≤ x₂ :=
  (general_monotone _ hn).1 d₁ d₂ x₁ x₂ h₁ h₂ h

/-- positive exponent: the deterministic loss is strictly increasing -/
theorem general_strictly_increasing (s : GenState ℝ) (hn : 0 < s.n) {d₁ d₂ : ℝ}
    (h₁ : 0 < d₁) (h : d₁ < d₂) : s.detDb d₁ < s.detDb d₂ :=
  (gen_detDb_eq s ▸ affLog_strictMonoOn _ (mul_pos (by norm_num) hn)) h₁ (h₁.trans h) h

/-- the guard `n ≥ 0` is exactly what is needed: a negative exponent (the
    setter does not reject it) makes the loss strictly DEcreasing -/
theorem general_negative_exponent_not_monotone (s : GenState ℝ) (hn : s.n < 0) {d₁ d₂ : ℝ}
    (h₁ : 0 < d₁) (h : d₁ < d₂) : s.detDb d₂ < s.detDb d₁ :=
  (gen_detDb_eq s ▸ affLog_strictAntiOn _ (mul_neg_of_pos_of_neg (by norm_num) hn)) h₁ (h₁.trans h) h

/-- 3GPP scenario 1 (`n = 3.76`, `C = 128.1` from the source) -/
theorem gpp1_monotone (small : Bool) (d₁ d₂ x₁ x₂ : ℝ)
    (h₁ : ({ (gpp1Init : GenState ℝ) with small := small }).dbScalar d₁ = .ok x₁)
    (h₂ : ({ (gpp1Init : GenState ℝ) with small := small }).dbScalar d₂ = .ok x₂)
    (h : d₁ ≤ d₂) : x₁ ≤ x₂ := by
  refine (general_monotone _ ?_).1 d₁ d₂ x₁ x₂ h₁ h₂ h
  unfold gpp1Init generalInit Gen.gpp1N
  norm_num

/-- METIS PS7, LOS and NLOS with any wall count, after any setter history,
    scalar and array queries -/
theorem ps7_monotone (fc₀ : ℝ) (ops : List (Ps7Op ℝ)) (nw : Nat) :
    let s := ps7Run (ps7Init fc₀) ops
    (∀ d₁ d₂ x₁ x₂, s.dbScalar nw d₁ = .ok x₁ → s.dbScalar nw d₂ = .ok x₂ → d₁ ≤ d₂ → x₁ ≤ x₂) ∧
    (∀ ds xs, (∀ d ∈ ds, 0 < d) → ds.Pairwise (· ≤ ·) → s.dbArray nw ds = .ok xs →
      xs.Pairwise (· ≤ ·)) := by
  intro s
  have hf := (ps7_detDb_strictMonoOn s nw).monotoneOn
  simp only [ps7_dbScalar_nat, ps7_dbArray_nat]
  exact ⟨scalarDb_mono hf, arrayDb_mono hf⟩

/-- R9 / R14 (counts, also above 256): for EVERY wall count `w ≥ 1` the NLOS
    loss is the one-wall loss plus `5·(w − 1)` dB — linear in the count, nothing
    wraps around; the count enters only through its value. -/
theorem ps7_wall_count_linear (s : Ps7State ℝ) (w : Nat) (hw : 1 ≤ w) (d : ℝ) :
    s.detDb w d = s.detDb 1 d + 5 * ((w : ℝ) - 1) := by
  -- at one wall the summand `5 * (walls − 1)` of the offset vanishes
  simp only [ps7_detDb_eq, affLog, ps7Slope, ps7Offset, if_neg (Nat.one_le_iff_ne_zero.1 hw),
    if_neg one_ne_zero, Nat.cast_one, sub_self, mul_zero, add_zero, add_assoc]

/-- PS7: every additional wall adds loss; a negative wall count is rejected -/
theorem ps7_walls (s : Ps7State ℝ) :
    (∀ w₁ w₂ : Nat, 1 ≤ w₁ → w₁ ≤ w₂ → ∀ d, s.detDb w₁ d ≤ s.detDb w₂ d) ∧
    (∀ (w : Int) d, w < 0 → s.dbScalar w d = .error .ValueError) := by
  refine ⟨fun w₁ w₂ h₀ h d => ?_, fun w d hw => if_pos hw⟩
  rw [ps7_wall_count_linear s _ h₀, ps7_wall_count_linear s _ (h₀.trans h)]
  exact add_le_add_right (mul_le_mul_of_nonneg_left (sub_le_sub_right (Nat.cast_le.2 h) 1) (by norm_num)) _

/-- Okumura–Hata, every area type, after ANY setter history (no side condition:
    the guards keep `44.9 − 6.55·log10(h_bs) > 0`), scalar and array queries;
    and the correction ladders never raise. -/
theorem oh_monotone_after_history (ops : List (OhOp ℝ)) :
    let s := ohRun (ohInit : OhState ℝ) ops
    (∀ d₁ d₂ x₁ x₂, s.dbScalar d₁ = .ok x₁ → s.dbScalar d₂ = .ok x₂ → d₁ ≤ d₂ → x₁ ≤ x₂) ∧
    (∀ ds xs, (∀ d ∈ ds, 0 < d) → ds.Pairwise (· ≤ ·) → s.dbArray ds = .ok xs →
      xs.Pairwise (· ≤ ·)) ∧
    (∀ d, s.dbScalar d ≠ .error .AssertionError ∧ (0 < d → s.small = true → ∃ x, s.dbScalar d = .ok x)) := by
  intro s
  have hs : OhInv s := ohRun_inv ohInit_inv ops
  obtain ⟨a, K, hq, hqa⟩ := oh_queries hs
  have hf := (oh_detDb_strictMonoOn hs a K).monotoneOn
  rw [hq, hqa]
  refine ⟨scalarDb_mono hf, arrayDb_mono hf, fun d => ⟨fun h => ?_, fun hd hsm => ?_⟩⟩
  · rw [scalarDb] at h
    split at h
    · rw [policyScalar_eq] at h
      split at h <;> cases h
    · cases h
  · rw [scalarDb_of_pos _ _ hd, policyScalar_eq, if_neg fun q => Bool.noConfusion (hsm.symm.trans q.1)]
    exact ⟨_, rfl⟩

/-- `calc_path_loss` = `10^(−dB/10)` of what `calc_path_loss_dB` reports, the
    reported dB value is `≥ 0` and the linear value lies in `(0, 1]`
    (General / 3GPP / free space; scalar and array). -/
theorem general_linear_value (s : GenState ℝ) :
    (∀ d y, s.linScalar d = .ok y →
      ∃ x, s.dbScalar d = .ok x ∧ 0 ≤ x ∧ y = (10 : ℝ) ^ (-x / 10) ∧ 0 < y ∧ y ≤ 1) ∧
    (∀ ds ys, s.linArray ds = .ok ys →
      ∃ xs, s.dbArray ds = .ok xs ∧ (∀ x ∈ xs, 0 ≤ x) ∧
        ys = xs.map (fun x => (10 : ℝ) ^ (-x / 10)) ∧ ∀ y ∈ ys, 0 < y ∧ y ≤ 1) := by
  refine ⟨fun _ _ h => lin_range h, fun ds ys h => ?_⟩
  obtain ⟨xs, hxs, rfl⟩ := exceptMap_eq_ok h
  have hnn : ∀ x ∈ xs, 0 ≤ x := by
    rw [arrayDb_ok hxs]
    exact List.forall_mem_map.2 fun d _ => clamp_nonneg _
  refine ⟨xs, hxs, hnn, List.map_congr_left fun x _ => dB2Linear_real (-x), ?_⟩
  exact List.forall_mem_map.2 fun x hx => dB2Linear_real (-x) ▸ lin_unit_interval (hnn x hx)

/-- same for METIS PS7 and Okumura–Hata -/
theorem ps7_oh_linear_value :
    (∀ (s : Ps7State ℝ) (nw : Nat) d y, s.linScalar nw d = .ok y →
      ∃ x, s.dbScalar nw d = .ok x ∧ 0 ≤ x ∧ y = (10 : ℝ) ^ (-x / 10) ∧ 0 < y ∧ y ≤ 1) ∧
    (∀ (ops : List (OhOp ℝ)) d y, (ohRun (ohInit : OhState ℝ) ops).linScalar d = .ok y →
      ∃ x, (ohRun (ohInit : OhState ℝ) ops).dbScalar d = .ok x ∧ 0 ≤ x ∧
        y = (10 : ℝ) ^ (-x / 10) ∧ 0 < y ∧ y ≤ 1) := by
  refine ⟨fun s nw d y => ?_, fun ops d y => ?_⟩
  · rw [Ps7State.linScalar, ps7_dbScalar_nat]
    exact lin_range
  · obtain ⟨a, K, hq, _⟩ := oh_queries (ohRun_inv ohInit_inv ops)
    rw [OhState.linScalar, hq]
    exact lin_range

/-- unit consistency of the two conversions (regenerated from util/conversion.py):
    `dB2Linear x = 10^(x/10)`, `linear2dB y = 10·log10 y`, mutually inverse -/
theorem dB_linear_conversions (x : ℝ) :
    Gen.dB2Linear x = (10 : ℝ) ^ (x / 10) ∧ Gen.linear2dB x = 10 * Real.logb 10 x ∧
    Gen.linear2dB (Gen.dB2Linear x) = x ∧ (0 < x → Gen.dB2Linear (Gen.linear2dB x) = x) :=
  ⟨dB2Linear_real x, linear2dB_real x, linear2dB_dB2Linear x, fun h => dB2Linear_linear2dB h⟩

/-- scalar distance, any deterministic loss function `f` (every model's scalar
    query is `scalarDb small (its deterministic loss)`): non-negative loss is
    returned unchanged; a negative one raises RuntimeError when the flag is off
    and is replaced by exactly `0` dB when it is on. -/
theorem small_distance_policy_scalar (small : Bool) (f : ℝ → ℝ) (d : ℝ) (hd : 0 < d) :
    (0 ≤ f d → scalarDb small f d = .ok (f d)) ∧
    (f d < 0 → small = false → scalarDb small f d = .error .RuntimeError) ∧
    (f d < 0 → small = true → scalarDb small f d = .ok 0) := by
  rw [scalarDb_of_pos small f hd, policyScalar_eq]
  refine ⟨fun h => ?_, fun h hs => if_pos ⟨hs, h⟩, fun h hs => ?_⟩
  · rw [if_neg fun q => not_lt.2 h q.2, clamp_of_nonneg h]
  · rw [if_neg fun q => Bool.noConfusion (hs.symm.trans q.1), clamp, if_pos h]

/-- array of distances: if any entry's loss is negative the call raises (flag
    off) or returns the entry-wise clamp at `0` dB (flag on); otherwise the
    array is returned unchanged. -/
theorem small_distance_policy_array (f : ℝ → ℝ) (ds : List ℝ) :
    ((∃ d ∈ ds, f d < 0) → arrayDb false f ds = .error .RuntimeError) ∧
    (arrayDb true f ds = .ok (ds.map (fun d => if f d < 0 then 0 else f d))) ∧
    (∀ small, (∀ d ∈ ds, 0 ≤ f d) → arrayDb small f ds = .ok (ds.map f)) := by
  refine ⟨arrayDb_raises, arrayDb_clamps f ds, fun small h => ?_⟩
  · rw [arrayDb, policyArray_eq, if_neg, map_clamp_of_nonneg (List.forall_mem_map.2 h)]
    exact fun ⟨_, x, hx, hx0⟩ => not_lt.2 (List.forall_mem_map.2 h x hx) hx0

/-- the three object kinds route their queries through that policy -/
theorem queries_use_policy :
    (∀ (s : GenState ℝ) d, s.dbScalar d = scalarDb s.small s.detDb d) ∧
    (∀ (s : GenState ℝ) ds, s.dbArray ds = arrayDb s.small s.detDb ds) ∧
    (∀ (s : Ps7State ℝ) (nw : Nat) d, s.dbScalar nw d = scalarDb s.small (s.detDb nw) d) ∧
    (∀ (ops : List (OhOp ℝ)), ∃ a K, ∀ d,
      (ohRun (ohInit : OhState ℝ) ops).dbScalar d
        = scalarDb (ohRun (ohInit : OhState ℝ) ops).small ((ohRun (ohInit : OhState ℝ) ops).detDb a K) d) := by
  refine ⟨fun _ _ => rfl, fun _ _ => rfl, ps7_dbScalar_nat, fun ops => ?_⟩
  obtain ⟨a, K, hq, _⟩ := oh_queries (ohRun_inv ohInit_inv ops)
  exact ⟨a, K, congrFun hq⟩

/-- General / 3GPP / free space with exponent `n ≠ 0`:
    loss → distance → loss is the identity for EVERY dB value;
    distance → loss → distance is the identity for every positive distance whose
    loss is not clamped, in dB, in linear scale and entry-wise on arrays. -/
theorem which_distance_inverse (s : GenState ℝ) (hn : s.n ≠ 0) :
    (∀ p, ∃ d, s.whichDbScalar p = .ok d ∧ 0 < d ∧ s.detDb d = p) ∧
    (∀ d x, s.dbScalar d = .ok x → 0 ≤ s.detDb d → s.whichDbScalar x = .ok d) ∧
    (∀ d y, s.linScalar d = .ok y → 0 ≤ s.detDb d → s.whichLin y = d) ∧
    (∀ ds xs, (∀ d ∈ ds, 0 < d) → (∀ d ∈ ds, 0 ≤ s.detDb d) → s.dbArray ds = .ok xs →
      s.whichDbArray xs = ds) := by
  obtain ⟨hgf, hfg⟩ := affLog_inverse_pair (gen_detDb_eq s) (generalWhichDb_eq s.n s.C)
    (mul_ne_zero (by norm_num) hn)
  simp only [whichDbScalar_real, if_neg hn]
  exact ⟨fun p => ⟨_, rfl, hfg p⟩,
    fun _ _ h hx => congrArg _ (which_of_scalarDb hgf h hx), fun _ _ => which_of_lin hgf,
    fun _ _ => which_of_arrayDb hgf⟩

/-- … after any setter history of a free-space object (current exponent ≠ 0) -/
theorem fs_inverse_after_history (n₀ fc₀ : ℝ) (ops : List (FsOp ℝ))
    (hn : (fsRun (fsInit n₀ fc₀) ops).n ≠ 0) (d x : ℝ)
    (h : (fsRun (fsInit n₀ fc₀) ops).dbScalar d = .ok x)
    (hx : 0 ≤ (fsRun (fsInit n₀ fc₀) ops).detDb d) :
    (fsRun (fsInit n₀ fc₀) ops).whichDbScalar x = .ok d :=
  (which_distance_inverse _ hn).2.1 d x h hx

/-- Tie: in the current source both PS7 entry points dispatch `num_walls == 0`
    → LOS helper, `> 0` → NLOS helper, otherwise ValueError (pattern checked by
    the translator; the helpers themselves are regenerated). -/
theorem ps7_dispatch_in_source :
    Gen.ps7Dispatch_calc_PS7_path_loss_dB_same_floor = true ∧ Gen.ps7Dispatch_which_distance_dB = true :=
  ⟨rfl, rfl⟩

/-- METIS PS7 (LOS and NLOS, any wall count, after any `fc` history — `s` is
    arbitrary): `which_distance_dB(·, num_walls)` is the two-sided inverse of
    `calc_path_loss_dB(·, num_walls)`: loss → distance → loss for EVERY dB
    value, distance → loss → distance (dB and linear) for every positive distance
    whose loss is not clamped; a negative wall count raises ValueError. -/
theorem ps7_which_distance_inverse (s : Ps7State ℝ) (nw : Nat) :
    (∀ p, ∃ d, s.whichDb nw p = .ok d ∧ 0 < d ∧ s.detDb nw d = p) ∧
    (∀ d x, s.dbScalar nw d = .ok x → 0 ≤ s.detDb nw d → s.whichDb nw x = .ok d) ∧
    (∀ d y, s.linScalar nw d = .ok y → 0 ≤ s.detDb nw d → s.whichLin nw y = .ok d) ∧
    (∀ (w : Int) p, w < 0 → s.whichDb w p = .error .ValueError) := by
  obtain ⟨hgf, hfg⟩ := affLog_inverse_pair (ps7_detDb_eq s nw) (ps7_detWhich_eq s nw)
    (ps7Slope_pos nw).ne'
  simp only [Ps7State.linScalar, Ps7State.whichLin, ps7_dbScalar_nat, ps7_whichDb_nat]
  exact ⟨fun p => ⟨_, rfl, hfg p⟩, fun _ _ h hx => congrArg _ (which_of_scalarDb hgf h hx),
    fun _ _ h hx => congrArg _ (which_of_lin hgf h hx), fun w p hw => if_pos hw⟩

/-- exponent 0 has no inverse: the scalar query raises ZeroDivisionError;
    Okumura–Hata does not offer the query (NotImplementedError ⊂ RuntimeError) -/
theorem which_distance_not_offered :
    (∀ (s : GenState ℝ) p, s.n = 0 → s.whichDbScalar p = .error .ZeroDivisionError) ∧
    (∀ (s : OhState ℝ) p, s.whichDb p = .error .RuntimeError) := by
  refine ⟨fun s p h => ?_, fun _ _ => rfl⟩
  rw [whichDbScalar_real, if_pos h]

/-- Free space with exponent 2 — after ANY setter history that leaves `n = 2` —
    is within 0.01 dB of the Friis formula `20·log10(4π·d·f/c)`
    (`d` km → m, `fc` MHz → Hz, `c = 299 792 458 m/s`) for every positive
    distance and carrier frequency. -/
theorem friis_within_0_01dB (n₀ fc₀ : ℝ) (ops : List (FsOp ℝ)) (d : ℝ)
    (hn : (fsRun (fsInit n₀ fc₀) ops).n = 2) (hfc : 0 < (fsRun (fsInit n₀ fc₀) ops).fc) (hd : 0 < d) :
    |(fsRun (fsInit n₀ fc₀) ops).detDb d
      - 20 * Real.logb 10 (4 * Real.pi * (d * 1000) * ((fsRun (fsInit n₀ fc₀) ops).fc * 1000000) / 299792458)|
      ≤ 0.01 := by
  unfold GenState.detDb
  rw [fsRun_inv (fsInit_inv n₀ fc₀) ops, hn]
  exact fs_friis_abs hd hfc

/-- the difference to Friis is the same constant for all `d`, `fc`, enclosed in
    `[−0.0073, −0.0026]` dB -/
theorem friis_offset_constant (d fc : ℝ) (hd : 0 < d) (hfc : 0 < fc) :
    Gen.generalDb 2 (Gen.fsCalcC fc 2) d - friisDb d fc
      = 20 * (Real.logb 10 friisK - 3 - 4.377911390697565) ∧
    (723 : ℝ) / 98 ≤ Real.logb 10 friisK ∧ Real.logb 10 friisK ≤ (332 : ℝ) / 45 :=
  ⟨fs_minus_friis hd hfc, log10_friisK_bounds⟩

/-- `AntGainBS3GPP25996(k)`: accepted exactly for 3 and 6 sectors; for both the
    gain peaks at boresight (`gain 0 = ant_gain`), is symmetric, decreases with
    `|angle|`, never falls below `ant_gain·10^(−Am/10)` and equals that floor
    as soon as `12·(θ/θ₃dB)² ≥ Am`. -/
theorem ant_gain_peak_symmetric_floored (k : Nat) (a : Ant ℝ) (h : antNew k = .ok a) (x y : ℝ) :
    a.gain 0 = a.gain0 ∧ a.gain x ≤ a.gain 0 ∧ a.gain (-x) = a.gain x ∧
    (|x| ≤ |y| → a.gain y ≤ a.gain x) ∧
    a.gain0 * (10 : ℝ) ^ (-a.am / 10) ≤ a.gain x ∧
    (a.am ≤ 12 * (x / a.theta) ^ 2 → a.gain x = a.gain0 * (10 : ℝ) ^ (-a.am / 10)) :=
  antGain_profile (antNew_pos h).1.le (antNew_pos h).2.le a.theta x y

/-- the constructor: the two parameter sets of the source, ValueError otherwise -/
theorem ant_constructor :
    (∃ a : Ant ℝ, antNew 3 = .ok a ∧ a.theta = 70 ∧ a.am = 20 ∧ a.gain0 = (10 : ℝ) ^ ((14 : ℝ) / 10)) ∧
    (∃ a : Ant ℝ, antNew 6 = .ok a ∧ a.theta = 35 ∧ a.am = 23 ∧ a.gain0 = (10 : ℝ) ^ ((17 : ℝ) / 10)) ∧
    (∀ k, k ≠ 3 → k ≠ 6 → (antNew k : Except PyErr (Ant ℝ)) = .error .ValueError) :=
  ⟨⟨_, (antNew_eq 3).trans (if_pos rfl), rfl, rfl, dB2Linear_real 14⟩,
    ⟨_, (antNew_eq 6).trans ((if_neg (by decide)).trans (if_pos rfl)), rfl, rfl, dB2Linear_real 17⟩,
    fun k h3 h6 => (antNew_eq k).trans ((if_neg h3).trans (if_neg h6))⟩

/-- R1 / R2 (element type, shape, memory layout): an array query is a function
    of the LOGICAL values only and is positional — entry `i` of the result is
    the clamped deterministic loss of entry `i` of the argument, i.e. what the
    scalar query of that value returns; nothing depends on how the values are
    stored. (The harness hands the code the same logical values as int / float32
    / Fortran / strided / broadcast / N-d objects and compares positionally.) -/
theorem array_query_positional (small : Bool) (f : ℝ → ℝ) (ds xs : List ℝ)
    (h : arrayDb small f ds = .ok xs) :
    xs.length = ds.length ∧ ∀ i (hi : i < ds.length), xs[i]? = some (clamp (f ds[i])) := by
  rw [arrayDb_ok h]
  exact ⟨List.length_map .., fun i hi => by rw [List.getElem?_map, List.getElem?_eq_getElem hi]; rfl⟩

/-- R2 (N-d arrays): the clamp policy commutes with reshaping — clamping the
    flattened array of a list of rows is the row-wise clamp flattened (so a row
    that mixes a too-small and an admissible distance keeps the admissible
    entry); and with the flag off ONE negative entry anywhere raises. -/
theorem clamp_policy_commutes_with_reshape (f : ℝ → ℝ) (rows : List (List ℝ)) :
    arrayDb true f rows.flatten
      = .ok ((rows.map (fun r => r.map (fun d => clamp (f d)))).flatten) ∧
    ((∃ r ∈ rows, ∃ d ∈ r, f d < 0) → arrayDb false f rows.flatten = .error .RuntimeError) := by
  refine ⟨by rw [arrayDb_clamps, List.map_flatten], fun ⟨r, hr, d, hd, hneg⟩ => ?_⟩
  exact arrayDb_raises ⟨d, List.mem_flatten.2 ⟨r, hr, hd⟩, hneg⟩

/-- R4 / R7 (rejected calls, long-lived objects): a rejected Okumura–Hata
    setter call can be deleted from any history without changing the final
    object — the object behaves as if the call had never been made. (Queries
    are functions of the state in the model: they cannot change it.) -/
theorem oh_rejected_call_can_be_dropped (s : OhState ℝ) (o : OhOp ℝ) (e : PyErr)
    (h : (ohStep s o).2 = some e) (rest : List (OhOp ℝ)) :
    ohRun s (o :: rest) = ohRun s rest := by
  rw [ohRun, List.foldl_cons, (oh_rejected_setter_is_noop s o e h).2]
  rfl

/-- Tie: in the current source the plot helper writes every flag it touches
    back from a saved copy OF THAT SAME FLAG, inside a `finally` block (pattern
    extracted by the translator; swapping the two flags on restore, or restoring
    outside `finally`, makes this `rfl` fail). -/
theorem plot_helper_restores_flags_in_source :
    Gen.plotRestoresOwn = true ∧ Gen.plotRestoresInFinally = true := ⟨rfl, rfl⟩

/-- R7: drawing the curve — whatever flags are forced meanwhile, whether the
    path-loss computation raises (too-small distance, flag off) or the axes
    object raises — leaves every model object exactly as it was: exponent,
    constant, frequency, heights, area type AND both policy flags. -/
theorem plot_leaves_object_unchanged :
    (∀ (s : GenState ℝ) ds ax, (s.plot ds ax).1 = s) ∧
    (∀ (s : Ps7State ℝ) ds ax, (s.plot ds ax).1 = s) ∧
    (∀ (s : OhState ℝ) ds ax, (s.plot ds ax).1 = s) :=
  ⟨fun _ _ _ => rfl, fun _ _ _ => rfl, fun _ _ _ => rfl⟩

/-- … hence a history with any number of plot calls interleaved ends in the same
    object as the history without them (free space; the calls are identities). -/
theorem plot_calls_can_be_dropped (s : GenState ℝ) (ds : List ℝ) (ax : Bool) (ops : List (FsOp ℝ)) :
    fsRun (s.plot ds ax).1 ops = fsRun s ops := by
  rw [plot_leaves_object_unchanged.1]

/-- what the plot call reports with the flags of the current source (shadowing
    forced off, small-distance policy untouched): RuntimeError exactly when the
    policy flag is off and some distance is too small; otherwise the axes' own
    exception, if any. -/
theorem plot_outcome (s : GenState ℝ) (ds : List ℝ) (ax : Bool)
    (hsrc : Gen.plotForcedSmall = none) :
    ((∃ d ∈ ds, s.detDb d < 0) → s.small = false → (s.plot ds ax).2 = some .RuntimeError) ∧
    (s.small = true → (s.plot ds ax).2 = if ax then some .ValueError else none) := by
  have hfl : (plotFlags s.small s.shadow).1 = s.small := by simp [plotFlags, hsrc]
  have hp : (s.plot ds ax).2 = plotOutcome (arrayDb (plotFlags s.small s.shadow).1 s.detDb ds) ax := rfl
  rw [hp, hfl]
  constructor
  · intro h hs
    rw [hs, arrayDb_raises h]
    rfl
  · intro hs
    rw [hs, arrayDb_clamps]
    rfl

/-- R8 (equivalent entry points forward every argument): the linear-scale query
    is `dB2Linear(−·)` of the dB query WITH THE SAME wall count, the
    linear-scale inverse is the dB inverse of `−linear2dB(·)` WITH THE SAME wall
    count, the plot helper computes exactly the array query, and a free-space
    object is the general model with the computed constant. -/
theorem equivalent_entry_points :
    (∀ (s : Ps7State ℝ) (nw : Int) d, s.linScalar nw d = toLin (s.dbScalar nw d)) ∧
    (∀ (s : Ps7State ℝ) (nw : Int) p, s.whichLin nw p = s.whichDb nw (-(Gen.linear2dB p))) ∧
    (∀ (s : GenState ℝ) d, s.linScalar d = toLin (s.dbScalar d)) ∧
    (∀ (s : GenState ℝ) p, s.whichLin p = Gen.generalWhichDb s.n s.C (-(Gen.linear2dB p))) ∧
    (∀ (n fc : ℝ) d, (fsInit n fc).detDb d = (generalInit n (Gen.fsCalcC fc n)).detDb d) :=
  ⟨fun _ _ _ => rfl, fun _ _ _ => rfl, fun _ _ => rfl, fun _ _ => rfl, fun _ _ _ => rfl⟩

/-- R15 (zero test of the negative-loss policy): there is no dead zone and nothing
    is snapped — for EVERY `ε > 0`, however small, a deterministic loss of `+ε` dB
    is returned as it is, a loss of `−ε` dB raises (flag off) or becomes exactly 0 dB
    (flag on); and a reported `0` dB always means the loss was `≤ 0`. -/
theorem policy_has_no_dead_zone (small : Bool) (f : ℝ → ℝ) (d ε : ℝ) (hd : 0 < d) (hε : 0 < ε) :
    (f d = ε → scalarDb small f d = .ok ε) ∧
    (f d = -ε → scalarDb small f d = if small then .ok 0 else .error .RuntimeError) ∧
    (scalarDb small f d = .ok 0 → f d ≤ 0) := by
  obtain ⟨h₁, h₂, h₃⟩ := small_distance_policy_scalar small f d hd
  refine ⟨fun h => ?_, fun h => ?_, fun h => ?_⟩
  · subst h
    exact h₁ hε.le
  · have hn : f d < 0 := h ▸ neg_lt_zero.2 hε
    cases small
    exacts [h₂ hn rfl, h₃ hn rfl]
  · rw [(scalarDb_ok h).2, clamp_eq_max]
    exact le_max_right 0 (f d)

/-- R15: the policy identifies no two non-negative losses (equal answers ⇒ equal losses) -/
theorem policy_identifies_no_two_losses (small : Bool) (f : ℝ → ℝ) (d₁ d₂ : ℝ) (h₁ : 0 < d₁) (h₂ : 0 < d₂)
    (p₁ : 0 ≤ f d₁) (p₂ : 0 ≤ f d₂) (h : scalarDb small f d₁ = scalarDb small f d₂) : f d₁ = f d₂ := by
  rw [scalarDb_of_nonneg small h₁ p₁, scalarDb_of_nonneg small h₂ p₂] at h
  exact Except.ok.inj h

/-- R15 (`lookup_exact`): two distinct admissible distances, however close, have
    distinct deterministic losses in every model (General / 3GPP / free space with
    exponent `≠ 0`; METIS PS7 with any wall count; Okumura–Hata after any setter
    history) — so no correct implementation can answer one from the other's result. -/
theorem close_distances_are_distinguished :
    (∀ (s : GenState ℝ), s.n ≠ 0 → ∀ d₁ d₂, 0 < d₁ → 0 < d₂ → d₁ ≠ d₂ → s.detDb d₁ ≠ s.detDb d₂) ∧
    (∀ (s : Ps7State ℝ) (nw : Nat) d₁ d₂, 0 < d₁ → 0 < d₂ → d₁ ≠ d₂ → s.detDb nw d₁ ≠ s.detDb nw d₂) ∧
    (∀ (ops : List (OhOp ℝ)) a K d₁ d₂, 0 < d₁ → 0 < d₂ → d₁ ≠ d₂ →
      (ohRun (ohInit : OhState ℝ) ops).detDb a K d₁ ≠ (ohRun (ohInit : OhState ℝ) ops).detDb a K d₂) :=
  ⟨fun s hn _ _ h₁ h₂ h =>
      (gen_detDb_eq s ▸ affLog_injOn _ (mul_ne_zero (by norm_num) hn)).ne h₁ h₂ h,
    fun s nw _ _ h₁ h₂ h => (ps7_detDb_strictMonoOn s nw).injOn.ne h₁ h₂ h,
    fun ops a K _ _ h₁ h₂ h =>
      (oh_detDb_strictMonoOn (ohRun_inv ohInit_inv ops) a K).injOn.ne h₁ h₂ h⟩

/-- … and the REPORTED losses differ too whenever neither is clamped -/
theorem close_distances_distinct_answers (s : GenState ℝ) (hn : s.n ≠ 0) (d₁ d₂ : ℝ) (h₁ : 0 < d₁) (h₂ : 0 < d₂)
    (h : d₁ ≠ d₂) (p₁ : 0 ≤ s.detDb d₁) (p₂ : 0 ≤ s.detDb d₂) : s.dbScalar d₁ ≠ s.dbScalar d₂ :=
  fun e => close_distances_are_distinguished.1 s hn d₁ d₂ h₁ h₂ h
    (policy_identifies_no_two_losses s.small s.detDb d₁ d₂ h₁ h₂ p₁ p₂ e)

/-- R15 (`setter_takes_effect_for_every_new_value`): a free-space setter called with
    ANY value leaves the object equal to a freshly constructed one with exactly that
    value (no "unchanged → skip"); two distinct positive carrier frequencies, however
    close, give distinct losses at every distance (free space with exponent `≠ 0`,
    PS7 with any wall count); the PS7 setter stores the value it is given. -/
theorem setter_takes_effect_for_every_new_value :
    (∀ (n₀ fc₀ : ℝ) (ops : List (FsOp ℝ)) (v : ℝ),
      let s := fsRun (fsInit n₀ fc₀) ops
      fsStep s (.setFc v) = { fsInit s.n v with small := s.small, shadow := s.shadow } ∧
      fsStep s (.setN v) = { fsInit v s.fc with small := s.small, shadow := s.shadow }) ∧
    (∀ (n fc₁ fc₂ d : ℝ), n ≠ 0 → 0 < fc₁ → 0 < fc₂ → fc₁ ≠ fc₂ →
      (fsInit n fc₁).detDb d ≠ (fsInit n fc₂).detDb d) ∧
    (∀ (s : Ps7State ℝ) (v : ℝ), (ps7Step s (.setFc v)).fc = v) ∧
    (∀ (s : Ps7State ℝ) (fc₁ fc₂ : ℝ) (nw : Nat) (d : ℝ), 0 < fc₁ → 0 < fc₂ → fc₁ ≠ fc₂ →
      ({ s with fc := fc₁ } : Ps7State ℝ).detDb nw d ≠ ({ s with fc := fc₂ } : Ps7State ℝ).detDb nw d) :=
  ⟨fun _ _ _ _ => ⟨rfl, rfl⟩,
    fun _ _ _ _ hn h₁ h₂ h e => h (fsCalcC_injOn hn h₁ h₂ (affLog_offset_inj (gen_detDb_eq _ ▸ gen_detDb_eq _ ▸ e))),
    fun _ _ => rfl,
    fun _ _ _ nw _ h₁ h₂ h e => h (ps7Offset_injOn nw h₁ h₂ (affLog_offset_inj (ps7_detDb_eq _ nw ▸ ps7_detDb_eq _ nw ▸ e)))⟩

/-- R15 (guards and switch compare exactly): an Okumura–Hata setter stores `v` iff
    `v` lies in the documented closed range — `150 − δ` is rejected and `150` accepted
    for every `δ > 0` — and otherwise keeps the old value; the large-city correction
    uses the `fc > 300` formula for every `fc` above 300, however close, and the
    other one at 300 itself. -/
theorem oh_guards_and_switch_compare_exactly (s : OhState ℝ) (v : ℝ) :
    (ohStep s (.setFc v)).1.fc = (if 150 ≤ v ∧ v ≤ 1500 then v else s.fc) ∧
    (ohStep s (.setHbs v)).1.hbs = (if 30 ≤ v ∧ v ≤ 200 then v else s.hbs) ∧
    (ohStep s (.setHms v)).1.hms = (if 1 ≤ v ∧ v ≤ 10 then v else s.hms) ∧
    (∀ fc hms : ℝ, Gen.ohA "large city" fc hms =
      .ok (if 300 < fc then 3.2 * (Real.logb 10 (11.75 * hms)) ^ 2 - 4.97
           else 8.29 * (Real.logb 10 (1.54 * hms)) ^ 2 - 1.1)) := by
  refine ⟨guarded_proj OhState.fc (ohFcAccepted_iff v) .., guarded_proj OhState.hbs (ohHbsAccepted_iff v) ..,
    guarded_proj OhState.hms (ohHmsAccepted_iff v) .., fun fc hms => ?_⟩
  rw [Gen.ohA, if_neg (by decide), if_pos (beq_iff_eq.2 rfl), ← apply_ite Except.ok]
  -- `sq` is the model's `C13.sq x = x * x`, unfolded and then written `x ^ 2`
  simp only [sq, log10_real, gt_iff_lt, decide_eq_true_eq, Nat.cast_ofNat, ← pow_two]

/-- R16: a caller keeps ONE array, refills it in place and calls the object again
    (setter calls may come in between).  Answers already returned never change:
    the answers after any continuation extend the answers before it. -/
theorem caller_earlier_answers_never_change (c : CallerState ℝ) (ops : List (CallerOp ℝ)) :
    ∃ t, (callerRun c ops).outs = c.outs ++ t := by
  obtain ⟨t, h⟩ := List.foldlRecOn (motive := fun c' => c.outs <+: c'.outs) ops callerStep
    List.prefix_rfl fun c' h o _ => h.trans (callerStep_outs_prefix c' o)
  exact ⟨t, h.symm⟩

/-- R16: after ANY caller history (refills, queries, setter calls) on a free-space
    object, refilling the buffer with `vs` and calling gives exactly what a freshly
    constructed object with the current parameters returns for `vs` — the answer
    depends on the contents at call time only, not on what the same array held
    before, nor on earlier calls. -/
theorem caller_answer_is_fresh_object_on_current_contents (n₀ fc₀ : ℝ) (buf₀ : List ℝ)
    (ops : List (CallerOp ℝ)) (vs : List ℝ) :
    let c := callerRun ⟨fsInit n₀ fc₀, buf₀, []⟩ ops
    let fresh : GenState ℝ := { fsInit c.obj.n c.obj.fc with small := c.obj.small, shadow := c.obj.shadow }
    (callerRun c [.refill vs, .callDb]).outs = c.outs ++ [fresh.dbArray vs] ∧
    (callerRun c [.refill vs, .callLin]).outs = c.outs ++ [fresh.linArray vs] ∧
    (callerRun c [.refill vs, .callWhich]).outs = c.outs ++ [.ok (fresh.whichDbArray vs)] := by
  intro c fresh
  have ho : c.obj = fresh :=
    FsInv.eq_fresh (callerRun_obj _ ops ▸ fsRun_inv (fsInit_inv n₀ fc₀) _)
  rw [← ho]
  exact ⟨rfl, rfl, rfl⟩

/-- the hypotheses of the second conjunct of `setter_takes_effect_for_every_new_value`, met by two carrier
    frequencies 20 kHz apart -/
example : (fsInit (2 : ℝ) 2400).n ≠ 0 ∧ (0 : ℝ) < 2400 ∧ (0 : ℝ) < 2400.02 ∧ (2400 : ℝ) ≠ 2400.02 :=
  ⟨two_ne_zero, by norm_num, by norm_num, by norm_num⟩

/-- a caller history with a stale-prone shape: fill, call, refill in place, setter, call -/
example : (callerRun ⟨fsInit (2 : ℝ) 900, [], []⟩
    [.refill [1, 2], .callDb, .refill [3, 4], .set (.setFc 1800), .callDb]).outs.length = 2 :=
  rfl

/-- the hypotheses of the theorems above are met by concrete non-trivial objects -/
example : (fsRun (fsInit (2 : ℝ) 900) [.setN 3, .setFc 1100, .setN 2]).n = 2 ∧
    0 < (fsRun (fsInit (2 : ℝ) 900) [.setN 3, .setFc 1100, .setN 2]).fc :=
  ⟨rfl, show (0 : ℝ) < 1100 by norm_num⟩

example : ∃ x, ({ (gpp1Init : GenState ℝ) with small := true }).dbScalar 1 = .ok x ∧ x = 128.1 := by
  have e : ({ (gpp1Init : GenState ℝ) with small := true }).detDb 1 = 128.1 := by
    rw [gen_detDb_eq, affLog, Real.logb_one, mul_zero, zero_add]
    rfl
  exact ⟨_, (scalarDb_of_nonneg true one_pos (e ▸ by norm_num)).trans (congrArg _ e), rfl⟩

/-- a loss that IS negative exists (the policy theorems are not vacuous):
    3GPP at 0.0001 km is 128.1 − 150.4 dB -/
example : (gpp1Init : GenState ℝ).detDb ((10 : ℝ) ^ (-4 : ℝ)) < 0 := by
  simp only [GenState.detDb, gpp1Init, generalInit, generalDb_real, Gen.gpp1N, Gen.gpp1C, log10_pow10]
  norm_num

example : (ohRun (ohInit : OhState ℝ) [.setFc 2000, .setHbs 45, .setArea "large city"]).hbs = 45 ∧
    (ohRun (ohInit : OhState ℝ) [.setFc 2000, .setHbs 45, .setArea "large city"]).fc = 900 := by
  have h1 : ¬ Gen.ohFcAccepted (2000 : ℝ) = true := by rw [ohFcAccepted_iff]; norm_num
  have h2 : Gen.ohHbsAccepted (45 : ℝ) = true := (ohHbsAccepted_iff _).2 (by norm_num)
  have h3 : Gen.ohAreaAccepted "large city" = true := by decide
  simp only [ohRun, List.foldl, ohStep, if_neg h1, if_pos h2, if_pos h3, ohInit, Gen.ohDefaultFc, true_and]
  exact sci_int 900

end PyPhysim.C13
