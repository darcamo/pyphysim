import PyPhysim.Proofs.C16Gauss
import PyPhysim.Proofs.RobustC16

/-!
# C16 — robustness classes R15 (values that are merely close) and R16 (argument identity)

Property theorems only (lemmas: `Proofs/C16.lean`, `Proofs/C16Gauss.lean`, `Proofs/RobustC16.lean`; call
machine: `Model/CallsC16.lean`).  They complement `Properties/C16.lean`:

* R15 — the curves of the model are functions of the *exact* SNR value and packet
  length: for a strictly decreasing `Q` (the Gaussian tail is one, `gaussian_tail_strict`)
  every curve is strictly decreasing in the SNR, hence injective — two SNR values
  that differ, by however little, never share an error rate; two packet lengths
  never share a packet error rate.  A tolerance-based lookup / cache / de-duplication
  (`np.isclose`, rounded keys) is therefore never value-preserving.
* R16 — a caller who keeps one argument array and refills it in place gets, from
  every call, the pure function of the contents at call time, whatever happened
  before; results already handed out never change.

Tie to the code: the R15 / R16 correspondence streams and oracles of
`harness/props/c16.py` (close-but-distinct SNR clusters told apart; histories of
2–4 calls on one refilled buffer).
-/
namespace PyPhysim.C16
open PyPhysim.C01 Set

variable {Q : ℝ → ℝ}

/-- R15: PSK — SER and BER are strictly decreasing in the SNR (`M ≥ 2`, `k ≥ 1` bits). -/
theorem psk_strict_in_snr (hs : StrictAntiOn Q (Ici 0)) (M k : Nat) (hM : 2 ≤ M) (hk : 1 ≤ k) :
    StrictAnti (pskSER Q M) ∧ StrictAnti (pskBER Q M k) := by
  have hser : StrictAnti (pskSER Q M) := by
    rw [pskSER_fun]
    exact (Q_arg_strictAnti hs two_pos (sin_pi_div_pos M hM)).const_mul two_pos
  refine ⟨hser, fun s t hst => ?_⟩
  rw [pskBER_eq, pskBER_eq]
  exact div_lt_div_of_pos_right (hser hst) (Nat.cast_pos.mpr hk)

/-- R15: BPSK — SER (= BER) is strictly decreasing in the SNR. -/
theorem bpsk_strict_in_snr (hs : StrictAntiOn Q (Ici 0)) : StrictAnti (bpskSER Q) := by
  rw [bpskSER_fun]
  exact Q_arg_strictAnti hs two_pos one_pos

/-- R15: square QAM — SER and BER are strictly decreasing in the SNR (`M ≥ 2`, `k ≥ 1`). -/
theorem qam_strict_in_snr (hQ : IsQ Q) (hs : StrictAntiOn Q (Ici 0)) (M k : Nat) (hM : 2 ≤ M) (hk : 1 ≤ k) :
    StrictAnti (qamSER Q M) ∧ StrictAnti (qamBER Q M k) := by
  have hp := qamPsc_strictAnti hs M hM
  constructor
  · intro s t hst
    rw [qamSER_eq, qamSER_eq]
    exact one_sub_pow_strictMono (hp hst) (qamPsc_bounds hQ M hM s).2.le two_ne_zero
  · intro s t hst
    rw [qamBER_eq, qamBER_eq]
    exact div_lt_div_of_pos_right (mul_lt_mul_of_pos_left (hp hst) two_pos) (Nat.cast_pos.mpr hk)

/-- R15: distinct SNR values never share an error rate (injectivity), for every modulator. -/
theorem distinct_snr_distinct_rates (hQ : IsQ Q) (hs : StrictAntiOn Q (Ici 0)) (M k : Nat) (hM : 2 ≤ M)
    (hk : 1 ≤ k) (s t : ℝ) (hne : s ≠ t) :
    pskSER Q M s ≠ pskSER Q M t ∧ pskBER Q M k s ≠ pskBER Q M k t ∧ bpskSER Q s ≠ bpskSER Q t ∧
      qamSER Q M s ≠ qamSER Q M t ∧ qamBER Q M k s ≠ qamBER Q M k t := by
  obtain ⟨p1, p2⟩ := psk_strict_in_snr hs M k hM hk
  obtain ⟨q1, q2⟩ := qam_strict_in_snr hQ hs M k hM hk
  have b := bpsk_strict_in_snr hs
  exact ⟨p1.injective.ne hne, p2.injective.ne hne, b.injective.ne hne, q1.injective.ne hne, q2.injective.ne hne⟩

/-- R15: the packet error rate tells every two packet lengths apart (`0 < BER < 1`) and every two
    bit error rates apart (`L ≥ 1`). -/
theorem per_strict (b : ℝ) (h0 : 0 < b) (h1 : b < 1) :
    StrictMono (fun L : Nat => per b L) ∧
      ∀ L : Nat, 1 ≤ L → ∀ a c : ℝ, a < c → c ≤ 1 → per a L < per c L :=
  ⟨fun L₁ L₂ h => by
      simp only [per_eq]
      exact sub_lt_sub_left (pow_lt_pow_right_of_lt_one₀ (sub_pos.mpr h1) (sub_lt_self 1 h0) h) 1,
    fun L hL a c hac hc => by
      rw [per_eq, per_eq]
      exact one_sub_pow_strictMono hac hc (Nat.ne_of_gt hL)⟩

/-- R15, non-vacuity: the Gaussian tail `Qg x = P(N > x)` satisfies `IsQ` and is strictly decreasing
    everywhere, so the strictness hypothesis above holds for the function the code evaluates. -/
theorem gaussian_tail_strict : IsQ Qg ∧ StrictAntiOn Qg (Ici 0) :=
  ⟨isQ_gaussian, Qg_strictAnti.strictAntiOn _⟩

example : ∃ Q : ℝ → ℝ, IsQ Q ∧ StrictAntiOn Q (Ici 0) := ⟨Qg, gaussian_tail_strict⟩

section
variable {α : Type} [Sub α] [Mul α] [NatCast α]

/-- R16: after ANY history, refilling the buffer with `v` and calling `c` hands out exactly the pure
    function of `v` — the same value a fresh modulator returns for a fresh array with these contents
    (`run m ([], []) [refill v, call c]`), appended to results that are otherwise untouched. -/
theorem call_sees_contents_at_call_time (m : Curves α) (st : St α) (ops : List (Op α)) (v : List α) (c : Call) :
    (run m st (ops ++ [Op.refill v, Op.call c])).2 = (run m st ops).2 ++ [evalCall m c v] ∧
      (run m ([], []) [Op.refill v, Op.call c]).2 = [evalCall m c v] := by
  constructor
  · rw [run_append]
    rfl
  · rfl

/-- R16: a call does not modify the caller's buffer, and a second call on the unchanged buffer returns
    the same value again. -/
theorem call_leaves_buffer (m : Curves α) (st : St α) (c c' : Call) :
    (run m st [Op.call c]).1 = st.1 ∧
      (run m st [Op.call c, Op.call c']).2 = st.2 ++ [evalCall m c st.1, evalCall m c' st.1] := by
  obtain ⟨buf, outs⟩ := st
  exact ⟨rfl, List.append_assoc outs [_] [_]⟩

/-- R16: results already handed out never change, whatever the caller does afterwards (refills,
    further calls): the result list only grows at its end. -/
theorem earlier_results_unchanged (m : Curves α) (st : St α) (ops later : List (Op α)) :
    ∃ more, (run m st (ops ++ later)).2 = (run m st ops).2 ++ more := by
  rw [run_append]
  exact run_results_extend m later _
end

end PyPhysim.C16
