import PyPhysim.Proofs.GrayGenerated
import PyPhysim.Proofs.C15Geom
import PyPhysim.Proofs.C15Robust

/-!
# C15 — Gray conversion is a bijection; constellations are Gray labelled

Property theorems only.  `binary2gray`, `gray2binary`, `xor`, `count_bits`,
`int2bits`, `level2bits` are the definitions **regenerated from the current
source** (`PyPhysim.Generated`).  The label maps `pskPosInit`, `qamPos`,
`pskPosAfterSetOffset` are hand models of `fundamental.py`, tied to the code by
the exact table correspondence of `harness/props/c15.py`.

The labels R1 … R16 on theorems are the input classes of `/verif/DESIGN.md` (tables of §9.2b and §9.2d):
R4 a call that raises leaves the object unchanged, R15 distinct values that are merely close, R16 argument
identity and buffer reuse, and so on.
-/
namespace PyPhysim.C15
open PyPhysim.Gray PyPhysim.Proto
open PyPhysim.Generated (binary2gray gray2binary count_bits int2bits level2bits)

/-- Binary→Gray and Gray→binary are mutually inverse on every integer of the
    64-bit range (the property asks for `[0, 2^62)`). -/
theorem gray_roundtrip (n : Nat) (h : n < 2^64) :
    gray2binary (binary2gray n) = n ∧ binary2gray (gray2binary n) = n := by
  exact gen_roundtrip (Nat.le_refl 64) h

/-- Both conversions stay inside any power-of-two range (in particular inside
    the integer type used, and inside `[0,M)` for constellation indexes). -/
theorem gray_range (n k : Nat) (h : n < 2^k) :
    binary2gray n < 2^k ∧ gray2binary n < 2^k := by
  rw [gen_b2g, gen_g2b]
  exact ⟨b2g_lt n k h, g2bWith_lt _ h⟩

/-- hence both are bijections of `[0, 2^k)` for every `k ≤ 64` -/
theorem gray_injective (a b : Nat) (ha : a < 2^64) (hb : b < 2^64)
    (h : binary2gray a = binary2gray b) : a = b :=
  (gray_roundtrip a ha).1.symm.trans ((congrArg gray2binary h).trans (gray_roundtrip b hb).1)

/-- Consecutive integers map to Gray codes exactly one bit apart (every `n`). -/
theorem gray_consecutive_one_bit (n : Nat) :
    count_bits (Generated.xor (binary2gray n) (binary2gray (n+1))) = .ok 1 := by
  rw [gen_count_bits, gen_b2g]
  exact congrArg Except.ok (hamming_step n)

/-- … and so do the last and the first code of every `2^(k+1)`-element cycle. -/
theorem gray_wrap_one_bit (k : Nat) :
    count_bits (Generated.xor (binary2gray (2^(k+1) - 1)) (binary2gray 0)) = .ok 1 := by
  rw [gen_count_bits, gen_b2g]
  exact congrArg Except.ok (hamming_wrap k)

/-- `count_bits` terminates (never runs out of fuel) and returns the number of
    set bits. -/
theorem count_bits_popcount (k n : Nat) (h : n < 2^k) :
    count_bits n = .ok ((List.range k).filter (fun i => n.testBit i)).length := by
  rw [gen_count_bits, popcount_eq_count k n h]

/-- Bit errors between two index arrays = sum of the per-element Hamming
    distances (number of differing bit positions). Model of
    `count_bit_errors = np.sum(count_bits(xor(first, second)))`. -/
theorem bit_errors_hamming (k : Nat) (as bs : List Nat)
    (ha : ∀ a ∈ as, a < 2^k) (hb : ∀ b ∈ bs, b < 2^k) :
    (List.zipWith (fun a b => count_bits (Generated.xor a b)) as bs)
      = (List.zipWith (fun a b => Except.ok
          ((List.range k).filter (fun i => a.testBit i != b.testBit i)).length) as bs) := by
  induction as generalizing bs with
  | nil => rfl
  | cons a as ih =>
    cases bs with
    | nil => rfl
    | cons b bs =>
      have hx : a ^^^ b < 2^k := Nat.xor_lt_two_pow (ha a List.mem_cons_self) (hb b List.mem_cons_self)
      rw [List.zipWith_cons_cons, List.zipWith_cons_cons,
        ih bs (fun x hx => ha x (List.mem_cons_of_mem _ hx)) (fun x hx => hb x (List.mem_cons_of_mem _ hx)),
        show Generated.xor a b = a ^^^ b from rfl, count_bits_popcount k _ hx]
      simp only [Nat.testBit_xor, Bool.bne_eq_xor]

/-- `int2bits` terminates and returns the binary length (1 for 0). -/
theorem int2bits_spec (n : Nat) : int2bits n = .ok (if n = 0 then 1 else bitlen n) := by
  unfold Generated.int2bits
  by_cases hn : n = 0
  · subst hn; rfl
  · -- `n ≠ 0`: the loop from count `0`, which `bits_loop` evaluates
    simp only [not_lt_zero, decide_false, Bool.false_eq_true, if_false, beq_iff_eq, hn,
      bits_loop (n + 1) n 0 n.lt_succ_self, zero_add]

/-- `level2bits(n)` rejects `n < 1` and is otherwise `int2bits(n - 1)`. -/
theorem level2bits_spec (n : Nat) :
    level2bits n = if n < 1 then .error .ValueError
      else .ok (if n = 1 then 1 else bitlen (n - 1)) := by
  rw [Generated.level2bits, int2bits_spec]
  by_cases h : n < 1
  · rw [if_pos (decide_eq_true h), if_pos h]
  · rw [if_neg (mt of_decide_eq_true h), if_neg h]
    simp only [Nat.sub_eq_iff_eq_add (Nat.not_lt.mp h), Nat.zero_add]

/-- PSK at construction, every `M = 2^m` (`1 ≤ m ≤ 64`): two labels whose
    points are neighbours on the circle differ in exactly one bit. -/
theorem psk_gray (m : Nat) (hm : 1 ≤ m) (hm64 : m ≤ 64) (l₁ l₂ : Nat)
    (h₁ : l₁ < 2^m) (h₂ : l₂ < 2^m)
    (hadj : ringAdjacent (2^m) (pskPosInit gray2binary l₁) (pskPosInit gray2binary l₂) = true) :
    hamming l₁ l₂ = 1 := by
  rw [← (gen_roundtrip hm64 h₁).2, ← (gen_roundtrip hm64 h₂).2]
  exact hamming_b2g_of_ringAdjacent hm (gray_range l₁ m h₁).2 (gray_range l₂ m h₂).2 hadj

/-- PSK at construction, full geometric statement over ℝ: for every `M = 2^m`
    (`1 ≤ m ≤ 64`) and every phase offset, any two distinct labels whose emitted points
    are at (at most) the minimum distance `2·sin(π/M)` differ in exactly one bit.
    (`psk_arg_is_dmin` in C16 shows `2·sin(π/M)` *is* the minimum over all pairs.) -/
theorem psk_min_distance_one_bit (m : Nat) (hm : 1 ≤ m) (hm64 : m ≤ 64) (φ : ℝ) (l₁ l₂ : Nat)
    (h₁ : l₁ < 2^m) (h₂ : l₂ < 2^m) (hne : l₁ ≠ l₂)
    (hd : PyPhysim.C01.dist2
        (PyPhysim.C01.pskNaturalPoint (2^m) (pskPosInit gray2binary l₁) φ)
        (PyPhysim.C01.pskNaturalPoint (α := ℝ) (2^m) (pskPosInit gray2binary l₂) φ)
      ≤ (2 * Real.sin (Real.pi / ((2^m : Nat) : ℝ))) ^ 2) :
    hamming l₁ l₂ = 1 := by
  apply psk_gray m hm hm64 l₁ l₂ h₁ h₂
  apply psk_min_pairs_adjacent (2^m) _ _ (gray_range l₁ m h₁).2 (gray_range l₂ m h₂).2 _ φ hd
  intro heq
  exact hne ((gen_roundtrip hm64 h₁).2.symm.trans ((congrArg binary2gray heq).trans (gen_roundtrip hm64 h₂).2))

/-- Square QAM as the code builds it, orders 4 and 16: grid neighbours differ in one bit. -/
theorem qam_gray_small :
    (∀ l₁ < 4, ∀ l₂ < 4, gridAdjacent 2 (qamPos binary2gray 1 2 l₁) (qamPos binary2gray 1 2 l₂) = true →
        hamming l₁ l₂ = 1) ∧
    (∀ l₁ < 16, ∀ l₂ < 16, gridAdjacent 4 (qamPos binary2gray 2 4 l₁) (qamPos binary2gray 2 4 l₂) = true →
        hamming l₁ l₂ = 1) := by
  -- below 4 `binary2gray` is its own inverse, so the code's map is the inverse map there
  have inv : ∀ x < 4, binary2gray (binary2gray x) = x := by decide
  exact ⟨fun l₁ h₁ l₂ h₂ => qam_gray_of_inverse (k := 1) (fun x hx => (gray_range x 1 hx).1)
      (fun x hx => inv x (Nat.lt_trans hx (by decide))) h₁ h₂,
    fun l₁ h₁ l₂ h₂ => qam_gray_of_inverse (k := 2) (fun x hx => (gray_range x 2 hx).1) inv h₁ h₂⟩

/-- Square QAM, orders 4 and 16, geometric form on the integer grid of the C01 model: two
    distinct labels whose grid cells are one step apart (squared distance 4 = minimum) differ
    in one bit: such cells are grid neighbours (`qam_min_pairs_adjacent`, every `L`). -/
theorem qam_min_distance_one_bit_small :
    (∀ l₁ < 4, ∀ l₂ < 4, l₁ ≠ l₂ →
      PyPhysim.C01.dist2 (PyPhysim.C01.qamGridPoint 2 (qamPos binary2gray 1 2 l₁))
        (PyPhysim.C01.qamGridPoint 2 (qamPos binary2gray 1 2 l₂)) = 4 → hamming l₁ l₂ = 1) ∧
    (∀ l₁ < 16, ∀ l₂ < 16, l₁ ≠ l₂ →
      PyPhysim.C01.dist2 (PyPhysim.C01.qamGridPoint 4 (qamPos binary2gray 2 4 l₁))
        (PyPhysim.C01.qamGridPoint 4 (qamPos binary2gray 2 4 l₂)) = 4 → hamming l₁ l₂ = 1) := by
  exact ⟨fun l₁ h₁ l₂ h₂ _ hd => qam_gray_small.1 l₁ h₁ l₂ h₂ (qam_min_pairs_adjacent hd),
    fun l₁ h₁ l₂ h₂ _ hd => qam_gray_small.2 l₁ h₁ l₂ h₂ (qam_min_pairs_adjacent hd)⟩

/-- What is missing for QAM of every order: had `_calculateGrayMappingIndexQAM` used
    `gray2binary` (the inverse map) instead of `binary2gray`, grid neighbours would differ in
    exactly one bit for EVERY `L = 2^k` (`k ≤ 64`).  The code uses `binary2gray`, which agrees
    with this only for `L ≤ 4` (`qam_gray_small`); see `qam64_not_gray`. -/
theorem qam_gray_if_inverse_map (k : Nat) (hk : k ≤ 64) (l₁ l₂ : Nat)
    (h₁ : l₁ < 2^k * 2^k) (h₂ : l₂ < 2^k * 2^k)
    (hadj : gridAdjacent (2^k) (qamPos gray2binary k (2^k) l₁) (qamPos gray2binary k (2^k) l₂) = true) :
    hamming l₁ l₂ = 1 := by
  exact qam_gray_of_inverse (fun x hx => (gray_range x k hx).2) (fun x hx => (gen_roundtrip hk hx).2) h₁ h₂ hadj

/-- NEGATIVE WITNESS (known finding `C15:QAM:labels-not-gray`): for 64-QAM the
    code's map (binary→Gray applied to the *index*, so grid cell `c` carries
    label `gray2binary c`) puts labels 2 and 7 on neighbouring columns although
    they differ in two bits. -/
theorem qam64_not_gray :
    gridAdjacent 8 (qamPos binary2gray 3 8 2) (qamPos binary2gray 3 8 7) = true ∧
    PyPhysim.C01.dist2 (PyPhysim.C01.qamGridPoint 8 (qamPos binary2gray 3 8 2))
        (PyPhysim.C01.qamGridPoint 8 (qamPos binary2gray 3 8 7)) = 4 ∧ hamming 2 7 = 2 := by
  decide +kernel

/-- NEGATIVE WITNESS (known finding `C15:PSK.setPhaseOffset:natural-order`):
    after `setPhaseOffset` labels 1 and 2 of a 4-PSK are neighbours and differ
    in two bits. -/
theorem setPhaseOffset_not_gray :
    ringAdjacent 4 (pskPosAfterSetOffset 1) (pskPosAfterSetOffset 2) = true ∧ hamming 1 2 = 2 := by
  decide +kernel

/-- non-vacuity: the hypotheses of `psk_gray` are met by 8-PSK labels 2 and 6 -/
example : ringAdjacent (2^3) (pskPosInit gray2binary 2) (pskPosInit gray2binary 6) = true := by
  decide +kernel

/-! ## R15 — distinct values that are merely close

The model never rounds, thresholds or compares a value "up to a tolerance": it is a function of the
exact value.  These statements make that explicit for every place where C15's code takes a value:
index arrays (bit errors, conversions) and the phase offset of a PSK object. -/
open PyPhysim.C15R in
/-- `count_bit_errors` reports zero errors only for *equal* index arrays — never for arrays that are
    merely close (2400000000 vs 2400020000, `n` vs `n+1` above 2^53, …). -/
theorem bit_errors_zero_only_if_equal (h : Heap) (i j : Nat) (hl : (h i).length = (h j).length) :
    result h (.biterr i j) = .num 0 ↔ h i = h j := by
  rw [result_biterr, Out.num.injEq, hamming_sum_eq_zero_iff _ _ hl]

/-- two distinct integers of the 64-bit range, however close, have distinct Gray codes and distinct
    decoded values (a conversion by lookup / cache must key on the exact integer). -/
theorem close_integers_distinct_codes (a b : Nat) (ha : a < 2^64) (hb : b < 2^64) (hne : a ≠ b) :
    binary2gray a ≠ binary2gray b ∧ gray2binary a ≠ gray2binary b := by
  exact ⟨fun h => hne (gray_injective a b ha hb h), fun h => hne
    ((gray_roundtrip a ha).2.symm.trans ((congrArg binary2gray h).trans (gray_roundtrip b hb).2))⟩

/-- non-vacuity of `close_integers_distinct_codes`: two carrier-like values a relative 1e-5 apart -/
example : (2400000000 : Nat) < 2^64 ∧ (2400020000 : Nat) < 2^64 ∧ (2400000000 : Nat) ≠ 2400020000 := by decide

open PyPhysim.C15R PyPhysim.C01 in
/-- `setPhaseOffset φ` takes effect for EVERY value: the table afterwards is the natural
    constellation at `φ` itself, whatever the offset was before … -/
theorem setter_takes_effect_for_every_new_value {α : Type} [Trig α] [Add α] [Mul α] [Div α] [NatCast α]
    (s : Psk α) (φ : α) :
    (s.setOffset φ).offset = φ ∧
    (s.setOffset φ).table = (List.range s.M).map (fun l => pskNaturalPoint s.M l φ) := ⟨rfl, rfl⟩

open PyPhysim.C15R PyPhysim.C01 in
/-- … and over ℝ a new value that differs from the old one (by less than a full turn, in
    particular by 1e-15 or by one unit in the last place) gives a table different from the old
    one at label 0 — so "unchanged → skip" is never right for a close-but-different value. -/
theorem close_offsets_distinct_tables (s : Psk ℝ) (φ : ℝ) (hM : 1 ≤ s.M)
    (hne : φ ≠ s.offset) (hlt : |φ - s.offset| < 2 * Real.pi) :
    (s.setOffset φ).table[0]? ≠ s.table[0]? := by
  have hM' : 0 < s.M := hM
  have hp : s.pos 0 = 0 := by
    unfold Psk.pos
    split <;> rfl
  simp only [Psk.table, Psk.setOffset, List.getElem?_map, List.getElem?_range hM', Option.map_some, hp]
  intro h
  exact hne (psk_offset_inj s.M 0 hlt (Option.some.inj h))

open PyPhysim.C01 PyPhysim.C16 in
/-- the two tables are exactly `2·|sin(δ/2)|` apart at every position (`δ` the offset difference):
    the margin by which the harness separates close offsets is computed from this. -/
theorem close_offsets_separation (M k : Nat) (φ₁ φ₂ : ℝ) :
    dist2 (pskNaturalPoint M k φ₁) (pskNaturalPoint (α := ℝ) M k φ₂)
      = (2 * Real.sin ((φ₁ - φ₂) / 2)) ^ 2 := by
  rw [← two_sub_two_cos, mul_div_cancel₀ _ (two_ne_zero : (2:ℝ) ≠ 0), ← add_sub_add_left_eq_sub φ₁ φ₂]
  exact unit_chord _ _

open PyPhysim.C15R PyPhysim.C01 in
/-- after any history of `setPhaseOffset` calls the object is the one the LAST value describes
    (no value of the history is skipped, merged with a neighbour or kept from before). -/
theorem offset_history_last_wins {α : Type} [Trig α] [Add α] [Mul α] [Div α] [NatCast α]
    (s : Psk α) (φs : List α) (φ : α) :
    (s.run (φs ++ [φ])).table = (List.range s.M).map (fun l => pskNaturalPoint s.M l φ) := by
  rw [Psk.run_snoc]; rfl

/-- non-vacuity of `close_offsets_distinct_tables`: 0.3 and its successor in binary64 -/
example : ∃ (s : PyPhysim.C15R.Psk ℝ) (φ : ℝ), 1 ≤ s.M ∧ φ ≠ s.offset ∧ |φ - s.offset| < 2 * Real.pi := by
  have h : (5404319552844596 / 18014398509481984 : ℝ) - 5404319552844595 / 18014398509481984
      = 1 / 18014398509481984 := by norm_num
  have hpos : (0:ℝ) < 1 / 18014398509481984 := by norm_num
  refine ⟨⟨8, 5404319552844595 / 18014398509481984, false⟩, 5404319552844596 / 18014398509481984,
    by decide, sub_ne_zero.mp (h ▸ hpos.ne'), ?_⟩
  show |(5404319552844596 / 18014398509481984 : ℝ) - 5404319552844595 / 18014398509481984| < _
  rw [h, abs_of_pos hpos]
  calc (1 / 18014398509481984 : ℝ) ≤ 2 := by norm_num
    _ < 2 * Real.pi := lt_mul_of_one_lt_right two_pos (one_lt_two.trans_le Real.two_le_pi)

/-! ## R16 — argument identity and buffer reuse

`Heap`/`Op`/`run` (Model/C15Robust.lean): the caller owns numbered index buffers, refills them in
place and calls the conversions / counters on them. -/
open PyPhysim.C15R in
/-- calls never write to the caller's buffers: after any history they hold what the refills put there -/
theorem calls_leave_buffers_unchanged (h : Heap) (ops : List Op) :
    (run h ops).1 = (run h (refillsOnly ops)).1 := by
  induction ops generalizing h with
  | nil => rfl
  | cons op ops ih =>
    -- a refill survives the filter and both sides write it; a call is dropped and writes nothing
    cases op <;> exact ih _

open PyPhysim.C15R in
/-- the `k`-th operation of a history returns what a fresh call returns on the contents the
    caller's own refills have produced by then — nothing of earlier calls is remembered. -/
theorem call_reads_contents_at_call_time (h : Heap) (pre post : List Op) (op : Op) :
    (run h (pre ++ op :: post)).2[pre.length]? = some (result (run h (refillsOnly pre)).1 op) := by
  rw [run_append, ← calls_leave_buffers_unchanged]
  simp only [run]
  rw [List.getElem?_append_right (by rw [run_length]), run_length, Nat.sub_self]
  rfl

open PyPhysim.C15R in
/-- results handed out earlier are not changed by later refills and calls -/
theorem earlier_results_unchanged_by_later_calls (h : Heap) (a b : List Op) :
    (run h (a ++ b)).2.take a.length = (run h a).2 := by
  rw [run_append, List.take_left' (run_length h a)]

open PyPhysim.C15R in
/-- a result depends on the *contents* of the argument buffers only, not on which buffer (object)
    carries them: an equal-content copy gives the same result. -/
theorem result_depends_on_contents_only (h h' : Heap) (i i' j j' : Nat) (hi : h i = h' i') (hj : h j = h' j') :
    result h (.b2g i) = result h' (.b2g i') ∧ result h (.g2b i) = result h' (.g2b i') ∧
    result h (.cbits i) = result h' (.cbits i') ∧ result h (.xor i j) = result h' (.xor i' j') ∧
    result h (.biterr i j) = result h' (.biterr i' j') := by
  simp only [result, hi, hj, and_self]

open PyPhysim.C15R in
/-- the same buffer in both roles: no bit errors against itself, xor with itself is all zero -/
theorem same_buffer_in_both_roles (h : Heap) (i : Nat) :
    result h (.biterr i i) = .num 0 ∧ result h (.xor i i) = .arr (List.replicate (h i).length 0) := by
  constructor
  · rw [result_biterr, (hamming_sum_eq_zero_iff _ _ rfl).mpr rfl]
  · simp only [result, zipWith_xor_self]

/-- non-vacuity / worked history: refill, convert, refill the SAME buffer, convert again, compare the
    buffer with itself and with a second one -/
example : (PyPhysim.C15R.run PyPhysim.C15R.emptyHeap
    [.refill 0 [5, 6], .b2g 0, .refill 0 [2400000000, 7], .b2g 0, .refill 1 [2400020000, 7],
     .biterr 0 0, .biterr 0 1]).2
    = [.none, .arr [7, 5], .none, .arr [3364590592, 4], .none, .num 0, .num 7] := by
  decide +kernel

end PyPhysim.C15
