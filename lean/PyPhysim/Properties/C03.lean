import PyPhysim.Proofs.C03Su
import PyPhysim.Proofs.C03Mu
import PyPhysim.Proofs.C03Disc
import PyPhysim.Model.C03Args

/-!
# C03 — TDL channel output is the convolution with the impulse response it reports

Property theorems only.  The model (`PyPhysim.Model.C03*`) mirrors
`TdlChannel`, `TdlImpulseResponse`, `SuChannel`, `MuChannel`/`MuMimoChannel`
and `TdlChannelProfile._calc_discretized_tap_powers_and_delays`; it is tied to
the code by the exact correspondence of `harness/props/c03.py`, and its
block-size / fading-schedule expressions (`PyPhysim.Generated.blockSize*`,
`samplesPerBlock`, `skipPerBlock`) are regenerated from the current source.
The right-hand sides are first-principles specifications: `convSpec*`, `freqSpec*`
of `PyPhysim.Model.C03Spec`, `collidingPower` of `PyPhysim.Model.C03Disc`.  The statements also use `Su.report`
(the reported response with the path loss applied) and `Fft.Homogeneous` of `Proofs/C03Su`, and `muLink` of `Proofs/C03Mu`.

Quantifiers.  `α` is any commutative semiring (ℤ[i], ℚ(i), ℂ …); `proc` any
fading process; `fftK` any FFT kernel; the channel state `c` is arbitrary, so
every statement holds after **any history** of earlier operations (made
explicit in `history_*`).  Inputs are tables `tab n xf`: every rectangular
numpy array is one (`rect_is_table`).

The labels R1 … R16 on theorems are the input classes of `/verif/DESIGN.md` (tables of §9.2b and §9.2d):
R4 a call that raises leaves the object unchanged, R15 distinct values that are merely close, R16 argument
identity and buffer reuse, and so on.
-/
namespace PyPhysim.C03
open PyPhysim.Proto

variable {α : Type} [CommSemiring α]

/-- every rectangular `rows × n` list of lists is the table of its entries: the theorems
    below, stated for tables, cover every array a caller can pass -/
theorem rect_is_table (x : List (List α)) (n : Nat) (h : ∀ row ∈ x, row.length = n) :
    ∃ xf : Nat → Nat → α, x = tab x.length (fun a => tab n (xf a)) := by
  refine ⟨fun a k => ((x[a]?.getD [])[k]?).getD 0, (eq_tab_getD x []).trans (tab_congr fun a ha => ?_)⟩
  simp only [List.getElem?_eq_getElem ha, Option.getD_some]
  rw [← h x[a] (List.getElem_mem ha)]
  exact eq_tab_getD _ 0

/-- CLAUSE "returned signal = time-varying convolution with the response reported
    afterwards", SISO.  For every channel state, input length and input. -/
theorem corrupt_siso_spec (proc : Proc α) (c : Tdl α) (hant : c.ant = none) (mem : Nat)
    (hmem : c.mem = .ok mem) (n : Nat) (xf : Nat → α) :
    ∃ c' ir, c.corrupt proc [tab n xf] = .ok (c', [convSpecSiso ir n mem xf]) ∧
      c'.lastIR = .ok ir ∧ ir.n = n ∧ ir.delays = c.delays :=
  ⟨c.afterTx proc n, genIR proc c c.pos n, tdl_corrupt_siso proc c hant hmem n xf, rfl, rfl, rfl⟩

/-- same clause, MIMO in the original direction: `y[r][m] = Σ_i Σ_t h_i[r,t][m−d_i]·x[t][m−d_i]`,
    `nr` output rows from `nt` input rows. -/
theorem corrupt_mimo_spec (proc : Proc α) (c : Tdl α) (nr nt : Nat) (hant : c.ant = some (nr, nt))
    (hsw : c.switched = false) (hnt : 0 < nt) (mem : Nat) (hmem : c.mem = .ok mem) (n : Nat) (xf : Nat → Nat → α) :
    ∃ c' ir, c.corrupt proc (tab nt (fun a => tab n (xf a))) = .ok (c', convSpec ir false nr nt n mem xf) ∧
      c'.lastIR = .ok ir ∧ ir.n = n ∧ ir.delays = c.delays := by
  have h := tdl_corrupt_mimo proc c nr nt hant hmem n xf (by simp [Tdl.dims, hsw, hnt])
  simp only [Tdl.dims, hsw, Bool.false_eq_true, if_false] at h
  exact ⟨_, _, h, rfl, rfl, rfl⟩

/-- same clause, switched direction (roles of the antennas exchanged):
    `y[t][m] = Σ_i Σ_r h_i[r,t][m−d_i]·x[r][m−d_i]`, `nt` output rows from `nr` input rows. -/
theorem corrupt_switched_spec (proc : Proc α) (c : Tdl α) (nr nt : Nat) (hant : c.ant = some (nr, nt))
    (hsw : c.switched = true) (hnr : 0 < nr) (mem : Nat) (hmem : c.mem = .ok mem) (n : Nat) (xf : Nat → Nat → α) :
    ∃ c' ir, c.corrupt proc (tab nr (fun a => tab n (xf a))) = .ok (c', convSpec ir true nt nr n mem xf) ∧
      c'.lastIR = .ok ir ∧ ir.n = n ∧ ir.delays = c.delays := by
  have h := tdl_corrupt_mimo proc c nr nt hant hmem n xf (by simp [Tdl.dims, hsw, hnr])
  simp only [Tdl.dims, hsw, if_true] at h
  exact ⟨_, _, h, rfl, rfl, rfl⟩

/-- the switched coefficient really is the transposed tap: `orient true h t r = h r t` -/
theorem orient_switched (h : Nat → Nat → Nat → α) (r t k : Nat) :
    orient true h t r k = h r t k ∧ orient false h r t k = h r t k := ⟨rfl, rfl⟩

/-- CLAUSE "has length input + channel memory": every output row of the specification
    (hence, by the three theorems above, of `corrupt_data`) has `n + mem` entries, and
    `mem` is the last (largest) delay of the profile. -/
theorem corrupt_length (ir : IR α) (sw : Bool) (nOut nIn n mem : Nat) (xf : Nat → α) (xg : Nat → Nat → α) :
    (convSpecSiso ir n mem xf).length = n + mem ∧
    (convSpec ir sw nOut nIn n mem xg).length = nOut ∧
    ∀ row ∈ convSpec ir sw nOut nIn n mem xg, row.length = n + mem := by
  refine ⟨tab_length _ _, tab_length _ _, ?_⟩
  intro row hrow
  obtain ⟨j, _, rfl⟩ := List.mem_map.mp hrow
  exact tab_length _ _

/-- `mem` is the delay of the last tap (`num_taps_with_padding − 1`) and, for the sorted
    delays every discretised profile has, the largest one -/
theorem mem_is_last_delay (c : Tdl α) (mem : Nat) (hmem : c.mem = .ok mem)
    (hsorted : c.delays.Pairwise (· < ·)) : mem ∈ c.delays ∧ ∀ d ∈ c.delays, d ≤ mem := by
  unfold Tdl.mem at hmem
  cases hl : c.taps.getLast? with
  | none => simp [hl] at hmem
  | some da =>
    simp only [hl, Except.ok.injEq] at hmem
    subst hmem
    obtain ⟨ts, hts⟩ := List.getLast?_eq_some_iff.mp hl
    rw [Tdl.delays, hts, List.map_append] at hsorted ⊢
    refine ⟨List.mem_append_right _ List.mem_cons_self, fun d hd => ?_⟩
    rcases List.mem_append.mp hd with hd | hd
    · exact ((List.pairwise_append.mp hsorted).2.2 d hd _ List.mem_cons_self).le
    · exact (List.mem_singleton.mp hd).le

/-- CLAUSE "is linear in the input", SISO: for one channel state (one fading realisation)
    the output of `a·x + b·x'` is `a·y + b·y'`; state and reported response do not depend on
    the input values. -/
theorem corrupt_linear_siso (proc : Proc α) (c : Tdl α) (hant : c.ant = none) (mem : Nat)
    (hmem : c.mem = .ok mem) (n : Nat) (a b : α) (xf xg : Nat → α) :
    ∃ (c' : Tdl α) (Y Y' : Nat → α),
      c.corrupt proc [tab n xf] = .ok (c', [tab (n + mem) Y]) ∧
      c.corrupt proc [tab n xg] = .ok (c', [tab (n + mem) Y']) ∧
      c.corrupt proc [tab n (fun k => a * xf k + b * xg k)]
        = .ok (c', [tab (n + mem) (fun m => a * Y m + b * Y' m)]) := by
  refine ⟨c.afterTx proc n, convAtSiso (genIR proc c c.pos n) n xf, convAtSiso (genIR proc c c.pos n) n xg,
    tdl_corrupt_siso proc c hant hmem n xf, tdl_corrupt_siso proc c hant hmem n xg, ?_⟩
  rw [tdl_corrupt_siso proc c hant hmem n]
  exact congrArg (fun z => Except.ok (_, [z])) (tab_congr fun m _ => convAtSiso_linear _ n a b xf xg m)

/-- CLAUSE "is linear in the input", MIMO, either direction. -/
theorem corrupt_linear_mimo (proc : Proc α) (c : Tdl α) (nr nt : Nat) (hant : c.ant = some (nr, nt)) (mem : Nat)
    (hmem : c.mem = .ok mem) (hIn : 0 < (c.dims nr nt).2) (n : Nat) (a b : α) (xf xg : Nat → Nat → α) :
    ∃ (c' : Tdl α) (Y Y' : Nat → Nat → α),
      c.corrupt proc (tab (c.dims nr nt).2 (fun i => tab n (xf i)))
        = .ok (c', tab (c.dims nr nt).1 (fun j => tab (n + mem) (Y j))) ∧
      c.corrupt proc (tab (c.dims nr nt).2 (fun i => tab n (xg i)))
        = .ok (c', tab (c.dims nr nt).1 (fun j => tab (n + mem) (Y' j))) ∧
      c.corrupt proc (tab (c.dims nr nt).2 (fun i => tab n (fun k => a * xf i k + b * xg i k)))
        = .ok (c', tab (c.dims nr nt).1 (fun j => tab (n + mem) (fun m => a * Y j m + b * Y' j m))) := by
  refine ⟨c.afterTx proc n, convAt (genIR proc c c.pos n) c.switched (c.dims nr nt).2 n xf,
    convAt (genIR proc c c.pos n) c.switched (c.dims nr nt).2 n xg,
    tdl_corrupt_mimo proc c nr nt hant hmem n xf hIn, tdl_corrupt_mimo proc c nr nt hant hmem n xg hIn, ?_⟩
  rw [tdl_corrupt_mimo proc c nr nt hant hmem n _ hIn]
  exact congrArg (fun z => Except.ok (_, z))
    (tab_congr fun j _ => tab_congr fun m _ => convAt_linear _ _ _ n a b xf xg j m)

/-- the reported taps are the fading samples at the absolute positions `pos … pos+n−1` of the
    generator, times the tap amplitude; the transmission consumes `n` positions -/
theorem corrupt_uses_samples (proc : Proc α) (c c' : Tdl α) (x y : List (List α))
    (h : c.corrupt proc x = .ok (c', y)) :
    c'.pos = c.pos + numSymbols x ∧
    c'.last = some { n := numSymbols x, delays := c.delays,
                     vals := c.taps.zipIdx.map (fun ta => fun r t k => proc c.link (c.pos + k) ta.2 r t * ta.1.2) } := by
  rw [tdl_corrupt_inv proc c c' x y h]
  exact ⟨rfl, rfl⟩

/-- CLAUSE "with or without path loss": the output of `SuChannel.corrupt_data` is the
    convolution with the response `SuChannel.get_last_impulse_response` reports afterwards
    (both carry the same factor `√pathloss`), SISO. -/
theorem pathloss_consistent_siso (proc : Proc α) (c : Su α) (hant : c.tdl.ant = none) (mem : Nat)
    (hmem : c.tdl.mem = .ok mem) (n : Nat) (xf : Nat → α) :
    ∃ c' ir, c.corrupt proc [tab n xf] = .ok (c', [convSpecSiso ir n mem xf]) ∧
      c'.lastIR = .ok ir ∧ ir.n = n ∧ ir.delays = c.tdl.delays ∧ c'.pl = c.pl :=
  ⟨_, _, su_corrupt_siso proc c hant hmem n xf, su_lastIR _ _ rfl, Su.report_n c _, Su.report_delays c _, rfl⟩

/-- same, MIMO in either direction (`c.tdl.dims` gives the (output, input) antenna counts) -/
theorem pathloss_consistent_mimo (proc : Proc α) (c : Su α) (nr nt : Nat) (hant : c.tdl.ant = some (nr, nt))
    (mem : Nat) (hmem : c.tdl.mem = .ok mem) (hIn : 0 < (c.tdl.dims nr nt).2) (n : Nat) (xf : Nat → Nat → α) :
    ∃ c' ir, c.corrupt proc (tab (c.tdl.dims nr nt).2 (fun a => tab n (xf a)))
        = .ok (c', convSpec ir c.tdl.switched (c.tdl.dims nr nt).1 (c.tdl.dims nr nt).2 n mem xf) ∧
      c'.lastIR = .ok ir ∧ ir.n = n ∧ ir.delays = c.tdl.delays ∧ c'.pl = c.pl :=
  ⟨_, _, su_corrupt_mimo proc c nr nt hant hmem n xf hIn, su_lastIR _ _ rfl, Su.report_n c _,
    Su.report_delays c _, rfl⟩

/-- what "the same factor" means: the reported taps are the TDL taps times `s = √pathloss`,
    and the output is the TDL output times `s` -/
theorem pathloss_scales (s : α) (ir : IR α) (n : Nat) (xf : Nat → α) (m : Nat) :
    convAtSiso (ir.scale s) n xf m = convAtSiso ir n xf m * s ∧
    (ir.scale s).vals = ir.vals.map (fun h r t k => s * h r t k) :=
  ⟨convAtSiso_scale s ir n xf m, rfl⟩

/-- Python `range` semantics: `len(range(a, b, s))` counts exactly the `k ≥ 0` whose element
    `a + k·s` lies before `b` in the direction of the step -/
theorem range_len_spec (a b s : Int) (k : Nat) :
    (k : Int) < pyRangeLen a b s ↔ (0 < s ∧ a + k * s < b) ∨ (s < 0 ∧ b < a + k * s) :=
  pyRangeLen_spec a b s k

/-- CLAUSE "slice index arithmetic": for every slice (any start / stop / step incl. `None`,
    negative values, steps that do not divide the span) on an axis of any length, numpy
    selects the elements of `range(*slice.indices(N))`, all inside the axis; a zero step is
    the only error -/
theorem sliceIndices_spec (sl : PySlice) (N : Nat) :
    (sl.step = some 0 → sliceIndices sl N = .error .ValueError) ∧
    (sl.step ≠ some 0 → ∃ a b c, sliceIndices sl N = .ok (a, b, c) ∧
        selPos (.slice sl) N = .ok ((pyRange a b c).map Int.toNat) ∧
        (pyRange a b c).length = (pyRangeLen a b c).toNat ∧
        ∀ e ∈ pyRange a b c, 0 ≤ e ∧ e < N) := by
  constructor
  · intro h
    simp [sliceIndices, sliceStep, h]
  · intro h
    obtain ⟨a, b, c, habc⟩ := sliceIndices_ok_of_step sl N h
    exact ⟨a, b, c, habc, selPos_slice habc, pyRange_length a b c, fun e he => slice_index_in_range habc he⟩

/-- CLAUSE "for every way of selecting subcarriers (all, index array or slice)": the
    `block_size` computed by the current source (regenerated expressions) is the number of
    selected carriers.  (This is the statement the unrepaired source violated for slices whose
    step does not divide the span.) -/
theorem blockSize_is_selected_count (sel : Sel) (fft : Nat) (B : Int) (ps : List Nat)
    (hB : blockSize sel fft = .ok B) (hps : selPos sel fft = .ok ps) : (ps.length : Int) = B :=
  Except.ok.inj ((blockSize_ok_of_selPos sel fft ps hps).symm.trans hB)

/-- witnesses: `slice(0, 10, 3)` and `slice(1, 16, 4)` on 16
    carriers select 4 carriers and the block size is 4 -/
theorem blockSize_witnesses :
    blockSize (.slice ⟨some 0, some 10, some 3⟩) 16 = .ok 4 ∧
    selPos (.slice ⟨some 0, some 10, some 3⟩) 16 = .ok [0, 3, 6, 9] ∧
    blockSize (.slice ⟨some 1, some 16, some 4⟩) 16 = .ok 4 ∧
    selPos (.slice ⟨some 1, some 16, some 4⟩) 16 = .ok [1, 5, 9, 13] := by
  decide +kernel

/-- NEGATIVE WITNESS for the formula the source used before the repair
    (`(stop − start) // step`, finding `C03:corrupt_data_in_freq_domain:slice-step-not-dividing-span`):
    it gives 3 where `slice(0, 10, 3)` selects 4 carriers, and 0 where `slice(0, 1, 2)` selects 1 -/
theorem old_blockSize_formula_wrong :
    pyFloorDiv (10 - 0) 3 = 3 ∧ (pyRange 0 10 3).length = 4 ∧
    pyFloorDiv (1 - 0) 2 = 0 ∧ (pyRange 0 1 2).length = 1 := by
  decide +kernel

/-- non-vacuity: the hypotheses of the frequency-domain theorems are met by a
    witness (8 symbols = 2 blocks over `slice(0, 10, 3)` of 16 carriers) -/
example : freqPlan (.slice ⟨some 0, some 10, some 3⟩) 16 8 = .ok ([0, 3, 6, 9], 4, 2) := freqPlan_witness

/-- non-vacuity: the memory hypothesis `c.mem = .ok mem` holds for every non-empty profile, e.g. -/
example : (Tdl.init [(0, 1), (2, 3), (5, 1)] (some (2, 3)) true 0 : Tdl Int).mem = .ok 5 := rfl

/-- which carriers the three kinds select: everything; the listed indexes (negative ones
    counted from the end, anything outside `[-N, N)` is an IndexError); the slice's range -/
theorem selPos_all_idx (N : Nat) (l : List Int) :
    selPos .all N = .ok (List.range N) ∧
    ((∀ i ∈ l, -(N : Int) ≤ i ∧ i < N) →
      selPos (.idx l) N = .ok (l.map (fun i => (if i < 0 then i + (N : Int) else i).toNat))) := by
  refine ⟨rfl, fun h => mapM_ok _ _ _ fun i hi => if_pos ?_⟩
  have := h i hi
  split_ifs with hneg
  · exact ⟨neg_le_iff_add_nonneg.mp this.1, add_lt_of_neg_left _ hneg⟩
  · exact ⟨Int.not_lt.mp hneg, this.2⟩

/-- a transmission of `nb ≥ 1` full blocks over any non-empty valid selection is accepted
    (non-vacuity of `freq_siso_spec` and `freq_mimo_spec`, and acceptance of every slice geometry) -/
theorem freq_accepts (sel : Sel) (fft nb : Nat) (ps : List Nat) (hfft : 0 < fft) (hnb : 0 < nb)
    (hps : selPos sel fft = .ok ps) (hne : ps ≠ []) :
    freqPlan sel fft (nb * ps.length) = .ok (ps, ps.length, nb) :=
  freqPlan_eq_ok.mpr ⟨hfft, List.length_pos_iff.mpr hne, hnb, rfl, rfl, hps⟩

/-- … and whenever a transmission is accepted, the signal length is `nb` blocks of exactly
    as many symbols as carriers are selected -/
theorem freq_accepted_geometry {sel : Sel} {fft n : Nat} {ps : List Nat} {B nb : Nat}
    (h : freqPlan sel fft n = .ok (ps, B, nb)) :
    0 < fft ∧ 0 < B ∧ 0 < nb ∧ n = nb * B ∧ ps.length = B ∧ selPos sel fft = .ok ps :=
  freqPlan_eq_ok.mp h

/-- CLAUSE "frequency-domain transmission = per-block multiplication by the DFT of the same
    reported response", SISO, any selection: `y[b·B + q] = FFT(dense taps of sample b)[ps[q]]·x[b·B + q]`,
    where the response is the one reported afterwards (one sample per block). -/
theorem freq_siso_spec (proc : Proc α) (fftK : Fft α) (c : Tdl α) (hant : c.ant = none)
    (sel : Sel) (fft n : Nat) (ps : List Nat) (B nb : Nat) (hplan : freqPlan sel fft n = .ok (ps, B, nb))
    (xf : Nat → α) :
    ∃ c' ir, c.corruptFreq proc fftK [tab n xf] fft sel = .ok (c', [freqSpecSiso fftK ir fft ps B nb xf]) ∧
      c'.lastIR = .ok ir ∧ ir.n = nb ∧ ir.delays = c.delays := by
  have hir := fxIR_blockConcat proc c hplan
  exact ⟨_, _, tdl_corruptFreq_siso proc fftK c hant hplan xf, rfl, hir.n_eq, hir.delays_eq⟩

/-- same clause, MIMO in either direction:
    `y[j][b·B + q] = Σ_a FFT(dense taps (j,a) of sample b)[ps[q]]·x[a][b·B + q]` -/
theorem freq_mimo_spec (proc : Proc α) (fftK : Fft α) (c : Tdl α) (nr nt : Nat)
    (hant : c.ant = some (nr, nt)) (hIn : 0 < (c.dims nr nt).2)
    (sel : Sel) (fft n : Nat) (ps : List Nat) (B nb : Nat) (hplan : freqPlan sel fft n = .ok (ps, B, nb))
    (xf : Nat → Nat → α) :
    ∃ c' ir, c.corruptFreq proc fftK (tab (c.dims nr nt).2 (fun a => tab n (xf a))) fft sel
        = .ok (c', freqSpec fftK ir c.switched fft ps B nb (c.dims nr nt).1 (c.dims nr nt).2 xf) ∧
      c'.lastIR = .ok ir ∧ ir.n = nb ∧ ir.delays = c.delays := by
  have hir := fxIR_blockConcat proc c hplan
  exact ⟨_, _, tdl_corruptFreq_mimo proc fftK c nr nt hant hIn hplan xf, rfl, hir.n_eq, hir.delays_eq⟩

/-- the frequency-domain output has exactly as many entries as the input (`nb·B`) -/
theorem freq_length (fftK : Fft α) (ir : IR α) (fft : Nat) (ps : List Nat) (nb : Nat) (xf : Nat → α) :
    (freqSpecSiso fftK ir fft ps ps.length nb xf).length = nb * ps.length := by
  rw [freqSpecSiso_eq_tab, tab_length]

/-- HISTORY / "fading skip" clause: block `b` of a frequency-domain transmission uses the
    fading sample at absolute generator position `pos + b·stride` (`stride = fft_size` for a
    Jakes generator: one sample generated and `fft_size − 1` skipped, both regenerated from
    the source; `1` for Rayleigh), the reported response has one sample per block in block
    order, and the transmission consumes `nb·stride` positions. -/
theorem freq_uses_sample (proc : Proc α) (fftK : Fft α) (c c' : Tdl α) (x y : List (List α)) (fft : Nat) (sel : Sel)
    (h : c.corruptFreq proc fftK x fft sel = .ok (c', y)) :
    ∃ ps B nb ir, freqPlan sel fft (numSymbols x) = .ok (ps, B, nb) ∧ c'.last = some ir ∧
      c'.pos = c.pos + nb * (if c.jakes then fft else 1) ∧ ir.n = nb ∧
      ∀ r t b, b < nb → ir.vals.map (fun h => h r t b)
        = c.taps.zipIdx.map (fun ta => proc c.link (c.pos + b * (if c.jakes then fft else 1)) ta.2 r t * ta.1.2) := by
  obtain ⟨ps, B, nb, hp, rfl⟩ := tdl_corruptFreq_inv proc fftK c c' x y fft sel h
  have hir := fxIR_blockConcat proc c hp
  exact ⟨ps, B, nb, _, hp, rfl, rfl, hir.n_eq, fun r t b hb =>
    (hir.vals_map r t b hb).trans (blockIR_vals_map proc c fft b r t)⟩

/-- the dense taps (`TdlImpulseResponse.tap_values`) whose FFT is taken: zero padding to
    `last delay + 1`, tap `i` at position `d_i` (delays sorted, as discretisation guarantees) -/
theorem dense_spec (delays : List Nat) (v : List α) (hlen : v.length = delays.length)
    (hsorted : delays.Pairwise (· < ·)) (l : Nat) :
    (dense delays v)[l]? =
      match delays.getLast? with
      | none => none
      | some last => if l ≤ last then
          some (match (delays.zip v).find? (fun dv => dv.1 == l) with | some dv => dv.2 | none => 0)
        else none := by
  unfold dense
  cases delays.getLast? with
  | none => rfl
  | some last =>
    refine (getElem?_foldl_set _ _ l (by rw [List.map_fst_zip hlen.ge]; exact hsorted.imp ne_of_lt)).trans ?_
    rw [getElem?_zeros]
    by_cases h : l ≤ last
    · rw [if_pos (Nat.lt_succ_of_le h)]
      exact (if_pos h).symm
    · rw [if_neg (fun h' => h (Nat.le_of_lt_succ h'))]
      exact (if_neg h).symm

/-- CLAUSE "with or without path loss", frequency domain, SISO: conditional on the FFT kernel
    being homogeneous (`FFT(s·v) = s·FFT(v)`, a contract of `np.fft.fft` the harness checks
    numerically) when a path loss is set. -/
theorem pathloss_consistent_freq_siso (proc : Proc α) (fftK : Fft α) (c : Su α) (hant : c.tdl.ant = none)
    (hK : c.pl = none ∨ Fft.Homogeneous fftK)
    (sel : Sel) (fft n : Nat) (ps : List Nat) (B nb : Nat) (hplan : freqPlan sel fft n = .ok (ps, B, nb))
    (xf : Nat → α) :
    ∃ c' ir, c.corruptFreq proc fftK [tab n xf] fft sel = .ok (c', [freqSpecSiso fftK ir fft ps B nb xf]) ∧
      c'.lastIR = .ok ir ∧ ir.n = nb :=
  ⟨_, _, su_corruptFreq_siso proc fftK c hant hK hplan xf, su_lastIR _ _ rfl,
    (Su.report_n c _).trans (fxIR_blockConcat proc c.tdl hplan).n_eq⟩

/-- same, MIMO in either direction -/
theorem pathloss_consistent_freq_mimo (proc : Proc α) (fftK : Fft α) (c : Su α) (nr nt : Nat)
    (hant : c.tdl.ant = some (nr, nt)) (hIn : 0 < (c.tdl.dims nr nt).2)
    (hK : c.pl = none ∨ Fft.Homogeneous fftK)
    (sel : Sel) (fft n : Nat) (ps : List Nat) (B nb : Nat) (hplan : freqPlan sel fft n = .ok (ps, B, nb))
    (xf : Nat → Nat → α) :
    ∃ c' ir, c.corruptFreq proc fftK (tab (c.tdl.dims nr nt).2 (fun a => tab n (xf a))) fft sel
        = .ok (c', freqSpec fftK ir c.tdl.switched fft ps B nb (c.tdl.dims nr nt).1 (c.tdl.dims nr nt).2 xf) ∧
      c'.lastIR = .ok ir ∧ ir.n = nb :=
  ⟨_, _, su_corruptFreq_mimo proc fftK c nr nt hant hIn hK hplan xf, su_lastIR _ _ rfl,
    (Su.report_n c _).trans (fxIR_blockConcat proc c.tdl hplan).n_eq⟩

/-- the contract is satisfiable: every kernel that is a linear combination of its input
    (the true DFT `Σ_d v[d]·ω^{kd}` and the scripted kernel of the correspondence alike) is homogeneous -/
theorem linear_kernel_homogeneous (w : Nat → Nat → Nat → α) :
    Fft.Homogeneous (fun v N k => ((v.take N).zipIdx.map (fun vd => vd.1 * w N k vd.2)).sum) := by
  intro s v N k
  simp only
  rw [← List.sum_map_mul_left, ← List.map_take, List.zipIdx_map, List.map_map]
  exact congrArg List.sum (List.map_congr_left fun vd _ => mul_assoc s vd.1 _)

/-- CLAUSE "multiuser": if every link `(rx, tx)`, fed with the signal of its source, returns
    the table `F link` (which, by the single-link theorems, is the convolution resp. the
    per-block multiplication with the response that link reports afterwards), then destination
    `j` receives `Σ_sources F (link j source)` entrywise; sources are the transmitters and
    destinations the receivers, exchanged in the switched direction; every link's state is
    updated exactly once. -/
theorem mu_superposition (nRx nTx : Nat) (hR : 0 < nRx) (hT : 0 < nTx) (Lk L' : Nat → Su α) (sw : Bool)
    (hsw : (Lk 0).tdl.switched = sw)
    (x : List (List (List α))) (hx : x.length = (if sw then nRx else nTx))
    (send : Su α → List (List α) → Except PyErr (Su α × List (List α)))
    (R len : Nat) (F : Nat → Nat → Nat → α)
    (hsend : ∀ idx, idx < nRx * nTx → ∃ s, x[if sw then idx / nTx else idx % nTx]? = some s ∧
        send (Lk idx) s = .ok (L' idx, tab R (fun r => tab len (F idx r)))) :
    Mu.transmit { nRx := nRx, nTx := nTx, links := tab (nRx * nTx) Lk } x send
      = .ok ({ nRx := nRx, nTx := nTx, links := tab (nRx * nTx) L' },
             tab (if sw then nTx else nRx) (fun j => tab R (fun r => tab len (fun m =>
               ((List.range (if sw then nRx else nTx)).map (fun a => F (muLink sw nTx j a) r m)).sum)))) :=
  mu_transmit_tables_dest nRx nTx hR hT Lk L' sw hsw x hx send (fun _ => R) len F hsend

/-- the multiuser time-domain transmission of SISO links, fully instantiated: receiver `j`
    gets `Σ_t conv(x_t, response reported by link (j,t))`, including each link's path loss. -/
theorem mu_corrupt_siso (proc : Proc α) (nRx nTx : Nat) (hR : 0 < nRx) (hT : 0 < nTx) (Lk : Nat → Su α)
    (hant : ∀ l, (Lk l).tdl.ant = none) (hsw : ∀ l, (Lk l).tdl.switched = false) (mem : Nat)
    (hmem : ∀ l, (Lk l).tdl.mem = .ok mem) (n : Nat) (xf : Nat → Nat → α) :
    ∃ (L' : Nat → Su α) (ir : Nat → IR α),
      Mu.corrupt proc { nRx := nRx, nTx := nTx, links := tab (nRx * nTx) Lk } (tab nTx (fun t => [tab n (xf t)]))
        = .ok ({ nRx := nRx, nTx := nTx, links := tab (nRx * nTx) L' },
               tab nRx (fun j => [tab (n + mem) (fun m =>
                 ((List.range nTx).map (fun t => convAtSiso (ir (j * nTx + t)) n (xf t) m)).sum)])) ∧
      ∀ l, (L' l).lastIR = .ok (ir l) ∧ (ir l).n = n :=
  ⟨fun l => { Lk l with tdl := (Lk l).tdl.afterTx proc n },
    fun l => (Lk l).report (genIR proc (Lk l).tdl (Lk l).tdl.pos n),
    mu_transmit_pairs nRx nTx hR hT Lk _ false (hsw 0) _ _ (R := fun _ => 1)
      (G := fun j a _ => convAtSiso ((Lk (muLink false nTx j a)).report _) n (xf a))
      fun _ a _ _ => su_corrupt_siso proc (Lk _) (hant _) (hmem _) n (xf a),
    fun _ => ⟨su_lastIR _ _ rfl, Su.report_n _ _⟩⟩

/-- the multiuser time-domain transmission of MIMO links in either direction (`sw`), fully
    instantiated: destination `j` gets, on each of its antennas,
    `Σ_sources conv(x_source, response reported by the link between them)`. -/
theorem mu_corrupt_mimo (proc : Proc α) (nRx nTx : Nat) (hR : 0 < nRx) (hT : 0 < nTx) (Lk : Nat → Su α)
    (nr nt : Nat) (sw : Bool) (hant : ∀ l, (Lk l).tdl.ant = some (nr, nt)) (hsw : ∀ l, (Lk l).tdl.switched = sw)
    (mem : Nat) (hmem : ∀ l, (Lk l).tdl.mem = .ok mem) (hIn : 0 < (if sw then nr else nt))
    (n : Nat) (xf : Nat → Nat → Nat → α) :
    ∃ (L' : Nat → Su α) (ir : Nat → IR α),
      Mu.corrupt proc { nRx := nRx, nTx := nTx, links := tab (nRx * nTx) Lk }
          (tab (if sw then nRx else nTx) (fun a => tab (if sw then nr else nt) (fun i => tab n (xf a i))))
        = .ok ({ nRx := nRx, nTx := nTx, links := tab (nRx * nTx) L' },
               tab (if sw then nTx else nRx) (fun j => tab (if sw then nt else nr) (fun r => tab (n + mem) (fun m =>
                 ((List.range (if sw then nRx else nTx)).map (fun a =>
                   convAt (ir (muLink sw nTx j a)) sw (if sw then nr else nt) n (xf a) r m)).sum)))) ∧
      ∀ l, (L' l).lastIR = .ok (ir l) ∧ (ir l).n = n :=
  ⟨fun l => { Lk l with tdl := (Lk l).tdl.afterTx proc n },
    fun l => (Lk l).report (genIR proc (Lk l).tdl (Lk l).tdl.pos n),
    mu_transmit_pairs nRx nTx hR hT Lk _ sw (hsw 0) _ _ fun j a _ _ => by
        have hd : (Lk (muLink sw nTx j a)).tdl.dims nr nt = (if sw then nt else nr, if sw then nr else nt) := by
          rw [Tdl.dims, hsw]
          cases sw <;> rfl
        have h := su_corrupt_mimo proc (Lk _) nr nt (hant _) (hmem _) n (xf a) (by rw [hd]; exact hIn)
        rwa [hd, hsw] at h,
    fun l => ⟨su_lastIR _ _ rfl, Su.report_n _ _⟩⟩

/-- the multiuser frequency-domain transmission of SISO links, either direction, any selection,
    with per-link path losses (kernel homogeneity needed only when some path loss is set):
    destination `j` gets at flat position `m = b·B + q`
    `Σ_sources FFT(dense taps of sample b reported by the link)[ps[q]] · x_source[m]`. -/
theorem mu_freq_siso (proc : Proc α) (fftK : Fft α) (nRx nTx : Nat) (hR : 0 < nRx) (hT : 0 < nTx) (Lk : Nat → Su α)
    (sw : Bool) (hant : ∀ l, (Lk l).tdl.ant = none) (hsw : ∀ l, (Lk l).tdl.switched = sw)
    (hK : (∀ l, (Lk l).pl = none) ∨ Fft.Homogeneous fftK)
    (sel : Sel) (fft n : Nat) (ps : List Nat) (B nb : Nat) (hplan : freqPlan sel fft n = .ok (ps, B, nb))
    (xf : Nat → Nat → α) :
    ∃ (L' : Nat → Su α) (ir : Nat → IR α),
      Mu.corruptFreq proc fftK { nRx := nRx, nTx := nTx, links := tab (nRx * nTx) Lk }
          (tab (if sw then nRx else nTx) (fun a => [tab n (xf a)])) fft sel
        = .ok ({ nRx := nRx, nTx := nTx, links := tab (nRx * nTx) L' },
               tab (if sw then nTx else nRx) (fun j => [tab n (fun m =>
                 ((List.range (if sw then nRx else nTx)).map (fun a =>
                   freqAtSisoFlat fftK (ir (muLink sw nTx j a)) fft ps (xf a) m)).sum)])) ∧
      ∀ l, (L' l).lastIR = .ok (ir l) ∧ (ir l).n = nb := by
  obtain ⟨-, -, -, rfl, rfl, -⟩ := freqPlan_eq_ok.mp hplan
  refine ⟨fun l => { Lk l with tdl := (Lk l).tdl.afterFx proc fft nb },
    fun l => (Lk l).report ((Lk l).tdl.fxIR proc fft nb),
    mu_transmit_pairs nRx nTx hR hT Lk _ sw (hsw 0) _ _ (R := fun _ => 1)
      (G := fun j a _ => freqAtSisoFlat fftK ((Lk (muLink sw nTx j a)).report _) fft ps (xf a)) fun j a _ _ => ?_,
    fun l => ⟨su_lastIR _ _ rfl,
      (Su.report_n _ _).trans (fxIR_blockConcat proc (Lk l).tdl hplan).n_eq⟩⟩
  rw [su_corruptFreq_siso proc fftK (Lk _) (hant _) (hK.imp_left (· _)) hplan (xf a),
    freqSpecSiso_eq_tab]
  rfl

/-- CLAUSE "multiuser, frequency domain, MIMO links" (`MuMimoChannel.corrupt_data_in_freq_domain`,
    inherited from `MuChannel`).  `nRx × nTx` links in row-major order; link `(r, t)` is a MIMO TDL
    channel with `Nr r × Nt t` antennas (`MuMimoChannel` builds them with one pair of counts; the
    theorem allows any); direction `sw` (`false`: transmitters → receivers, `true`: switched);
    any per-link path losses (kernel homogeneity is needed only when some path loss is set); any
    selection (`None` / index array / slice) accepted by `freqPlan`, i.e. `n = nb` blocks of
    `B = ps.length` symbols; every link in an arbitrary state, hence after any history.

    Source `a` sends `nIn a` rows of `n` symbols (`nIn = Nt`, switched: `Nr`).  Destination `j`
    receives `nOut j` rows (`nOut = Nr`, switched: `Nt`) of `n` entries; row `r`, flat position `m`
    holds `Σ_sources freqAtFlat (response reported by the link between them) …`, which by
    `mu_freq_mimo_entry` is, at `m = b·B + q`,
    `Σ_a Σ_i FFT(dense taps (r, i) of sample b reported by link (j, a))[ps[q]] · x_a[i][b·B + q]`.

    For every link: the response it reports afterwards is `ir link` with one sample per block, the
    configuration is unchanged, the fading position advanced by `nb·stride`, and sample `b` of the
    reported taps is the fading process at absolute position `pos + b·stride` times the tap amplitude
    (times `√pathloss` if set) — the schedule clause `freq_uses_sample` for each link. -/
theorem mu_freq_mimo_spec (proc : Proc α) (fftK : Fft α) (nRx nTx : Nat) (hR : 0 < nRx) (hT : 0 < nTx)
    (Lk : Nat → Su α) (Nr Nt : Nat → Nat) (sw : Bool)
    (hant : ∀ l, l < nRx * nTx → (Lk l).tdl.ant = some (Nr (l / nTx), Nt (l % nTx)))
    (hsw : ∀ l, l < nRx * nTx → (Lk l).tdl.switched = sw)
    (hIn : ∀ a, a < (if sw then nRx else nTx) → 0 < (if sw then Nr a else Nt a))
    (hK : (∀ l, l < nRx * nTx → (Lk l).pl = none) ∨ Fft.Homogeneous fftK)
    (sel : Sel) (fft n : Nat) (ps : List Nat) (B nb : Nat) (hplan : freqPlan sel fft n = .ok (ps, B, nb))
    (xf : Nat → Nat → Nat → α) :
    ∃ (L' : Nat → Su α) (ir : Nat → IR α),
      Mu.corruptFreq proc fftK { nRx := nRx, nTx := nTx, links := tab (nRx * nTx) Lk }
          (tab (if sw then nRx else nTx) (fun a => tab (if sw then Nr a else Nt a) (fun i => tab n (xf a i)))) fft sel
        = .ok ({ nRx := nRx, nTx := nTx, links := tab (nRx * nTx) L' },
               tab (if sw then nTx else nRx) (fun j => tab (if sw then Nt j else Nr j) (fun r => tab n (fun m =>
                 ((List.range (if sw then nRx else nTx)).map (fun a =>
                   freqAtFlat fftK (ir (muLink sw nTx j a)) sw fft ps (if sw then Nr a else Nt a) (xf a) r m)).sum)))) ∧
      ∀ l, l < nRx * nTx →
        (L' l).lastIR = .ok (ir l) ∧ (ir l).n = nb ∧ (ir l).delays = (Lk l).tdl.delays ∧
        (L' l).pl = (Lk l).pl ∧ (L' l).tdl.taps = (Lk l).tdl.taps ∧ (L' l).tdl.ant = (Lk l).tdl.ant ∧
        (L' l).tdl.switched = (Lk l).tdl.switched ∧ (L' l).tdl.jakes = (Lk l).tdl.jakes ∧
        (L' l).tdl.link = (Lk l).tdl.link ∧
        (L' l).tdl.pos = (Lk l).tdl.pos + nb * (if (Lk l).tdl.jakes then fft else 1) ∧
        ∀ r t b, b < nb → (ir l).vals.map (fun h => h r t b)
          = (Lk l).tdl.taps.zipIdx.map (fun ta => plMul (Lk l).pl
              (proc (Lk l).tdl.link ((Lk l).tdl.pos + b * (if (Lk l).tdl.jakes then fft else 1)) ta.2 r t * ta.1.2)) := by
  obtain ⟨-, -, -, rfl, rfl, -⟩ := freqPlan_eq_ok.mp hplan
  refine ⟨fun l => { Lk l with tdl := (Lk l).tdl.afterFx proc fft nb },
    fun l => (Lk l).report ((Lk l).tdl.fxIR proc fft nb),
    mu_transmit_pairs nRx nTx hR hT Lk _ sw (hsw 0 (Nat.mul_pos hR hT)) _ _ fun j a hj ha => ?_,
    fun l _ => ?_⟩
  · have hl := muLink_lt sw nRx nTx j a hj ha
    have hd := mu_link_dims (Lk _).tdl Nr Nt sw (hsw _ hl) nRx nTx j a hj ha
    have h := su_corruptFreq_mimo proc fftK (Lk _) _ _ (hant _ hl) (by rw [hd]; exact hIn a ha)
      (hK.imp_left (· _ hl)) hplan (xf a)
    rwa [hd, hsw _ hl, freqSpec_eq_tab] at h
  · have hbc := fxIR_blockConcat proc (Lk l).tdl hplan
    exact ⟨su_lastIR _ _ rfl, (Su.report_n _ _).trans hbc.n_eq, (Su.report_delays _ _).trans hbc.delays_eq,
      rfl, rfl, rfl, rfl, rfl, rfl, rfl, report_block_vals proc (Lk l) fft nb _ hbc⟩

/-- the link between destination `j` and source `a` is link `(receiver, transmitter)` in row-major
    order: `(j, a)` in the original direction, `(a, j)` when switched -/
theorem muLink_spec (nTx j a : Nat) :
    muLink false nTx j a = j * nTx + a ∧ muLink true nTx j a = a * nTx + j := ⟨rfl, rfl⟩

/-- reading of `freqAtFlat` in `mu_freq_mimo_spec`: at position `q` of block `b` (flat position
    `b·B + q`, `B = ps.length`), on the `q`-th selected carrier `p = ps[q]`, the contribution of one
    link to output antenna `r` is `Σ_i FFT(dense taps of antenna pair (r, i), sample b)[p] · x[i][b·B + q]`
    (antenna pair `(i, r)` of the stored `Nr × Nt` response in the switched direction) -/
theorem mu_freq_mimo_entry (fftK : Fft α) (ir : IR α) (sw : Bool) (fft : Nat) (ps : List Nat) (nIn : Nat)
    (xf : Nat → Nat → α) (r b q p : Nat) (hp : ps[q]? = some p) :
    freqAtFlat fftK ir sw fft ps nIn xf r (b * ps.length + q)
      = ((List.range nIn).map (fun i =>
          fftK (if sw then ir.denseAt i r b else ir.denseAt r i b) fft p * xf i (b * ps.length + q))).sum := by
  obtain ⟨hq, -⟩ := List.getElem?_eq_some_iff.mp hp
  rw [freqAtFlat_block fftK ir sw fft ps nIn xf r b q hq, hp]
  rfl

/-- "with path loss", as an explicit factor per link: a link with `√pathloss = s` reports the TDL
    response `h` scaled by `s`, and (homogeneous kernel) its contribution to every received entry
    is `s` times the contribution computed from the unscaled `h`; so receiver `j` gets
    `Σ_t s(j,t) · Σ_i H^{(j,t)}_b[r, i][ps[q]] · x_t[i][b·B + q]`.  Without a path loss the link
    reports `h` itself. -/
theorem mu_freq_mimo_pathloss_factor (fftK : Fft α) (hK : Fft.Homogeneous fftK) (c : Su α) (h : IR α)
    (hlast : c.tdl.lastIR = .ok h) (sw : Bool) (fft : Nat) (ps : List Nat) (nIn : Nat)
    (xf : Nat → Nat → α) (r m : Nat) :
    (c.pl = none → c.lastIR = .ok h) ∧
    (∀ s, c.pl = some s → c.lastIR = .ok (h.scale s) ∧
      freqAtFlat fftK (h.scale s) sw fft ps nIn xf r m = s * freqAtFlat fftK h sw fft ps nIn xf r m) := by
  have hr := su_lastIR c h hlast
  unfold Su.report at hr
  exact ⟨fun hpl => by rwa [hpl] at hr,
    fun s hpl => ⟨by rwa [hpl] at hr, freqAtFlat_scale fftK hK s h sw fft ps nIn xf r m⟩⟩

/-- non-vacuity of `mu_freq_mimo_spec` (K = 2 users, every receiver 2 antennas, every transmitter 1,
    i.e. 2×1 links; switched, the same links act as 1×2 links): the hypotheses hold for the
    channel `MuMimoChannel(2, 2, 1, …)` builds, with a path loss on every link, 2 blocks over
    `slice(0, 10, 3)` of 16 carriers. -/
example :
    let mk : Bool → Nat → Su Int := fun sw l =>
      { tdl := { Tdl.init [(0, 1), (2, 3)] (some (2, 1)) true l with switched := sw }, pl := some 2 }
    ∀ sw : Bool,
      (∀ l, l < 2 * 2 → (mk sw l).tdl.ant = some ((fun _ => 2) (l / 2), (fun _ => 1) (l % 2))) ∧
      (∀ l, l < 2 * 2 → (mk sw l).tdl.switched = sw) ∧
      (∀ a, a < (if sw then 2 else 2) → 0 < (if sw then (fun _ => 2) a else (fun _ => 1) a)) ∧
      freqPlan (.slice ⟨some 0, some 10, some 3⟩) 16 8 = .ok ([0, 3, 6, 9], 4, 2) := by
  intro mk sw
  refine ⟨fun _ _ => rfl, fun _ _ => rfl, fun a _ => ?_, freqPlan_witness⟩
  cases sw
  exacts [Nat.one_pos, Nat.two_pos]

/-- … and the model run end to end on that set-up (α = ℤ, toy process and kernel): both directions
    succeed, the receivers get 2 rows of 8 entries each, the transmitters (switched) 1 row -/
example :
    let m : Mu Int := Mu.init 2 2 [(0, 1), (2, 3)] (some (2, 1)) true
    let proc : Proc Int := fun l pos i r t => (l : Int) + pos + 2 * i + 3 * r + 5 * t
    let fftK : Fft Int := fun v _ k => v.sum * (k + 1)
    ((m.corruptFreq proc fftK [[[1, 2, 3, 4, 5, 6, 7, 8]], [[8, 7, 6, 5, 4, 3, 2, 1]]] 16
        (.slice ⟨some 0, some 10, some 3⟩)).map (fun r => r.2.map (fun y => y.map List.length)))
      = .ok [[8, 8], [8, 8]] ∧
    (((m.setSwitched true).corruptFreq proc fftK
        [[[1, 2, 3, 4], [0, 1, 0, 1]], [[4, 3, 2, 1], [1, 0, 1, 0]]] 16
        (.slice ⟨some 0, some 10, some 3⟩)).map (fun r => r.2.map (fun y => y.map List.length)))
      = .ok [[4], [4]] := by
  decide +kernel

/-- `np.round` on an exact quotient: nearest integer, ties to even -/
theorem round_half_even_spec (x : ℚ) :
    |x - (roundHalfEven x : ℚ)| ≤ 1 / 2 ∧ (|x - (roundHalfEven x : ℚ)| = 1 / 2 → roundHalfEven x % 2 = 0) := by
  -- with `r = x - ⌊x⌋ ∈ [0, 1)`, the two candidates `⌊x⌋` and `⌊x⌋ + 1` are at distance `r` and `1 - r`
  have lo : |x - (x.floor : ℚ)| = x - (x.floor : ℚ) := abs_of_nonneg (sub_nonneg.mpr (Int.floor_le x))
  have hi : |x - ((x.floor + 1 : ℤ) : ℚ)| = 1 - (x - (x.floor : ℚ)) := by
    rw [Int.cast_add, Int.cast_one, ← sub_sub, abs_sub_comm]
    exact abs_of_pos (sub_pos.mpr (sub_lt_iff_lt_add'.mpr (Int.lt_floor_add_one x)))
  rcases roundHalfEven_cases x with ⟨c, h⟩ | ⟨c, h⟩ | ⟨c, h2, h | h⟩
  · rw [h, lo]
    exact ⟨c.le, fun h' => absurd h' c.ne⟩
  · have c' := sub_lt_comm.mp ((sub_half (1 : ℚ)).trans_lt c)
    rw [h, hi]
    exact ⟨c'.le, fun h' => absurd h' c'.ne⟩
  · rw [h] at h2 ⊢
    rw [lo]
    exact ⟨c.le, fun _ => h2⟩
  · rw [h] at h2 ⊢
    rw [hi, c]
    exact ⟨(sub_half 1).le, fun _ => h2⟩

/-- CLAUSE "unique sorted integer delays": strictly increasing integers, exactly the rounded
    delays of the input taps; non-negative when the input delays are. -/
theorem discretize_sorted_unique (delays powers : List ℚ) (Ts : ℚ) :
    (discretize delays powers Ts).1.Pairwise (· < ·) ∧
    (∀ d : Int, d ∈ (discretize delays powers Ts).1 ↔ ∃ t ∈ delays, roundHalfEven (t / Ts) = d) ∧
    ((∀ t ∈ delays, 0 ≤ t) → 0 < Ts → ∀ d ∈ (discretize delays powers Ts).1, 0 ≤ d) := by
  have hmem : ∀ d : Int, d ∈ (discretize delays powers Ts).1 ↔ ∃ t ∈ delays, roundHalfEven (t / Ts) = d :=
    fun d => (mem_uniqueSorted d _).trans List.mem_map
  refine ⟨uniqueSorted_sorted _, hmem, ?_⟩
  intro hpos hTs d hd
  obtain ⟨t, ht, rfl⟩ := (hmem d).mp hd
  exact roundHalfEven_nonneg _ (div_nonneg (hpos t ht) hTs.le)

/-- CLAUSE "powers merge colliding taps": the power at output delay `d` is the sum of the
    powers of all input taps that round to `d`, divided by the total input power. -/
theorem discretize_merges (delays powers : List ℚ) (Ts : ℚ) (hlen : delays.length = powers.length) :
    (discretize delays powers Ts).2
      = (discretize delays powers Ts).1.map (fun d => collidingPower (delayIdx delays Ts) powers d / powers.sum) := by
  simp only [discretize]
  rw [accumulate_sum (delayIdx delays Ts) powers ((List.length_map _).trans hlen), accumulate_eq_map, List.map_map]
  rfl

/-- CLAUSE "and sum to one" (positive linear powers, as `10^(dB/10)` always is). -/
theorem discretize_power_sum_one (delays powers : List ℚ) (Ts : ℚ) (hlen : delays.length = powers.length)
    (hne : powers ≠ []) (hpos : ∀ p ∈ powers, 0 < p) :
    (discretize delays powers Ts).2.sum = 1 ∧ (discretize delays powers Ts).2.length = (discretize delays powers Ts).1.length := by
  have htot := accumulate_sum (delayIdx delays Ts) powers ((List.length_map _).trans hlen)
  refine ⟨?_, (List.length_map _).trans (accumulate_length ..)⟩
  simp only [discretize]
  rw [htot, sum_map_div, htot]
  exact div_self (List.sum_pos powers hpos hne).ne'

/-- R12 (order of the taps): the taps of a profile are a collection, not a sequence — listing the
    same (delay, power) pairs in any other order gives the same discretised profile. -/
theorem discretize_order_independent (Ts : ℚ) (taps taps' : List (ℚ × ℚ)) (h : taps.Perm taps') :
    discretize (taps.map (·.1)) (taps.map (·.2)) Ts = discretize (taps'.map (·.1)) (taps'.map (·.2)) Ts := by
  have h1 : (discretize (taps.map (·.1)) (taps.map (·.2)) Ts).1
      = (discretize (taps'.map (·.1)) (taps'.map (·.2)) Ts).1 := by
    simp only [discretize]
    exact uniqueSorted_perm ((h.map _).map _)
  refine Prod.ext h1 ?_
  rw [discretize_merges _ _ Ts (by simp), discretize_merges _ _ Ts (by simp), h1, ((h.map (·.2)).sum_eq)]
  apply List.map_congr_left
  intro d _
  rw [collidingPower_perm Ts h d]

/-- non-vacuity of the discretisation clauses: two taps colliding at delay 2 (1.5 and 2.5 both
    round to 2: ties to even) merge, the result is sorted, unique and sums to one -/
example : discretize [0, 3/2, 5/2, 4] [1, 1/2, 1/4, 1/4] 1 = ([0, 2, 4], [1/2, 3/8, 1/8]) := by
  decide +kernel

/-- HISTORY clause: a successful run of **any** list of operations on one object is a chain
    of successful steps, each taken from the state its prefix leads to — so each transmission
    in it is an instance of the single-transmission theorems above (which hold for every
    state), with the response read right after it. -/
theorem history_steps (proc : Proc α) (fftK : Fft α) (ops : List (SuOp α)) (c0 cf : Su α) (outs : List (SuOut α))
    (h : Su.run proc fftK c0 ops = .ok (cf, outs)) :
    outs.length = ops.length ∧
    ∀ k op, ops[k]? = some op → ∃ ck ck' o,
      Su.run proc fftK c0 (ops.take k) = .ok (ck, outs.take k) ∧
      ck.step proc fftK op = .ok (ck', o) ∧ outs[k]? = some o := by
  induction ops generalizing c0 outs with
  | nil =>
    cases h
    exact ⟨rfl, fun k op hk => nomatch hk⟩
  | cons op ops ih =>
    obtain ⟨c1, o1, os, hs, hr, rfl⟩ := (su_run_cons ..).mp h
    obtain ⟨hlen, hsteps⟩ := ih c1 os hr
    refine ⟨congrArg (· + 1) hlen, fun k op' hk => ?_⟩
    cases k with
    | zero =>
      cases hk
      exact ⟨c0, c1, o1, rfl, hs, rfl⟩
    | succ k =>
      obtain ⟨ck, ck', o, h1, h2, h3⟩ := hsteps k op' hk
      exact ⟨ck, ck', o, (su_run_cons ..).mpr ⟨c1, o1, _, hs, h1, rfl⟩, h2, h3⟩

/-- HISTORY clause: over any number of consecutive operations (incl. `set_num_antennas` and
    user calls of `generate_impulse_response`) the profile and
    generator are unchanged and the fading position is the start position plus what every
    earlier transmission consumed (`n` per time-domain transmission, `nb·stride` per
    frequency-domain one): the samples of the `j`-th transmission are the ones at the absolute
    positions this counter gives (`corrupt_uses_samples`, `freq_uses_sample`). -/
theorem history_position (proc : Proc α) (fftK : Fft α) (ops : List (SuOp α)) (c0 cf : Su α) (outs : List (SuOut α))
    (h : Su.run proc fftK c0 ops = .ok (cf, outs)) :
    cf.tdl.taps = c0.tdl.taps ∧ cf.tdl.jakes = c0.tdl.jakes ∧ cf.tdl.link = c0.tdl.link ∧
    cf.tdl.pos = c0.tdl.pos + (ops.map (SuOp.advance c0.tdl.jakes)).sum := by
  induction ops generalizing c0 outs with
  | nil =>
    cases h
    exact ⟨rfl, rfl, rfl, rfl⟩
  | cons op ops ih =>
    obtain ⟨c1, o1, os, hs, hr, rfl⟩ := (su_run_cons ..).mp h
    obtain ⟨h1, h3, h4, h5⟩ := su_step_state proc fftK c0 c1 op o1 hs
    obtain ⟨g1, g3, g4, g5⟩ := ih c1 os hr
    refine ⟨g1.trans h1, g3.trans h3, g4.trans h4, ?_⟩
    rw [g5, h5, h3, List.map_cons, List.sum_cons, Nat.add_assoc]

/-- R4 (rejected calls): in the model a call that raises returns the object exactly as it was —
    this is what the correspondence compares the real objects with: after every rejected call
    the history goes on and all later outputs / reported responses must still agree. -/
theorem rejected_call_leaves_state (proc : Proc α) (fftK : Fft α) (c : Su α) (op : SuOp α) (e : PyErr)
    (h : c.step proc fftK op = .error e) : c.stepR proc fftK op = (c, .error e) := by
  rw [Su.stepR, h]

/-- R4: a history containing rejected calls ends in the same state as the history from which
    the rejected calls are removed (a fresh object that never saw them) -/
theorem history_rejected_calls_removable (proc : Proc α) (fftK : Fft α) (ops : List (SuOp α)) (c : Su α) :
    (Su.runR proc fftK c ops).1
      = (Su.runR proc fftK c (ops.zip (Su.runR proc fftK c ops).2 |>.filterMap
          (fun p => match p.2 with | .ok _ => some p.1 | .error _ => none))).1 := by
  induction ops generalizing c with
  | nil => rfl
  | cons op ops ih =>
    simp only [Su.runR, List.zip_cons_cons, List.filterMap_cons]
    cases hs : c.step proc fftK op with
    | error e =>
      simp only [Su.stepR, hs]
      exact ih c
    | ok r =>
      simp only [Su.stepR, hs, Su.runR]
      exact ih r.1

/-- R4: which transmissions are rejected, and that the guards come first: a signal whose number
    of rows is not the number of transmitting antennas is a `ValueError` in both domains, and an
    unacceptable frequency-domain geometry (zero slice step, index outside the axis, empty
    selection, length not a multiple of the block size, no block) is reported with the error of
    `freqPlan` — in every case nothing has been generated (`rejected_call_leaves_state`). -/
theorem rejected_transmissions (proc : Proc α) (fftK : Fft α) (c : Tdl α) (x : List (List α)) (fft : Nat) (sel : Sel) :
    (c.signalOk x = false →
      c.corrupt proc x = .error .ValueError ∧ c.corruptFreq proc fftK x fft sel = .error .ValueError) ∧
    (∀ e, c.signalOk x = true → freqPlan sel fft (numSymbols x) = .error e →
      c.corruptFreq proc fftK x fft sel = .error e) := by
  -- the signal check is the first statement of both methods, the plan the second of `corruptFreq`
  refine ⟨fun h => ⟨?_, ?_⟩, fun e h hp => ?_⟩
  · unfold Tdl.corrupt
    rw [h]
    rfl
  · unfold Tdl.corruptFreq
    rw [h]
    rfl
  · unfold Tdl.corruptFreq
    rw [h]
    show freqPlan sel fft (numSymbols x) >>= _ = _
    rw [hp]
    rfl

/-- R5 (degenerate path loss): a path loss of exactly 0 (`√0 = 0`) is a path loss like any other —
    the output is scaled to zero and so is the reported response; it is *not* "no path loss". -/
theorem pathloss_zero (c : Su α) (hpl : c.pl = some 0) (y : List (List α)) (ir : IR α) :
    c.applyPl y = y.map (fun row => row.map (fun _ => 0)) ∧
    (c.report ir).vals = ir.vals.map (fun _ _ _ _ => 0) ∧ (c.report ir).n = ir.n := by
  refine ⟨?_, ?_, Su.report_n c ir⟩
  · simp [Su.applyPl, hpl, scaleRows]
  · simp [Su.report, hpl, IR.scale]

/-- R7 (long-lived objects): what a transmission does depends only on the current configuration
    (profile, antennas, direction, generator and its position) — not on the response left behind by
    earlier calls; so after any history the object acts like a freshly built one in that configuration. -/
theorem transmission_ignores_old_response (proc : Proc α) (fftK : Fft α) (c : Tdl α) (l : Option (IR α))
    (x : List (List α)) (fft : Nat) (sel : Sel) :
    ({ c with last := l } : Tdl α).corrupt proc x = c.corrupt proc x ∧
    ({ c with last := l } : Tdl α).corruptFreq proc fftK x fft sel = c.corruptFreq proc fftK x fft sel := by
  -- the closed form of the generated responses does not mention `last`
  have h : blockIRs proc { c with last := l } = blockIRs proc c := by
    funext fft nb pos
    rw [blockIRs_eq, blockIRs_eq]
    rfl
  refine ⟨rfl, ?_⟩
  unfold Tdl.corruptFreq
  rw [h]
  rfl

/-- R11 (non-mutating API): a query — any property read, `__repr__`, anything done with a response
    that was handed out — is the identity on the object; in a history it can be dropped. -/
theorem query_leaves_state (proc : Proc α) (fftK : Fft α) (c : Su α) (m : Mu α) :
    c.step proc fftK .query = .ok (c, .unit) ∧ m.step proc fftK .query = .ok (m, .unit) := ⟨rfl, rfl⟩

/-- R8 (constructor path = setter path): an object given its antennas at construction is the object
    built SISO and configured with `set_num_antennas`; "no path loss" at construction is
    `set_pathloss(None)`; the direction starts un-switched, i.e. `switched_direction = False`. -/
theorem constructor_equals_setters (proc : Proc α) (fftK : Fft α) (taps : List (Nat × α)) (a : Option (Nat × Nat))
    (jakes : Bool) (link : Nat) :
    let built : Su α := { tdl := Tdl.init taps a jakes link, pl := none }
    let siso : Su α := { tdl := Tdl.init taps none jakes link, pl := none }
    siso.step proc fftK (.setAnt a) = .ok (built, .unit) ∧
    built.step proc fftK (.setPathloss none) = .ok (built, .unit) ∧
    built.step proc fftK (.setSwitched false) = .ok (built, .unit) := ⟨rfl, rfl, rfl⟩

/-- R8: `MuChannel.set_pathloss(None)` is "no path loss on any link" -/
theorem mu_clear_pathloss (proc : Proc α) (fftK : Fft α) (m : Mu α) :
    ∃ m', m.step proc fftK .clearPathloss = .ok (m', .unit) ∧ m'.links.length = m.links.length ∧
      ∀ l ∈ m'.links, l.pl = none := by
  refine ⟨_, rfl, List.length_map _, fun l hl => ?_⟩
  obtain ⟨l0, _, rfl⟩ := List.mem_map.mp hl
  rfl

/-- R15 (`set_pathloss`, "unchanged → skip" shortcuts): the setter takes effect for EVERY new value,
    whatever the value stored before (there is no comparison with the old value, exact or tolerant):
    from any state with any old path loss, `set_pathloss(s)` leads to the state with path loss `s`
    and nothing else changed. -/
theorem pathloss_setter_takes_effect_for_every_new_value (proc : Proc α) (fftK : Fft α) (c : Su α)
    (old s : Option α) :
    ({ c with pl := old } : Su α).step proc fftK (.setPathloss s) = .ok ({ c with pl := s }, .unit) := rfl

/-- R15: the factor on the output AND on the reported response is exactly (the square root of) the
    value that was set — no threshold, no "close to 0 / close to 1" fast path: a function of the exact value. -/
theorem pathloss_is_the_exact_value (c : Su α) (s : α) (y : List (List α)) (ir : IR α) :
    ({ c with pl := some s } : Su α).applyPl y = y.map (fun row => row.map (· * s)) ∧
    (({ c with pl := some s } : Su α).report ir).vals = ir.vals.map (fun h r t k => s * h r t k) := ⟨rfl, rfl⟩

/-- R15: over a field (ℚ(i), ℂ) two different factors — however close — are told apart by every
    non-zero entry of the unscaled output / response -/
theorem pathloss_close_values_distinguished {β : Type} [Field β] (s s' v : β) (hv : v ≠ 0) (h : s ≠ s') :
    v * s ≠ v * s' := fun e => h (mul_left_cancel₀ hv e)

omit [CommSemiring α] in
/-- R15 (`MuChannel.set_pathloss`): after an accepted call every link `(rx, tx)` carries exactly ITS
    entry of the matrix just given (whatever it carried before, whatever the other entries are) and is
    otherwise unchanged; the number of links and the geometry are unchanged. -/
theorem mu_pathloss_entry_exact (c c' : Mu α) (s : List (List α)) (h : c.setPathloss s = .ok c') :
    c'.nRx = c.nRx ∧ c'.nTx = c.nTx ∧ c'.links.length = c.links.length ∧
    ∀ idx l, c.links[idx]? = some l →
      ∃ row v, s[idx / c.nTx]? = some row ∧ row[idx % c.nTx]? = some v ∧
        c'.links[idx]? = some { l with pl := some v } := by
  obtain ⟨ls, hls, h⟩ := bind_eq_ok.mp h
  cases pure_eq_ok.mp h
  obtain ⟨hlen, hall⟩ := mapM_eq_ok_iff.1 hls
  refine ⟨rfl, rfl, hlen.trans List.length_zipIdx, fun idx l hl => ?_⟩
  obtain ⟨b, hb, hr⟩ := hall idx (l, idx) (by rw [List.getElem?_zipIdx, hl]; simp)
  simp only at hb
  split at hb
  · exact (throw_eq_ok.mp hb).elim
  · rename_i row hrow
    split at hb
    · exact (throw_eq_ok.mp hb).elim
    · rename_i v hv
      exact ⟨row, v, hrow, hv, by rw [hr, ← pure_eq_ok.mp hb]⟩

/-- R15 (sampling intervals at construction, `TdlChannel.__init__`): the channel is built iff ALL the
    sampling intervals it is given — the Jakes generator's, the one of an already discretised profile,
    the `Ts` argument — are the same value `T` (exact comparison: 1e-9 and 2e-9, or 3.25e-8 and
    3.25e-8·(1+1e-6), do not agree), and then `T` is the interval it works with (1.0 when a Rayleigh
    generator comes with nothing else); every refusal is a `RuntimeError`. -/
theorem constructor_sampling_intervals_agree_exactly {τ : Type} [DecidableEq τ] (one : τ) (g p a : Option τ) :
    (∀ T, ctorTs one g p a = .ok T ↔
      (∀ x, g = some x → x = T) ∧ (∀ x, p = some x → x = T) ∧ (∀ x, a = some x → x = T) ∧
      (g = none → p = none → a = none → T = one)) ∧
    (∀ e, ctorTs one g p a = .error e → e = .RuntimeError) := by
  -- the clauses without binders, so that the eight patterns leave small goals
  simp only [forall_eq_some_imp]
  rcases g with _ | g <;> rcases p with _ | p <;> rcases a with _ | a <;>
    simp only [ctorTs, bind, Except.bind, pure, Except.pure, throw, throwThe, MonadExceptOf.throw, ne_eq, ite_not,
      ite_ok_iff, Except.ok.injEq, Option.elim_some, Option.elim_none, reduceCtorEq, false_imp_iff, implies_true,
      true_and, and_true, true_imp_iff]
  -- one interval given: closed by `simp`; none given; two given (one comparison); all three (two comparisons).
  -- An error needs a comparison, hence at least two intervals
  case none.none.none => exact fun T => eq_comm
  case none.some.some | some.none.some | some.some.none =>
    exact ⟨fun T => by constructor <;> rintro ⟨rfl, rfl⟩ <;> exact ⟨rfl, rfl⟩, fun e => ite_error_imp _ _ _ _ _ nofun⟩
  case some.some.some =>
    exact ⟨fun T => by constructor <;> rintro ⟨rfl, rfl, rfl⟩ <;> exact ⟨rfl, rfl, rfl⟩,
      fun e => ite_error_imp _ _ _ _ _ (ite_error_imp _ _ _ _ _ nofun)⟩

/-- non-vacuity / the two directions on concrete values (τ = ℚ): equal intervals are accepted, intervals
    that differ by a relative 1e-6 or that are both "tiny" are refused -/
example : ctorTs (1 : Rat) (some (13/400000000)) none (some (13/400000000)) = .ok (13/400000000) ∧
    ctorTs (1 : Rat) (some (13/400000000)) none (some (13000013/400000000000000)) = .error .RuntimeError ∧
    ctorTs (1 : Rat) (some (1/1000000000)) (some (2/1000000000)) none = .error .RuntimeError ∧
    ctorTs (1 : Rat) none none none = .ok 1 := by decide +kernel

/-- R15 (discretisation, thresholds on small powers / de-duplication of close delays): every input tap
    — however weak, however close its delay is to another tap's — is represented in the discretised
    profile: its rounded delay is one of the output delays, and the power there is at least its own
    share `p / total` (in particular not zero). Taps are merged only when their ROUNDED delays are
    equal (`discretize_sorted_unique`, `discretize_merges`). -/
theorem discretize_keeps_every_tap (delays powers : List ℚ) (Ts : ℚ) (hlen : delays.length = powers.length)
    (hpos : ∀ p ∈ powers, 0 < p) (i : Nat) (t p : ℚ) (ht : delays[i]? = some t) (hp : powers[i]? = some p) :
    ∃ (j : Nat) (q : ℚ), (discretize delays powers Ts).1[j]? = some (roundHalfEven (t / Ts)) ∧
      (discretize delays powers Ts).2[j]? = some q ∧ p / powers.sum ≤ q ∧ 0 < q := by
  obtain ⟨j, hj⟩ := List.mem_iff_getElem?.mp
    (((discretize_sorted_unique delays powers Ts).2.1 _).mpr ⟨t, List.mem_of_getElem? ht, rfl⟩)
  have hge := collidingPower_ge (delayIdx delays Ts) powers (fun x hx => (hpos x hx).le) i _ p
    ((List.getElem?_map ..).trans (congrArg _ ht)) hp
  have hsum := List.sum_pos powers hpos (List.ne_nil_of_mem (List.mem_of_getElem? hp))
  refine ⟨j, _, hj, ?_, div_le_div_of_nonneg_right hge hsum.le,
    div_pos ((hpos p (List.mem_of_getElem? hp)).trans_le hge) hsum⟩
  rw [discretize_merges delays powers Ts hlen, List.getElem?_map, hj]
  rfl

/-- non-vacuity: a tap 150 dB below the main tap keeps its own delay and its own (tiny) power; the tap a
    quarter of a sample after it is merged into it only because both ROUND to the same delay -/
example : discretize [0, 3, 17/4] [1, 1/1000000000000000, 1/2] 1
      = ([0, 3, 4], [1000000000000000/1500000000000001, 1/1500000000000001, 500000000000000/1500000000000001]) ∧
    discretize [0, 3, 13/4] [1, 1/1000000000000000, 1/2] 1
      = ([0, 3], [1000000000000000/1500000000000001, 500000000000001/1500000000000001]) := by decide +kernel

/-- R16 (earlier results are not changed by later calls / later refills of an argument buffer): the
    replies of a history are a prefix of the replies of every longer history, and the longer history
    goes on from the state the shorter one ends in. -/
theorem earlier_results_independent_of_later_calls (proc : Proc α) (fftK : Fft α) (ops more : List (SuOp α))
    (c : Su α) :
    (Su.runR proc fftK c (ops ++ more)).2
      = (Su.runR proc fftK c ops).2 ++ (Su.runR proc fftK (Su.runR proc fftK c ops).1 more).2 ∧
    (Su.runR proc fftK c (ops ++ more)).1 = (Su.runR proc fftK (Su.runR proc fftK c ops).1 more).1 := by
  induction ops generalizing c with
  | nil => exact ⟨rfl, rfl⟩
  | cons op ops ih =>
    simp only [List.cons_append, Su.runR]
    rw [(ih _).1, (ih _).2]
    exact ⟨rfl, rfl⟩

/-- R16 (ONE preallocated array refilled in place before every call on the same object): the history
    run with the caller's buffer cell threaded through (`Su.runBuf`) is the history in which every call
    gets a fresh value equal to the contents at call time — whatever the buffer held before
    (`buf`), and whatever it will hold later.  The real code is tied to this by correspondence
    histories that really pass one refilled ndarray / list object. -/
theorem refilled_buffer_history_eq_fresh_values (proc : Proc α) (fftK : Fft α) (ks : List (BufCall α)) (c : Su α)
    (buf : List (List α)) :
    Su.runBuf proc fftK c buf ks = Su.runR proc fftK c (ks.map (fun k => k.call k.fill)) := by
  induction ks generalizing c buf with
  | nil => rfl
  | cons k ks ih =>
    simp only [Su.runBuf, List.map_cons, Su.runR]
    rw [ih]

/-- a two-transmission history, end to end on concrete integer data (α = ℤ): both
    transmissions succeed and the second one starts where the first one stopped -/
example :
    (Su.run (fun _ pos i _ _ => (pos : Int) + i) (fun v _ k => v.sum * k)
      { tdl := Tdl.init [(0, 1), (2, 3)] none true 0, pl := some 2 }
      [.tx [[1, 2, 3]], .fx [[1, 1, 1, 1]] 4 (.slice ⟨some 0, none, some 3⟩), .getIR]).map (fun r => r.1.tdl.pos)
      = .ok (1 + 3 + 2 * 4) := by
  decide +kernel

end PyPhysim.C03
