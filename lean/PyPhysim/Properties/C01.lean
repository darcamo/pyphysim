import PyPhysim.Proofs.C01Detect
import PyPhysim.Proofs.C01Psk
import PyPhysim.Proofs.C01QamReal
import PyPhysim.Proofs.C01Relabel
import PyPhysim.Proofs.C01Robust
import PyPhysim.Proofs.C01Ml
import PyPhysim.Generated.C01Formulas

/-!
# C01 — modulation is invertible; detection picks the nearest constellation symbol

Property theorems only.  The model (`PyPhysim.Model.C01`) is tied to
`fundamental.py` by the correspondence of `harness/props/c01.py` (exact on
indexes / shapes / exceptions, 1e-12 on constellation tables); the Gray maps are
the definitions regenerated from the source.  Binary64 rounding (ties closer
than 1e-9 to a decision boundary, the 1e-15 snap) is outside the theorems.

The labels R1 … R16 on theorems are the input classes of `/verif/DESIGN.md` (tables of §9.2b and §9.2d):
R4 a call that raises leaves the object unchanged, R15 distinct values that are merely close, R16 argument
identity and buffer reuse, and so on.
-/
namespace PyPhysim.C01
open PyPhysim.Proto PyPhysim.Gray List

section detection
variable {α : Type} [Field α] [LinearOrder α] [IsStrictOrderedRing α]

/-- ML detection: demodulating ANY sample returns an index whose constellation
    point is at minimum distance (and the first such index, as `np.argmin`). -/
theorem demod_nearest (c : List (α × α)) (hc : c ≠ []) (r : α × α) :
    ∃ p, c[demod c r]? = some p ∧
      ∀ j q, c[j]? = some q → dist2 r p ≤ dist2 r q ∧ (j < demod c r → dist2 r p < dist2 r q) :=
  demod_nearest' c hc r

/-- Demodulating a constellation point returns its own index whenever the
    constellation has pairwise distinct points. -/
theorem demod_modulate (c : List (α × α)) (hnd : c.Nodup) (i : Nat) (p : α × α)
    (hi : c[i]? = some p) : demod c p = i :=
  -- `p` is strictly nearest to itself: every other entry is a different point
  demod_of_nearest_point c hnd i p hi p fun q _ hne => (dist2_self p).trans_lt (dist2_pos_of_ne p q (Ne.symm hne))

/-- Round trip on whole index arrays of any shape: `demodulate(modulate(idx)) = idx`
    with the shape preserved. -/
theorem demod_modulate_array (c : List (α × α)) (hnd : c.Nodup) (shape idx : List Nat)
    (out : List Nat × List (α × α)) (h : modulateArray c shape idx = .ok out) :
    demodArray c out.1 out.2 = (shape, idx) := by
  unfold modulateArray at h
  cases hm : idx.mapM (modulate c) with
  | error e => rw [hm] at h; cases h
  | ok pts =>
    rw [hm] at h
    cases h
    exact congrArg (Prod.mk shape)
      (mapM_ok_map (fun i p hp => demod_modulate c hnd i p (modulate_eq_ok hp)) idx pts hm)
end detection

/-- Indexes `≥ M` are rejected with `ValueError`, never mapped to a symbol. -/
theorem modulate_oob {α : Type} (c : List (α × α)) (i : Nat) (h : c.length ≤ i) :
    modulate c i = .error .ValueError := by
  rw [modulate, List.getElem?_eq_none h]

/-- … and indexes `< M` always succeed. -/
theorem modulate_in_range {α : Type} (c : List (α × α)) (i : Nat) (h : i < c.length) :
    modulate c i = .ok c[i] := by
  rw [modulate, List.getElem?_eq_getElem h]

/-- BPSK: bits map to `±1` and back. -/
theorem bpsk_roundtrip (bits : List Nat) (h : ∀ b ∈ bits, b ≤ 1) :
    ∃ s, bpskModulate bits = .ok s ∧ s.map (fun x => bpskDemod x) = bits := by
  refine ⟨bits.map (fun b => 1 - 2 * Int.ofNat b), if_neg fun hany => ?_, ?_⟩
  · obtain ⟨b, hb, h1⟩ := List.any_eq_true.mp hany
    exact absurd (of_decide_eq_true h1) (Nat.not_lt.mpr (h b hb))
  · rw [List.map_map]
    refine (List.map_congr_left fun b hb => ?_).trans (List.map_id _)
    match b, h b hb with
    | 0, _ => rfl
    | 1, _ => rfl

/-- BPSK rejects anything but 0/1. -/
theorem bpsk_rejects (bits : List Nat) (h : ∃ b ∈ bits, 1 < b) :
    bpskModulate bits = .error .ValueError := by
  obtain ⟨b, hb, h1⟩ := h
  exact if_pos (List.any_eq_true.mpr ⟨b, hb, decide_eq_true h1⟩)

/-- BPSK detection is nearest-symbol detection: the sign test picks `-1` exactly
    when `-1` is the strictly closer point (on the boundary `re = 0` both are tied). -/
theorem bpsk_demod_nearest {α : Type} [Field α] [LinearOrder α] [IsStrictOrderedRing α]
    (re im : α) :
    (bpskDemod re = 1) ↔ dist2 (re, im) (-1, 0) < dist2 (re, im) ((1 : α), (0 : α)) := by
  rw [bpsk_nearer_iff, bpskDemod]
  split
  next h => exact iff_of_true rfl h
  next h => exact iff_of_false Nat.zero_ne_one h

/-- PSK, every `M = 2^m` (`m ≤ 64`), every phase offset: construction succeeds and
    the emitted table has `M` pairwise distinct points, each of unit modulus
    (hence unit mean energy). -/
theorem psk_constellation (m : Nat) (hm : m ≤ 64) (φ : ℝ) :
    ∃ table, relabel (pskNatural (2^m) φ) ((List.range (2^m)).map (pskPosInit Generated.gray2binary))
        = .ok table ∧
      table.length = 2^m ∧ table.Nodup ∧ ∀ p ∈ table, p.1 ^ 2 + p.2 ^ 2 = 1 := by
  have hlen : (pskNatural (2^m) φ).length = 2^m := by rw [pskNatural, length_map, length_range]
  obtain ⟨table, ht, hp⟩ := relabel_of_perm (pskNatural (2^m) φ) _ hlen (psk_idx_perm m hm)
  exact ⟨table, ht, by rw [hp.length_eq, hlen], hp.nodup_iff.mpr (psk_natural_nodup _ φ),
    fun p hp' => psk_natural_unit (2^m) φ p (hp.subset hp')⟩

/-- PSK rejects every cardinality that is not a power of two *independently of the
    floating-point assert*: for `2^k < M < 2^(k+1)` label `2^k` is sent to natural
    position `2^(k+1)-1 ≥ M`, so building the table raises. -/
theorem psk_rejects_non_pow2 (M k : Nat) (hk : k < 64) (h1 : 2^k < M) (h2 : M < 2^(k+1)) (φ : ℝ) :
    relabel (pskNatural M φ) ((List.range M).map (pskPosInit Generated.gray2binary))
      = .error .IndexError := by
  apply relabel_error
  refine ⟨pskPosInit Generated.gray2binary (2^k), ?_, ?_⟩
  · exact List.mem_map.mpr ⟨2^k, List.mem_range.mpr h1, rfl⟩
  · rw [pskPosInit, g2b_two_pow k hk, pskNatural, length_map, length_range]
    exact Nat.le_sub_one_of_lt h2

/-- Square QAM, every `L = 2^k ≥ 2` (`M = L²`): construction succeeds and the emitted
    table has `M` pairwise distinct points whose total energy is `M` (unit mean energy). -/
theorem qam_constellation (k : Nat) (hk : 1 ≤ k) :
    ∃ table, relabel (qamNatural (α := ℝ) (2^k))
        ((List.range (2^k * 2^k)).map (qamPos Generated.binary2gray k (2^k))) = .ok table ∧
      table.length = 2^k * 2^k ∧ table.Nodup ∧
      (table.map (fun p => p.1 ^ 2 + p.2 ^ 2)).sum = ((2^k * 2^k : Nat) : ℝ) := by
  have hL : 2 ≤ 2^k := Nat.pow_le_pow_right Nat.two_pos hk
  have hlen : (qamNatural (α := ℝ) (2^k)).length = 2^k * 2^k := by
    rw [qamNatural, length_map, qamGrid, length_map, length_range]
  obtain ⟨table, ht, hp⟩ := relabel_of_perm (qamNatural (α := ℝ) (2^k)) _ hlen (qam_idx_perm k)
  refine ⟨table, ht, by rw [hp.length_eq, hlen], hp.nodup_iff.mpr (qam_natural_nodup _ hL), ?_⟩
  rw [(hp.map _).sum_eq, qam_natural_energy _ hL, Nat.cast_mul]

/-- After ANY history of table changes (`setPhaseOffset`), modulations and demodulations, a
    demodulation is nearest-point detection against the table currently in force (the object
    keeps no derived state that could go stale; the correspondence replays such histories
    on the real object). -/
theorem demod_after_history {α : Type} [Field α] [LinearOrder α] [IsStrictOrderedRing α]
    (t₀ : List (α × α)) (h : List (ModOp α)) (r : α × α) :
    (modRun t₀ (h ++ [ModOp.demodulate r])).1 = currentTable t₀ h ∧
    (modRun t₀ (h ++ [ModOp.demodulate r])).2.getLast? = some (ModOut.index (demod (currentTable t₀ h) r)) := by
  rw [modRun_append, modRun_fst t₀ h]
  exact ⟨rfl, List.getLast?_concat⟩

/-! ## R15 — distinct values that are merely close

The model is a function of the EXACT values: nothing in it compares with a tolerance, rounds a
key or tests "unchanged".  The statements below say so for each place where the code compares,
looks up or replaces a value; the harness generates the close-but-distinct values
(`oracle:R15:*`, `corr:R15:*`). -/

section r15
variable {α : Type} [Field α] [LinearOrder α]

/-- R15, detection: whenever ONE constellation point is strictly nearest to the sample — by
    however little — its index is returned. -/
theorem demod_of_strict_nearest (c : List (α × α)) (r : α × α) (i : Nat) (p : α × α)
    (hi : c[i]? = some p)
    (hmin : ∀ j q, c[j]? = some q → j ≠ i → dist2 r p < dist2 r q) : demod c r = i :=
  argminIdx_map_unique (dist2 r) c i p hi hmin

/-- R15, detection: two samples on the two sides of a decision boundary get their own index
    each, no matter how close they are to each other (there is no hypothesis on `r` vs `r'`). -/
theorem close_samples_decided_separately (c : List (α × α)) (r r' : α × α) (i i' : Nat)
    (p p' : α × α) (hi : c[i]? = some p) (hi' : c[i']? = some p')
    (hmin : ∀ j q, c[j]? = some q → j ≠ i → dist2 r p < dist2 r q)
    (hmin' : ∀ j q, c[j]? = some q → j ≠ i' → dist2 r' p' < dist2 r' q) :
    demod c r = i ∧ demod c r' = i' :=
  ⟨demod_of_strict_nearest c r i p hi hmin, demod_of_strict_nearest c r' i' p' hi' hmin'⟩

/-- R15, setter: after ANY history, installing a table `t` — equal to, close to or far from the
    one in force — takes effect: the object holds `t` and the next demodulation is detection
    against `t`. -/
theorem setter_takes_effect_for_every_new_value [IsStrictOrderedRing α] (t₀ t : List (α × α)) (h : List (ModOp α))
    (r : α × α) :
    (modRun t₀ (h ++ [ModOp.setTable t, ModOp.demodulate r])).1 = t ∧
    (modRun t₀ (h ++ [ModOp.setTable t, ModOp.demodulate r])).2.getLast?
      = some (ModOut.index (demod t r)) := by
  have := demod_after_history t₀ (h ++ [ModOp.setTable t]) r
  rwa [currentTable_append, List.append_assoc] at this
end r15

/-- R15, lookup: with pairwise distinct points, two indexes are mapped to the same symbol only
    if they are the same index (`modulate` is an exact table lookup). -/
theorem lookup_exact {α : Type} (c : List (α × α)) (hnd : c.Nodup) (i j : Nat)
    (hi : i < c.length) (hj : j < c.length) (h : modulate c i = modulate c j) : i = j := by
  rw [modulate_in_range c i hi, modulate_in_range c j hj] at h
  exact (List.Nodup.getElem_inj_iff hnd).mp (Except.ok.inj h)

/-- R15, PSK table as a function of the exact phase offset: two offsets put point `k` at the
    same place exactly when they differ by a whole number of turns … -/
theorem psk_point_exact_in_offset (M k : Nat) (φ φ' : ℝ) :
    pskNaturalPoint M k φ = pskNaturalPoint (α := ℝ) M k φ' ↔ ∃ n : ℤ, φ - φ' = 2 * Real.pi * n :=
  (pskNaturalPoint_eq_iff M k k φ φ').trans (by rw [sub_self, mul_zero, zero_add])

/-- … so two distinct offsets less than a turn apart — 1e-9 apart, adjacent doubles — give
    tables that differ in EVERY entry. -/
theorem psk_close_offsets_differ (M k : Nat) (φ φ' : ℝ) (hne : φ ≠ φ')
    (hclose : |φ - φ'| < 2 * Real.pi) :
    pskNaturalPoint M k φ ≠ pskNaturalPoint (α := ℝ) M k φ' :=
  fun h => hne (psk_offset_inj M k hclose h)

/-- R15, BPSK: the sign detector has no dead zone around zero. -/
theorem bpsk_no_dead_zone {α : Type} [Field α] [LinearOrder α] [IsStrictOrderedRing α] (re : α) :
    (re < 0 → bpskDemod re = 1) ∧ (0 < re → bpskDemod re = 0) :=
  ⟨fun h => if_pos h, fun h => if_neg (lt_asymm h)⟩

/-! ## R16 — argument identity and buffer reuse (`Model/C01Alias.lean`) -/

section r16
variable {α : Type} [Add α] [Sub α] [Mul α] [LT α] [DecidableLT α]

/-- R16: for an object whose table it made itself (every BPSK / QPSK / PSK / QAM object), after
    ANY history of refills of the caller's arrays and of calls, the result of `demodulate(array b)`
    / `modulate(array b)` is computed from the table and the contents of the array at call time,
    and from nothing else (no identity, no memo, no retained buffer). -/
theorem call_depends_on_contents_only (s : AState α) (t : List (α × α)) (h₁ h₂ : List (AOp α))
    (b : Nat) (hs : s.table = .own t) (hk : ∀ op ∈ h₁, op.keepsTable = true) :
    (aOutputs s (h₁ ++ AOp.demodulate b :: h₂))[h₁.length]?
      = some (AOut.indexes (((aState s h₁).cbuf b).map (demod t))) ∧
    (aOutputs s (h₁ ++ AOp.modulate b :: h₂))[h₁.length]?
      = some (AOut.symbols (((aState s h₁).ibuf b).mapM (modulate t))) := by
  have ht := resolve_own _ t ((aState_table s h₁ hk).trans hs)
  constructor
  · rw [aOutputs_at, ← ht]; rfl
  · rw [aOutputs_at, ← ht]; rfl

/-- R16: the call made right after refilling array `b` with `v` gives what a freshly built
    object with the same table gives on a new array holding `v`. -/
theorem refilled_buffer_equals_fresh_object (s : AState α) (t : List (α × α))
    (h₁ h₂ : List (AOp α)) (b : Nat) (v : List (α × α)) (hs : s.table = .own t)
    (hk : ∀ op ∈ h₁, op.keepsTable = true) :
    (aOutputs s (h₁ ++ AOp.fillC b v :: AOp.demodulate b :: h₂))[h₁.length + 1]?
      = (aOutputs (freshObj t) [AOp.fillC 0 v, AOp.demodulate 0])[1]? := by
  have hl : (h₁ ++ [AOp.fillC b v]).length = h₁.length + 1 := List.length_append
  rw [List.append_cons, ← hl, aOutputs_at, aState_append]
  exact congrArg some ((fill_then_demodulate _ t ((aState_table s h₁ hk).trans hs) b v).trans
    (fill_then_demodulate (freshObj t) t rfl 0 v).symm)

/-- R16: results already returned are values; whatever the caller or the object does later
    (refills, further calls, new tables) leaves them as they were. -/
theorem earlier_results_unchanged_by_later_calls (s : AState α) (h h' : List (AOp α)) :
    (aOutputs s (h ++ h')).take h.length = aOutputs s h := by
  rw [aOutputs_append, List.take_left' (aOutputs_length s h)]
end r16

/-- R16, NEGATIVE witness on the model of the code that exists: `Modulator.setConstellation`
    keeps the caller's array (`self.symbols = symbols`), so refilling that array afterwards
    changes the decisions of the object although no method of the object was called in between
    (finding `C01:setConstellation-keeps-argument`; replayed on the real class by the oracle
    `alias`).  BPSK / QPSK / PSK / QAM never take this path (`call_depends_on_contents_only`). -/
theorem setConstellation_keeps_callers_array :
    aOutputs (freshObj ([] : List (Int × Int)))
      [AOp.fillC 0 [(1, 0), (-1, 0)], AOp.setConstellation 0, AOp.fillC 1 [(2, 0)],
       AOp.demodulate 1, AOp.fillC 0 [(-1, 0), (1, 0)], AOp.demodulate 1]
      = [AOut.none, AOut.none, AOut.none, AOut.indexes [0], AOut.none, AOut.indexes [1]] := by
  rfl

/-- R16, the proposed repair `self.symbols = np.array(symbols)`: the table is the contents of the
    caller's array at the time of the call; whatever the caller does to its arrays afterwards, and
    whatever is called, every later call is computed from that table. -/
theorem repaired_setConstellation_immune {α : Type} [Add α] [Sub α] [Mul α] [LT α] [DecidableLT α]
    (s : AState α) (b b' : Nat) (h₁ h₂ : List (AOp α)) (hk : ∀ op ∈ h₁, op.keepsTable = true) :
    (aOutputs s (AOp.setConstellationCopy b :: (h₁ ++ AOp.demodulate b' :: h₂)))[h₁.length + 1]?
      = some (AOut.indexes (((aState (aStep s (AOp.setConstellationCopy b)).1 h₁).cbuf b').map
          (demod (s.cbuf b)))) := by
  simp only [aOutputs, List.getElem?_cons_succ]
  exact (call_depends_on_contents_only (aStep s (AOp.setConstellationCopy b)).1 (s.cbuf b) h₁ h₂ b'
    rfl hk).1

/-- non-vacuity of the R15 / R16 statements: a strictly nearest point that wins by 2/10^12, and an
    own-table history with a refilled array -/
example : demod ([(1, 0), (-1, 0)] : List (ℚ × ℚ)) (1/10^12, 3) = 0 ∧
    demod ([(1, 0), (-1, 0)] : List (ℚ × ℚ)) (-1/10^12, 3) = 1 := by decide +kernel
example : (aOutputs (freshObj ([(1, 0), (-1, 0)] : List (Int × Int)))
      [AOp.fillC 0 [(2, 0)], AOp.demodulate 0, AOp.fillC 0 [(-2, 0)], AOp.demodulate 0])
    = [AOut.none, AOut.indexes [0], AOut.none, AOut.indexes [1]] := by rfl

/-- Tie to the source: the grid coordinates, the storage index (with the size equalities a vectorised
    construction of the grid needs), the average-energy
    expression and the PSK phase expression re-translated from `fundamental.py` on every run
    are the ones of the model the constellation theorems are about (BPSK literal = `[1,-1]`). -/
theorem generated_constellation_matches_model :
    (∀ (L ii jj : Nat), jj < L →
      qamGridPoint L (Int.toNat (Generated.C01.qamIndex L jj ii))
        = (Generated.C01.qamRe L jj ii, Generated.C01.qamIm L jj ii)) ∧
    (∀ (L : Nat), 1 ≤ L → Generated.C01.qamShapeOk (L : Int)) ∧
    (∀ (L : Nat), 1 ≤ L →
      Generated.C01.qamAvgEnergy (((L * L : Nat) : ℝ)) =
        (((L * L - 1 : Nat) : ℝ) * ((2 : Nat) : ℝ)) / ((3 : Nat) : ℝ)) ∧
    (∀ (M k : Nat) (φ : ℝ), pskNaturalPoint M k φ =
      (Real.cos (Generated.C01.pskPhase M k φ), Real.sin (Generated.C01.pskPhase M k φ))) ∧
    Generated.C01.bpskPoints = [1, -1] := by
  refine ⟨?_, ?_, ?_, ?_, rfl⟩
  · intro L ii jj hj
    have e : Generated.C01.qamIndex L jj ii = ((ii * L + jj : Nat) : Int) := by
      -- (`simp` absorbs whichever way the source spells the flat index)
      simp [Generated.C01.qamIndex]
    rw [e, Int.toNat_natCast]
    obtain ⟨hd, hm⟩ := mul_add_divMod (x := ii) hj
    -- (a vectorised source addresses the element through its flat index: `% L` is the column, `/ L` the row)
    have hmI : ((ii : Int) * (L : Int) + (jj : Int)) % (L : Int) = (jj : Int) := by exact_mod_cast hm
    have hdI : ((ii : Int) * (L : Int) + (jj : Int)) / (L : Int) = (ii : Int) := by exact_mod_cast hd
    simp only [qamGridPoint, hm, hd, Generated.C01.qamRe, Generated.C01.qamIm, Prod.mk.injEq, hmI, hdI]
    constructor <;> ring
  · -- the sizes a vectorised construction relies on (`True` for the explicit loops of the present source;
    -- `hL'` is there for `omega` on the integer sizes of a vectorised one)
    intro L hL
    have hL' : (1 : Int) ≤ (L : Int) := by exact_mod_cast hL
    unfold Generated.C01.qamShapeOk
    repeat' apply And.intro
    all_goals first | trivial | rfl | omega | ring
  · intro L hL
    have h1 : 1 ≤ L * L := Nat.mul_le_mul hL hL
    -- (`ring` absorbs a re-ordered spelling of the same product, e.g. `2.0 * (M - 1) / 3.0`)
    (simp only [Generated.C01.qamAvgEnergy]; rw [Nat.cast_sub h1]) <;> ring
  · intro M k φ
    simp only [pskNaturalPoint, Generated.C01.pskPhase, Trig.cos, Trig.sin, Trig.pi]

/-- non-vacuity of the detection theorems: a two-point constellation over ℚ -/
example : demod ([(1, 0), (-1, 0)] : List (ℚ × ℚ)) (-3/10, 7) = 1 := by decide +kernel

/-- **Maximum-likelihood detection under AWGN** (the parenthesis of the property): for every table, every
    sample and every noise level `σ > 0`, the point `demod` returns maximises the AWGN likelihood
    `exp(−|r − p|²/2σ²)/(2πσ²)` over the table (the likelihood is a decreasing function of the
    squared distance: `awgnLik_anti`, from the strict `awgnLik_strict`). -/
theorem demod_is_maximum_likelihood (c : List (ℝ × ℝ)) (hc : c ≠ []) (r : ℝ × ℝ) {σ : ℝ} (hσ : 0 < σ) :
    ∃ p, c[demod c r]? = some p ∧ ∀ q ∈ c, awgnLik σ r q ≤ awgnLik σ r p := by
  obtain ⟨p, hp, hall⟩ := demod_nearest' c hc r
  exact ⟨p, hp, fun q hq =>
    let ⟨j, hj⟩ := List.getElem?_of_mem hq
    awgnLik_anti hσ r p q (hall j q hj).1⟩

end PyPhysim.C01
