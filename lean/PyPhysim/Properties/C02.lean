import PyPhysim.Proofs.C02Gen
import PyPhysim.Proofs.C02Complex
import PyPhysim.Proofs.C02Pair
import PyPhysim.Proofs.C02Eq

/-!
# C02 — OFDM round trip, cyclic prefix, guard bands, one-tap equalisation

Property theorems only.  The model is `PyPhysim.Model.C02`; the index functions
`set_parameters`, `_calc_zeropad`, `get_used_subcarrier_indexes` are additionally
*regenerated from the source* (`Generated/OfdmIndex.lean`) and proved equal to the
model's normal forms (`gen_*` theorems below); `_calculate_power_scale` is regenerated
too and proved positive (the property does not depend on its value: the model takes
the scale as a parameter `s ≠ 0`).  Everything else is tied to `ofdm.py` /
`fading.py` by the correspondence of `harness/props/c02.py`.  `np.fft` is an external kernel:
theorems are stated for any kernel pair satisfying `KernelPair` and for the
textbook transforms `dft` / `idft`.  Binary64 rounding is outside the theorems.

The labels R1 … R16 on theorems are the input classes of `/verif/DESIGN.md` (tables of §9.2b and §9.2d):
R4 a call that raises leaves the object unchanged, R15 distinct values that are merely close, R16 argument
identity and buffer reuse, and so on.
-/
-- the sections below declare the operations of the sample type (`[Zero α] [Add α] [Mul α] [Div α] [NatCast α]`);
-- a theorem that only moves samples around does not use all of them
set_option linter.unusedSectionVars false
namespace PyPhysim.C02
open PyPhysim.Proto

/-- `set_parameters` accepts exactly the triples with `0 ≤ cp ≤ fft`, `used` even and
    `2 ≤ used ≤ fft` (`used = None` meaning `fft`), stores them unchanged, and raises
    `ValueError` for everything else. -/
theorem params_guard_iff (fft cp : Int) (used : Option Int) :
    (ValidInt fft cp (used.getD fft) ∧
      setParameters fft cp used = .ok ⟨fft.toNat, cp.toNat, (used.getD fft).toNat⟩) ∨
    (¬ ValidInt fft cp (used.getD fft) ∧ setParameters fft cp used = .error .ValueError) := by
  by_cases h : ValidInt fft cp (used.getD fft)
  · exact .inl ⟨h, setParameters_ok h⟩
  · exact .inr ⟨h, setParameters_error h⟩

/-- every valid configuration can be set. -/
theorem params_valid_accepted (p : Params) (h : p.Valid) :
    setParameters p.fft p.cp (some p.used) = .ok p := by
  obtain ⟨h1, h2, h3, h4⟩ := h
  exact setParameters_ok (used := some p.used) ⟨Int.natCast_nonneg _, Int.ofNat_le.mpr h1, Int.ofNat_le.mpr h2,
    (Int.natCast_emod p.used 2).symm.trans (congrArg Nat.cast h3), Int.ofNat_le.mpr h4⟩

/-- For every history of `set_parameters` calls on an object the stored configuration
    stays valid; a rejected call changes nothing. -/
theorem params_history_valid (s : Params) (hs : s.Valid) (ops : List (Int × Int × Option Int)) :
    (run s ops).Valid := run_valid s hs ops

/-- … and each single call either stores exactly its (valid) arguments or raises `ValueError`
    leaving the object as it was. -/
theorem params_step_spec (s : Params) (op : Int × Int × Option Int) :
    (ValidInt op.1 op.2.1 (op.2.2.getD op.1) ∧
      step s op = (⟨op.1.toNat, op.2.1.toNat, (op.2.2.getD op.1).toNat⟩, none)) ∨
    (¬ ValidInt op.1 op.2.1 (op.2.2.getD op.1) ∧ step s op = (s, some .ValueError)) :=
  (params_guard_iff op.1 op.2.1 op.2.2).imp (fun h => ⟨h.1, by rw [step, h.2]⟩)
    (fun h => ⟨h.1, by rw [step, h.2]⟩)

/-! ## the source functions as written are the model's normal forms (`gen_*`, `scale_positive`) -/

/-- `OFDM.set_parameters` as written in `ofdm.py` is the model's guard ladder. -/
theorem gen_set_parameters (fft cp : Int) (u : Option Int) :
    (Generated.C02.set_parameters fft cp u).map
        (fun t => (⟨t.1.toNat, t.2.1.toNat, t.2.2.toNat⟩ : Params)) = setParameters fft cp u := by
  unfold Generated.C02.set_parameters setParameters
  -- the same ladder on both sides: push the conversion of the stored triple through the `if`s
  simp only [Int.fmod_eq_emod_of_nonneg _ (by decide : (0:Int) ≤ 2), apply_ite (Except.map _)]
  rfl

/-- `OFDM.get_used_subcarrier_indexes` as written in `ofdm.py` (arange / fftshift / r_ / hstack /
    slices) computes the normal form `usedIdx` for every valid configuration. -/
theorem gen_usedIdx (p : Params) (hp : p.Valid) :
    Generated.C02.get_used_subcarrier_indexes (p.fft : Int) (p.used : Int)
      = (usedIdx p.fft p.used).map Int.ofNat := by
  rw [← hp.half]
  exact gen_usedIdx_nat p.fft (p.used / 2) (Nat.le_trans (Nat.le_of_eq hp.half) hp.2.1)

/-- `OFDM._calc_zeropad` as written in `ofdm.py` (float ceiling read as exact) is the model's
    `(zeropad, numSymbols)`. -/
theorem gen_calc_zeropad (p : Params) (hp : p.Valid) (n : Nat) :
    Generated.C02.calc_zeropad (p.used : Int) (n : Int)
      = (((zeropad p n : Nat) : Int), ((numSymbols p n : Nat) : Int)) := by
  -- neither natural subtraction of the model truncates: `n ≤ used·⌈n/used⌉` and `1 ≤ n + used`; so the casts
  -- distribute over `used·⌈n/used⌉ - n` and `(n + used - 1)/used`, and what they leave is the source text
  -- (the translator emits the two factors in a fixed order, whichever way the source writes them)
  rw [zeropad, numSymbols, Int.natCast_sub (ceilDiv_spec n p.used hp.used_pos).1, Int.natCast_mul, Int.mul_comm,
    ceilDiv, Int.natCast_ediv, Int.natCast_sub (Nat.le_add_left_of_le hp.used_pos), Int.natCast_add]
  rfl

/-- `OFDM._calculate_power_scale` as written in `ofdm.py` is a positive real number for every valid
    configuration (so `math.sqrt` of it is defined and non-zero; nothing else about the scale matters
    for the property, the two factors cancel). -/
theorem scale_positive (p : Params) (hp : p.Valid) :
    0 < Generated.C02.calculate_power_scale (α := ℝ) p.fft p.cp p.used := by
  have h1 : (0 : ℝ) < (p.fft : ℝ) := Nat.cast_pos.mpr hp.fft_pos
  exact div_pos (mul_pos h1 h1) (add_pos_of_pos_of_nonneg (Nat.cast_pos.mpr hp.used_pos) (Nat.cast_nonneg _))

/-! ## the clauses of the property: index set, padding, round trip, channel, equaliser, the object pair -/

/-- The used-subcarrier index list has `used` pairwise distinct entries, all valid positions of
    an FFT row. -/
theorem usedIdx_spec (p : Params) (hp : p.Valid) :
    (usedIdx p.fft p.used).length = p.used ∧ (usedIdx p.fft p.used).Nodup ∧
      ∀ i ∈ usedIdx p.fft p.used, i < p.fft :=
  ⟨usedIdx_length hp.2.2.1, usedIdx_nodup p hp, usedIdx_lt p hp⟩

/-- With fewer used subcarriers than the FFT size, bin `j` is used iff its signed subcarrier number
    lies in `{1,…,h} ∪ {-h,…,-1}`, `h = used/2`: DC (bin 0) and the outer band
    `h < j < fft - h` are exactly the unused bins. -/
theorem usedIdx_complement (p : Params) (hp : p.Valid) (hlt : p.used < p.fft) (j : Nat) (hj : j < p.fft) :
    j ∉ usedIdx p.fft p.used ↔ j = 0 ∨ (p.used / 2 < j ∧ j < p.fft - p.used / 2) := by
  constructor
  · intro hn
    rw [mem_usedIdx_of_lt p hp hlt] at hn
    by_cases j0 : j = 0
    · exact .inl j0
    · exact .inr ⟨Nat.not_le.mp fun hle => hn (.inl ⟨Nat.pos_of_ne_zero j0, hle⟩),
        Nat.not_le.mp fun hge => hn (.inr ⟨hge, hj⟩)⟩
  · rintro (rfl | ⟨h1, h2⟩)
    · exact zero_not_mem_usedIdx p hp hlt
    · rw [mem_usedIdx_of_lt p hp hlt]
      rintro (⟨-, b⟩ | ⟨a, -⟩)
      · exact Nat.lt_irrefl _ (Nat.lt_of_lt_of_le h1 b)
      · exact Nat.lt_irrefl _ (Nat.lt_of_lt_of_le h2 a)

/-- With every subcarrier used the index list is a permutation of all bins. -/
theorem usedIdx_all (p : Params) (hp : p.Valid) (heq : p.used = p.fft) (j : Nat) :
    j ∈ usedIdx p.fft p.used ↔ j < p.fft := by
  have hle : p.used / 2 ≤ p.fft := Nat.le_trans (Nat.div_le_self _ _) hp.2.1
  rw [mem_usedIdx, if_pos heq, Nat.sub_add_cancel hle, Nat.zero_add]
  constructor
  · rintro (⟨-, h⟩ | ⟨-, h⟩)
    · exact h
    · exact Nat.lt_of_lt_of_le h hle
  · intro hj
    -- the two bands `[0, h)` and `[fft - h, fft)` meet, since `fft = h + h`
    by_cases hjh : j < p.used / 2
    · exact .inr ⟨Nat.zero_le j, hjh⟩
    · exact .inl ⟨Nat.sub_le_iff_le_add.mpr (Nat.le_trans
        (Nat.le_of_eq (heq.symm.trans (hp.half.symm.trans (Nat.two_mul _))))
        (Nat.add_le_add_right (Nat.not_lt.mp hjh) _)), hj⟩

/-- Zero padding: the padded length is `used · ⌈n/used⌉`, the least multiple of `used` that is
    `≥ n` (fewer than `used` zeros are added). -/
theorem zeropad_minimal (p : Params) (hp : p.Valid) (n : Nat) :
    n + zeropad p n = p.used * numSymbols p n ∧ zeropad p n < p.used := zeropad_spec p hp n

section emitted
variable {α : Type} [Zero α] [Add α] [Mul α] [Div α]

/-- **Length**: the emitted signal has `(fft + cp)` samples per OFDM symbol and `⌈n/used⌉` symbols
    (any kernel returning `fft` values). -/
theorem modulate_length (ifftK : Nat → List α → List α) (s : α) (p : Params) (hp : p.Valid)
    (hk : ∀ v, (ifftK p.fft v).length = p.fft) (x : List α) :
    (modulate ifftK s p x).length = numSymbols p x.length * (p.fft + p.cp) :=
  modulate_length' ifftK s p hp hk x

/-- **Cyclic prefix**: in every emitted OFDM symbol `r`, prefix sample `i < cp` exists and is an
    exact copy of sample `fft + i` of the same symbol (the symbol tail). -/
theorem cp_is_tail_copy (ifftK : Nat → List α → List α) (s : α) (p : Params) (hp : p.Valid)
    (hk : ∀ v, (ifftK p.fft v).length = p.fft) (x : List α) (r i : Nat)
    (hr : r < numSymbols p x.length) (hi : i < p.cp) :
    (modulate ifftK s p x)[r * (p.fft + p.cp) + i]?
      = (modulate ifftK s p x)[r * (p.fft + p.cp) + (p.fft + i)]? ∧
    (modulate ifftK s p x)[r * (p.fft + p.cp) + i]? ≠ none := by
  have hrow := blocks_row_length ifftK s p hp hk x
  have hcp : p.cp ≤ p.fft := hp.1
  have hrb : r < (blocks ifftK s p x).length := by rw [blocks_length]; exact hr
  -- both samples lie in block `r`, a body of `fft` samples behind its prefix
  obtain ⟨X, -, hb⟩ := List.mem_map.mp (List.getElem_mem hrb)
  have ht : ((ifftK p.fft X).map (fun v => s * v)).length = p.fft := by rw [List.length_map, hk]
  rw [modulate_eq_flatten, getElem?_flatten_uniform _ _ hrow r i (Nat.lt_add_left _ hi),
    getElem?_flatten_uniform _ _ hrow r (p.fft + i) (Nat.add_lt_add_left hi _), List.getElem?_eq_getElem hrb,
    ← hb, Option.bind_some, Option.bind_some, getElem?_addCP _ _ (by rw [ht]; exact hcp),
    getElem?_addCP _ _ (by rw [ht]; exact hcp), if_pos hi,
    if_neg (Nat.not_lt.mpr (hcp.trans (Nat.le_add_right _ _))), ht, Nat.sub_add_comm hcp]
  exact ⟨rfl, by
    rw [ne_eq, List.getElem?_eq_none_iff, ht, Nat.not_le]
    exact Nat.lt_of_lt_of_le (Nat.add_lt_add_left hi _) (Nat.le_of_eq (Nat.sub_add_cancel hcp))⟩

/-- **Guard carriers (IFFT input)**: every IFFT input row is `0` at DC and on the outer band
    whenever fewer subcarriers than the FFT size are used. -/
theorem guard_carriers_zero (p : Params) (hp : p.Valid) (hlt : p.used < p.fft) (x X : List α)
    (hX : X ∈ prepare p x) (j : Nat) (hj : j < p.fft)
    (hg : j = 0 ∨ (p.used / 2 < j ∧ j < p.fft - p.used / 2)) : X[j]? = some 0 :=
  prepare_zero_off_used p x X hX j hj ((usedIdx_complement p hp hlt j hj).mpr hg)

end emitted

/-- The textbook transforms over any field with a primitive `N`-th root of unity `ω`
    (`fft(a)[k] = Σ a[m]·ω^{mk}`, `ifft(a)[m] = (1/N)·Σ a[k]·ω^{-mk}`) satisfy the kernel contract:
    `N` values out, `fft(ifft v) = v` (DFT inversion from orthogonality of the characters) and
    homogeneity. `np.fft` is checked against these definitions numerically by the harness. -/
theorem dft_contract {K : Type} [Field K] (ω : K) (N : ℕ) (hω : IsPrimitiveRoot ω N) (hN : (N : K) ≠ 0) :
    KernelPair N (fun n a => dft (fun m => ω ^ m) n a) (fun n a => idft (fun m => ω⁻¹ ^ m) n a) where
  len_inv v := idft_length _ _ v
  len_fwd v := dft_length _ _ v
  inv v hv := dft_idft ω N hω hN v hv
  homog c v _ := dft_homog _ N c v

/-- numpy's twiddle factor `exp(-2πi/N)` is a primitive `N`-th root of unity in ℂ, so the contract
    holds for the complex DFT of every size. -/
theorem dft_contract_complex (N : ℕ) (hN : N ≠ 0) :
    KernelPair N (fun n a => dft (fun m => npOmega N ^ m) n a)
      (fun n a => idft (fun m => (npOmega N)⁻¹ ^ m) n a) :=
  dft_contract (npOmega N) N (npOmega_primitive N hN) (Nat.cast_ne_zero.mpr hN)

/-- The symmetric scale `√(_calculate_power_scale())` applied by `modulate` and removed by
    `demodulate` is a non-zero number for every valid configuration. -/
theorem scale_ne_zero (p : Params) (hp : p.Valid) :
    ((Real.sqrt (codeScale p) : ℝ) : ℂ) ≠ 0 :=
  -- `codeScale p` unfolds to the expression `scale_positive` is about
  Complex.ofReal_ne_zero.mpr (Real.sqrt_pos.mpr (scale_positive p hp)).ne'

/-- **Guard carriers (emitted signal)**: whenever fewer subcarriers than the FFT size are used, the
    transform of the body (the `fft` samples after the prefix) of every emitted OFDM symbol is `0` at
    DC and on the outer band — those subcarriers carry no energy. Any kernel pair with the contract. -/
theorem guard_bins_silent {K : Type} [Field K] (p : Params) (hp : p.Valid) (hlt : p.used < p.fft)
    (F Finv : ℕ → List K → List K) (hK : KernelPair p.fft F Finv) (s : K) (x b : List K)
    (hb : b ∈ rows (p.fft + p.cp) (numSymbols p x.length) (modulate Finv s p x))
    (j : ℕ) (hj : j < p.fft) (hg : j = 0 ∨ (p.used / 2 < j ∧ j < p.fft - p.used / 2)) :
    (F p.fft (b.drop p.cp))[j]? = some 0 := by
  -- the transform of the body of `b` is a scaled IFFT input row `X`, and `s · 0 = 0`
  have hmem := List.mem_map_of_mem (f := fun b => F p.fft (b.drop p.cp)) hb
  rw [emitted_spectrum p hp F Finv hK s x] at hmem
  obtain ⟨X, hX, hXe⟩ := List.mem_map.mp hmem
  rw [← hXe, List.getElem?_map,
    guard_carriers_zero p hp hlt x X hX j hj hg, Option.map_some, mul_zero]

/-- **Round trip**: for every valid configuration, every input length, every kernel pair
    satisfying the contract (`fft(ifft v) = v`, homogeneity, `fft` values out) and every
    non-zero scale, demodulating the modulated signal returns the input followed only by
    the `zeropad` zeros. -/
theorem ofdm_roundtrip {K : Type} [Field K] (p : Params) (hp : p.Valid)
    (F Finv : Nat → List K → List K) (hK : KernelPair p.fft F Finv) (s : K) (hs : s ≠ 0)
    (x : List K) :
    demodulate F s p (modulate Finv s p x) = .ok (x ++ List.replicate (zeropad p x.length) 0) := by
  rw [demodulate_eq F s p hp hK.len_fwd _ _ (modulate_length' Finv s p hp hK.len_inv x),
    emitted_spectrum p hp F Finv hK s x, List.map_map, ← unprepare_prepare p hp x,
    unprepare_eq p hp _ (prepare_row_length p x)]
  -- the two scale factors cancel
  exact congrArg (fun l => Except.ok (List.flatten l)) (List.map_congr_left fun X _ =>
    List.map_congr_left fun u _ => getD_scaled_div s hs X u)

/-- a received block whose length is not a multiple of `fft + cp` is rejected -/
theorem demodulate_rejects_bad_length {α : Type} [Zero α] [Add α] [Mul α] [Div α]
    (fftK : Nat → List α → List α) (s : α) (p : Params) (hp : p.Valid) (y : List α)
    (h : y.length % (p.fft + p.cp) ≠ 0) : demodulate fftK s p y = .error .ValueError := by
  unfold demodulate removeCP
  simp only
  rw [if_neg hp.width_ne_zero, if_pos]
  intro e
  apply h
  rw [← e]
  exact Nat.mul_mod_left _ _

/-- **Round trip with numpy's DFT and the code's scale**: the instance of `ofdm_roundtrip` at ℂ with
    twiddle `exp(-2πi/fft)` and scale `√(fft²/(used+cp))`. -/
theorem ofdm_roundtrip_complex (p : Params) (hp : p.Valid) (x : List ℂ) :
    demodulate (fun n a => dft (fun m => npOmega p.fft ^ m) n a)
        ((Real.sqrt (codeScale p) : ℝ) : ℂ) p
        (modulate (fun n a => idft (fun m => (npOmega p.fft)⁻¹ ^ m) n a)
          ((Real.sqrt (codeScale p) : ℝ) : ℂ) p x)
      = .ok (x ++ List.replicate (zeropad p x.length) 0) :=
  ofdm_roundtrip p hp _ _ (dft_contract_complex p.fft (Nat.ne_of_gt hp.fft_pos)) _
    (scale_ne_zero p hp) x

section channel
variable {K : Type} [Field K]

/-- **The cyclic prefix makes the convolution circular**: send symbol bodies `t_0,…` (each `N`
    samples, prefixed with `C ≤ N` samples) through a time-invariant TDL channel with taps
    `(d_i, g_i)` whose memory `M = max d_i` does not exceed `C`. Then sample `n` of the FFT window of
    symbol `r` in the channel output is `Σ_i g_i · t_r[(n - d_i) mod N]`: a circular convolution
    of symbol `r` alone, free of inter-symbol interference. -/
theorem cp_makes_circular (N C : ℕ) (hC : C ≤ N) (ts : List (List K))
    (hts : ∀ t ∈ ts, t.length = N) (delays : List ℕ) (gains : List K) (M : ℕ)
    (hM : delays.getLast? = some M) (hd : ∀ d ∈ delays, d ≤ M) (hMC : M ≤ C) (z : List K)
    (hz : corrupt (staticIR delays gains ((ts.map (addCP C)).flatten).length)
        ((ts.map (addCP C)).flatten) = .ok z)
    (r n : ℕ) (hr : r < ts.length) (hn : n < N) :
    z.getD (r * (N + C) + C + n) 0
      = ((delays.zip gains).map (fun dg => dg.2 * (ts.getD r []).getD ((n + N - dg.1) % N) 0)).sum :=
  cp_makes_circular' N C hC ts hts delays gains M hM hd hMC z hz r hr n hn

/-- **Convolution theorem** for that circular convolution: its DFT at bin `k` is
    `H[k] · DFT(t)[k]` with `H[k] = Σ_i g_i ω^{d_i k}` (any `ω` with `ω^N = 1`, delays `≤ N`). -/
theorem dft_circular_convolution (ω : K) (N : ℕ) (hω : ω ^ N = 1) (f : ℕ → K) (delays : List ℕ)
    (gains : List K) (hd : ∀ d ∈ delays, d ≤ N) (k : ℕ) :
    ∑ n ∈ Finset.range N,
        ((delays.zip gains).map (fun dg => dg.2 * f ((n + N - dg.1) % N))).sum * ω ^ (n * k)
      = Hs ω delays gains k * ∑ m ∈ Finset.range N, f m * ω ^ (m * k) :=
  dft_circ ω N hω f (delays.zip gains) (fun dv hdv => hd dv.1 (List.of_mem_zip hdv).1) k

/-- **The reported frequency response** `get_freq_response(fft)` of a time-invariant impulse response
    is `H` at every sample, provided all taps fit into the transform (`memory < fft`): the `fft`-point
    transform of the dense, zero-padded tap vector. -/
theorem freq_response_static (ω : K) (N : ℕ) (delays : List ℕ) (gains : List K) (ns M : ℕ)
    (hM : delays.getLast? = some M) (hd : ∀ d ∈ delays, d ≤ M) (hnd : delays.Nodup) (hMN : M < N)
    (j : ℕ) (hj : j < ns) :
    freqResponse (fun n a => dft (fun m => ω ^ m) n a) N (staticIR delays gains ns) j
      = .ok ((List.range N).map (Hs ω delays gains)) :=
  freqResponse_static _ ω N (fun _ => rfl) delays gains ns M hM hd hnd hMN j hj

/-- The full one-tap clause of the property over a field `K`: for every valid configuration, every
    primitive `fft`-th root of unity, every non-zero scale, every time-invariant tap profile
    (distinct delays, last delay = memory) with memory `≤ cp` whose frequency response does not
    vanish on a used carrier, and every input, modulate → channel → keep `len(tx)` samples →
    demodulate → one-tap equalise with the reported impulse response returns the input followed
    only by the zero padding. -/
def OneTapStatement (K : Type) [Field K] : Prop :=
  ∀ (p : Params), p.Valid → ∀ (ω : K), IsPrimitiveRoot ω p.fft → ∀ (s : K), s ≠ 0 →
  ∀ (delays : List ℕ) (gains : List K) (M : ℕ), delays.getLast? = some M → (∀ d ∈ delays, d ≤ M) →
    delays.Nodup → M ≤ p.cp → (∀ k ∈ usedIdx p.fft p.used, Hs ω delays gains k ≠ 0) →
  ∀ (x : List K),
    oneTapReceive (fun n a => dft (fun m => ω ^ m) n a) s p
        (staticIR delays gains (modulate (fun n a => idft (fun m => ω⁻¹ ^ m) n a) s p x).length)
        (modulate (fun n a => idft (fun m => ω⁻¹ ^ m) n a) s p x)
      = .ok (x ++ List.replicate (zeropad p x.length) 0)

/-- **One-tap equalisation is exact** (`one_tap_exact_partial` of the design): the statement above
    under the one extra hypothesis `memory < fft` (only the corner
    `memory = cp = fft` is excluded, see `one_tap_fails_at_full_memory`). Characteristic-zero field
    (the mean over the samples of a symbol divides by their number). -/
theorem one_tap_exact [CharZero K] (p : Params) (hp : p.Valid) (ω : K) (hω : IsPrimitiveRoot ω p.fft)
    (s : K) (hs : s ≠ 0) (delays : List ℕ) (gains : List K) (M : ℕ)
    (hM : delays.getLast? = some M) (hd : ∀ d ∈ delays, d ≤ M) (hnd : delays.Nodup)
    (hMC : M ≤ p.cp) (hMN : M < p.fft)
    (hH : ∀ k ∈ usedIdx p.fft p.used, Hs ω delays gains k ≠ 0) (x : List K) :
    oneTapReceive (fun n a => dft (fun m => ω ^ m) n a) s p
        (staticIR delays gains (modulate (fun n a => idft (fun m => ω⁻¹ ^ m) n a) s p x).length)
        (modulate (fun n a => idft (fun m => ω⁻¹ ^ m) n a) s p x)
      = .ok (x ++ List.replicate (zeropad p x.length) 0) := by
  obtain ⟨z, D, hz, hD, hE⟩ := one_tap_steps _ _ ω p hp
    (dft_contract ω p.fft hω (Nat.cast_ne_zero.mpr (Nat.ne_of_gt hp.fft_pos))) hω.pow_eq_one
    (fun _ => rfl) s hs delays gains M hM hd hMC x hnd hMN hH
  simp only [oneTapReceive, hz, hD]
  exact hE

end channel

/-- `one_tap_exact` at ℂ with numpy's twiddle `exp(-2πi/fft)` and the code's scale. -/
theorem one_tap_exact_complex (p : Params) (hp : p.Valid) (delays : List ℕ) (gains : List ℂ) (M : ℕ)
    (hM : delays.getLast? = some M) (hd : ∀ d ∈ delays, d ≤ M) (hnd : delays.Nodup)
    (hMC : M ≤ p.cp) (hMN : M < p.fft)
    (hH : ∀ k ∈ usedIdx p.fft p.used, Hs (npOmega p.fft) delays gains k ≠ 0) (x : List ℂ) :
    oneTapReceive (fun n a => dft (fun m => npOmega p.fft ^ m) n a)
        ((Real.sqrt (codeScale p) : ℝ) : ℂ) p
        (staticIR delays gains (modulate (fun n a => idft (fun m => (npOmega p.fft)⁻¹ ^ m) n a)
          ((Real.sqrt (codeScale p) : ℝ) : ℂ) p x).length)
        (modulate (fun n a => idft (fun m => (npOmega p.fft)⁻¹ ^ m) n a)
          ((Real.sqrt (codeScale p) : ℝ) : ℂ) p x)
      = .ok (x ++ List.replicate (zeropad p x.length) 0) :=
  one_tap_exact p hp (npOmega p.fft) (npOmega_primitive p.fft (Nat.ne_of_gt hp.fft_pos)) _
    (scale_ne_zero p hp) delays gains M hM hd hnd hMC hMN hH x

section pair
variable {α : Type} [Zero α] [Add α] [Mul α] [Div α] [NatCast α]

/-- **Configuration after a history**: whatever operations (`set_parameters` accepted or rejected,
    `modulate`, `demodulate`, `equalize_data`) were interleaved on the pair, the shared OFDM object holds
    the result of its `set_parameters` calls alone (the last accepted triple), and it is valid. -/
theorem pair_history_config (F Finv : ℕ → List α → List α) (sc : Params → α) (s : Pair)
    (hs : s.ofdm.Valid) (ops : List (PairOp α)) :
    (runPair F Finv sc s ops).1.ofdm = run s.ofdm (setOps ops) ∧
      (runPair F Finv sc s ops).1.ofdm.Valid :=
  ⟨runPair_ofdm F Finv sc s ops, runPair_valid F Finv sc s hs ops⟩

/-- **No stale derived state**: after ANY history, every operation on the long-lived pair — in
    particular `equalize_data` on the long-lived equaliser — returns exactly what the same operation
    returns on a freshly built `(OFDM, OfdmOneTapEqualizer)` pair with the current configuration: the
    equaliser holds a reference to the OFDM object and no copy of anything derived from it.
    (That the code has this shape is what the history correspondence of the harness checks.) -/
theorem pair_equals_fresh (F Finv : ℕ → List α → List α) (sc : Params → α) (s : Pair)
    (ops : List (PairOp α)) (op : PairOp α) :
    (stepPair F Finv sc (runPair F Finv sc s ops).1 op).2
      = (stepPair F Finv sc (freshPair (runPair F Finv sc s ops).1.ofdm) op).2 := rfl

/-- only an accepted `set_parameters` changes the pair. -/
theorem pair_step_state (F Finv : ℕ → List α → List α) (sc : Params → α) (s : Pair) (op : PairOp α) :
    (stepPair F Finv sc s op).1 = s ∨
      ∃ f c u p, op = .setParams f c u ∧ setParameters f c u = .ok p ∧
        (stepPair F Finv sc s op).1 = ⟨p⟩ := by
  cases op with
  | setParams f c u =>
    cases h : setParameters f c u with
    | error e => exact .inl (by rw [stepPair_set_error F Finv sc s h])
    | ok p => exact .inr ⟨f, c, u, p, rfl, h, by rw [stepPair_set_ok F Finv sc s h]⟩
  | _ => exact .inl rfl

end pair

/-- **Round trip after any history** of reconfigurations and uses of the one OFDM object. -/
theorem pair_roundtrip_after_history {K : Type} [Field K] (F Finv : ℕ → List K → List K)
    (sc : Params → K) (s : Pair) (hs : s.ofdm.Valid) (ops : List (PairOp K))
    (hK : KernelPair (runPair F Finv sc s ops).1.ofdm.fft F Finv)
    (hsc : sc (runPair F Finv sc s ops).1.ofdm ≠ 0) (x : List K) :
    ∃ tx, (stepPair F Finv sc (runPair F Finv sc s ops).1 (.modulate x)).2 = .ok tx ∧
      (stepPair F Finv sc (runPair F Finv sc s ops).1 (.demodulate tx)).2
        = .ok (x ++ List.replicate (zeropad (runPair F Finv sc s ops).1.ofdm x.length) 0) :=
  ⟨_, rfl, ofdm_roundtrip _ (runPair_valid F Finv sc s hs ops) F Finv hK _ hsc x⟩

/-- **One-tap equalisation after any history**: reconfigure the OFDM object any number of times
    (growing / shrinking fft, changing cp and used, rejected calls in between, earlier transmissions),
    then modulate, pass a time-invariant channel with memory `≤ cp`, `< fft` of the CURRENT
    configuration `p`, demodulate and equalise with the equaliser built before the history: the input
    comes back followed only by the zero padding. `Ω n` is the twiddle used at transform size `n`. -/
theorem pair_one_tap_after_history {K : Type} [Field K] [CharZero K] (Ω : ℕ → K) (sc : Params → K)
    (s : Pair) (hs : s.ofdm.Valid) (ops : List (PairOp K)) (p : Params)
    (hp : p = (runPair (fun n a => dft (fun m => Ω n ^ m) n a)
      (fun n a => idft (fun m => (Ω n)⁻¹ ^ m) n a) sc s ops).1.ofdm)
    (hΩ : IsPrimitiveRoot (Ω p.fft) p.fft) (hsc : sc p ≠ 0)
    (delays : List ℕ) (gains : List K) (M : ℕ) (hM : delays.getLast? = some M)
    (hd : ∀ d ∈ delays, d ≤ M) (hnd : delays.Nodup) (hMC : M ≤ p.cp) (hMN : M < p.fft)
    (hH : ∀ k ∈ usedIdx p.fft p.used, Hs (Ω p.fft) delays gains k ≠ 0) (x : List K) :
    ∃ tx z d,
      (stepPair (fun n a => dft (fun m => Ω n ^ m) n a) (fun n a => idft (fun m => (Ω n)⁻¹ ^ m) n a) sc
          (runPair (fun n a => dft (fun m => Ω n ^ m) n a)
            (fun n a => idft (fun m => (Ω n)⁻¹ ^ m) n a) sc s ops).1 (.modulate x)).2 = .ok tx ∧
      corrupt (staticIR delays gains tx.length) tx = .ok z ∧
      (stepPair (fun n a => dft (fun m => Ω n ^ m) n a) (fun n a => idft (fun m => (Ω n)⁻¹ ^ m) n a) sc
          (runPair (fun n a => dft (fun m => Ω n ^ m) n a)
            (fun n a => idft (fun m => (Ω n)⁻¹ ^ m) n a) sc s ops).1
          (.demodulate (z.take tx.length))).2 = .ok d ∧
      (stepPair (fun n a => dft (fun m => Ω n ^ m) n a) (fun n a => idft (fun m => (Ω n)⁻¹ ^ m) n a) sc
          (runPair (fun n a => dft (fun m => Ω n ^ m) n a)
            (fun n a => idft (fun m => (Ω n)⁻¹ ^ m) n a) sc s ops).1
          (.equalize d (staticIR delays gains tx.length))).2
        = .ok (x ++ List.replicate (zeropad p x.length) 0) := by
  have hpv : p.Valid := hp ▸ runPair_valid _ _ sc s hs ops
  subst hp
  -- at the size in force the kernels of the pair are the textbook transforms for the root `Ω fft`
  have hK := (dft_contract _ _ hΩ (Nat.cast_ne_zero.mpr (Nat.ne_of_gt hpv.fft_pos))).congr
    (F' := fun n a => dft (fun m => Ω n ^ m) n a) (Finv' := fun n a => idft (fun m => (Ω n)⁻¹ ^ m) n a)
    (fun _ => rfl) (fun _ => rfl)
  obtain ⟨z, D, hz, hD, hE⟩ := one_tap_steps _ _ _ _ hpv hK hΩ.pow_eq_one (fun _ => rfl) _ hsc delays gains M
    hM hd hMC x hnd hMN hH
  -- `stepPair` on `.modulate`, `.demodulate`, `.equalize` returns, by definition, what the operation returns
  exact ⟨_, z, D, rfl, hz, hD, hE⟩

/-- a history over ℚ with a rejected call in the middle: from `(2,1,2)`, `set_parameters(4, 5)` is rejected
    and leaves `(2,1,2)`, then `set_parameters(2, 2, 2)` is accepted; the resulting configuration -/
example : (runPair (α := ℚ) (fun _ a => a) (fun _ a => a) (fun _ => 1) (freshPair ⟨2, 1, 2⟩)
    [.modulate [1, 2], .setParams 4 5 none, .setParams 2 2 (some 2)]).1.ofdm = ⟨2, 2, 2⟩ := by
  decide +kernel

/-- **A call that raises changes nothing** (R4): whichever operation of the pair reports an exception —
    a rejected `set_parameters`, a `demodulate` of a wrong-length stream, an `equalize_data` of badly
    shaped data — the pair is exactly as before; together with `pair_equals_fresh` the continued history
    is that of an object which never saw the rejected call. (That outputs are fresh values and depend on
    the logical values only — not on dtype or memory layout — is built into the model: its functions are
    pure functions on lists of scalars; the harness checks the code against that on typed,
    non-contiguous and snapshotted arguments.) -/
theorem pair_rejected_unchanged {α : Type} [Zero α] [Add α] [Mul α] [Div α] [NatCast α]
    (F Finv : ℕ → List α → List α) (sc : Params → α) (s : Pair) (op : PairOp α) (e : PyErr)
    (h : (stepPair F Finv sc s op).2 = .error e) : (stepPair F Finv sc s op).1 = s := by
  -- the one step that changes the pair, an accepted `set_parameters`, returns normally
  rcases pair_step_state F Finv sc s op with hs | ⟨f, c, u, p, rfl, hp, -⟩
  · exact hs
  · rw [stepPair_set_ok F Finv sc s hp] at h
    cases h

/-- **Scale** (R6): multiplying every tap by `c` multiplies the frequency response by `c`, so the
    hypothesis `H[k] ≠ 0` of `one_tap_exact` is invariant under any non-zero rescaling of the channel;
    the input `x` is universally quantified. Hence the recovery is exact at every scale of signal and
    channel, and for every depth of a spectral notch short of an exact null (R5): no absolute threshold
    appears anywhere. -/
theorem freq_response_scales {K : Type} [Field K] (ω c : K) (delays : List ℕ) (gains : List K) (k : ℕ) :
    Hs ω delays (gains.map (fun g => c * g)) k = c * Hs ω delays gains k := by
  unfold Hs
  rw [List.zip_map_right, List.map_map, ← List.sum_map_mul_left]
  exact congrArg List.sum (List.map_congr_left fun dg _ => mul_assoc c _ _)

/-- `one_tap_exact` for the channel rescaled by any `c ≠ 0` (say `1e-12` or `1e12`). -/
theorem one_tap_exact_scaled {K : Type} [Field K] [CharZero K] (p : Params) (hp : p.Valid) (ω : K)
    (hω : IsPrimitiveRoot ω p.fft) (s : K) (hs : s ≠ 0) (c : K) (hc : c ≠ 0) (delays : List ℕ)
    (gains : List K) (M : ℕ) (hM : delays.getLast? = some M) (hd : ∀ d ∈ delays, d ≤ M)
    (hnd : delays.Nodup) (hMC : M ≤ p.cp) (hMN : M < p.fft)
    (hH : ∀ k ∈ usedIdx p.fft p.used, Hs ω delays gains k ≠ 0) (x : List K) :
    oneTapReceive (fun n a => dft (fun m => ω ^ m) n a) s p
        (staticIR delays (gains.map (fun g => c * g))
          (modulate (fun n a => idft (fun m => ω⁻¹ ^ m) n a) s p x).length)
        (modulate (fun n a => idft (fun m => ω⁻¹ ^ m) n a) s p x)
      = .ok (x ++ List.replicate (zeropad p x.length) 0) :=
  one_tap_exact p hp ω hω s hs delays _ M hM hd hnd hMC hMN
    (fun k hk => by rw [freq_response_scales]; exact mul_ne_zero hc (hH k hk)) x

/-! ## argument forms and queries (R8, R11) -/

/-- **Default argument**: `num_used_subcarriers` left out, given as `None` or given explicitly as
    `fft_size` is the same call. -/
theorem params_default_used (fft cp : Int) :
    setParameters fft cp none = setParameters fft cp (some fft) := rfl

/-- **Constructor path = setter path = later replacement**: an accepted `set_parameters(f, c, u)` on any
    existing pair, whatever its history, gives exactly the pair built by `OFDM(f, c, u)` and a new
    equaliser (the constructor is `set_parameters` on a blank object). -/
theorem params_constructor_eq_setter {α : Type} [Zero α] [Add α] [Mul α] [Div α] [NatCast α]
    (F Finv : ℕ → List α → List α) (sc : Params → α) (s : Pair) (ops : List (PairOp α)) (f c : Int)
    (u : Option Int) (p : Params) (h : setParameters f c u = .ok p) :
    (stepPair F Finv sc (runPair F Finv sc s ops).1 (.setParams f c u)).1 = freshPair p := by
  rw [stepPair_set_ok F Finv sc _ h]; rfl

/-- **Queries do not mutate** (R11): `get_used_subcarrier_indexes()`, `_calc_zeropad(n)` — like `modulate`,
    `demodulate` and `equalize_data` — leave the pair as it is; their answers are functions of the current
    configuration only. -/
theorem pair_queries_pure {α : Type} [Zero α] [Add α] [Mul α] [Div α] [NatCast α]
    (F Finv : ℕ → List α → List α) (sc : Params → α) (s : Pair) (n : Nat) :
    (stepPair F Finv sc s .usedIndexes).1 = s ∧ (stepPair F Finv sc s (.zeropadOf n)).1 = s ∧
    (stepPair F Finv sc s .usedIndexes).2 = .ok ((usedIdx s.ofdm.fft s.ofdm.used).map (fun (i : Nat) => (i : α))) ∧
    (stepPair F Finv sc s (.zeropadOf n)).2 = .ok [((zeropad s.ofdm n : Nat) : α), ((numSymbols s.ofdm n : Nat) : α)] :=
  ⟨rfl, rfl, rfl, rfl⟩

/-! ## distinct values that are merely close (R15) -/

/-- **Exact comparison of parameters**: `set_parameters` stores what it accepts unchanged, so two accepted
    calls leaving the same configuration were given the same values — `(262144, 0, 262142)` and
    `(262144, 0, 262144)` are different configurations, however small their relative distance. -/
theorem params_exact_comparison (f c f' c' : Int) (u u' : Option Int) (p : Params)
    (h : setParameters f c u = .ok p) (h' : setParameters f' c' u' = .ok p) :
    f = f' ∧ c = c' ∧ u.getD f = u'.getD f' := by
  -- both calls passed the guard, so their arguments are the stored non-negative values
  obtain ⟨⟨a1, a2, -, -, a5⟩, rfl⟩ := setParameters_ok_inv h
  obtain ⟨⟨b1, b2, -, -, b5⟩, e⟩ := setParameters_ok_inv h'
  injection e with e1 e2 e3
  exact ⟨toNat_inj (a1.trans a2) (b1.trans b2) e1, toNat_inj a1 b1 e2,
    toNat_inj (Int.le_trans (by decide) a5) (Int.le_trans (by decide) b5) e3⟩

/-- **A setter called with any new valid value takes effect**: after ANY history, `set_parameters` with a
    valid triple leaves exactly that triple in the object; if the triple differs from the configuration in
    force — by however little — the object changes (there is no "unchanged, skip" shortcut in the model). -/
theorem setter_takes_effect_for_every_new_value {α : Type} [Zero α] [Add α] [Mul α] [Div α] [NatCast α]
    (F Finv : ℕ → List α → List α) (sc : Params → α) (s : Pair) (ops : List (PairOp α)) (f c : Int)
    (u : Option Int) (h : ValidInt f c (u.getD f)) :
    (stepPair F Finv sc (runPair F Finv sc s ops).1 (.setParams f c u)).1
        = ⟨⟨f.toNat, c.toNat, (u.getD f).toNat⟩⟩ ∧
    ((runPair F Finv sc s ops).1.ofdm ≠ ⟨f.toNat, c.toNat, (u.getD f).toNat⟩ →
      (stepPair F Finv sc (runPair F Finv sc s ops).1 (.setParams f c u)).1 ≠ (runPair F Finv sc s ops).1) := by
  have hstep := stepPair_set_ok F Finv sc (runPair F Finv sc s ops).1 (setParameters_ok h)
  refine ⟨by rw [hstep], fun hne heq => hne ?_⟩
  rw [hstep] at heq
  rw [← heq]

/-- **The all-subcarriers branch is chosen at exact equality only**: DC (bin 0) carries data iff
    `used = fft`; `used = fft - 2` at `fft = 2^18` is NOT "all used". -/
theorem all_used_branch_exact (p : Params) (hp : p.Valid) : 0 ∈ usedIdx p.fft p.used ↔ p.used = p.fft := by
  constructor
  · intro h
    by_contra hne
    exact zero_not_mem_usedIdx p hp (Nat.lt_of_le_of_ne hp.2.1 hne) h
  · intro heq
    rw [usedIdx_all p hp heq]
    exact hp.fft_pos

/-- **Distinct numbers of used subcarriers give distinct index maps** (same FFT size). -/
theorem index_map_exact (p q : Params) (hp : p.Valid) (hq : q.Valid)
    (h : usedIdx p.fft p.used = usedIdx p.fft q.used) : p.used = q.used :=
  usedIdx_injective p.fft p.used q.used hp.2.2.1 hq.2.2.1 h

/-- **No perturbation of the taps is ignored**: changing the gains `g` to `g + δ` changes the response the
    equaliser divides by on bin `k` by exactly the response of `δ`; the two channels are indistinguishable
    on that bin only if the response of `δ` vanishes there exactly (no tolerance, at any magnitude). -/
theorem freq_response_exact {K : Type} [Field K] (ω : K) (delays : List ℕ) (gains deltas : List K)
    (hl : gains.length = deltas.length) (k : ℕ) :
    Hs ω delays (List.zipWith (· + ·) gains deltas) k = Hs ω delays gains k + Hs ω delays deltas k ∧
    (Hs ω delays (List.zipWith (· + ·) gains deltas) k = Hs ω delays gains k ↔ Hs ω delays deltas k = 0) := by
  have h := Hs_add ω delays gains deltas hl k
  exact ⟨h, by rw [h, add_eq_left]⟩

/-! ## argument identity and buffer reuse (R16) -/

section reuse
variable {α : Type} [Zero α] [Add α] [Mul α] [Div α] [NatCast α]

/-- **A result depends on the contents handed to the call and on the configuration only**: two histories
    with the same `set_parameters` calls — whatever arrays `modulate`, `demodulate`, `equalize_data` were
    given in between, in whatever buffers — are followed by the same answer to every operation. (The model
    has values, not array objects: the identity of an argument cannot matter.) -/
theorem pair_result_depends_on_contents_only (F Finv : ℕ → List α → List α) (sc : Params → α) (s : Pair)
    (ops ops' : List (PairOp α)) (h : setOps ops = setOps ops') (op : PairOp α) :
    (stepPair F Finv sc (runPair F Finv sc s ops).1 op).2
      = (stepPair F Finv sc (runPair F Finv sc s ops').1 op).2 := by
  rw [runPair_state_of_setOps F Finv sc s ops ops' h]

/-- **Earlier results are not changed by later calls** (a buffer refilled and handed over again, a later
    re-configuration): the outputs of a history are a prefix of the outputs of every continuation. -/
theorem pair_earlier_results_unchanged (F Finv : ℕ → List α → List α) (sc : Params → α) (s : Pair)
    (ops more : List (PairOp α)) :
    (runPair F Finv sc s (ops ++ more)).2.take ops.length = (runPair F Finv sc s ops).2 := by
  rw [runPair_append]
  simp only
  rw [← runPair_length F Finv sc s ops, List.take_left]

end reuse

/-- non-vacuity of the R15 statements: two valid triples at relative distance `8e-6`, stored as different
    configurations -/
example : ValidInt 262144 0 ((some 262142 : Option Int).getD 262144) ∧ ValidInt 262144 0 ((none : Option Int).getD 262144) ∧
    setParameters 262144 0 (some 262142) ≠ setParameters 262144 0 none := by
  unfold ValidInt; decide
/-- of two such configurations only the one with `used = fft` uses bin 0 -/
example : 0 ∉ usedIdx 18 16 ∧ 0 ∈ usedIdx 18 18 := by decide

/-- the witness configuration `OFDM(2, 2, 2)`, taps at delays `0` and `2` (memory = cp = fft) -/
def witnessParams : Params := ⟨2, 2, 2⟩

/-- on the model of the code the witness returns `[3/2, 3]` for the input `[1, 2]`: the equaliser
    divides by the cropped response `[1, 1]` instead of the true `[3/2, 3/2]` -/
theorem one_tap_witness_value :
    oneTapReceive (fun n a => dft (fun m => (-1 : ℚ) ^ m) n a) 1 witnessParams
        (staticIR [0, 2] [1, 1/2]
          (modulate (fun n a => idft (fun m => (-1 : ℚ)⁻¹ ^ m) n a) 1 witnessParams [1, 2]).length)
        (modulate (fun n a => idft (fun m => (-1 : ℚ)⁻¹ ^ m) n a) 1 witnessParams [1, 2])
      = .ok [3/2, 3] := by decide +kernel

/-- **Negative witness** (known finding): without `memory < fft` the one-tap clause is false on the
    model of the code — `get_freq_response` = `np.fft.fft(taps, fft)` crops the `fft+1` taps instead
    of aliasing tap `fft` onto tap `0`. Replayed on the implementation by the `onetap` oracle. -/
theorem one_tap_fails_at_full_memory : ¬ OneTapStatement ℚ := by
  intro h
  have := h witnessParams (by decide) (-1) (IsPrimitiveRoot.neg_one 0 (by decide)) 1 one_ne_zero
    [0, 2] [1, 1/2] 2 rfl (by decide) (by decide) (by decide) (by decide +kernel) [1, 2]
  rw [one_tap_witness_value] at this
  revert this
  decide +kernel

/-- non-vacuity of `one_tap_exact`: a concrete instance over ℚ (`OFDM(2,1,2)`, taps at delays 0, 1)
    satisfying every hypothesis, evaluated by the kernel -/
example :
    oneTapReceive (fun n a => dft (fun m => (-1 : ℚ) ^ m) n a) 1 ⟨2, 1, 2⟩
        (staticIR [0, 1] [1, 1/2]
          (modulate (fun n a => idft (fun m => (-1 : ℚ)⁻¹ ^ m) n a) 1 ⟨2, 1, 2⟩ [1, 2, 3]).length)
        (modulate (fun n a => idft (fun m => (-1 : ℚ)⁻¹ ^ m) n a) 1 ⟨2, 1, 2⟩ [1, 2, 3])
      = .ok [1, 2, 3, 0] := by decide +kernel

example : ∀ k ∈ usedIdx 2 2, Hs (-1 : ℚ) [0, 1] [1, 1/2] k ≠ 0 := by decide +kernel
example : (⟨64, 16, 52⟩ : Params).Valid := by decide
example : usedIdx 16 10 = [11, 12, 13, 14, 15, 1, 2, 3, 4, 5] := by decide

end PyPhysim.C02
