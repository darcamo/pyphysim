import PyPhysim.Proofs.C11Sinr
import PyPhysim.Proofs.C11Q
import PyPhysim.Proofs.C11Agg
import PyPhysim.Proofs.C11Views
import PyPhysim.Proofs.C11Gen

/-!
# C11 — reported SINRs equal first-principles signal over interference-plus-noise

All statements are about the executable model
`PyPhysim.Sinr` (`Model/C11.lean`), instantiated at `ℂ` / `ℝ` except where a theorem
says that it holds for any scalar types (the channel views, the regenerated formulas)
or for any type of inputs (the history and buffer theorems); the correspondence
check of `harness/props/c11.py` ties the same definitions, compiled at binary64,
to `multiuser.py` (both channel classes, interference-channel and joint-processing
variants) and to `iabase.py` (the IA solver).

One receiver `k` at a time: `n` receive antennas, `G j : n × T j` the channel the
streams of user `j` arrive through (`get_Hkl(k, j)`; in the joint-processing
variants `get_Hk(k)` for every `j`, so `T j` is the total number of transmit
antennas), `V j : T j × S j` the precoder of user `j` with the transmit power
included, `Uk : n × S k` the receive filters of user `k` (one column per stream,
before the conjugate transpose).  Nothing is assumed about `K`, the antenna and
stream numbers, the channel, the precoders or the filters: in particular the
precoders are NOT assumed to align interference.

First-principles quantities (`Proofs/C11Spec.lean`; scalar sums, the link covariance `linkCov` apart):
`sigPow = |uᴴ H_kk f_l|²`, `intfPow = Σ_{(j,d) ≠ (k,l)} |uᴴ H_kj f_jd|²`,
`extPow = pe Σ_i |uᴴ h_i|²`, `noisePow = σ² ‖u‖²`.
-/
namespace PyPhysim.C11
open Matrix PyPhysim.Proto PyPhysim.Sinr PyPhysim.Sinr.Spec PyPhysim.Sinr.Pf
open scoped ComplexOrder

variable {K n e : Nat} {T S : Fin K → Nat}

/-- **Gram quadratic form**: for the covariance term of one link as the code forms it (both
    associations: `H (V Vᴴ) Hᴴ` of the channel object, `(H V)(H V)ᴴ` of the solver and of
    `calc_Q`), `uᴴ (H V Vᴴ Hᴴ) u = Σ_d |uᴴ H v_d|²`. -/
theorem quad_form_gram {t s : Nat} (G : Mat ℂ n t) (V : Mat ℂ t s) (u : Mat ℂ n 1) :
    sinrDen (cT u) u (covTerm G V) =
      ((∑ d, Complex.normSq (amp (fun a => u a 0) G (fun b => V b d)) : ℝ) : ℂ) ∧
    sinrDen (cT u) u (covTermS G V) =
      ((∑ d, Complex.normSq (amp (fun a => u a 0) G (fun b => V b d)) : ℝ) : ℂ) :=
  ⟨by rw [covTerm_eq_covTermS, sinrDen_eq, qf_link], by rw [sinrDen_eq, qf_link]⟩

/-- **SINR = first principles** (plain channel object, `calc_SINR` and — with `G j = H_k` —
    `calc_JP_SINR`): whenever the interference-plus-noise power is not zero, the reported
    value is the power of the desired stream after the receive filter divided by the power
    of all other streams of all users plus the filtered noise.  `noise = none` is
    `noise_var = None`; the setter of `noise_var` enforces `≥ 0`. -/
theorem sinr_first_principles (G : (j : Fin K) → Mat ℂ n (T j)) (V : (j : Fin K) → Mat ℂ (T j) (S j))
    (k : Fin K) (Uk : Mat ℂ n (S k)) (noise : Option ℝ) (l : Fin (S k))
    (hσ : ∀ v, noise = some v → 0 ≤ v)
    (hden : intfPow G V (filt Uk l) k l + noisePow (noiseVar noise) (filt Uk l) ≠ 0) :
    (chSinr G V k Uk (baseRek n noise) l : Except PyErr ℝ) =
      .ok (sigPow G V (filt Uk l) k l /
        (intfPow G V (filt Uk l) k l + noisePow (noiseVar noise) (filt Uk l))) :=
  (chSinr_base G V k Uk noise l).trans (quot_of_ne (sigPow_nonneg ..)
    (add_nonneg (intfPow_nonneg ..) (noisePow_nonneg (noiseVar_nonneg hσ) _)) hden)

/-- **SINR = first principles with external interference**
    (`MultiUserChannelMatrixExtInt.calc_SINR` / `calc_JP_SINR`): the denominator also
    contains the power `pe Σ_i |uᴴ h_i|²` of the external sources (`He` = the external
    columns of `big_H` at this receiver). -/
theorem sinr_first_principles_extint (G : (j : Fin K) → Mat ℂ n (T j))
    (V : (j : Fin K) → Mat ℂ (T j) (S j)) (k : Fin K) (Uk : Mat ℂ n (S k)) (He : Mat ℂ n e) (pe : ℝ)
    (noise : Option ℝ) (l : Fin (S k)) (hpe : 0 ≤ pe) (hσ : ∀ v, noise = some v → 0 ≤ v)
    (hden : intfPow G V (filt Uk l) k l +
      (extPow He pe (filt Uk l) + noisePow (noiseVar noise) (filt Uk l)) ≠ 0) :
    (chSinr G V k Uk (extRek He pe noise) l : Except PyErr ℝ) =
      .ok (sigPow G V (filt Uk l) k l /
        (intfPow G V (filt Uk l) k l +
          (extPow He pe (filt Uk l) + noisePow (noiseVar noise) (filt Uk l)))) :=
  (chSinr_ext G V k Uk He pe noise l).trans (quot_of_ne (sigPow_nonneg ..) (add_nonneg (intfPow_nonneg ..)
    (add_nonneg (extPow_nonneg He hpe _) (noisePow_nonneg (noiseVar_nonneg hσ) _))) hden)

/-- the excluded case, recorded: when interference, external interference and noise power
    add up to exactly zero the code divides Python scalars and raises `ZeroDivisionError`
    (both channel classes; no sign condition needed). -/
theorem sinr_zero_denominator (G : (j : Fin K) → Mat ℂ n (T j)) (V : (j : Fin K) → Mat ℂ (T j) (S j))
    (k : Fin K) (Uk : Mat ℂ n (S k)) (He : Mat ℂ n e) (pe : ℝ) (noise : Option ℝ) (l : Fin (S k)) :
    (intfPow G V (filt Uk l) k l + noisePow (noiseVar noise) (filt Uk l) = 0 →
      (chSinr G V k Uk (baseRek n noise) l : Except PyErr ℝ) = .error .ZeroDivisionError) ∧
    (intfPow G V (filt Uk l) k l + (extPow He pe (filt Uk l) + noisePow (noiseVar noise) (filt Uk l)) = 0 →
      (chSinr G V k Uk (extRek He pe noise) l : Except PyErr ℝ) = .error .ZeroDivisionError) :=
  ⟨fun h => by rw [chSinr_base, h, quot_zero], fun h => by rw [chSinr_ext, h, quot_zero]⟩

/-- a single user sending a single stream without noise (`noise_var` `None` or `0`) and
    without external interference has nothing in the denominator: `calc_SINR` raises. -/
theorem lone_stream_without_noise_raises (t : Nat) (G : Mat ℂ n t) (V : Mat ℂ t 1) (U : Mat ℂ n 1)
    (noise : Option ℝ) (hn : noise = none ∨ noise = some 0) :
    (chSinr (K := 1) (T := fun _ => t) (S := fun _ => 1) (fun _ => G) (fun _ => V) 0 U
      (baseRek n noise) 0 : Except PyErr ℝ) = .error .ZeroDivisionError := by
  refine (sinr_zero_denominator (K := 1) (T := fun _ => t) (S := fun _ => 1) (e := 0) (fun _ => G)
    (fun _ => V) 0 U (fun _ i => i.elim0) 0 noise 0).1 ?_
  have h0 : noiseVar noise = 0 := by rcases hn with h | h <;> subst h <;> rfl
  -- the only stream is the desired one: all streams minus it leaves nothing
  rw [h0, noisePow_zero, add_zero, ← total_sub_own, Fintype.sum_sigma, Fin.sum_univ_one, Fin.sum_univ_one]
  exact sub_self _

/-- **non-negative**: whatever the inputs, a reported SINR is `≥ 0`. -/
theorem sinr_nonneg (G : (j : Fin K) → Mat ℂ n (T j)) (V : (j : Fin K) → Mat ℂ (T j) (S j))
    (k : Fin K) (Uk : Mat ℂ n (S k)) (WHk : Mat ℂ (S k) n) (Rek : Mat ℂ n n) (l : Fin (S k)) (x : ℝ) :
    ((chSinr G V k Uk Rek l : Except PyErr ℝ) = .ok x → 0 ≤ x) ∧
    ((solSinr G V k WHk Rek l : Except PyErr ℝ) = .ok x → 0 ≤ x) :=
  ⟨fun h => sinrCore_ok_nonneg _ _ _ _ _ x h, fun h => sinrCore_ok_nonneg _ _ _ _ _ x h⟩

/-- **rescaling a receive filter changes nothing**: multiplying the filter of stream `l`
    by any `c ≠ 0` leaves the reported value of every stream `l'` of that user (value or
    `ZeroDivisionError`) exactly where it was — for every matrix `Rek` of external
    interference plus noise, both channel classes, IC and JP. -/
theorem sinr_scale_invariant (G : (j : Fin K) → Mat ℂ n (T j)) (V : (j : Fin K) → Mat ℂ (T j) (S j))
    (k : Fin K) (Uk : Mat ℂ n (S k)) (Rek : Mat ℂ n n) (l l' : Fin (S k)) (c : ℂ) (hc : c ≠ 0) :
    (chSinr G V k (scaleCol Uk l c) Rek l' : Except PyErr ℝ) = chSinr G V k Uk Rek l' := by
  rw [chSinr, colOf_scaleCol, cT_smul]
  exact sinrCore_scale _ _ _ _ _ _ (by split <;> [exact hc; exact one_ne_zero])

/-- the joint-processing variant is the same function read with `G j = H_k` for every `j`
    (all users' antennas transmit every precoder): first-principles form of `calc_JP_SINR`. -/
theorem jp_sinr_first_principles (NtTot : Nat) (Hk : Mat ℂ n NtTot) (V : (j : Fin K) → Mat ℂ NtTot (S j))
    (k : Fin K) (Uk : Mat ℂ n (S k)) (He : Mat ℂ n e) (pe : ℝ) (noise : Option ℝ) (l : Fin (S k))
    (hpe : 0 ≤ pe) (hσ : ∀ v, noise = some v → 0 ≤ v)
    (hden : intfPow (T := fun _ => NtTot) (fun _ => Hk) V (filt Uk l) k l +
      (extPow He pe (filt Uk l) + noisePow (noiseVar noise) (filt Uk l)) ≠ 0) :
    (chSinr (T := fun _ => NtTot) (fun _ => Hk) V k Uk (extRek He pe noise) l : Except PyErr ℝ) =
      .ok (Complex.normSq (amp (filt Uk l) Hk (fun b => V k b l)) /
        (intfPow (T := fun _ => NtTot) (fun _ => Hk) V (filt Uk l) k l +
          (extPow He pe (filt Uk l) + noisePow (noiseVar noise) (filt Uk l)))) :=
  sinr_first_principles_extint (T := fun _ => NtTot) (fun _ => Hk) V k Uk He pe noise l hpe hσ hden

/-- **solver SINR = first principles**: `WHk` is `full_W_H[k]` (any matrix — the result of
    the `np.linalg.solve` kernel is not constrained), `σ2` the solver's `noise_var`
    (`None` reads as `0`), `He` the external columns when the channel object has external
    sources (then they enter at the channel object's default power `pe = 1`). -/
theorem solver_sinr_first_principles (G : (j : Fin K) → Mat ℂ n (T j))
    (V : (j : Fin K) → Mat ℂ (T j) (S j)) (k : Fin K) (WHk : Mat ℂ (S k) n) (σ2 : ℝ) (He : Mat ℂ n e)
    (l : Fin (S k)) (hσ : 0 ≤ σ2) :
    (intfPow G V (filtH WHk l) k l + noisePow σ2 (filtH WHk l) ≠ 0 →
      (solSinr G V k WHk (solRek (e := 0) n σ2 none) l : Except PyErr ℝ) =
        .ok (sigPow G V (filtH WHk l) k l /
          (intfPow G V (filtH WHk l) k l + noisePow σ2 (filtH WHk l)))) ∧
    (intfPow G V (filtH WHk l) k l + (extPow He 1 (filtH WHk l) + noisePow σ2 (filtH WHk l)) ≠ 0 →
      (solSinr G V k WHk (solRek n σ2 (some He)) l : Except PyErr ℝ) =
        .ok (sigPow G V (filtH WHk l) k l /
          (intfPow G V (filtH WHk l) k l + (extPow He 1 (filtH WHk l) + noisePow σ2 (filtH WHk l))))) := by
  have hσ' : ∀ v, some σ2 = some v → 0 ≤ v := fun v hv => Option.some.inj hv ▸ hσ
  rw [solSinr_eq_chSinr, solSinr_eq_chSinr, solRek_some_eq_extRek]
  exact ⟨sinr_first_principles G V k (cT WHk) (some σ2) l hσ',
    sinr_first_principles_extint G V k (cT WHk) He 1 (some σ2) l zero_le_one hσ'⟩

/-- the excluded case on the solver side, recorded: when interference, external
    interference and noise power add up to exactly zero the solver's entry has no value —
    the outcome tagged `.error .ZeroDivisionError`, which in `iabase.py` is a NON-FINITE
    number (`np.divide`: `inf` for `x/0`, `nan` for `0/0`), not an exception; and
    `calc_SINR` of the solver still delivers every other entry (`eachStream` is the plain
    entrywise map, nothing is short-circuited). -/
theorem solver_zero_denominator_nonfinite (G : (j : Fin K) → Mat ℂ n (T j))
    (V : (j : Fin K) → Mat ℂ (T j) (S j)) (k : Fin K) (WHk : Mat ℂ (S k) n) (σ2 : ℝ) (He : Mat ℂ n e)
    (l : Fin (S k)) (f : (k : Fin K) → Fin (S k) → Except PyErr ℝ) :
    (intfPow G V (filtH WHk l) k l + noisePow σ2 (filtH WHk l) = 0 →
      (solSinr G V k WHk (solRek (e := 0) n σ2 none) l : Except PyErr ℝ) = .error .ZeroDivisionError) ∧
    (intfPow G V (filtH WHk l) k l + (extPow He 1 (filtH WHk l) + noisePow σ2 (filtH WHk l)) = 0 →
      (solSinr G V k WHk (solRek n σ2 (some He)) l : Except PyErr ℝ) = .error .ZeroDivisionError) ∧
    (eachStream S f)[k.val]? = some ((List.finRange (S k)).map (f k)) := by
  rw [solSinr_eq_chSinr, solSinr_eq_chSinr, solRek_some_eq_extRek]
  exact ⟨(sinr_zero_denominator G V k (cT WHk) He 1 (some σ2) l).1,
    (sinr_zero_denominator G V k (cT WHk) He 1 (some σ2) l).2, eachStream_getElem? S f k⟩

/-- **the two implementations agree**: for every channel, precoders (unequal powers are
    part of `V`), path loss (part of `G`), noise variance incl. `None`, external
    interference and EVERY filter matrix, `IASolverBaseClass.calc_SINR` returns exactly
    what the channel object returns for `F = full_F`, `U = full_W` (`= full_W_Hᴴ`) — value
    or "zero denominator" alike (there the channel object raises `ZeroDivisionError`, the
    solver reports a non-finite entry: the same model outcome); external sources at the
    default power `pe = 1`.
    (`solNoiseVar noise` is the solver's `noise_var` property: `None` reads as `0.0`.) -/
theorem two_paths_agree (G : (j : Fin K) → Mat ℂ n (T j)) (V : (j : Fin K) → Mat ℂ (T j) (S j))
    (k : Fin K) (WHk : Mat ℂ (S k) n) (noise : Option ℝ) (He : Mat ℂ n e) (l : Fin (S k)) :
    (solSinr G V k WHk (solRek (e := 0) n (solNoiseVar noise) none) l : Except PyErr ℝ) =
      chSinr G V k (cT WHk) (baseRek n noise) l ∧
    (solSinr G V k WHk (solRek n (solNoiseVar noise) (some He)) l : Except PyErr ℝ) =
      chSinr G V k (cT WHk) (extRek He 1 noise) l := by
  rw [solSinr_eq_chSinr, solSinr_eq_chSinr, solRek_some_eq_extRek, solNoiseVar_eq, extRek_some_noiseVar, baseRek_eq]
  exact ⟨rfl, rfl⟩

/-- rescaling row `l` of `full_W_H` by `c ≠ 0` changes no SINR the solver reports. -/
theorem solver_sinr_scale_invariant (G : (j : Fin K) → Mat ℂ n (T j))
    (V : (j : Fin K) → Mat ℂ (T j) (S j)) (k : Fin K) (WHk : Mat ℂ (S k) n) (Rn : Mat ℂ n n)
    (l l' : Fin (S k)) (c : ℂ) (hc : c ≠ 0) :
    (solSinr G V k (scaleRow WHk l c) Rn l' : Except PyErr ℝ) = solSinr G V k WHk Rn l' := by
  rw [solSinr_eq_chSinr, solSinr_eq_chSinr, cT_scaleRow]
  exact sinr_scale_invariant G V k (cT WHk) Rn l l' (star c) (star_ne_zero.mpr hc)

/-- `full_F = F · √P`: with the solver's power vector `P ≥ 0` the power of every stream —
    desired or interfering — is `P_j` times its power under the unscaled precoder (unequal
    powers enter the first-principles quantities exactly as a per-user factor). -/
theorem fullF_stream_power (G : (j : Fin K) → Mat ℂ n (T j)) (F : (j : Fin K) → Mat ℂ (T j) (S j))
    (P : Fin K → ℝ) (hP : ∀ j, 0 ≤ P j) (u : Fin n → ℂ) (j : Fin K) (d : Fin (S j)) :
    streamPow G (fullF F P) u j d = P j * streamPow G F u j d :=
  (congrArg Complex.normSq (amp_mul_stream u (G j) (fun b => F j b d) _)).trans (normSq_sqrt_mul (hP j) _)

/-- **the channel views**: with a path-loss matrix `p` set, entry `(a, b)` of the block
    `(k, j)` the SINR code reads (`get_Hkl(k, j)`, the rows of `get_Hk(k)`, the external
    columns — `NtAll` lists the users' transmit antennas followed by the external sources')
    is the entry of the matrix given to `init_from_channel_matrix` times `√p[k, j]`, for
    every antenna layout; without a path loss it is that entry itself.  (Any scalar types.) -/
theorem views_apply_pathloss_blockwise {α ρ : Type} [Mul α] [RC ρ α] [RFun ρ]
    (big : Nat → Nat → α) (Nr NtAll : List Nat) (p : Nat → Nat → ρ) (k j : Nat)
    (hk : k < Nr.length) (hj : j < NtAll.length) (a : Fin Nr[k]) (b : Fin NtAll[j]) :
    blockOf (bigPL big Nr NtAll (some p)) (offs Nr k) (offs NtAll j) Nr[k] NtAll[j] a b =
      big (offs Nr k + a.val) (offs NtAll j + b.val) * RC.ofReal (RFun.sqrt (p k j)) ∧
    blockOf (bigPL (ρ := ρ) big Nr NtAll none) (offs Nr k) (offs NtAll j) Nr[k] NtAll[j] a b =
      big (offs Nr k + a.val) (offs NtAll j + b.val) :=
  ⟨block_pathloss big Nr NtAll p k j hk hj a b, block_no_pathloss big Nr NtAll _ _ _ _ a b⟩

/-- **path loss is a power relation**: scaling the link from user `j` by `√g_j` (`g_j ≥ 0`)
    multiplies the power of each of its streams after any receive filter by `g_j`. -/
theorem pathloss_stream_power (G : (j : Fin K) → Mat ℂ n (T j)) (V : (j : Fin K) → Mat ℂ (T j) (S j))
    (g : Fin K → ℝ) (hg : ∀ j, 0 ≤ g j) (u : Fin n → ℂ) (j : Fin K) (d : Fin (S j)) :
    streamPow (fun j => plScale (G j) (g j)) V u j d = g j * streamPow G V u j d :=
  (congrArg Complex.normSq (amp_mul_channel u (G j) (fun b => V j b d) _)).trans (normSq_sqrt_mul (hg j) _)

/-- **Q is the sum of the interfering links' covariances** `Σ_{j≠k} (H_kj F_j)(H_kj F_j)ᴴ`,
    plus `σ² I` when a noise variance is set (plain channel object), plus the external
    covariance `pe H_e H_eᴴ` (external-interference channel object). -/
theorem Q_is_sum_of_link_covariances (G : (j : Fin K) → Mat ℂ n (T j))
    (V : (j : Fin K) → Mat ℂ (T j) (S j)) (k : Fin K) (He : Mat ℂ n e) (pe : ℝ) (noise : Option ℝ) :
    toM (chQ G V k noise) =
      ∑ j ∈ Finset.univ.erase k, linkCov (G j) (V j) +
        ((noiseVar noise : ℝ) : ℂ) • (1 : Matrix (Fin n) (Fin n) ℂ) ∧
    toM (extQ G V k He pe noise) =
      ∑ j ∈ Finset.univ.erase k, linkCov (G j) (V j) + (pe : ℂ) • (toM He * (toM He)ᴴ) +
        ((noiseVar noise : ℝ) : ℂ) • (1 : Matrix (Fin n) (Fin n) ℂ) := by
  refine ⟨?_, by simp only [extQ, extRek_eq, toM_madd, toM_qImpl, toM_extCov, toM_noiseCov, add_assoc]⟩
  -- `noise_var = None`: adding no noise matrix is adding `0 • 1`
  cases noise with
  | none => simp only [chQ, toM_qImpl, noiseVar, Complex.ofReal_zero, zero_smul, add_zero]
  | some v => simp only [chQ, toM_madd, toM_qImpl, toM_noiseCov, noiseVar]

/-- **Q is Hermitian** (both channel classes; `cT` is the model's own conjugate transpose). -/
theorem Q_hermitian (G : (j : Fin K) → Mat ℂ n (T j)) (V : (j : Fin K) → Mat ℂ (T j) (S j))
    (k : Fin K) (He : Mat ℂ n e) (pe : ℝ) (noise : Option ℝ) :
    cT (chQ G V k noise) = chQ G V k noise ∧
    cT (extQ G V k He pe noise) = extQ G V k He pe noise := by
  -- a sum of Hermitian matrices with real coefficients; no sign condition on noise variance or external power
  have hS := (sumLinks_psd G V k).isHermitian
  have hN := real_smul_herm (n := n) (noiseVar noise) isHermitian_one
  have hQ := Q_is_sum_of_link_covariances G V k He pe noise
  exact ⟨cT_eq_of_herm hQ.1 (hS.add hN),
    cT_eq_of_herm hQ.2 ((hS.add (real_smul_herm pe (isHermitian_mul_conjTranspose_self _))).add hN)⟩

/-- **Q is positive semidefinite** for every noise variance `≥ 0` and external power `≥ 0`. -/
theorem Q_psd (G : (j : Fin K) → Mat ℂ n (T j)) (V : (j : Fin K) → Mat ℂ (T j) (S j))
    (k : Fin K) (He : Mat ℂ n e) (pe : ℝ) (noise : Option ℝ) (hpe : 0 ≤ pe)
    (hσ : ∀ v, noise = some v → 0 ≤ v) :
    (toM (chQ G V k noise)).PosSemidef ∧ (toM (extQ G V k He pe noise)).PosSemidef := by
  have hS := sumLinks_psd G V k
  have hN := real_smul_psd (n := n) (noiseVar_nonneg hσ) PosSemidef.one
  have hQ := Q_is_sum_of_link_covariances G V k He pe noise
  rw [hQ.1, hQ.2]
  exact ⟨hS.add hN, (hS.add (real_smul_psd hpe (posSemidef_self_mul_conjTranspose _))).add hN⟩

/-- when every stream has a value, `calc_SINR` returns all of them user by user, the dB
    values are `10 log10` of them and **the sum capacity is `Σ_k Σ_l log2(1 + SINR_kl)`**. -/
theorem sum_capacity_def (S : Fin K → Nat) (f : (k : Fin K) → Fin (S k) → Except PyErr ℝ)
    (g : (k : Fin K) → Fin (S k) → ℝ) (h : ∀ k l, f k l = .ok (g k l)) :
    allStreams S f = .ok ((List.finRange K).map (fun k => (List.finRange (S k)).map (g k))) ∧
    (allStreams S f).map sinrIndB =
      .ok ((List.finRange K).map (fun k => (List.finRange (S k)).map (fun l => 10 * Real.logb 10 (g k l)))) ∧
    sumCapacity (allStreams S f) = .ok (∑ k, ∑ l, Real.logb 2 (1 + g k l)) := by
  have h1 := allStreams_ok S f g h
  refine ⟨h1, ?_, ?_⟩
  · rw [h1]
    simp only [Except.map, sinrIndB, List.map_map, Function.comp_def, linear2dB, RFun.log10]
  · rw [h1, sumCapacity]
    simp only [Except.map]
    -- row sums, then both list sums over `finRange` as sums over `Fin`
    rw [shannonSum_rows, List.map_map, Fin.sum_univ_def]
    refine congrArg _ (congrArg List.sum (List.map_congr_left fun k _ => ?_))
    rw [Fin.sum_univ_def, Function.comp, List.map_map]
    rfl

/-- `calc_shannon_sum_capacity` is `Σ log2(1 + x)` over its argument. -/
theorem shannon_sum_def (xs : List ℝ) : shannonSum xs = (xs.map (fun x => Real.logb 2 (1 + x))).sum := by
  rw [shannonSum, sumL_eq_sum]
  rfl

/-- one entry without a value spoils the whole: if stream `l` of user `k` has no value and
    every earlier stream of every earlier-or-equal user has one, the aggregate outcome is that
    tag — the channel object's `calc_SINR` raises there; the solver's result holds a
    non-finite entry and its `calc_sum_capacity` is non-finite. -/
theorem calc_SINR_raises (S : Fin K → Nat) (f : (k : Fin K) → Fin (S k) → Except PyErr ℝ)
    (k : Fin K) (l : Fin (S k)) (err : PyErr) (hfail : f k l = .error err)
    (hbefore_l : ∀ l' : Fin (S k), l'.val < l.val → ∃ y, f k l' = .ok y)
    (hbefore_k : ∀ k' : Fin K, k'.val < k.val → ∀ l', ∃ y, f k' l' = .ok y) :
    allStreams S f = .error err ∧ sumCapacity (allStreams S f) = .error err := by
  have hall : allStreams S f = .error err := by
    refine mapM_finRange_error _ k err (fun k' hk' => ?_) (mapM_finRange_error (f k) l err hbefore_l hfail)
    choose y hy using hbefore_k k' hk'
    exact ⟨_, mapM_ok _ y _ (fun l' _ => hy l')⟩
  exact ⟨hall, by rw [hall]; rfl⟩

/-- **no memory**: in the model an object that went through ANY history of setter calls
    (new realisation, new layout, path loss set / changed / removed, noise variance,
    post filters, precoders, powers, filters — `ι` is whatever bundles the inputs, layouts
    included) reports exactly what a fresh object given the current inputs reports;
    histories compose; two objects with the same current inputs report the same, whatever
    their pasts.  This is the statement the session correspondence and the session oracle
    of `harness/props/c11.py` hold the (cache-carrying) implementation to after every step. -/
theorem reports_depend_on_current_inputs_only {ι β : Type} (report : ι → β) (i0 i0' : ι)
    (h1 h2 : List (ι → ι)) :
    reportAfter report i0 h1 = reportAfter report (afterHistory i0 h1) [] ∧
    afterHistory i0 (h1 ++ h2) = afterHistory (afterHistory i0 h1) h2 ∧
    (afterHistory i0 h1 = afterHistory i0' h2 → reportAfter report i0 h1 = reportAfter report i0' h2) := by
  refine ⟨rfl, ?_, fun h => ?_⟩
  · simp only [afterHistory, List.foldl_append]
  · simp only [reportAfter, h]

/-- … and therefore **first principles on the CURRENT inputs after any history**: whatever
    sequence of setters a receiver's inputs went through, `calc_SINR` is signal over
    interference-plus-noise of the channel, precoders, filter and noise variance it holds NOW. -/
theorem sinr_after_history_first_principles (k : Fin K) (l : Fin (S k)) (i0 : RxInputs K n T S k)
    (hist : List (RxInputs K n T S k → RxInputs K n T S k))
    (hσ : ∀ v, (afterHistory i0 hist).noise = some v → 0 ≤ v)
    (hden : intfPow (afterHistory i0 hist).G (afterHistory i0 hist).V (filt (afterHistory i0 hist).Uk l) k l +
      noisePow (noiseVar (afterHistory i0 hist).noise) (filt (afterHistory i0 hist).Uk l) ≠ 0) :
    reportAfter (fun i : RxInputs K n T S k => (chSinr i.G i.V k i.Uk (baseRek n i.noise) l : Except PyErr ℝ))
        i0 hist =
      .ok (sigPow (afterHistory i0 hist).G (afterHistory i0 hist).V (filt (afterHistory i0 hist).Uk l) k l /
        (intfPow (afterHistory i0 hist).G (afterHistory i0 hist).V (filt (afterHistory i0 hist).Uk l) k l +
          noisePow (noiseVar (afterHistory i0 hist).noise) (filt (afterHistory i0 hist).Uk l))) :=
  sinr_first_principles _ _ k _ _ l hσ hden

/-- **index arguments are read by value**: an index whose value is below `K` designates that user
    whatever carries it (the model has no notion of the Python object: `int`, `np.int64`, `np.uint8`,
    `np.intp`, 0-d array and a non-cached `int` above 256 are the same `k`), a larger value is an
    `IndexError`; the receivers `k`, `k'` with `k.val = k'.val` get the same interference covariance (they are
    the same element of `Fin K`); and `calc_Q` / `calc_JP_Q` leave out exactly the user with that VALUE (last
    conjunct: the sum runs over the `j` with `j.val ≠ k.val`). -/
theorem index_argument_read_by_value (k : Nat) (G : (j : Fin K) → Mat ℂ n (T j))
    (V : (j : Fin K) → Mat ℂ (T j) (S j)) (noise : Option ℝ) :
    (∀ h : k < K, indexArg K k = .ok ⟨k, h⟩) ∧
    (K ≤ k → indexArg K k = .error .IndexError) ∧
    (∀ i, indexArg K k = .ok i → i.val = k) ∧
    (∀ a b : Fin K, a.val = b.val → chQ G V a noise = chQ G V b noise) ∧
    (∀ a : Fin K, toM (qImpl G V a) = ∑ j ∈ Finset.univ.filter (fun j : Fin K => j.val ≠ a.val), linkCov (G j) (V j)) := by
  refine ⟨fun h => dif_pos h, fun h => dif_neg (Nat.not_lt.mpr h), ?_, ?_, ?_⟩
  · intro i hi
    unfold indexArg at hi
    split at hi
    · cases hi; rfl
    · cases hi
  · intro a b hab
    rw [Fin.ext hab]
  · intro a
    rw [toM_qImpl, ← Finset.filter_ne']
    exact Finset.sum_congr (Finset.filter_congr fun j _ => Fin.val_ne_iff.symm) fun _ _ => rfl

/-- **the sum capacity of an argument of any shape is ONE number, the sum over all entries**: however
    the SINRs are arranged in rows (`K × Ns` array, column / row vector, per-user arrays of different
    lengths, empty rows), `calc_shannon_sum_capacity` is `Σ log2(1 + x)` over every entry, and two
    arrangements of the same entries give the same value. -/
theorem shannon_sum_any_shape (rows rows' : List (List ℝ)) :
    shannonSumNested rows = ((rows.map (fun r => (r.map (fun x => Real.logb 2 (1 + x))).sum)).sum) ∧
    (rows.flatten = rows'.flatten → shannonSumNested rows = shannonSumNested rows') ∧
    shannonSumNested [rows.flatten] = shannonSumNested rows :=
  ⟨shannonSum_rows rows, fun h => by simp only [shannonSumNested, h], by simp only [shannonSumNested, List.flatten_cons, List.flatten_nil, List.append_nil]⟩

/-- **equivalent ways to say the same thing give the same SINR**:
    * the external-interference class with `pe = 0` reports what the plain class reports (the external
      covariance `0 · H_e H_eᴴ` is the zero matrix: a wrapper that forgot to forward `pe` would differ);
    * the solver fed `W_H = Uᴴ` (rows, conjugated) reports what the channel object reports for the filters `U`
      (columns);
    * the solver given `(F, P)` and the solver given `full_F = F √P` see the same precoders. -/
theorem equivalent_forms_agree (G : (j : Fin K) → Mat ℂ n (T j)) (V : (j : Fin K) → Mat ℂ (T j) (S j))
    (k : Fin K) (Uk : Mat ℂ n (S k)) (He : Mat ℂ n e) (noise : Option ℝ) (l : Fin (S k))
    (F : (j : Fin K) → Mat ℂ (T j) (S j)) (P : Fin K → ℝ) (Rn : Mat ℂ n n) :
    (chSinr G V k Uk (extRek He 0 noise) l : Except PyErr ℝ) = chSinr G V k Uk (baseRek n noise) l ∧
    (solSinr G V k (cT Uk) Rn l : Except PyErr ℝ) = chSinr G V k Uk Rn l ∧
    (∀ V', V' = fullF F P → (solSinr G (fullF F P) k (cT Uk) Rn l : Except PyErr ℝ) = solSinr G V' k (cT Uk) Rn l) := by
  refine ⟨?_, ?_, fun V' h => by rw [h]⟩
  · rw [extRek_zero]
  · rw [solSinr_eq_chSinr, cT_cT]

/-- **R11 asking changes nothing**: a call that only asks (in the model: a step that returns the inputs it
    was given) leaves the inputs where they were, so a history with such calls interleaved anywhere leads
    to the same inputs — and the same reports — as the history without them. -/
theorem queries_leave_no_trace {ι β : Type} (report : ι → β) (i0 : ι) (h1 h2 : List (ι → Except PyErr ι)) :
    afterCalls i0 (h1 ++ (fun i => .ok i) :: h2) = afterCalls i0 (h1 ++ h2) ∧
    reportAfter report (afterCalls i0 (h1 ++ (fun i => .ok i) :: h2)) [] =
      reportAfter report (afterCalls i0 (h1 ++ h2)) [] := by
  have h := afterCalls_skip i0 h1 h2 (fun i => .ok i) rfl
  exact ⟨h, by rw [h]⟩

/-- **R4 refused calls leave no trace; R3 reports are values; R7 only the current inputs count.**
    For a long-lived object driven through ANY history of calls, each of which is either accepted
    (new inputs) or refused (exception):
    * a refused call leaves the inputs exactly as they were, hence the history with the refused call
      struck out leads to the same inputs — and to the same reports ever after;
    * what the object reported up to some point (`reportsAlong`) is not altered by anything that happens
      later (the reports of the longer history start with the reports of the shorter one);
    * the last report is the report of a fresh object given the current inputs. -/
theorem refused_calls_leave_no_trace {ι β : Type} (report : ι → β) (i0 : ι)
    (h1 h2 : List (ι → Except PyErr ι)) (call : ι → Except PyErr ι) (err : PyErr)
    (hrefused : call (afterCalls i0 h1) = .error err) :
    stepOrKeep (afterCalls i0 h1) call = afterCalls i0 h1 ∧
    afterCalls i0 (h1 ++ call :: h2) = afterCalls i0 (h1 ++ h2) ∧
    (reportsAlong report i0 (h1 ++ h2)).take (h1.length + 1) = reportsAlong report i0 h1 ∧
    (reportsAlong report i0 (h1 ++ call :: h2)).take (h1.length + 1) = reportsAlong report i0 h1 ∧
    (reportsAlong report i0 (h1 ++ call :: h2)).getLast? = some (report (afterCalls i0 (h1 ++ h2))) := by
  have hkeep : stepOrKeep (afterCalls i0 h1) call = afterCalls i0 h1 := by
    simp only [stepOrKeep, hrefused]
  have hsame := afterCalls_skip i0 h1 h2 call hkeep
  refine ⟨hkeep, hsame, reportsAlong_take report i0 h1 h2, reportsAlong_take report i0 h1 (call :: h2), ?_⟩
  rw [reportsAlong_getLast, hsame]

/-- **R1 / R2 presentation does not matter**: the model's reports are functions of the logical
    matrices and numbers only.  Whatever carries them — element type, memory layout, container,
    0-d array or scalar (`π` is any type of presentations with its reading `decode`) — two
    presentations of the same values are reported on identically. -/
theorem reports_depend_on_logical_values_only {π ι β : Type} (decode : π → ι) (report : ι → β) (p q : π)
    (h : decode p = decode q) : report (decode p) = report (decode q) := by rw [h]

/-- **R6 no absolute scale**: multiplying every link by `√g` (`g > 0`, all received powers by `g`)
    and the noise variance by `g` leaves every reported SINR exactly where it was — there is no
    threshold, floor or regulariser in the quotient (the only special value is a denominator that
    is EXACTLY zero, and it stays exactly zero under scaling). -/
theorem sinr_power_scale_invariant (G : (j : Fin K) → Mat ℂ n (T j)) (V : (j : Fin K) → Mat ℂ (T j) (S j))
    (k : Fin K) (Uk : Mat ℂ n (S k)) (σ2 g : ℝ) (l : Fin (S k)) (hg : 0 < g) :
    (chSinr (fun j => plScale (G j) g) V k Uk (baseRek n (some (g * σ2))) l : Except PyErr ℝ) =
      chSinr G V k Uk (baseRek n (some σ2)) l := by
  have hs : ∀ j d, streamPow (fun j => plScale (G j) g) V (filt Uk l) j d = g * streamPow G V (filt Uk l) j d :=
    fun j d => pathloss_stream_power G V (fun _ => g) (fun _ => hg.le) (filt Uk l) j d
  have hi : intfPow (fun j => plScale (G j) g) V (filt Uk l) k l = g * intfPow G V (filt Uk l) k l := by
    simp only [intfPow, hs, Finset.mul_sum]
  have hn : noisePow (noiseVar (some (g * σ2))) (filt Uk l) = g * noisePow (noiseVar (some σ2)) (filt Uk l) :=
    mul_assoc _ _ _
  rw [chSinr_base, chSinr_base, sigPow, sigPow, hs, hi]
  -- numerator and denominator carry the common factor `g`
  rw [hn, ← mul_add, quot_mul_left hg.ne']

/-- **R15 a value that is merely close is another value.**  The model compares nothing with a tolerance, rounds
    no key and has no threshold other than "exactly zero": for a stream that is received at all (`sigPow ≠ 0`)
    through a filter that is not zero,
    * two noise variances `σ ≠ σ'` (however close: `4e-12` and `4e-13`, `2.4e9` and `2.4e9 + 2e4`, two adjacent
      doubles) give two different reports — two different values, or a value and `ZeroDivisionError`;
    * they give two different interference-plus-noise covariance matrices `calc_Q`;
    * two external powers `pe ≠ pe'` give two different reports as soon as the external sources reach the
      filter output at all.
    An implementation that identifies such values (`np.isclose`, a rounded cache key, `> 1e-8`) therefore
    disagrees with the model on one of them; the R15 sessions of `harness/props/c11.py` generate such pairs: for
    the kinds `tiny` and `rel1e-6` the two first-principles reports lie at least 30 comparison tolerances apart,
    `ulp` and `dec12` pairs are generated without a margin. -/
theorem close_values_are_not_identified (G : (j : Fin K) → Mat ℂ n (T j)) (V : (j : Fin K) → Mat ℂ (T j) (S j))
    (k : Fin K) (Uk : Mat ℂ n (S k)) (He : Mat ℂ n e) (noise : Option ℝ) (σ σ' pe pe' : ℝ) (l : Fin (S k))
    (hσ : 0 ≤ σ) (hσ' : 0 ≤ σ') (hpe : 0 ≤ pe) (hpe' : 0 ≤ pe') (hnoise : ∀ v, noise = some v → 0 ≤ v)
    (hsig : sigPow G V (filt Uk l) k l ≠ 0) (hu : ∃ a, Uk a l ≠ 0) :
    (σ ≠ σ' → (chSinr G V k Uk (baseRek n (some σ)) l : Except PyErr ℝ) ≠ chSinr G V k Uk (baseRek n (some σ')) l) ∧
    (σ ≠ σ' → (chQ G V k (some σ) : Mat ℂ n n) ≠ chQ G V k (some σ')) ∧
    (pe ≠ pe' → extPow He 1 (filt Uk l) ≠ 0 →
      (chSinr G V k Uk (extRek He pe noise) l : Except PyErr ℝ) ≠ chSinr G V k Uk (extRek He pe' noise) l) := by
  obtain ⟨a, ha⟩ := hu
  have hw : (∑ a, Complex.normSq (filt Uk l a)) ≠ 0 :=
    (Finset.sum_pos' (fun b _ => Complex.normSq_nonneg (filt Uk l b))
      ⟨a, Finset.mem_univ a, Complex.normSq_pos.mpr ha⟩).ne'
  have hN := noisePow_nonneg (noiseVar_nonneg hnoise) (filt Uk l)
  have hS := (sigPow_nonneg G V (filt Uk l) k l).lt_of_ne' hsig
  have hI := intfPow_nonneg G V (filt Uk l) k l
  refine ⟨fun h => ?_, fun h => chQ_noise_injective G V k σ σ' (Fin.pos a) h, fun h hext => ?_⟩
  · -- the rest term is `σ ‖u‖²`, and `‖u‖² ≠ 0`
    rw [chSinr_base, chSinr_base]
    exact quot_ne hS (add_nonneg hI (noisePow_nonneg hσ _)) (add_nonneg hI (noisePow_nonneg hσ' _))
      (fun hq => h (mul_right_cancel₀ hw (add_left_cancel hq)))
  · -- the rest term is `pe · extPow 1 + noise`, and `extPow 1 ≠ 0`
    rw [chSinr_ext, chSinr_ext]
    refine quot_ne hS (add_nonneg hI (add_nonneg (extPow_nonneg He hpe _) hN))
      (add_nonneg hI (add_nonneg (extPow_nonneg He hpe' _) hN)) (fun hq => h ?_)
    have hq' := add_right_cancel (add_left_cancel hq)
    rw [extPow_eq_mul He pe, extPow_eq_mul He pe'] at hq'
    exact mul_right_cancel₀ hext hq'

/-- **R15 a setter takes effect for EVERY new value** — there is no "unchanged, skip" in the model.  Whatever
    history the inputs of a receiver went through and whatever value `noise_var` had before (equal to `v`, one
    ulp away from it, or far away), after `noise_var = v` the inputs hold exactly `v`, everything else is
    where it was, and `calc_SINR` is the report of a fresh object given the current channel, precoders, filters
    and exactly `v`.  The same holds for any setter that stores what it is given (`set`/`get` with
    `get (set v i) = v`: path loss, precoders, powers, filters). -/
theorem setter_takes_effect_for_every_new_value (k : Fin K) (l : Fin (S k)) (i0 : RxInputs K n T S k)
    (hist : List (RxInputs K n T S k → RxInputs K n T S k)) (v : Option ℝ)
    {ι ν : Type} (set : ν → ι → ι) (get : ι → ν) (hget : ∀ w i, get (set w i) = w) (j0 : ι) (h : List (ι → ι))
    (w : ν) :
    (afterHistory i0 (hist ++ [fun i => { i with noise := v }])).noise = v ∧
    (afterHistory i0 (hist ++ [fun i => { i with noise := v }])).G = (afterHistory i0 hist).G ∧
    (afterHistory i0 (hist ++ [fun i => { i with noise := v }])).V = (afterHistory i0 hist).V ∧
    (afterHistory i0 (hist ++ [fun i => { i with noise := v }])).Uk = (afterHistory i0 hist).Uk ∧
    reportAfter (fun i : RxInputs K n T S k => (chSinr i.G i.V k i.Uk (baseRek n i.noise) l : Except PyErr ℝ))
        i0 (hist ++ [fun i => { i with noise := v }]) =
      chSinr (afterHistory i0 hist).G (afterHistory i0 hist).V k (afterHistory i0 hist).Uk (baseRek n v) l ∧
    get (afterHistory j0 (h ++ [set w])) = w := by
  -- every conjunct is `foldl_append` and the record update; the last one is `hget`
  simp only [afterHistory, reportAfter, List.foldl_append, List.foldl_cons, List.foldl_nil, hget, and_self]

/-- **R16 results depend on the contents at call time, not on the identity of the objects.**  For a caller that
    keeps ONE buffer (address `a` of its memory `h`) and refills it in place before every call:
    * the `i`-th call returns what a call on a fresh copy of the `i`-th contents returns (`vs.map report`),
      whatever the buffer held before and however often it was used;
    * what earlier calls returned is not altered by later refills (the results of the longer loop start with
      those of the shorter one);
    * an object with equal contents at another address gives the same result; refilling ANOTHER object changes
      nothing;
    * one object in two roles (`calc_SINR(X, X)`, `Nr` and `Nt`, path loss and external path loss) is read as
      two arguments with equal contents.
    This is what the buffer sessions and the role scenarios of `harness/props/c11.py` hold the implementation to. -/
theorem results_depend_on_contents_at_call_time {ι β : Type} (report : ι → β) (report2 : ι → ι → β)
    (h h' : Heap ι) (a b : Nat) (vs ws : List ι) (v : ι) :
    refillLoop report a h vs = vs.map report ∧
    (refillLoop report a h (vs ++ ws)).take vs.length = refillLoop report a h vs ∧
    (h a = h' b → callOn report h a = callOn report h' b) ∧
    (b ≠ a → callOn report (refill h b v) a = callOn report h a) ∧
    callOn report (refill h a v) a = report v ∧
    callOn2 report2 h a a = report2 (h a) (h a) := by
  refine ⟨refillLoop_eq_map report a h vs, ?_, fun hab => by simp only [callOn, hab], fun hne => ?_, ?_, rfl⟩
  · rw [refillLoop_eq_map, refillLoop_eq_map, List.map_append, List.take_left' (List.length_map _)]
  · simp only [callOn, refill_other h b a v (Ne.symm hne)]
  · simp only [callOn, refill_self]

/-- a two-user scenario with one antenna everywhere, unit channel/precoders/filters and
    noise variance 1: the denominator hypothesis of `sinr_first_principles` holds and the
    theorem gives `SINR = 1 / (1 + 1) = 1/2` for user 0. -/
example :
    (chSinr (K := 2) (n := 1) (T := fun _ => 1) (S := fun _ => 1) (fun _ _ _ => (1 : ℂ)) (fun _ _ _ => 1) 0
      (fun _ _ => 1) (baseRek 1 (some (1 : ℝ))) 0 : Except PyErr ℝ) = .ok (1 / 2) := by
  have hi : intfPow (K := 2) (n := 1) (T := fun _ => 1) (S := fun _ => 1)
      (fun _ _ _ => (1 : ℂ)) (fun _ _ _ => 1) (fun _ => 1) 0 0 = 1 := by
    rw [← total_sub_own, Fintype.sum_sigma, Fin.sum_univ_two, Fin.sum_univ_one, Fin.sum_univ_one,
      add_sub_cancel_left]
    exact streamPow_ones 1 0
  have hn : noisePow (n := 1) (noiseVar (some (1 : ℝ))) (fun _ => 1) = 1 := by
    simp only [noisePow, noiseVar, Fin.sum_univ_one, Complex.normSq_one, mul_one]
  have hf : filt (n := 1) (s := 1) (fun _ _ => (1 : ℂ)) 0 = fun _ => 1 := rfl
  rw [sinr_first_principles _ _ _ _ _ _ (fun v hv => by cases hv; exact zero_le_one)
    (by rw [hf, hi, hn, one_add_one_eq_two]; exact two_ne_zero)]
  rw [hf, hi, hn, sigPow, streamPow_ones, one_add_one_eq_two]

/-- `close_values_are_not_identified` is not vacuous: in the scenario above the noise variances `1` and
    `1 + 10⁻⁹` (which `np.isclose` identifies) are reported on differently. -/
example :
    (chSinr (K := 2) (n := 1) (T := fun _ => 1) (S := fun _ => 1) (fun _ _ _ => (1 : ℂ)) (fun _ _ _ => 1) 0
      (fun _ _ => 1) (baseRek 1 (some (1 : ℝ))) 0 : Except PyErr ℝ) ≠
    chSinr (K := 2) (n := 1) (T := fun _ => 1) (S := fun _ => 1) (fun _ _ _ => (1 : ℂ)) (fun _ _ _ => 1) 0
      (fun _ _ => 1) (baseRek 1 (some (1 + 1 / 10 ^ 9 : ℝ))) 0 := by
  refine (close_values_are_not_identified (K := 2) (n := 1) (e := 0) (T := fun _ => 1) (S := fun _ => 1)
    (fun _ _ _ => (1 : ℂ)) (fun _ _ _ => 1) 0 (fun _ _ => 1) (fun _ i => i.elim0) none 1 (1 + 1 / 10 ^ 9) 0 0 0
    zero_le_one (by positivity) le_rfl le_rfl (fun _ h => by cases h) ?_ ⟨0, one_ne_zero⟩).1 (by norm_num)
  exact (streamPow_ones 0 0).trans_ne one_ne_zero

/-! ### the formulas of the CURRENT source, regenerated, are the model's

`Generated/C11Formulas.lean` is re-emitted from `multiuser.py` / `iabase.py` by `harness/gen/c11.py` on every
check run: the expression trees of `_calc_Bkl_cov_matrix_first_part / second_part / all_l`, `_calc_SINR_k`
(channel object), the joint-processing `_impl` twins, and the IA solver's methods of the same names, over the
primitive matrix operations only.  The theorem below holds for EVERY pair of scalar types (no algebraic law
is used: both sides are the same term), hence at `ℂ`/`ℝ`, where the theorems above live, and at binary64. -/
section generated
open PyPhysim.Sinr.GenPf
variable {α ρ : Type} [Zero α] [One α] [Add α] [Sub α] [Mul α] [Div α] [Conj α] [BEq α] [RC ρ α] [Zero ρ] [One ρ]

/-- **The regenerated formula trees equal the hand model, for all arguments.**  Channel object: first part
    (total covariance + `Rek`; `Rek` a matrix, a scalar noise power `c·I`, or `None` read as `0·I`), second
    part (own stream), `first − second`, and the SINR quotient (no value exactly when the regenerated
    denominator is `0`, else `|num / den|`).  Joint processing: the same with one channel `Hk` for every user.
    IA solver: first / second part from `V = full_F` ONLY (the regenerated trees take the unit-norm precoders
    `F` and the powers `P` as arguments too and must ignore them), `first − second + Rek` with
    `Rek = noise·I (+ external covariance)`, and the quotient with `u = (row l of full_W_H)ᴴ`. -/
theorem generated_formulas_match_model (G : (j : Fin K) → Mat α n (T j)) (V F : (j : Fin K) → Mat α (T j) (S j))
    (P : Fin K → ρ) (k : Fin K) (l : Fin (S k)) (Rek : Mat α n n) (c : ρ) (Uk : Mat α n (S k))
    (WHk : Mat α (S k) n) (He : Mat α n e) {t : Nat} (Hk : Mat α n t) {s : Fin K → Nat}
    (V' : (j : Fin K) → Mat α t (s j)) (Uk' : Mat α n (s k)) (l' : Fin (s k)) :
    (Gen.chFirstMat G V k Rek = chFirst G V Rek
      ∧ Gen.chFirstScalar G V k c = chFirst G V (baseRek n (some c))
      ∧ Gen.chFirstNone (ρ := ρ) G V k = chFirst G V (baseRek n (none : Option ρ))
      ∧ Gen.chSecond G k (V k) l = chSecond (G k) (V k) l
      ∧ Gen.chBklMat G V k Rek l = chBkl G V Rek k l
      ∧ Gen.chBklScalar G V k c l = chBkl G V (baseRek n (some c)) k l
      ∧ chSinr (ρ := ρ) G V k Uk Rek l =
          if Gen.chSinrDen G k (V k) Uk (chBkl G V Rek k l) l == 0 then .error .ZeroDivisionError
          else .ok (Gen.chSinrVal G k (V k) Uk (chBkl G V Rek k l) l))
    ∧ (Gen.jpFirst Hk V' Rek = chFirst (T := fun _ => t) (fun _ => Hk) V' Rek
      ∧ Gen.jpSecond Hk (V' k) l' = chSecond Hk (V' k) l'
      ∧ chSinr (ρ := ρ) (T := fun _ => t) (fun _ => Hk) V' k Uk' Rek l' =
          if Gen.jpSinrDen Hk (V' k) Uk' (chBkl (T := fun _ => t) (fun _ => Hk) V' Rek k l') l' == 0
          then .error .ZeroDivisionError
          else .ok (Gen.jpSinrVal Hk (V' k) Uk' (chBkl (T := fun _ => t) (fun _ => Hk) V' Rek k l') l'))
    ∧ (Gen.solFirst G V F P k = solFirst G V
      ∧ Gen.solSecond G V F P k l = solSecond (G k) (V k) l
      ∧ Gen.solBklPlain G V F P k c l = solBkl G V (solRek (e := 0) n c none) k l
      ∧ Gen.solBklExt G V F P k c (extCov He (1 : ρ)) l = solBkl G V (solRek n c (some He)) k l
      ∧ solSinr (ρ := ρ) G V k WHk Rek l =
          if Gen.solSinrDen G V F P k WHk (solBkl G V Rek k l) l == 0 then .error .ZeroDivisionError
          else .ok (Gen.solSinrVal G V F P k WHk (solBkl G V Rek k l) l)) :=
  ⟨⟨rfl, rfl, rfl, rfl, rfl, rfl, rfl⟩, ⟨rfl, rfl, rfl⟩, ⟨rfl, rfl, rfl, rfl, rfl⟩⟩

/-- the solver's regenerated first-term tree at `ℂ`: the model's `solFirst`, by unfolding (the first equation of the
    IA-solver block above at one scalar type; the tree does not depend on `F`, `P` or `k`) -/
example (G : (j : Fin K) → Mat ℂ n (T j)) (V F : (j : Fin K) → Mat ℂ (T j) (S j)) (P : Fin K → ℝ) (k : Fin K) :
    Gen.solFirst G V F P k = solFirst G V := rfl

end generated

end PyPhysim.C11
