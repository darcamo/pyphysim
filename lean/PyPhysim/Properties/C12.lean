import Mathlib.Algebra.Order.Field.Rat
import PyPhysim.Proofs.C12Optimal
import PyPhysim.Proofs.C12Gen

/-!
# C12 — water-filling returns the capacity-optimal power allocation

`doWFWith asc n P N Es` is the hand model of
`pyphysim.comm.waterfilling.doWF` after the sort (`Model/C12.lean`), `asc` being
the result of the external kernel `np.argsort` paired with the gains; every
theorem holds for **every** `asc` satisfying `SortContract g asc` (a permutation
of the indexed gains in non-decreasing gain order), i.e. for every tie order.
`doWF g P N Es` is the same function with the model's own stable merge sort
(`argsortAsc_contract`), which is what the compiled driver runs at `Rat` in the
correspondence check.  `α` is an arbitrary linear ordered field; optimality is
over `ℝ`.  Quantifier of the property: all gain vectors of length ≥ 1 with
positive gains, `P > 0`, `N > 0`, `Es > 0` — no bound on the length.
-/
namespace PyPhysim.C12
open PyPhysim.Proto

variable {α : Type}

section
variable [Field α] [LinearOrder α] [IsStrictOrderedRing α]

/-- On the whole domain of the property the code returns a value (no exception; the
    loop never removes every channel), for every admissible sort result. -/
theorem wf_returns (g : List α) (asc : List (Chan α)) (P N Es : α)
    (hc : SortContract g asc) (hne : g ≠ []) (hg : ∀ x ∈ g, 0 < x)
    (hP : 0 < P) (hN : 0 < N) (hEs : 0 < Es) :
    ∃ p mu, doWFWith asc g.length P N Es = .ok (p, mu) := by
  obtain ⟨p, mu, h, -⟩ := doWFWith_isWaterFilling hc hne hg hP.le hN hEs
  exact ⟨p, mu, h⟩

/-- Clause "equals max(0, water level − noise/(energy × gain)) on every channel for the
    returned water level": one entry per channel, entry `j` has that form. -/
theorem wf_form (g : List α) (asc : List (Chan α)) (P N Es : α) (p : List α) (mu : α)
    (hc : SortContract g asc) (hne : g ≠ []) (hg : ∀ x ∈ g, 0 < x)
    (hP : 0 < P) (hN : 0 < N) (hEs : 0 < Es)
    (hres : doWFWith asc g.length P N Es = .ok (p, mu)) :
    p.length = g.length ∧
      ∀ (j : Nat) (hj : j < g.length) (hj' : j < p.length), p[j] = max 0 (mu - N / (Es * g[j])) := by
  have hw := (doWFWith_eq_ok_iff hc hne hg hP hN hEs).mp hres
  exact ⟨hw.length, hw.getElem⟩

/-- Which channels the loop switches off (the loop invariant, seen from outside): channel
    `j` gets zero power exactly when its level `N/(Es·g_j)` is at or above the returned
    water level. -/
theorem wf_switched_off_iff (g : List α) (asc : List (Chan α)) (P N Es : α) (p : List α) (mu : α)
    (hc : SortContract g asc) (hne : g ≠ []) (hg : ∀ x ∈ g, 0 < x)
    (hP : 0 < P) (hN : 0 < N) (hEs : 0 < Es)
    (hres : doWFWith asc g.length P N Es = .ok (p, mu)) :
    ∀ (j : Nat) (hj : j < g.length) (hj' : j < p.length),
      p[j] = 0 ↔ mu ≤ N / (Es * g[j]) := by
  intro j hj hj'
  rw [(wf_form g asc P N Es p mu hc hne hg hP hN hEs hres).2 j hj hj', max_eq_left_iff, sub_nonpos]

/-- Clause "the allocation is non-negative". -/
theorem wf_nonneg (g : List α) (asc : List (Chan α)) (P N Es : α) (p : List α) (mu : α)
    (hc : SortContract g asc) (hne : g ≠ []) (hg : ∀ x ∈ g, 0 < x)
    (hP : 0 < P) (hN : 0 < N) (hEs : 0 < Es)
    (hres : doWFWith asc g.length P N Es = .ok (p, mu)) : ∀ y ∈ p, 0 ≤ y :=
  ((doWFWith_eq_ok_iff hc hne hg hP hN hEs).mp hres).nonneg

/-- Clause "sums to the total power". -/
theorem wf_sum (g : List α) (asc : List (Chan α)) (P N Es : α) (p : List α) (mu : α)
    (hc : SortContract g asc) (hne : g ≠ []) (hg : ∀ x ∈ g, 0 < x)
    (hP : 0 < P) (hN : 0 < N) (hEs : 0 < Es)
    (hres : doWFWith asc g.length P N Es = .ok (p, mu)) : p.sum = P :=
  ((doWFWith_eq_ok_iff hc hne hg hP hN hEs).mp hres).sum

/-- Clause "no other non-negative allocation with the same total achieves a larger sum of
    log2(1 + gain × energy × power / noise)" (over ℝ, any number of channels). -/
theorem wf_optimal (g : List ℝ) (asc : List (Chan ℝ)) (P N Es : ℝ) (p : List ℝ) (mu : ℝ)
    (hc : SortContract g asc) (hne : g ≠ []) (hg : ∀ x ∈ g, 0 < x)
    (hP : 0 < P) (hN : 0 < N) (hEs : 0 < Es)
    (hres : doWFWith asc g.length P N Es = .ok (p, mu))
    (q : List ℝ) (hlen : q.length = g.length) (hq : ∀ y ∈ q, 0 ≤ y) (hqs : q.sum = P) :
    (List.zipWith (fun x y => Real.logb 2 (1 + x * Es * y / N)) g q).sum
      ≤ (List.zipWith (fun x y => Real.logb 2 (1 + x * Es * y / N)) g p).sum :=
  ((doWFWith_eq_ok_iff hc hne hg hP hN hEs).mp hres).optimal hP hg hN hEs hlen hq hqs

/-- The result does not depend on which admissible sort result (tie order) `argsort`
    returns: ties get equal power, so the unstable sort in the code is harmless. -/
theorem wf_sort_irrelevant (g : List α) (asc asc' : List (Chan α)) (P N Es : α)
    (hc : SortContract g asc) (hc' : SortContract g asc') (hne : g ≠ []) (hg : ∀ x ∈ g, 0 < x)
    (hP : 0 < P) (hN : 0 < N) (hEs : 0 < Es) :
    doWFWith asc g.length P N Es = doWFWith asc' g.length P N Es := by
  obtain ⟨p, mu, h, hw⟩ := doWFWith_isWaterFilling hc hne hg hP.le hN hEs
  exact h.trans ((doWFWith_eq_ok_iff hc' hne hg hP hN hEs).mpr hw).symm

/-- The returned pair is the *only* pair of the water-filling form with total `P`
    (so `mu` really is "the" water level). -/
theorem wf_unique (g : List α) (asc : List (Chan α)) (P N Es : α) (p : List α) (mu : α)
    (hc : SortContract g asc) (hne : g ≠ []) (hg : ∀ x ∈ g, 0 < x)
    (hP : 0 < P) (hN : 0 < N) (hEs : 0 < Es)
    (hres : doWFWith asc g.length P N Es = .ok (p, mu))
    (nu : α) (hsum : (g.map (fun x => max 0 (nu - N / (Es * x)))).sum = P) :
    nu = mu ∧ g.map (fun x => max 0 (nu - N / (Es * x))) = p :=
  (IsWaterFilling.unique ⟨rfl, hsum⟩ ((doWFWith_eq_ok_iff hc hne hg hP hN hEs).mp hres) hP).symm

/-- Clause "permuting the channels permutes the allocation identically": for every
    permutation `σ` of the channel positions, running the code on `g ∘ σ` gives the same
    level and the allocation `p ∘ σ`. -/
theorem wf_perm_equivariant (g : List α) (σ : Equiv.Perm (Fin g.length))
    (asc asc' : List (Chan α)) (P N Es : α) (p p' : List α) (mu mu' : α)
    (hc : SortContract g asc) (hc' : SortContract (List.ofFn (fun i => g[σ i])) asc')
    (hne : g ≠ []) (hg : ∀ x ∈ g, 0 < x) (hP : 0 < P) (hN : 0 < N) (hEs : 0 < Es)
    (hres : doWFWith asc g.length P N Es = .ok (p, mu))
    (hres' : doWFWith asc' (List.ofFn (fun i => g[σ i])).length P N Es = .ok (p', mu')) :
    mu' = mu ∧ p'.length = g.length ∧ ∀ i : Fin g.length, p'[(i : Nat)]? = p[(σ i : Nat)]? := by
  have hperm := ofFn_getElem_perm g σ
  exact ((doWFWith_eq_ok_iff hc hne hg hP hN hEs).mp hres).perm_equivariant σ
    ((doWFWith_eq_ok_iff hc' (fun e => hne (e ▸ hperm).nil_eq.symm)
      (fun x hx => hg x (hperm.mem_iff.mp hx)) hP hN hEs).mp hres') hP

/-- R6, change of power unit: total power and noise variance both multiplied by `s > 0`
    ⇒ the allocation and the level are multiplied by `s` (no absolute scale anywhere). -/
theorem wf_scale_power_noise (g : List α) (asc asc' : List (Chan α)) (P N Es s : α)
    (p p' : List α) (mu mu' : α)
    (hc : SortContract g asc) (hc' : SortContract g asc') (hne : g ≠ []) (hg : ∀ x ∈ g, 0 < x)
    (hP : 0 < P) (hN : 0 < N) (hEs : 0 < Es) (hs : 0 < s)
    (hres : doWFWith asc g.length P N Es = .ok (p, mu))
    (hres' : doWFWith asc' g.length (s * P) (s * N) Es = .ok (p', mu')) :
    mu' = s * mu ∧ p' = p.map (fun y => s * y) :=
  IsWaterFilling.eq_of_doWFWith hc' hne hg (mul_pos hs hP) (mul_pos hs hN) hEs hres'
    (((doWFWith_eq_ok_iff hc hne hg hP hN hEs).mp hres).scale_power_noise hs)

/-- R6: gains and noise variance multiplied by the same `s > 0` ⇒ same allocation, same level. -/
theorem wf_scale_gain_noise (g : List α) (asc asc' : List (Chan α)) (P N Es s : α)
    (p p' : List α) (mu mu' : α)
    (hc : SortContract g asc) (hc' : SortContract (g.map (fun x => s * x)) asc')
    (hne : g ≠ []) (hg : ∀ x ∈ g, 0 < x)
    (hP : 0 < P) (hN : 0 < N) (hEs : 0 < Es) (hs : 0 < s)
    (hres : doWFWith asc g.length P N Es = .ok (p, mu))
    (hres' : doWFWith asc' (g.map (fun x => s * x)).length P (s * N) Es = .ok (p', mu')) :
    mu' = mu ∧ p' = p :=
  IsWaterFilling.eq_of_doWFWith hc' (mt List.map_eq_nil_iff.mp hne)
    (List.forall_mem_map.mpr fun x hx => mul_pos hs (hg x hx)) hP (mul_pos hs hN) hEs hres'
    (((doWFWith_eq_ok_iff hc hne hg hP hN hEs).mp hres).scale_gain_noise hs)

/-- R6: gains divided and symbol energy multiplied by the same `s > 0` ⇒ same result. -/
theorem wf_scale_gain_energy (g : List α) (asc asc' : List (Chan α)) (P N Es s : α)
    (p p' : List α) (mu mu' : α)
    (hc : SortContract g asc) (hc' : SortContract (g.map (fun x => x / s)) asc')
    (hne : g ≠ []) (hg : ∀ x ∈ g, 0 < x)
    (hP : 0 < P) (hN : 0 < N) (hEs : 0 < Es) (hs : 0 < s)
    (hres : doWFWith asc g.length P N Es = .ok (p, mu))
    (hres' : doWFWith asc' (g.map (fun x => x / s)).length P N (s * Es) = .ok (p', mu')) :
    mu' = mu ∧ p' = p :=
  IsWaterFilling.eq_of_doWFWith hc' (mt List.map_eq_nil_iff.mp hne)
    (List.forall_mem_map.mpr fun x hx => div_pos (hg x hx) hs) hP hN (mul_pos hs hEs) hres'
    (((doWFWith_eq_ok_iff hc hne hg hP hN hEs).mp hres).scale_gain_energy hs)

/-- R5, boundary `P = 0` (outside the quantifier, accepted by the code): a value is
    returned and every channel gets exactly zero power. -/
theorem wf_zero_power (g : List α) (asc : List (Chan α)) (N Es : α)
    (hc : SortContract g asc) (hne : g ≠ []) (hg : ∀ x ∈ g, 0 < x) (hN : 0 < N) (hEs : 0 < Es) :
    ∃ p mu, doWFWith asc g.length 0 N Es = .ok (p, mu) ∧ p.length = g.length ∧ ∀ y ∈ p, y = 0 := by
  obtain ⟨p, mu, h, hw⟩ := doWFWith_isWaterFilling hc hne hg le_rfl hN hEs
  exact ⟨p, mu, h, hw.length,
    fun y hy => List.all_zero_of_le_zero_le_of_sum_eq_zero hw.nonneg hw.sum hy⟩

/-- Outside the quantifier: a negative total power removes every channel and the code
    raises `IndexError` (`vtOptPaux[0]` on an empty array). -/
theorem wf_negative_power_raises (g : List α) (asc : List (Chan α)) (P N Es : α)
    (hc : SortContract g asc) (hne : g ≠ []) (hg : ∀ x ∈ g, 0 < x)
    (hP : P < 0) (hN : 0 < N) (hEs : 0 < Es) :
    doWFWith asc g.length P N Es = .error .IndexError :=
  doWFWith_of_dropLoop_nil _ (dropLoop_neg N Es P hP asc (hc.levelSorted hg hN hEs))

end

section
variable [Field α] [LinearOrder α]

/-- R5, a single channel (`K = 1`): it gets the whole power and the level is
    `P + N/(Es·g)`, for every `P ≥ 0`. -/
theorem wf_single_channel (g0 P N Es : α) (hP : 0 ≤ P) :
    doWFWith [((g0, 0) : Chan α)] 1 P N Es = .ok ([P], P + N / (Es * g0)) := by
  simp only [doWFWith, dropLoop, excess, level, List.map_cons, sub_self, List.map_nil, List.sum_cons,
    List.sum_nil, add_zero, hP.not_gt, ↓reduceIte, List.getLast?_singleton, sub_zero, List.length_cons, List.length_nil,
    zero_add, Nat.cast_one, div_one, scatter, List.zip_cons_cons, List.zip_nil_right, List.range_one, scatterAt,
    List.lookup, BEq.rfl]

/-- Outside the quantifier (recorded behaviour, tied by the malformed-input stream):
    an empty gain vector raises `IndexError`. -/
theorem wf_empty_raises (n : Nat) (P N Es : α) :
    doWFWith ([] : List (Chan α)) n P N Es = .error .IndexError := rfl

/-- The model is a function of the *logical* input only (R1/R2/R3/R4/R7 on the model side):
    a list of values in, a fresh value out, no state — so the same values delivered in any
    dtype, memory layout or call order give the same result, and a rejected call (`.error`)
    leaves nothing behind.  Stated as: equal inputs give equal outputs, errors included. -/
theorem wf_function_of_values (g g' : List α) (P P' N N' Es Es' : α)
    (hg : g = g') (hP : P = P') (hN : N = N') (hEs : Es = Es') :
    doWF g P N Es = doWF g' P' N' Es' := by
  subst hg hP hN hEs; rfl

/-- R8, argument forms: leaving `noiseVar` and/or `Es` out of the call (positionally or by
    keyword) is the call with the value `1` — all four combinations. -/
theorem wf_default_args (g : List α) (P N Es : α) :
    doWFCall g P none none = doWF g P 1 1 ∧ doWFCall g P (some N) none = doWF g P N 1 ∧
    doWFCall g P none (some Es) = doWF g P 1 Es ∧ doWFCall g P (some N) (some Es) = doWF g P N Es := by
  simp only [doWFCall, Nat.cast_one, and_self]

end

section
variable [Field α] [LinearOrder α] [IsStrictOrderedRing α]

/-- R8: with both optional arguments left out the clauses read `p_j = max 0 (mu − 1/g_j)`,
    `Σ p = P`, `p ≥ 0` (the textbook form). -/
theorem wf_default_call_clauses (g : List α) (P : α) (p : List α) (mu : α)
    (hne : g ≠ []) (hg : ∀ x ∈ g, 0 < x) (hP : 0 < P)
    (hres : doWFCall g P none none = .ok (p, mu)) :
    p.sum = P ∧ (∀ y ∈ p, 0 ≤ y) ∧ p = g.map (fun x => max 0 (mu - 1 / x)) := by
  rw [(wf_default_args g P 1 1).1] at hres
  have h1 := zero_lt_one' α
  have hw := (doWFWith_eq_ok_iff (argsortAsc_contract g) hne hg hP h1 h1).mp hres
  exact ⟨hw.sum, hw.nonneg, by simpa only [one_mul] using hw.form⟩

/-- The driver's `doWFCallRat` is the `ℚ` instance of `doWFCall`. -/
theorem wf_driver_call_instance (g : List ℚ) (P : ℚ) (N Es : Option ℚ) :
    doWFCallRat g P N Es = doWFCall g P N Es := rfl

/-- R14 / R5, any NUMBER of channels with equal gains (257, 2^16+1, … — no bound on `n`):
    every channel gets `P/n` and the level is `P/n + N/(Es·x)`. -/
theorem wf_equal_gains (n : Nat) (x : α) (asc : List (Chan α)) (P N Es : α) (p : List α) (mu : α)
    (hn : 0 < n) (hx : 0 < x) (hc : SortContract (List.replicate n x) asc)
    (hP : 0 < P) (hN : 0 < N) (hEs : 0 < Es)
    (hres : doWFWith asc (List.replicate n x).length P N Es = .ok (p, mu)) :
    mu = P / n + N / (Es * x) ∧ p = List.replicate n (P / n) :=
  IsWaterFilling.eq_of_doWFWith hc (mt (List.replicate_eq_nil_iff x).mp hn.ne')
    (fun _ hy => (List.eq_of_mem_replicate hy).symm ▸ hx) hP hN hEs hres
    (IsWaterFilling.replicate hn x hP.le)

/-! ### R15 (distinct values that are merely close) and R16 (argument identity, buffer reuse)

R15.  The code has no lookup, cache or "unchanged" test; the places where a value decides
something are the loop test `sum(Ps) > dPt` and the sort.  The theorems say that the result
is a function of the EXACT value of every input that can matter: two total powers, two noise
variances, two symbol energies, two gains of a channel in use are never identified, however
close they are (`α` is any linear ordered field: there is no tolerance in the model). -/

/-- R15, total power: `P < P'` (no matter how close) ⇒ strictly higher water level and a
    different allocation. -/
theorem wf_exact_in_power (g : List α) (asc asc' : List (Chan α)) (P P' N Es : α)
    (p p' : List α) (mu mu' : α)
    (hc : SortContract g asc) (hc' : SortContract g asc') (hne : g ≠ []) (hg : ∀ x ∈ g, 0 < x)
    (hP : 0 < P) (hN : 0 < N) (hEs : 0 < Es) (hPP : P < P')
    (hres : doWFWith asc g.length P N Es = .ok (p, mu))
    (hres' : doWFWith asc' g.length P' N Es = .ok (p', mu')) :
    mu < mu' ∧ p ≠ p' := by
  have hw := (doWFWith_eq_ok_iff hc hne hg hP hN hEs).mp hres
  have hw' := (doWFWith_eq_ok_iff hc' hne hg (hP.trans hPP) hN hEs).mp hres'
  exact ⟨hw.level_strictMono hw' hP hPP, fun e => hPP.ne (hw.sum.symm.trans (e ▸ hw'.sum))⟩

/-- R15, noise variance: two different noise variances (4e-12 and 4e-13, say) never give the
    same result. -/
theorem wf_exact_in_noise (g : List α) (asc asc' : List (Chan α)) (P N N' Es : α)
    (p p' : List α) (mu mu' : α)
    (hc : SortContract g asc) (hc' : SortContract g asc') (hne : g ≠ []) (hg : ∀ x ∈ g, 0 < x)
    (hP : 0 < P) (hN : 0 < N) (hN' : 0 < N') (hEs : 0 < Es) (hNN : N ≠ N')
    (hres : doWFWith asc g.length P N Es = .ok (p, mu))
    (hres' : doWFWith asc' g.length P N' Es = .ok (p', mu')) :
    (p, mu) ≠ (p', mu') := by
  have hw := (doWFWith_eq_ok_iff hc hne hg hP hN hEs).mp hres
  have hw' := (doWFWith_eq_ok_iff hc' hne hg hP hN' hEs).mp hres'
  intro e
  cases e
  exact hNN ((div_left_inj' hEs.ne').mp (hw.ratio_eq hw' hP hg))

/-- R15, symbol energy: two different symbol energies never give the same result. -/
theorem wf_exact_in_energy (g : List α) (asc asc' : List (Chan α)) (P N Es Es' : α)
    (p p' : List α) (mu mu' : α)
    (hc : SortContract g asc) (hc' : SortContract g asc') (hne : g ≠ []) (hg : ∀ x ∈ g, 0 < x)
    (hP : 0 < P) (hN : 0 < N) (hEs : 0 < Es) (hEs' : 0 < Es') (hEE : Es ≠ Es')
    (hres : doWFWith asc g.length P N Es = .ok (p, mu))
    (hres' : doWFWith asc' g.length P N Es' = .ok (p', mu')) :
    (p, mu) ≠ (p', mu') := by
  have hw := (doWFWith_eq_ok_iff hc hne hg hP hN hEs).mp hres
  have hw' := (doWFWith_eq_ok_iff hc' hne hg hP hN hEs').mp hres'
  intro e
  cases e
  exact hEE ((div_right_inj₀ hN.ne').mp (hw.ratio_eq hw' hP hg))

/-- R15, gains: two gain vectors that differ — by however little — on a channel that gets
    power never give the same result (the gain of a switched-off channel may change without
    effect: it is legitimately invisible, `wf_switched_off_iff`). -/
theorem wf_exact_in_used_gain (g g' : List α) (asc asc' : List (Chan α)) (P N Es : α)
    (p p' : List α) (mu mu' : α)
    (hc : SortContract g asc) (hc' : SortContract g' asc')
    (hne : g ≠ []) (hne' : g' ≠ []) (hg : ∀ x ∈ g, 0 < x) (hg' : ∀ x ∈ g', 0 < x)
    (hP : 0 < P) (hN : 0 < N) (hEs : 0 < Es)
    (hres : doWFWith asc g.length P N Es = .ok (p, mu))
    (hres' : doWFWith asc' g'.length P N Es = .ok (p', mu'))
    (j : Nat) (hj : j < g.length) (hj' : j < g'.length) (hp : j < p.length)
    (hused : 0 < p[j]) (hdiff : g[j] ≠ g'[j]) :
    (p, mu) ≠ (p', mu') := by
  have hw := (doWFWith_eq_ok_iff hc hne hg hP hN hEs).mp hres
  have hw' := (doWFWith_eq_ok_iff hc' hne' hg' hP hN hEs).mp hres'
  intro e
  cases e
  exact hdiff (hw.used_gain_eq hw' hN hEs j hj hj' hp hused)

/-- R15, all scalar arguments at once, for the function the driver runs: `doWF` returns the
    same value for `(P, N, Es)` and `(P', N', Es')` only if `P = P'` and `N/Es = N'/Es'`
    (the ratio is the only way the two enter: `wf_scale_gain_energy`, `wf_scale_gain_noise`). -/
theorem wf_close_values_not_identified (g : List α) (P P' N N' Es Es' : α)
    (hne : g ≠ []) (hg : ∀ x ∈ g, 0 < x) (hP : 0 < P) (hP' : 0 < P')
    (hN : 0 < N) (hN' : 0 < N') (hEs : 0 < Es) (hEs' : 0 < Es')
    (heq : doWF g P N Es = doWF g P' N' Es') : P = P' ∧ N / Es = N' / Es' := by
  obtain ⟨p, mu, h, hw⟩ := doWFWith_isWaterFilling (argsortAsc_contract g) hne hg hP.le hN hEs
  have hw' := IsWaterFilling.of_doWF hne hg hP'.le hN' hEs' (heq.symm.trans h)
  exact ⟨hw.sum.symm.trans hw'.sum, hw.ratio_eq hw' hP hg⟩

/-- non-vacuity of the R15 theorems at close values: noise 4e-12 vs 4e-13 (both "equal to 0"
    for `np.isclose`) and powers 1 vs 1 + 1e-13 give different model results (the sort result
    `[(1/2, 1), (1, 0)]` is the one of `g = [1, 1/2]`) -/
example :
    (doWFWith [((1/2 : Rat), 1), (1, 0)] 2 (1/1000000000000) (4/1000000000000) 1).toOption
      ≠ (doWFWith [((1/2 : Rat), 1), (1, 0)] 2 (1/1000000000000) (4/10000000000000) 1).toOption ∧
    (doWFWith [((1/2 : Rat), 1), (1, 0)] 2 1 1 1).toOption
      ≠ (doWFWith [((1/2 : Rat), 1), (1, 0)] 2 (1 + 1/10000000000000) 1 1).toOption := by
  decide +kernel

end

/-! R16.  `doWF` is a pure function of the values it is handed: the model of a caller that
keeps one array and refills it in place (`runOps`, `Model/C12.lean`) returns, for every
call, `doWF` of the contents at call time; nothing a later refill or call does reaches an
earlier result. -/

/-- R16: the k-th result of a history on ONE reused buffer is `doWF` of the k-th argument
    values (= the contents the buffer had when the call was made) — a fresh call on a copy. -/
theorem wf_history_results [Add α] [Sub α] [Mul α] [Div α] [Zero α] [NatCast α] [LT α]
    [DecidableLT α] (buf : List α) (ops : List (Op α)) :
    runOps buf ops = (callArgs buf ops).map (fun a => doWF a.1 a.2.1 a.2.2.1 a.2.2.2) := by
  induction ops generalizing buf with
  | nil => rfl
  | cons o ops ih =>
    cases o with
    | refill new => exact ih new
    | call P N Es => exact congrArg (_ :: ·) (ih buf)

/-- R16: whatever the caller does later (refills, further calls) leaves the results of the
    earlier calls as they were, and the later calls see exactly the buffer the earlier
    operations left behind. -/
theorem wf_history_append [Add α] [Sub α] [Mul α] [Div α] [Zero α] [NatCast α] [LT α]
    [DecidableLT α] (buf : List α) (ops more : List (Op α)) :
    runOps buf (ops ++ more) = runOps buf ops ++ runOps (bufAfter buf ops) more := by
  induction ops generalizing buf with
  | nil => rfl
  | cons o ops ih =>
    cases o with
    | refill new => exact ih new
    | call P N Es => exact congrArg (_ :: ·) (ih buf)

/-- R16: refilling the buffer with the contents it already has (an equal-content array, the
    same or another object) changes nothing; and one value handed over in several roles
    (`doWF(g, z, z, z)` with ONE 0-d array `z`) is the call with that value in each role. -/
theorem wf_equal_contents_same_result [Add α] [Sub α] [Mul α] [Div α] [Zero α] [NatCast α]
    [LT α] [DecidableLT α] (buf : List α) (ops : List (Op α)) (z : α) :
    runOps buf (.refill buf :: ops) = runOps buf ops ∧
    runOps buf [.call z z z] = [doWF buf z z z] ∧
    doWFCall buf z (some z) (some z) = doWF buf z z z :=
  ⟨rfl, rfl, rfl⟩

/-- The driver's `runOpsRat` is the `ℚ` instance of `runOps`. -/
theorem wf_driver_history_instance (buf : List ℚ) (ops : List (Op ℚ)) :
    runOpsRat buf ops = runOps buf ops := rfl

/-- non-vacuity: a history A, B (a permutation of A: same sum, same first element), A on one
    buffer — the second call sees the permuted contents, the third the restored ones
    (`argsortAsc` is a well-founded recursion the kernel does not unfold: the expected values are
    checked to be water-filling solutions, and a solution is what the code returns,
    `IsWaterFilling.eq_of_doWFWith`) -/
example :
    (runOpsRat [] [.refill [1, 1/2, 1/10], .call 1 (1/2) 2, .refill [1, 1/10, 1/2],
                   .call 1 (1/2) 2, .refill [1, 1/2, 1/10], .call 1 (1/2) 2]).map Except.toOption
      = [some ([5/8, 3/8, 0], 7/8), some ([5/8, 0, 3/8], 7/8), some ([5/8, 3/8, 0], 7/8)] := by
  have key : ∀ {g q : List ℚ} {nu : ℚ}, IsWaterFilling g 1 (1/2) 2 q nu → g ≠ [] →
      (∀ x ∈ g, 0 < x) → doWF g 1 (1/2) 2 = .ok (q, nu) := fun {g q nu} h hne hg =>
    (doWFWith_eq_ok_iff (argsortAsc_contract g) hne hg one_pos one_half_pos two_pos).mpr h
  have hA : doWF ([1, 1/2, 1/10] : List ℚ) 1 (1/2) 2 = .ok ([5/8, 3/8, 0], 7/8) :=
    key ⟨by decide +kernel, by decide +kernel⟩ (List.cons_ne_nil _ _) (by decide +kernel)
  have hB : doWF ([1, 1/10, 1/2] : List ℚ) 1 (1/2) 2 = .ok ([5/8, 0, 3/8], 7/8) :=
    key ⟨by decide +kernel, by decide +kernel⟩ (List.cons_ne_nil _ _) (by decide +kernel)
  simp only [runOpsRat, runOps, List.map_cons, List.map_nil, hA, hB, Except.toOption]

/-! ### tie by regeneration

`Generated/C12WaterFilling.lean` is re-emitted from the current AST of `waterfilling.py: doWF`
on every run (`harness/gen/c12.py`): the sort direction, the initial number of removed
channels, the recomputed `minMu` / `Ps` and the loop test as a function of the loop counter,
the remainder split, the scatter back to the original order and the returned level, in the
source's own terms (descending view, Python index arithmetic).  The theorems below say that
this text, assembled by the fixed skeleton `doWFGen`, IS the hand model the clauses above are
proved about — for every input, including the ones on which the code raises. -/

section
variable [Field α] [LinearOrder α]

open Generated.C12WaterFilling in
/-- The regenerated `doWF` equals the hand model, for every `argsort` result and all
    arguments (any field, any number of channels, errors included). -/
theorem generated_wf_matches_model (asc : List (Chan α)) (P N Es : α) :
    Generated.C12WaterFilling.doWFGen asc asc.length P N Es = doWFWith asc asc.length P N Es := by
  rcases eq_or_ne asc [] with rfl | hne
  · simp only [doWFGen, sortView, removed0, List.reverse_nil, List.map_nil, List.length_nil,
      PyPhysim.Generated.C12WaterFilling.loop, loopTest_empty, doWFWith]
  · obtain ⟨r', h1, h2, h3⟩ := loop_spec asc P N Es hne asc 0 (asc.length + 1) rfl
      (Nat.zero_le _) (Nat.lt_succ_self _)
    simp only [doWFGen, sortView, removed0, h1]
    cases hK : asc.drop r' with
    | nil =>
      rw [Nat.le_antisymm h2 (List.drop_eq_nil_iff.mp hK), finish_end _ P N Es hne,
        doWFWith_of_dropLoop_nil _ (h3.symm.trans hK)]
    | cons w rest =>
      exact finish_cons asc P N Es r' w rest hK (h3.symm.trans hK)

/-- … in the form the clauses use: `n = vtChannels.size` and `asc` any sort result satisfying
    the contract of `np.argsort`. -/
theorem generated_wf_matches_model_contract (g : List α) (asc : List (Chan α)) (P N Es : α)
    (hc : SortContract g asc) :
    Generated.C12WaterFilling.doWFGen asc g.length P N Es = doWFWith asc g.length P N Es := by
  rw [← hc.length_eq]
  exact generated_wf_matches_model asc P N Es

/-- The fuel `n + 1` of the regenerated loop suffices and the index expressions stay inside
    the domain on which `a[np.arange(0, k)]` and `a[:k]` agree: the regenerated function
    returns a value or `IndexError`, never `Fuel` / `RuntimeError`. -/
theorem generated_wf_fuel_suffices (asc : List (Chan α)) (P N Es : α) :
    (∃ v, Generated.C12WaterFilling.doWFGen asc asc.length P N Es = .ok v) ∨
      Generated.C12WaterFilling.doWFGen asc asc.length P N Es = .error .IndexError := by
  rw [generated_wf_matches_model]
  cases h : dropLoop N Es P asc with
  | nil => exact Or.inr (doWFWith_of_dropLoop_nil _ h)
  | cons w rest => exact Or.inl ⟨_, doWFWith_eq_of_dropLoop _ h⟩

/-- non-vacuity: the regenerated text evaluated by the kernel on the witness input
    (one channel switched off, `Es ≠ 1`) gives the value of the model (`wf_witness_value`). -/
example :
    (Generated.C12WaterFilling.doWFGen [((1/10 : Rat), 2), (1/2, 1), (1, 0)] 3 (1 : Rat) (1/2) 2).toOption
      = some ([5/8, 3/8, 0], 7/8) := by
  decide +kernel

end

section
variable [Field α] [LinearOrder α] [IsStrictOrderedRing α]

/-- With the model's own sort the regenerated text is `doWF`, the function the compiled driver
    runs in the correspondence check. -/
theorem generated_wf_matches_doWF (g : List α) (P N Es : α) :
    Generated.C12WaterFilling.doWFGen (argsortAsc g) g.length P N Es = doWF g P N Es :=
  generated_wf_matches_model_contract g _ P N Es (argsortAsc_contract g)

/-- The model's own sort (the one the compiled driver runs) is an admissible `argsort`
    result, so every theorem above applies to `doWF g P N Es`. -/
theorem wf_model_sort_admissible (g : List α) :
    SortContract g (argsortAsc g) ∧ doWF g = doWFWith (argsortAsc g) g.length :=
  ⟨argsortAsc_contract g, rfl⟩

end

/-- The function the driver executes (`doWFRat`: core `Rat` instances, elaborated without
    Mathlib) *is* the `ℚ` instance (Mathlib's ordered-field instances) of the polymorphic
    model the theorems are about. -/
theorem wf_driver_instance (g : List ℚ) (P N Es : ℚ) :
    doWFRat g P N Es = doWF g P N Es := rfl

/-- … hence the clauses hold for the very function the correspondence check executes
    (the generic theorems instantiate at `doWFRat` up to definitional equality of the
    `ℚ` instances). -/
theorem wf_driver_covered (g : List ℚ) (P N Es : ℚ) (p : List ℚ) (mu : ℚ)
    (hne : g ≠ []) (hg : ∀ x ∈ g, 0 < x) (hP : 0 < P) (hN : 0 < N) (hEs : 0 < Es)
    (hres : doWFRat g P N Es = .ok (p, mu)) :
    p.sum = P ∧ (∀ y ∈ p, 0 ≤ y) ∧ p = g.map (fun x => max 0 (mu - N / (Es * x))) := by
  rw [wf_driver_instance] at hres
  have hw := IsWaterFilling.of_doWF hne hg hP.le hN hEs hres
  exact ⟨hw.sum, hw.nonneg, hw.form⟩

/-- REGRESSION WITNESS of finding `C12:doWF:water-level-missing-Es` (fixed by commit
    `fix: doWF water level accounts for the symbol energy`): with the formula the code used
    before (`vtOptPaux[0] + noiseVar/g_best`), on `g=[1,1/2,1/10], P=1, N=1/2, Es=2` the
    returned level was `9/8`, for which the best channel's power `5/8` is *not*
    `max 0 (mu − N/(Es·g))`. -/
theorem muPreFix_not_water_level :
    muPreFix (5/8 : Rat) (1/2) ((1 : Rat), 0) = 9/8 ∧
      (5/8 : Rat) ≠ max 0 (9/8 - (1/2) / (2 * 1)) := by
  decide +kernel

/-- … while the repaired code returns the level `7/8` on that input (kernel evaluation of
    the model on the witness). -/
theorem wf_witness_value :
    (doWFWith [((1/10 : Rat), 2), (1/2, 1), (1, 0)] 3 (1 : Rat) (1/2) 2).toOption
      = some ([5/8, 3/8, 0], 7/8) := by
  decide +kernel

/-- non-vacuity: the hypotheses of the theorems are met by the witness input (a sort
    result with one channel switched off, `Es ≠ 1`) … -/
example : SortContract ([1, 1/2, 1/10] : List ℚ) [((1/10 : ℚ), 2), (1/2, 1), (1, 0)] ∧
    ([1, 1/2, 1/10] : List ℚ) ≠ [] ∧ (∀ x ∈ ([1, 1/2, 1/10] : List ℚ), 0 < x) := by
  exact ⟨⟨by decide +kernel, by decide +kernel⟩, List.cons_ne_nil _ _, by decide +kernel⟩

/-- … and by every non-empty positive gain vector through the model's own sort. -/
example (g : List ℝ) (hne : g ≠ []) (hg : ∀ x ∈ g, 0 < x) :
    ∃ p mu, doWF g 1 1 1 = .ok (p, mu) ∧ p.sum = 1 := by
  obtain ⟨p, mu, h, hw⟩ := doWFWith_isWaterFilling (argsortAsc_contract g) hne hg zero_le_one
    one_pos one_pos
  exact ⟨p, mu, h, hw.sum⟩

end PyPhysim.C12
