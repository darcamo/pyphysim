import PyPhysim.Proofs.C10Inv
import PyPhysim.Proofs.C10Obs
import PyPhysim.Proofs.C10Closed
import PyPhysim.Proofs.C10AltMin
import PyPhysim.Proofs.C10KyFan
import PyPhysim.Proofs.C10Examples
import PyPhysim.Model.C10Toy
import PyPhysim.Proofs.C10Gen
import PyPhysim.Proofs.C10Robust

/-!
# C10 — interference-alignment solvers return valid, power-limited, aligned solutions

Property theorems, negative witnesses and worked examples.

**Part A — no stale derived quantities, for every history.**  `step`/`run`
(`Model/C10Cache.lean`) is the hand model of the eight attributes
`_F _full_F _W _W_H _full_W_H _full_W _P _Ns` of `IASolverBaseClass`; `Cfg.fixed`
is the repaired source (what `harness/props/c10.py` compares the working tree
with, output by output), `Cfg.orig` the source of the design round and `Cfg.round1` the
source with the stale caches repaired but calls not yet validated before they modify the object,
both kept for the negative witnesses.  The theorems hold for **every interpretation `O : Ops μ ρ`**
of the matrix operations the getters perform (`F·√P`, conjugate transpose,
`solve(W_H H_kk full_F, W_H)`, normalisation), every number of users `K` and
every finite history of `solve | randomizeF | set_precoders | set_receive_filters
| P= | clear | getter reads` with arbitrary arguments.

**Part B — what the real operations satisfy, over `ℂ`.**  The formulas of
`Model/C10.lean` (the same text the driver runs at binary64) instantiated at
`ℂ`; results of `np.linalg.solve / pinv / inv / eig`, `leig`, `peig`,
`scipy.optimize.newton` are parameters constrained only by their stated
contracts (checked numerically on every case the harness runs).

Part A says *which* value every getter returns after any history (the one
computed from the current primaries); Part B says that this value satisfies
the relations of the property.
-/
namespace PyPhysim.C10
open PyPhysim.Proto Matrix

/-! ## Part A : histories -/
section histories
variable {μ ρ : Type}

/-- Clause "these relations keep holding after any later change of the power or of the
    precoders/filters through the public setters (no stale derived quantities)": after every
    history, a stored `_full_W_H` is what the getter would compute NOW from the current `W_H`
    and the current `full_F`, a stored `_full_W` is its conjugate transpose, and `_W`, `_W_H`
    are conjugate transposes of each other. -/
theorem coherent_history (O : Ops μ ρ) (K : Nat) (ops : List (Op μ ρ)) :
    Coherent O K (reach Cfg.fixed O K ops) :=
  run_invariant (ok := fun _ => True) (fun st op _ => step_coherent O K st op) ops _ (fun _ _ => trivial)
    (init_coherent O K)

/-- One more operation — any operation with any arguments, accepted or rejected — keeps it so. -/
theorem coherent_step (O : Ops μ ρ) (K : Nat) (st : State μ ρ) (op : Op μ ρ) (h : Coherent O K st) :
    Coherent O K (step Cfg.fixed O K st op).1 :=
  step_coherent O K st op h

/-- What the two filter getters return after every history: `full_W_H` is
    `solve(W_H·H_kk·full_F, W_H)` for the values the `W_H` and `full_F` getters return at that
    moment (never a value computed before a later setter call), `full_W` its conjugate transpose;
    errors of the computation are reported, `None` filters give `None`. -/
theorem filter_getters_return_current_values (O : Ops μ ρ) (K : Nat) (ops : List (Op μ ρ)) :
    let st := reach Cfg.fixed O K ops
    (step Cfg.fixed O K st .readFullWH).2 = outArrO (specFullWH O K st)
    ∧ (step Cfg.fixed O K st .readFullW).2 = outArr (specFullW O K st) := by
  intro st
  have h := coherent_history O K ops
  exact ⟨congrArg outArrO (readFullWH_spec O K st h), congrArg outArr (readFullW_spec O K st h)⟩

/-- Link between Part A and Part B.  Let `Rel Z Y fF` be ANY relation that every successful
    `solve(Y·H_kk·fF, Y) = Z` satisfies (Part B: `full_filter_identity` shows that
    "`Z_k·H_kk·fF_k = I` for every user" is such a relation).  Then after every history, whenever the
    `full_W_H` getter returns filters `Z`, the relation holds between `Z` and the values the `W_H` and
    `full_F` getters return at that same moment — and the `full_W` getter returns `Zᴴ`. -/
theorem filters_satisfy_relation_after_any_history (O : Ops μ ρ) (K : Nat)
    (Rel : μ → μ → μ → Prop) (hRel : ∀ Y fF Z, O.comp Y fF = .ok Z → Rel Z Y fF)
    (ops : List (Op μ ρ)) (Z : μ) :
    let st := reach Cfg.fixed O K ops
    (step Cfg.fixed O K st .readFullWH).2 = .arr (some Z) →
    (∃ Y fF, (step Cfg.fixed O K st .readWH).2 = .arr (some Y)
        ∧ (step Cfg.fixed O K st .readFullF).2 = .arr (some fF) ∧ Rel Z Y fF)
    ∧ (step Cfg.fixed O K st .readFullW).2 = .arr (some (O.herm Z)) := by
  intro st hZ
  have h := coherent_history O K ops
  have hs : specFullWH O K st = .ok (some Z) :=
    outArrO_eq_arr ((congrArg outArrO (readFullWH_spec O K st h)).symm.trans hZ)
  obtain ⟨Y, fF, hy, hf, hc⟩ := specFullWH_ok_some hs
  refine ⟨⟨Y, fF, congrArg Out.arr hy, congrArg outArr hf, hRel Y fF Z hc⟩, ?_⟩
  refine (congrArg outArr (readFullW_spec O K st h)).trans ?_
  rw [specFullW, hs]
  rfl

/-- Clause "after any later change of the power": whenever the last operation that touched
    `_full_F` from outside (`set_precoders(full_F=…)`, an MMSE `solve`) is followed by a successful
    `P=`, `randomizeF`, `set_precoders(F)`, non-MMSE `solve` or `clear`, then — whatever getters and
    filter setters come after — the `full_F` getter returns `_F * sqrt(P)` for the CURRENT `_F` and
    the CURRENT power (`TypeError` if no precoder is stored). -/
theorem full_F_is_current (O : Ops μ ρ) (K : Nat) (pre post : List (Op μ ρ)) (o : Op μ ρ)
    (hr : o.resetsFullF = true)
    (hok : (step Cfg.fixed O K (reach Cfg.fixed O K pre) o).2 = .unit)
    (hpost : ∀ op ∈ post, op.installsFullF = false) :
    let st := reach Cfg.fixed O K (pre ++ o :: post)
    (step Cfg.fixed O K st .readFullF).2 = outArr (derivedFullF O K st) := by
  intro st
  refine congrArg outArr (readFullF_derived O K st ?_)
  -- `_full_F` is empty after `o`, and stays derived along `post`
  rw [show st = _ from run_append Cfg.fixed O K pre (o :: post) _]
  exact run_invariant (step_fullFDerived O K) post _ hpost
    (fullFDerived_of_none O K (step_resets O K _ o hr hok))

/-- Special case spelled out: right after a successful `P = v`, `full_F` is `_F * sqrt(P_new)`. -/
theorem power_setter_refreshes_full_F (O : Ops μ ρ) (K : Nat) (ops : List (Op μ ρ)) (v : PArg ρ)
    (hv : PArg.valid O K v = true) :
    let st := reach Cfg.fixed O K (ops ++ [.setP v])
    st.fullF = none ∧ st.fullWH = none ∧ st.fullW = none
    ∧ (step Cfg.fixed O K st .readFullF).2 = outArr (derivedFullF O K st) := by
  intro st
  have hst : st = _ := (reach_snoc Cfg.fixed O K ops _).trans
    (congrArg Prod.fst (step_accepted O K _ (op := .setP v) rfl (if_pos hv)))
  have hn : st.fullF = none := by rw [hst]; rfl
  exact ⟨hn, by rw [hst]; rfl, by rw [hst]; rfl,
    congrArg outArr (readFullF_derived O K st (fullFDerived_of_none O K hn))⟩

/-- Clause "stream counts consistent with the filter shapes": after every history whose random
    draws / solutions have the shapes they are specified to have — rejected calls included — `Ns` is
    the list of column counts of the stored precoders. -/
theorem stream_counts_consistent (O : Ops μ ρ) (K : Nat) (ops : List (Op μ ρ))
    (hs : ∀ op ∈ ops, op.shapeOK O K) :
    NsOK O (reach Cfg.fixed O K ops) :=
  run_invariant (step_nsOK O K) ops _ hs fun _ hF => nomatch hF

/-- In the code of `Cfg.round1` `solve` stored the requested stream counts BEFORE it validated the
    power, so a `solve` rejected for its power left `Ns` describing precoders that were never
    computed; the repaired code validates first and `Ns` still matches `F`. -/
theorem rejected_solve_overwrites_ns :
    let ops : List (Op (List Rat) Rat) :=
      [.randomizeF [3, -2] (.int 1) .none, .solve false (.int 2) (.scalar (-1)) ⟨[1, 1], none, [1, 1], false, [2, 2]⟩]
    (run Cfg.round1 (toyOps [2, 4]) 2 (State.init _ _) ops).2 = [.unit, .err .ValueError]
    ∧ ¬ NsOK (toyOps [2, 4]) (reach Cfg.round1 (toyOps [2, 4]) 2 ops)
    ∧ (run Cfg.fixed (toyOps [2, 4]) 2 (State.init _ _) ops).2 = [.unit, .err .ValueError]
    ∧ (reach Cfg.fixed (toyOps [2, 4]) 2 ops).ns = some [1, 1] := by
  refine ⟨by decide +kernel, ?_, by decide +kernel, by decide +kernel⟩
  intro h
  have := h [1, -1] (by decide +kernel)
  revert this
  decide +kernel

/-- Class R4 (rejected calls): on the repaired code EVERY mutator — `P=`, `randomizeF`,
    `set_precoders`, `set_receive_filters`, `solve`, `clear`, `initialize_with=` — that raises leaves all
    eight attributes exactly as they were, for every state and every argument. -/
theorem rejected_call_leaves_object_unchanged (O : Ops μ ρ) (K : Nat) (st : State μ ρ) (op : Op μ ρ)
    (hm : op.isMutator = true) (e : PyErr) (he : (step Cfg.fixed O K st op).2 = .err e) :
    (step Cfg.fixed O K st op).1 = st := by
  -- the verdict (`Op.err`) is read before anything is written
  rw [step_mutator O K st op hm] at he ⊢
  revert he
  cases op.err O K with
  | some _ => exact fun _ => rfl
  | none => exact fun he => nomatch he

/-- … hence a history with a rejected call in the middle ends in the same state and gives the same
    later outputs as the history that never made that call (the object behaves like one that never
    saw the rejected call). -/
theorem history_ignores_rejected_calls (O : Ops μ ρ) (K : Nat) (pre post : List (Op μ ρ)) (op : Op μ ρ)
    (hm : op.isMutator = true) (e : PyErr)
    (he : (step Cfg.fixed O K (reach Cfg.fixed O K pre) op).2 = .err e) :
    reach Cfg.fixed O K (pre ++ op :: post) = reach Cfg.fixed O K (pre ++ post)
    ∧ (run Cfg.fixed O K (reach Cfg.fixed O K (pre ++ [op])) post).2
        = (run Cfg.fixed O K (reach Cfg.fixed O K pre) post).2 := by
  have h := rejected_call_leaves_object_unchanged O K (reach Cfg.fixed O K pre) op hm e he
  refine ⟨?_, by rw [reach_snoc, h]⟩
  simp only [reach, run_append, run]
  exact congrArg (fun s => (run Cfg.fixed O K s post).1) h

/-- Class R11 (the non-mutating API does not mutate) and R13 (copies): a getter, a query
    (`calc_Q`, `calc_SINR`, `get_cost`, `repr`, … — modelled as `query`) or a copy / pickle round trip
    (`fork`) made at ANY point of ANY history changes no later output: the outputs of every
    continuation `post` are those of the history that never made the call.  (Such calls may
    populate `_full_F`, `_W`, `_W_H`, `_full_W_H`, `_full_W`; `ObsEq` shows that this is unobservable.) -/
theorem passive_calls_never_change_later_results (O : Ops μ ρ) (K : Nat) (pre post : List (Op μ ρ))
    (r : Op μ ρ) (hr : r.isPassive = true) :
    (run Cfg.fixed O K (reach Cfg.fixed O K (pre ++ [r])) post).2
      = (run Cfg.fixed O K (reach Cfg.fixed O K pre) post).2 := by
  rw [reach_snoc]
  exact (run_obs O K post _ _
    ((step_fill O K _ r (Op.isMutator_of_isPassive hr)).obs (coherent_history O K pre))).2

/-- Observationally equal objects (same `_F`, `_P`, `_Ns`, same values of the `W`, `W_H`, `full_F`
    getters — e.g. an object and its copy on which other getters were called, or two objects configured
    through different but equivalent calls) give the same outputs under every later sequence of calls. -/
theorem equivalent_objects_behave_identically (O : Ops μ ρ) (K : Nat) (s t : State μ ρ)
    (h : ObsEq O K s t) (ops : List (Op μ ρ)) :
    (run Cfg.fixed O K s ops).2 = (run Cfg.fixed O K t ops).2 :=
  (run_obs O K ops s t h).2

/-- Class R8 (equivalent entry points): `set_receive_filters(W=X)` and
    `set_receive_filters(W_H=Xᴴ)` are interchangeable — for every conjugate transposition that is an
    involution, every earlier history and every later sequence of calls the outputs coincide. -/
theorem filter_setter_forms_agree (O : Ops μ ρ) (K : Nat) (hinv : ∀ X, O.herm (O.herm X) = X)
    (pre post : List (Op μ ρ)) (X : μ) :
    (run Cfg.fixed O K (reach Cfg.fixed O K (pre ++ [.setFilters none (some X)])) post).2
      = (run Cfg.fixed O K (reach Cfg.fixed O K (pre ++ [.setFilters (some (O.herm X)) none])) post).2 := by
  rw [reach_snoc, reach_snoc]
  refine (run_obs O K post _ _ ?_).2
  refine ⟨rfl, rfl, rfl, ?_, ?_, getFullF_congr O K rfl rfl rfl, ?_, ?_⟩
  · rw [getW_eq, getW_eq]
    exact congrArg some (hinv X).symm
  · rw [getWH_eq, getWH_eq]
    rfl
  · exact coherent_of_empty O K rfl rfl fun _ _ _ hY => nomatch hY
  · exact coherent_of_empty O K rfl rfl fun _ _ hX => nomatch hX

/-- In the code of `Cfg.round1` two more rejected calls modified the object: `set_receive_filters`
    with both / neither argument cleared the stored filters, `randomizeF` with a rejected power
    cleared the stored precoders (evaluated on the exact `1 × 1` interpretation). -/
theorem rejected_calls_modified_object_round1 :
    let pre : List (Op (List Rat) Rat) := [.randomizeF [3, -2] (.int 1) .none, .setFilters none (some [1, 1])]
    (run Cfg.round1 (toyOps [2, 4]) 2 (State.init _ _) (pre ++ [.setFilters none none, .readW])).2.drop 2
        = [.err .RuntimeError, .arr none]
    ∧ (run Cfg.fixed (toyOps [2, 4]) 2 (State.init _ _) (pre ++ [.setFilters none none, .readW])).2.drop 2
        = [.err .RuntimeError, .arr (some [1, 1])]
    ∧ (run Cfg.round1 (toyOps [2, 4]) 2 (State.init _ _) (pre ++ [.randomizeF [1, 1] (.int 1) (.scalar 0), .readF])).2.drop 2
        = [.err .ValueError, .arr none]
    ∧ (run Cfg.fixed (toyOps [2, 4]) 2 (State.init _ _) (pre ++ [.randomizeF [1, 1] (.int 1) (.scalar 0), .readF])).2.drop 2
        = [.err .ValueError, .arr (some [1, -1])] := by
  refine ⟨by decide +kernel, by decide +kernel, by decide +kernel, by decide +kernel⟩

/-- A non-positive scalar power, a vector of the wrong length or with a non-positive entry, or an
    array that is not 0- or 1-dimensional is rejected with `ValueError` and nothing changes. -/
theorem bad_power_rejected (O : Ops μ ρ) (K : Nat) (st : State μ ρ) (v : PArg ρ)
    (hv : PArg.valid O K v = false) :
    step Cfg.fixed O K st (.setP v) = (st, .err .ValueError) :=
  step_rejected O K st rfl (if_neg (Bool.eq_false_iff.mp hv))

/-- `set_precoders()` without `F` and without `full_F`, `set_receive_filters` with both or neither of
    `W_H`, `W`, and an unknown `initialize_with` raise `RuntimeError`; the closed-form solver refuses
    `K ≠ 3` with `AssertionError`; in every case nothing changes. -/
theorem bad_setter_arguments_rejected (O : Ops μ ρ) (K : Nat) (st : State μ ρ) (p : Option (List ρ))
    (X Y : μ) (ns : NsArg) (q : PArg ρ) (sol : Solution μ) (hK : K ≠ 3) :
    step Cfg.fixed O K st (.setPrecoders none none p) = (st, .err .RuntimeError)
    ∧ step Cfg.fixed O K st (.setFilters none none) = (st, .err .RuntimeError)
    ∧ step Cfg.fixed O K st (.setFilters (some X) (some Y)) = (st, .err .RuntimeError)
    ∧ step Cfg.fixed O K st (.setInit false) = (st, .err .RuntimeError)
    ∧ step Cfg.fixed O K st (.solve true ns q sol) = (st, .err .AssertionError) := by
  refine ⟨rfl, rfl, rfl, rfl, ?_⟩
  exact step_rejected O K st rfl (if_pos (bne_iff_ne.mpr hK))

/-! ### robustness class R15 — distinct values that are merely close

The machine is a function of the EXACT values it is given: there is no "unchanged, skip" test, no
tolerance, no rounded key.  A power of `4e-13` after `4e-12`, `2.4e9 + 2e4` after `2.4e9`, or the
next double after `0.3` is a NEW power. -/

/-- Clause "keep holding after any later change of the power", for EVERY accepted new value,
    however close to the value in force: after `P = v` from any state the `P` getter returns exactly
    the new value and the `full_F` getter `_F * sqrt(new value)` — the previous power and a previously
    cached `_full_F` do not enter the result. -/
theorem setter_takes_effect_for_every_new_value (O : Ops μ ρ) (K : Nat) (st : State μ ρ) (v : PArg ρ)
    (hv : PArg.valid O K v = true) :
    let st' := (step Cfg.fixed O K st (.setP v)).1
    (step Cfg.fixed O K st (.setP v)).2 = .unit
    ∧ (step Cfg.fixed O K st' .readP).2 = .pow (PArg.values O K v)
    ∧ (step Cfg.fixed O K st' .readFullF).2
        = outArr (match st.f with
                  | none => .error .TypeError
                  | some F => O.scale F (PArg.values O K v)) := by
  intro st'
  have e := step_accepted O K st (op := .setP v) rfl (if_pos hv)
  have hc : curP O K ((Op.upd O K (.setP v)).apply st) = PArg.values O K v := curP_stored hv rfl
  have hst : st' = (Op.upd O K (.setP v)).apply st := congrArg Prod.fst e
  refine ⟨congrArg Prod.snd e, ?_, ?_⟩
  · rw [hst]; exact congrArg Out.pow hc
  · -- the write empties `_full_F`, so the getter derives it from `_F` (untouched) and the new power
    rw [hst]
    refine (congrArg outArr (readFullF_derived O K _ (fullFDerived_of_none O K rfl))).trans ?_
    rw [derivedFullF, hc]
    rfl

/-- Two different accepted powers are never identified: with at least one user, the `P` getter
    tells `P = x` from `P = y` whenever `x ≠ y` (whatever the state each setter was called in). -/
theorem power_lookup_exact (O : Ops μ ρ) (K : Nat) (hK : 0 < K) (s t : State μ ρ) (x y : ρ)
    (hx : O.pos x = true) (hy : O.pos y = true) (hxy : x ≠ y) :
    (step Cfg.fixed O K (step Cfg.fixed O K s (.setP (.scalar x))).1 .readP).2
      ≠ (step Cfg.fixed O K (step Cfg.fixed O K t (.setP (.scalar y))).1 .readP).2 := by
  rw [(setter_takes_effect_for_every_new_value O K s (.scalar x) hx).2.1,
    (setter_takes_effect_for_every_new_value O K t (.scalar y) hy).2.1]
  intro h
  exact hxy ((List.replicate_inj.mp (Out.pow.inj h)).2.resolve_left (Nat.ne_of_gt hK))

/-- The same for the matrix setters: after `set_precoders(F=X, …)` the `F` getter returns exactly
    `X` and `Ns` its column counts, after `set_receive_filters(W=X)` / `(W_H=X)` the getter of that
    form returns exactly `X` — from any state, so also when `X` differs from what was stored in the
    last bit only. -/
theorem matrix_setters_take_effect_for_every_new_value (O : Ops μ ρ) (K : Nat) (st : State μ ρ)
    (X : μ) (fF : Option μ) (p : Option (List ρ)) :
    (step Cfg.fixed O K (step Cfg.fixed O K st (.setPrecoders (some X) fF p)).1 .readF).2 = .arr (some X)
    ∧ (step Cfg.fixed O K (step Cfg.fixed O K st (.setPrecoders (some X) fF p)).1 .readNs).2
        = .ns (some (O.ncols X))
    ∧ (step Cfg.fixed O K (step Cfg.fixed O K st (.setFilters none (some X))).1 .readW).2 = .arr (some X)
    ∧ (step Cfg.fixed O K (step Cfg.fixed O K st (.setFilters (some X) none)).1 .readWH).2 = .arr (some X) :=
  by cases fF <;> exact ⟨rfl, rfl, rfl, rfl⟩

/-- non-vacuity on the exact toy interpretation: `P = 4` then the close-by `P = 4 + 1/10^12`
    (both accepted) read back as different powers -/
example :
    (toyOps [2, 4]).pos 4 = true ∧ (toyOps [2, 4]).pos (4 + 1 / 1000000000000) = true
    ∧ (run Cfg.fixed (toyOps [2, 4]) 2 (State.init _ _)
        [.setP (.scalar 4), .readP, .setP (.scalar (4 + 1 / 1000000000000)), .readP]).2
      = [.unit, .pow [4, 4], .unit, .pow [4 + 1 / 1000000000000, 4 + 1 / 1000000000000]] := by
  decide +kernel

/-! ### robustness class R16 — argument identity and buffer reuse

Operations carry VALUES: the machine has no notion of the identity of an argument.  What that
means for a caller that reuses one array object is stated on `runCaller` (`Proofs/C10Robust.lean`):
the caller either overwrites its one buffer in place or calls the solver with an operation built
from the buffer as it is at that moment — `mk` may put the buffer into several roles of one call,
e.g. `fun b => .setPrecoders (some b) (some b) none`. -/

/-- Results depend only on the contents at call time: a history driven through ONE reused buffer
    gives — output by output, and in the final state — exactly what the same calls give when each
    is handed a private copy of the contents made at the moment of the call (`snapshots`), i.e.
    what a fresh object fed fresh arrays gives. -/
theorem buffer_reuse_equals_fresh_copies (O : Ops μ ρ) (K : Nat) {β : Type} (b : β)
    (cs : List (Caller β μ ρ)) :
    runCaller Cfg.fixed O K b (State.init μ ρ) cs
      = run Cfg.fixed O K (State.init μ ρ) (snapshots b cs) :=
  runCaller_eq_run Cfg.fixed O K cs b _

/-- Earlier results are not changed by later refills or calls: the outputs of a caller history are
    a prefix of the outputs of every continuation of it. -/
theorem later_refills_do_not_change_earlier_outputs (O : Ops μ ρ) (K : Nat) {β : Type} (b : β)
    (cs more : List (Caller β μ ρ)) :
    ∃ tail, (runCaller Cfg.fixed O K b (State.init μ ρ) (cs ++ more)).2
      = (runCaller Cfg.fixed O K b (State.init μ ρ) cs).2 ++ tail := by
  refine ⟨(run Cfg.fixed O K (run Cfg.fixed O K (State.init μ ρ) (snapshots b cs)).1
            (snapshots (finalBuffer b cs) more)).2, ?_⟩
  rw [runCaller_eq_run, runCaller_eq_run, snapshots_append, run_append_outputs]

/-- non-vacuity: one buffer used as `F` and as `full_F` of the same call, refilled, used again -/
example :
    (runCaller Cfg.fixed (toyOps [2, 4]) 2 ([1, 1] : List Rat) (State.init _ _)
      [.call (fun b => .setPrecoders (some b) (some b) none), .call (fun _ => .readFullF),
       .refill [-1, 1], .call (fun _ => .readFullF),
       .call (fun b => .setPrecoders (some b) none none), .call (fun _ => .readFullF)]).2
      = [.unit, .arr (some [1, 1]), .arr (some [1, 1]), .unit, .arr (some [-1, 1])] := by
  decide +kernel

/-! ### the design-round code violated the property (negative witnesses on `Cfg.orig`)

Evaluated by the kernel on the exact `1 × 1` rational interpretation `toyOps`
(`Model/C10Toy.lean`: two users, direct channels `2` and `4`). -/

/-- finding (16a): `randomizeF(1, P=4)`, read `full_F`, `P = 1`, read `full_F` -/
def witnessPowerSetter : List (Op (List Rat) Rat) :=
  [.randomizeF [3, -2] (.int 1) (.scalar 4), .readFullF, .setP (.scalar 1), .readFullF, .readP]

/-- On the design-round code the second read still returns the precoders scaled for `P = 4`
    (power 4 with a budget of 1); the repaired code returns `F·√1`. -/
theorem P_setter_stale_fullF_orig :
    (run Cfg.orig (toyOps [2, 4]) 2 (State.init _ _) witnessPowerSetter).2.drop 3
        = [.arr (some [2, -2]), .pow [1, 1]]
    ∧ (run Cfg.fixed (toyOps [2, 4]) 2 (State.init _ _) witnessPowerSetter).2.drop 3
        = [.arr (some [1, -1]), .pow [1, 1]] := by
  constructor <;> decide +kernel

/-- finding (16b): filters set, `full_W_H` read, then new precoders through `set_precoders` -/
def witnessSetPrecoders : List (Op (List Rat) Rat) :=
  [.randomizeF [1, 1] (.int 1) .none, .setFilters none (some [1, 1]), .readFullWH,
   .setPrecoders (some [-1, -1]) none none, .readFullWH, .readFullF]

/-- On the design-round code `full_W_H` still compensates the OLD precoders:
    `full_W_H · H_kk · full_F = (1/2)·2·(−1) = −1 ≠ 1`; the repaired code returns `−1/2, −1/4`. -/
theorem set_precoders_stale_fullWH_orig :
    (run Cfg.orig (toyOps [2, 4]) 2 (State.init _ _) witnessSetPrecoders).2.drop 4
        = [.arr (some [1/2, 1/4]), .arr (some [-1, -1])]
    ∧ (run Cfg.fixed (toyOps [2, 4]) 2 (State.init _ _) witnessSetPrecoders).2.drop 4
        = [.arr (some [-1/2, -1/4]), .arr (some [-1, -1])] := by
  constructor <;> decide +kernel

/-- finding (16c): a getter that raises leaves a half-built array behind -/
def witnessHalfBuilt : List (Op (List Rat) Rat) :=
  [.setFilters none (some [1, 1]), .readFullWH, .readFullWH, .readFullW]

/-- On the design-round code the `full_W_H` getter raises `TypeError` once (no precoder yet) and
    from then on returns the never-filled array; the repaired code keeps raising. -/
theorem getter_error_poisons_cache_orig :
    (run Cfg.orig (toyOps [2, 4]) 2 (State.init _ _) witnessHalfBuilt).2
        = [.unit, .err .TypeError, .arr (some []), .arr (some [])]
    ∧ (run Cfg.fixed (toyOps [2, 4]) 2 (State.init _ _) witnessHalfBuilt).2
        = [.unit, .err .TypeError, .err .TypeError, .err .TypeError] := by
  constructor <;> decide +kernel

end histories

/-! ## Part A′ : second tie to the source — the cache-invalidation structure, by regeneration

`Generated/C10Effects.lean` is re-emitted from `pyphysim/ia/iabase.py` and `algorithms.py` on
every check run (`harness/gen/c10.py`): for `IASolverBaseClass` and every concrete solver class,
for each entry point — overrides resolved per class, `_clear_*` and every other private helper
inlined — the attributes it resets on every normal path, assigns, writes only on some paths, may
fill lazily and reads; the attributes a fresh object has; what every lazy fill reads.  The
theorems below compare those tables with the cache machine and prove the invalidation discipline
on them, so that a dropped / conditional reset, a getter that stops recomputing, or a new cached
attribute breaks a proof obligation (independently of the seeded correspondence). -/
section effects
open PyPhysim.CacheEffects PyPhysim.Generated
variable {μ ρ : Type}

/-- The effect table `effect` IS what the cache machine does: for every interpretation `O`, every
    `K`, every state, every operation and all arguments, `step` (i) changes no field outside the
    table, (ii) leaves a field listed under `fills` as it was or takes it from `None` to a value,
    and (iii) leaves `None` in every field listed under `clears` whenever the call is accepted. -/
theorem model_step_has_table_effect (O : Ops μ ρ) (K : Nat) (st : State μ ρ) (op : Op μ ρ) :
    let e := effect op.kind
    let st' := (step Cfg.fixed O K st op).1
    (∀ x, x ∉ e.touched → x.agree st st')
    ∧ (∀ x ∈ e.fills, x.agree st st' ∨ (x.isNone st ∧ ¬ x.isNone st'))
    ∧ ((∀ err, (step Cfg.fixed O K st op).2 ≠ .err err) → ∀ x ∈ e.clears, x.isNone st') :=
  ⟨(step_frame_clears O K st op).1, fun x hx => step_fillOnly O K st op x hx,
   (step_frame_clears O K st op).2⟩

/-- … and the table is not an over-approximation: on concrete two-user solvers of the exact
    `1 × 1` rational interpretation (kernel-evaluated) every field the table lists for an
    operation is really changed by that operation. -/
theorem model_effect_table_is_tight : tight = true := by
  unfold tight
  rw [probeChanges_eq]
  decide

/-- The dependency table `specDeps` IS what the invariants encode: `Coherent` is the conjunction
    of the clauses of `_W`/`_W_H`, `_full_W_H`, `_full_W` (the clause of `_full_F` is
    `FullFDerived`), and the clause of a derived field reads that field and the fields `specDeps`
    lists for it, nothing else. -/
theorem coherence_reads_only_spec_dependencies (O : Ops μ ρ) (K : Nat) (a b : State μ ρ) :
    (Coherent O K a ↔ ∀ x ∈ [Fld.w, .wH, .fullWH, .fullW], clause O K x a)
    ∧ (clause O K .fullF a ↔ FullFDerived O K a)
    ∧ ∀ x, x.agree a b → (∀ g ∈ specDeps x, g.agree a b) → (clause O K x a ↔ clause O K x b) := by
  refine ⟨?_, Iff.rfl, fun x hx hd => ?_⟩
  · rw [List.forall_mem_cons, List.forall_mem_cons, List.forall_mem_cons, List.forall_mem_singleton]
    exact ⟨fun h => ⟨h.wwH, h.wwH, h.fullWH, h.fullW⟩, fun h => ⟨h.1, h.2.2.1, h.2.2.2⟩⟩
  · -- each clause is rewritten with the equalities of the fields `specDeps` lists
    have dep : ∀ g, (specDeps x).elem g = true → g.agree a b := fun g hg => hd g (List.mem_of_elem_eq_true hg)
    cases x with
    | fullF =>
      have h1 : a.f = b.f := dep .prec rfl
      have h2 : a.p = b.p := dep .pow rfl
      have hx : a.fullF = b.fullF := hx
      simp only [clause, FullFDerived, derivedFullF, curP, hx, h1, h2]
    | w =>
      have h1 : a.wH = b.wH := dep .wH rfl
      have hx : a.w = b.w := hx
      simp only [clause, hx, h1]
    | wH =>
      have h1 : a.w = b.w := dep .w rfl
      have hx : a.wH = b.wH := hx
      simp only [clause, hx, h1]
    | fullWH =>
      have hs : specFullWH O K a = specFullWH O K b :=
        specFullWH_congr O K (getWH_congr O (dep .w rfl) (dep .wH rfl))
          (getFullF_congr O K (dep .prec rfl) (dep .fullF rfl) (dep .pow rfl))
      have hx : a.fullWH = b.fullWH := hx
      simp only [clause, hx, hs]
    | fullW =>
      have h1 : a.fullWH = b.fullWH := dep .fullWH rfl
      have hx : a.fullW = b.fullW := hx
      simp only [clause, hx, h1]
    | _ => exact Iff.rfl

/-- Bridge (i): every generated row — base class and the five solver classes, overrides resolved
    per class — restricted to the eight attributes equals the effect of the model operation behind
    it (same resets, assignments, conditional writes, lazy fills); `solve` resets what `Op.solve`
    resets and writes nothing else; the remaining entry points write none of the eight; writes
    outside the eight go to known bookkeeping attributes only; every expected row exists. -/
theorem generated_effects_match_model :
    (C10Effects.rows.all (rowMatches C10Effects.stepMethods) && entryPointsPresent C10Effects.rows) = true := by
  unfold rowMatches
  simp only [proj, attrsOf, lazyAttrs, subset, norm_beq_norm, all_norm, contains_norm, isEmpty_norm]
  decide +kernel

/-- The attributes of a fresh object of each class are the eight modelled ones — all `None`, as
    in `State.init` — plus the known others; no entry point touches an attribute `__init__` does
    not create.  A new private attribute breaks this. -/
theorem generated_attributes_known :
    (initMatches C10Effects.initAttrs && mentionsOnlyInit C10Effects.initAttrs C10Effects.rows) = true
    ∧ ∀ x : Fld, x.isNone (State.init μ ρ) :=
  ⟨by
    -- the attributes a class knows are computed once per class, not once per row
    rw [mentionsOnlyInit, all_eq_all_rowsOf C10Effects.rows (baseCls :: solverClasses)
      (fun c r => (r.written ++ r.fills ++ r.reads).all
        ((C10Effects.initAttrs.filter fun e => e.1 == c).flatMap fun e => e.2.map fun x => x.1).contains)
      rows_classes]
    simp only [initMatches, norm_beq_norm]
    decide +kernel,
   fun x => by cases x <;> rfl⟩

/-- In every class the lazily filled attributes found in the source are the model's caches, and
    the dependency closure of what each fill reads is the closure of `specDeps`. -/
theorem generated_fill_reads_match_model : fillsMatch C10Effects.fillReads = true := by
  simp only [fillsMatch, proj, attrsOf, lazyAttrs, norm_beq_norm]
  decide +kernel

/-- Bridge (ii), the sufficiency condition, on the GENERATED tables: every entry point of every
    class (including `_updateF` / `_updateW` of each solver and `solve`) that writes an attribute
    resets or rewrites — on every normal path — every lazily cached attribute whose dependency
    closure, taken from the generated fill read-sets, contains it.  (Only exemption: `_full_F`
    inside `solve` of the iterative solvers, see `solveExempt`.) -/
theorem generated_effects_sufficient :
    sufficientBut solveExempt (depsOf C10Effects.fillReads) C10Effects.rows = true := by
  rw [sufficientBut_by_class _ _ _ (baseCls :: solverClasses) rows_classes]
  decide +kernel

/-- What bridge (ii) means, for ANY object with the generated structure (no reference to the hand
    model): let every cached attribute have a coherence relation that reads only that attribute
    and its dependency closure (`Local`), in any value type.  If a call of an entry point — of any
    of the six classes — changes only what its generated row lists as written, and what it stores
    in a cached attribute is `None` or coherent (`Obeys`), then it takes coherent objects to
    coherent objects (for `solve` of the iterative solvers: all caches but `_full_F`). -/
theorem generated_tables_preserve_coherence {V : Type} (none : V)
    (rel : String → String → Obj V → Prop)
    (hloc : ∀ cls, Local (depsOf C10Effects.fillReads cls) (rel cls))
    (r : Row) (hr : r ∈ C10Effects.rows) (σ τ : Obj V)
    (hob : Obeys none (depsOf C10Effects.fillReads r.cls) (rel r.cls) r σ τ)
    (hcoh : Coh none (depsOf C10Effects.fillReads r.cls) (solveExempt r) (rel r.cls) σ) :
    Coh none (depsOf C10Effects.fillReads r.cls) (solveExempt r) (rel r.cls) τ :=
  sufficientBut_preserves_coherence none (depsOf C10Effects.fillReads) solveExempt C10Effects.rows
    generated_effects_sufficient rel hloc r hr σ τ hob hcoh

/-- the hypotheses of `generated_tables_preserve_coherence` are satisfiable in a non-trivial way:
    values are numbers (`0` = `None`), on the base class `_full_F` is coherent when it is
    `_F + _P`; the `P` setter (its generated row) stores a new `_P` and resets the three
    power-dependent caches -/
example :
    let rel : String → String → Obj Nat → Prop :=
      fun cls c σ => cls = baseCls → c = "_full_F" → σ "_full_F" = σ "_F" + σ "_P"
    let σ : Obj Nat := fun a => if a = "_F" then 1 else if a = "_P" then 2 else if a = "_full_F" then 3 else 0
    let τ : Obj Nat := fun a => if a = "_F" then 1 else if a = "_P" then 9 else 0
    let r : Row := { cls := baseCls, name := "P.setter", clears := ["_full_F", "_full_W", "_full_W_H"],
                     assigns := ["_P"], mayWrite := [], fills := [], reads := ["_multiUserChannel"] }
    (∀ cls, Local (depsOf C10Effects.fillReads cls) (rel cls)) ∧ r ∈ C10Effects.rows
    ∧ Obeys 0 (depsOf C10Effects.fillReads r.cls) (rel r.cls) r σ τ
    ∧ Coh 0 (depsOf C10Effects.fillReads r.cls) (solveExempt r) (rel r.cls) σ := by
  intro rel σ τ r
  -- `rel` constrains `_full_F` only, and `τ` holds `0` there
  have hτ : ∀ c, τ c = 0 ∨ rel r.cls c τ := fun c => by
    by_cases hc : c = "_full_F"
    · subst hc
      left
      decide
    · right
      intro _ h
      exact absurd h hc
  refine ⟨?_, by decide +kernel, ⟨?_, fun c _ _ => hτ c, fun c _ _ => .inr (hτ c)⟩, ?_⟩
  · intro cls c a b hab
    by_cases hcls : cls = baseCls
    · subst hcls
      by_cases hc : c = "_full_F"
      · subst hc
        have h1 := hab "_full_F" (.inl rfl)
        have hcl : "_F" ∈ (depsOf C10Effects.fillReads baseCls).closure "_full_F"
            ∧ "_P" ∈ (depsOf C10Effects.fillReads baseCls).closure "_full_F" := by decide +kernel
        have h2 : a "_F" = b "_F" := hab "_F" (.inr hcl.1)
        have h3 : a "_P" = b "_P" := hab "_P" (.inr hcl.2)
        simp only [rel, h1, h2, h3]
      · simp only [rel, hc, false_implies, implies_true]
    · simp only [rel, hcls, false_implies]
  · intro a ha
    simp only [Row.written, r, List.append_nil, List.cons_append, List.nil_append, List.mem_cons,
      List.not_mem_nil, or_false, not_or] at ha
    -- `σ` and `τ` differ at `_full_F` and `_P` only
    simp [σ, τ, ha.1, ha.2.2.2]
  · intro c _ _
    by_cases hc : c = "_full_F"
    · subst hc
      right
      intro _ _
      decide
    · right
      intro _ h
      exact absurd h hc

/-- the condition is not vacuous: the design-round `P` setter (no resets) violates it, and so does
    a cache `_sqrt_P` of the power that `set_precoders` / `clear` do not know -/
example :
    sufficient (depsOf C10Effects.fillReads)
      [{ cls := baseCls, name := "P.setter", clears := [], assigns := ["_P"], mayWrite := [], fills := [],
         reads := [] }] = false
    ∧ sufficient (depsOf ((baseCls, "_sqrt_P", ["_P"]) :: C10Effects.fillReads))
      [{ cls := baseCls, name := "clear", clears := ["_F", "_Ns", "_P", "_W", "_W_H", "_full_F", "_full_W", "_full_W_H"],
         assigns := [], mayWrite := [], fills := [], reads := [] }] = false := by
  decide +kernel

end effects

/-! ## Part B : the relations, over `ℂ` -/
section relations
open scoped ComplexOrder
variable {K : Nat} {d : Dims K}

/-- Clause "unit-norm precoders": every precoder the code builds as `X / np.linalg.norm(X, 'fro')`
    (`randomizeF`, closed form, alternating minimisation, max-SINR, MMSE, repaired minimum
    leakage, `set_precoders(full_F=…)`) has squared Frobenius norm exactly one, for every `X ≠ 0`. -/
theorem normalized_has_unit_norm {m n : Nat} (X : Mat ℂ m n) (hX : frobSq X ≠ 0) :
    frobSq (normalize X) = 1 := by
  -- `‖X‖²` is a real number `r ≥ 0`, so `√r · conj √r = r`
  obtain ⟨r, hr0, hr⟩ : ∃ r : ℝ, 0 ≤ r ∧ frobSq X = r :=
    ⟨_, frobSq_re_nonneg X, Complex.ext rfl (frobSq_im X)⟩
  rw [normalize, frobNorm, frobSq_mdiv, hr, sqrt_mul_star r hr0]
  exact div_self (hr ▸ hX)

/-- Clause "power-scaled versions … meet it exactly": `full_F_l = F_l·√P_l` of a unit-norm
    precoder carries exactly the power `P_l`, for every user of every system. -/
theorem scaled_precoder_power_exact (F : Prec ℂ d) (P : Fin K → ℝ) (l : Fin K) (hP : 0 ≤ P l)
    (hF : frobSq (F l) = 1) :
    frobSq (fullF F (fun k => (P k : ℂ)) l) = (P l : ℂ) :=
  (frobSq_mscale (F l) _).trans (by rw [sqrt_mul_star (P l) hP, hF, mul_one])

/-- Clause "full receive filters that turn each user's own effective channel into the identity":
    for EVERY matrix `X` the `np.linalg.solve` kernel may return for `Hieq · X = W_H[k]`, where
    `Hieq = W_H[k]·H_kk·full_F[k]` is invertible: `X · H_kk · full_F[k] = I`. -/
theorem full_filter_identity {s r t : Nat} (WH : Mat ℂ s r) (Hkk : Mat ℂ r t) (fF : Mat ℂ t s)
    (X : Mat ℂ s r) (hsolve : matMul (eqChan WH Hkk fF) X = WH)
    (hinv : IsUnit (toM (eqChan WH Hkk fF))) :
    matMul X (matMul Hkk fF) = eye := by
  -- `A (X M) = (A X) M = W_H M = A` for the invertible `A = W_H M`, `M = H_kk full_F`
  refine matMul_left_cancel hinv ?_
  rw [← matMul_assoc, hsolve, matMul_eye]
  rfl

/-- The zero-forcing filter of alternating minimisation (`_updateW`): the first `Ns` rows of any
    left inverse of `[H_kk F_k | C_k]` map `H_kk F_k` to the identity and annihilate `C_k`. -/
theorem altmin_filter_zero_forcing {nn a b : Nat} (G : Mat ℂ (a + b) nn) (HF : Mat ℂ nn a)
    (C : Mat ℂ nn b) (hinv : matMul G (hstack HF C) = eye) :
    matMul (altMinWH G) HF = eye ∧ matMul (altMinWH G) C = mzero := by
  -- entry `(i, j)` of either product is an entry of `G [H_kk F_k | C_k] = I` in the rows kept
  constructor
  · funext i j
    rw [altMinWH_matMul, ← matMul_hstack_left G HF C, hinv]
    simp only [eye, Fin.castAdd_inj]
  · funext i j
    rw [altMinWH_matMul, ← matMul_hstack_right G HF C, hinv]
    refine if_neg (Fin.ne_of_val_ne ?_)
    rw [Fin.val_castAdd, Fin.val_natAdd]
    exact (Nat.lt_add_right _ i.isLt).ne

/-- Clause "chain of aligned precoders": under the contracts of the three `solve` and two `pinv`
    calls, for every `F0` spanning an invariant subspace of `E` (`E F0 = F0 Λ`: a set of
    eigenvectors), the interference is aligned at all three receivers. -/
theorem closed_form_aligned {N s : Nat} {H12 H13 H21 H23 H31 H32 A B Cc G32 G23 : Mat ℂ N N}
    (Kn : ClosedKernels H12 H13 H21 H23 H31 H32 A B Cc G32 G23)
    (F0 : Mat ℂ N s) (L : Mat ℂ s s) (hE : matMul (cfE A B Cc) F0 = matMul F0 L) :
    matMul H32 (cfChain G32 H31 F0) = matMul H31 F0
    ∧ matMul H23 (cfChain G23 H21 F0) = matMul H21 F0
    ∧ matMul H13 (cfChain G23 H21 F0) = matMul (matMul H12 (cfChain G32 H31 F0)) L := by
  have lG32 := matMul_eye_comm Kn.hG32
  have lG23 := matMul_eye_comm Kn.hG23
  refine ⟨?_, ?_, ?_⟩
  · rw [cfChain, ← matMul_assoc, Kn.hG32, eye_matMul]
  · rw [cfChain, ← matMul_assoc, Kn.hG23, eye_matMul]
  · -- both sides are `H12 B Cc F0`: on the left `G23 H23 = 1`, on the right `F0 Λ = A B Cc F0`
    -- and `G32 H31 A = G32 H32 = 1`
    calc matMul H13 (cfChain G23 H21 F0)
        = matMul H12 (matMul B (matMul Cc F0)) := by
          rw [← Kn.hB, ← Kn.hC, cfChain, matMul_assoc, matMul_assoc, ← matMul_assoc G23, lG23, eye_matMul]
      _ = matMul (matMul H12 (cfChain G32 H31 F0)) L := by
          rw [cfChain, matMul_assoc, matMul_assoc, matMul_assoc, ← hE, cfE, matMul_assoc, matMul_assoc,
            ← matMul_assoc H31, Kn.hA, ← matMul_assoc G32, lG32, eye_matMul]

/-- Clause "the closed-form solver perfectly nulls all cross-user interference": with the
    normalised precoders and receive filters whose columns lie in the null space of the Gram matrix
    of ONE interfering link (the `leig` contract on a rank-deficient matrix), ALL six cross links
    `W_kᴴ H_kl F_l`, `k ≠ l`, are zero. -/
theorem closed_form_nulls_cross_interference {N s : Nat}
    {H12 H13 H21 H23 H31 H32 A B Cc G32 G23 : Mat ℂ N N}
    (Kn : ClosedKernels H12 H13 H21 H23 H31 H32 A B Cc G32 G23)
    (F0 : Mat ℂ N s) (L : Mat ℂ s s) (hE : matMul (cfE A B Cc) F0 = matMul F0 L)
    (c1 c2 c3 : ℂ) (h1 : c1 ≠ 0) (h2 : c2 ≠ 0) (h3 : c3 ≠ 0) (W1 W2 W3 : Mat ℂ N s)
    (hW1 : matMul (cfWMat H12 (mdiv (cfChain G32 H31 F0) c2)) W1 = mzero)
    (hW2 : matMul (cfWMat H21 (mdiv F0 c1)) W2 = mzero)
    (hW3 : matMul (cfWMat H31 (mdiv F0 c1)) W3 = mzero) :
    let F1 := mdiv F0 c1
    let F2 := mdiv (cfChain G32 H31 F0) c2
    let F3 := mdiv (cfChain G23 H21 F0) c3
    matMul (cT W1) (matMul H12 F2) = mzero ∧ matMul (cT W1) (matMul H13 F3) = mzero
    ∧ matMul (cT W2) (matMul H21 F1) = mzero ∧ matMul (cT W2) (matMul H23 F3) = mzero
    ∧ matMul (cT W3) (matMul H31 F1) = mzero ∧ matMul (cT W3) (matMul H32 F2) = mzero := by
  intro F1 F2 F3
  obtain ⟨a32, a23, a1⟩ := closed_form_aligned Kn F0 L hE
  have n1 := null_of_gram (matMul H12 F2) W1 hW1
  have n2 := null_of_gram (matMul H21 F1) W2 hW2
  have n3 := null_of_gram (matMul H31 F1) W3 hW3
  refine ⟨n1, ?_, n2, ?_, n3, ?_⟩
  -- dividing by a nonzero constant does not change what a filter nulls, and the alignment
  -- relations turn each remaining link into one that is nulled already
  · rw [matMul_mdiv, matMul_mdiv, mdiv_eq_mzero h2] at n1
    rw [matMul_mdiv, matMul_mdiv, a1, ← matMul_assoc, n1, mzero_matMul, mdiv_mzero]
  · rw [matMul_mdiv, matMul_mdiv, mdiv_eq_mzero h1] at n2
    rw [matMul_mdiv, matMul_mdiv, a23, n2, mdiv_mzero]
  · rw [matMul_mdiv, matMul_mdiv, mdiv_eq_mzero h1] at n3
    rw [matMul_mdiv, matMul_mdiv, a32, n3, mdiv_mzero]

/-- What `MinLeakageIASolver.get_cost()` is (no noise): the total leaked interference power
    `Σ_{k≠l} P_l ‖W_kᴴ H_kl F_l‖²_F` (the entrywise `np.abs` is the identity on the diagonal of a
    positive semidefinite matrix). -/
theorem minleak_cost_is_leaked_power (H : Chan ℂ d) (F : Prec ℂ d) (W : Filt ℂ d) (P : Fin K → ℝ)
    (hP : ∀ l, 0 ≤ P l) :
    minLeakCost H (fullF F (fun l => (P l : ℂ))) none W
      = ∑ k, ∑ l, if l = k then 0 else (P l : ℂ) * link H F W k l :=
  (minLeakCost_eq H _ W).trans (leakDirect_eq H F W P hP)

/-- Clause "leakage reciprocity": for equal powers the leakage of the direct network equals the
    leakage of the reverse network, in which precoders and filters swap roles. -/
theorem leakage_reciprocity (H : Chan ℂ d) (F : Prec ℂ d) (W : Filt ℂ d) (p : ℝ) (hp : 0 ≤ p) :
    leakDirect H (fullF F (fun _ => (p : ℂ))) W = leakReverse H W (fun _ => (p : ℂ)) F :=
  leak_reciprocity H F W p hp

/-- Ky Fan's principle from the certificate contract of `leig`: eigenpairs with orthonormal vectors
    whose eigenvalues lie below the rest of the spectrum minimise `tr(Uᴴ Q U)` over ALL families `U`
    with orthonormal columns (also after the common scaling by `1/√Ns` the solvers apply). -/
theorem least_eigenvectors_minimise {n s : Nat} (Q : Matrix (Fin n) (Fin n) ℂ)
    (V : Matrix (Fin n) (Fin s) ℂ) (h : IsLeast Q V) (U : Matrix (Fin n) (Fin s) ℂ) (hU : Uᴴ * U = 1)
    (c : ℝ) :
    (Matrix.trace (((c : ℂ) • V)ᴴ * Q * ((c : ℂ) • V))).re
      ≤ (Matrix.trace (((c : ℂ) • U)ᴴ * Q * ((c : ℂ) • U))).re := by
  -- both sides scale by `c · conj c = |c|²`
  rw [trace_conj_smul, trace_conj_smul, Complex.star_def, Complex.mul_conj, Complex.re_ofReal_mul,
    Complex.re_ofReal_mul]
  exact mul_le_mul_of_nonneg_left (h.trace_le U hU) (Complex.normSq_nonneg _)

/-- Clause "for equal powers without noise, an iteration of the … minimum-leakage solver never
    increases the total leaked interference power": `get_cost()` after `_step()` is at most
    `get_cost()` before, whenever the current iterate consists of scaled orthonormal families (what
    every iteration produces) and the two `leig` calls return least eigenvectors. -/
theorem minleak_iteration_nonincreasing (H : Chan ℂ d) (F F' : Prec ℂ d) (W W' : Filt ℂ d) (p : ℝ)
    (hp : 0 ≤ p) (c c' : Fin K → ℝ)
    (Uf Vf : (k : Fin K) → Mat ℂ (d.nt k) (d.ns k)) (Uw Vw : (k : Fin K) → Mat ℂ (d.nr k) (d.ns k))
    (hF : ∀ k, toM (F k) = (c k : ℂ) • toM (Uf k)) (hUf : ∀ k, (toM (Uf k))ᴴ * toM (Uf k) = 1)
    (hW : ∀ k, toM (W k) = (c' k : ℂ) • toM (Uw k)) (hUw : ∀ k, (toM (Uw k))ᴴ * toM (Uw k) = 1)
    (hF' : ∀ k, toM (F' k) = (c k : ℂ) • toM (Vf k))
    (hVf : ∀ k, IsLeast (toM (calcQrev H W (fun _ => (p : ℂ)) k)) (toM (Vf k)))
    (hW' : ∀ k, toM (W' k) = (c' k : ℂ) • toM (Vw k))
    (hVw : ∀ k, IsLeast (toM (calcQ H (fullF F' (fun _ => (p : ℂ))) k)) (toM (Vw k))) :
    (minLeakCost H (fullF F' (fun _ => (p : ℂ))) none W').re
      ≤ (minLeakCost H (fullF F (fun _ => (p : ℂ))) none W).re := by
  rw [minLeakCost_eq, minLeakCost_eq]
  refine minleak_step_le H F F' W W' p hp (fun k => ?_) (fun k => ?_)
  · rw [hF' k, hF k]; exact least_eigenvectors_minimise _ _ (hVf k) _ (hUf k) (c k)
  · rw [hW' k, hW k]; exact least_eigenvectors_minimise _ _ (hVw k) _ (hUw k) (c' k)

/-- The same clause for alternating minimisation (`_updateF` = `leig` of `Σ_k H_klᴴ(I−C_kC_kᴴ)H_kl`,
    then `_updateC` = `peig` of the interference covariance): `get_cost()` does not increase — here
    for every vector of non-negative powers. -/
theorem altmin_iteration_nonincreasing (H : Chan ℂ d) (F F' : Prec ℂ d) (C C' : Basis ℂ d)
    (P : Fin K → ℝ) (hP : ∀ l, 0 ≤ P l) (c : Fin K → ℝ)
    (Uf Vf : (k : Fin K) → Mat ℂ (d.nt k) (d.ns k))
    (hF : ∀ k, toM (F k) = (c k : ℂ) • toM (Uf k)) (hUf : ∀ k, (toM (Uf k))ᴴ * toM (Uf k) = 1)
    (hC : ∀ k, (toM (C k))ᴴ * toM (C k) = 1)
    (hF' : ∀ k, toM (F' k) = (c k : ℂ) • toM (Vf k))
    (hVf : ∀ k, IsLeast (toM (altMinFMat H C k)) (toM (Vf k)))
    (hC' : ∀ k, IsDominant (toM (calcQ H (fullF F' (fun l => (P l : ℂ))) k)) (toM (C' k))) :
    (altMinCost H (fullF F' (fun l => (P l : ℂ))) C').re
      ≤ (altMinCost H (fullF F (fun l => (P l : ℂ))) C).re := by
  refine altmin_step_le H F F' C C' P hP hC (fun k => (hC' k).1) (fun l => ?_) (fun k => ?_)
  · rw [hF' l, hF l]; exact least_eigenvectors_minimise _ _ (hVf l) _ (hUf l) (c l)
  · exact (hC' k).trace_ge _ (hC k)

/-- Clause "never exceed each user's power" for the MMSE solver, whose `full_F` is the precoder
    `_calc_Vi` returns: `‖V_i‖²_F ≤ P_i` for every `solve` kernel and every Newton result that
    satisfies the contract `func(mu) ≤ 0` (no contract is needed when `func(0) ≤ 0`). -/
theorem mmse_power_bounded {n s : Nat} (solve : Mat ℂ n n → Mat ℂ n s → Mat ℂ n s)
    (newton : Mat ℂ n n → Mat ℂ n s → ℂ → ℂ) (S : Mat ℂ n n) (HU : Mat ℂ n s) (P : ℝ)
    (hnewton : ¬ nonposRe (mmseCost (solve (mmseLhs (mdiv S (frobNorm HU)) 0) (mdiv HU (frobNorm HU))) (P : ℂ)) →
      nonposRe (mmseCost (solve (mmseLhs (mdiv S (frobNorm HU))
          (newton (mdiv S (frobNorm HU)) (mdiv HU (frobNorm HU)) (P : ℂ))) (mdiv HU (frobNorm HU))) (P : ℂ))) :
    (frobSq (mmseVi nonposRe solve newton S HU (P : ℂ))).re ≤ P := by
  -- `cost V ≤ 0` says `‖V‖² − P ≤ 0`; it holds in the first branch by the test, in the second by the contract
  have key : ∀ V : Mat ℂ n s, nonposRe (mmseCost V (P : ℂ)) → (frobSq V).re ≤ P := fun V h =>
    sub_nonpos.mp ((Complex.sub_re (frobSq V) P).ge.trans h)
  unfold mmseVi
  simp only
  split
  · next h => exact key _ h
  · next h => exact key _ (hnewton h)

/-- finding (17), for EVERY matrix with `Ns ≥ 2` orthonormal columns (what `leig` returns): stored
    as it is (design-round code) its Frobenius norm is `√Ns`, it is not a unit-norm precoder and the
    assertion `norm(W_l) − 1 < 1e-6` of `calc_Q_rev` fails — `solve` raises `AssertionError`. -/
theorem minleak_orig_violates_unit_norm {n s : Nat} (V : Mat ℂ n s) (hV : (toM V)ᴴ * toM V = 1)
    (hs : 2 ≤ s) :
    frobSq (minLeakStore false V) = (s : ℂ) ∧ ¬ normAssert ltRe (minLeakStore false V) := by
  refine ⟨frobSq_orthonormal V hV, ?_⟩
  rw [normAssert_ltRe, show minLeakStore false V = V from rfl, frobSq_orthonormal V hV, Complex.natCast_re]
  -- `(10⁻⁶ + 1)² ≤ 2 ≤ Ns`
  exact not_lt.mpr (le_sub_iff_add_le.mpr
    (Real.le_sqrt_of_sq_le (le_trans (by norm_num) (Nat.ofNat_le_cast.mpr hs))))

/-- The repaired code stores `V / ‖V‖_F`: unit norm, and the assertion holds. -/
theorem minleak_fixed_unit_norm {n s : Nat} (V : Mat ℂ n s) (hV : frobSq V ≠ 0) :
    frobSq (minLeakStore true V) = 1 ∧ normAssert ltRe (minLeakStore true V) := by
  refine ⟨normalized_has_unit_norm V hV, ?_⟩
  rw [normAssert_ltRe, show minLeakStore true V = normalize V from rfl, normalized_has_unit_norm V hV, Complex.one_re,
    Real.sqrt_one]
  norm_num

/-- Clause "stream counts consistent with the filter shapes" for `initialize_with = 'svd'`: the
    repaired initialisation keeps exactly `Ns` right singular vectors of the `Nr × Nt` direct
    channel for every antenna configuration, while the design-round code (which discarded `Nr − Ns`
    of the `Nt` vectors) produced precoders with a different number of columns whenever `Nt ≠ Nr`. -/
theorem svd_init_stream_count (nr nt ns : Nat) (h1 : 1 ≤ ns) (h2 : ns ≤ nr) (h3 : ns ≤ nt) :
    svdInitKept true nr nt ns = ns ∧ (nr ≠ nt → svdInitKept false nr nt ns ≠ ns) :=
  ⟨Nat.sub_sub_self h3, fun hne h => hne <| by
    -- `Nt − (Nr − Ns) = Ns ≥ 1` is no truncated difference, so `Nt = Ns + (Nr − Ns) = Nr`
    have h' : nt - (nr - ns) = ns := h
    have hlt : nr - ns < nt := Nat.lt_of_sub_pos (h'.symm ▸ h1)
    rw [Nat.sub_eq_iff_eq_add (Nat.le_of_lt hlt), Nat.add_sub_cancel' h2] at h'
    exact h'.symm⟩

end relations

/-- the hypotheses of `full_filter_identity` are satisfiable (a `1 × 1` system) -/
example : ∃ (WH Hkk fF X : Mat ℂ 1 1),
    matMul (eqChan WH Hkk fF) X = WH ∧ IsUnit (toM (eqChan WH Hkk fF)) := ex_filter_identity

/-- the hypotheses of `closed_form_nulls_cross_interference` are satisfiable (`N = 2`, one stream) -/
example : ∃ (Hm A _F0 _W : Mat ℂ 2 2) (F0 : Mat ℂ 2 1) (L : Mat ℂ 1 1) (W : Mat ℂ 2 1),
    ClosedKernels Hm Hm Hm Hm Hm Hm A A A A A ∧ matMul (cfE A A A) F0 = matMul F0 L
    ∧ matMul (cfWMat Hm (mdiv (cfChain A Hm F0) 1)) W = mzero
    ∧ matMul (cfWMat Hm (mdiv F0 1)) W = mzero := ex_closed_form

/-- the certificate contract is satisfiable by a non-trivial matrix (`diag(1, 2)`, least eigenvector `e₁`) -/
example : ∃ (Q : Matrix (Fin 2) (Fin 2) ℂ) (V : Matrix (Fin 2) (Fin 1) ℂ), IsLeast Q V ∧ Q ≠ 0 := ex_isLeast

end PyPhysim.C10
