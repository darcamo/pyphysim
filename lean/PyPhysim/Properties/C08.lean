import PyPhysim.Proofs.C08
import PyPhysim.Proofs.C08Matrix
import PyPhysim.Proofs.C08Links
import PyPhysim.Proofs.C08Tables

/-!
# C08 — multi-user channel matrix views stay coherent across any sequence of updates

Property theorems, negative witnesses and worked examples.  `step`/`run` (`Model/C08.lean`) is the hand model of
`MultiUserChannelMatrix` / `MultiUserChannelMatrixExtInt`; `Cfg.fixed` is the
repaired source (what the exact correspondence of `harness/props/c08.py`
compares the working tree with), `Cfg.orig` the source of the design round,
kept for the negative witnesses.

The theorems hold for **every scalar type** `α` (only `+`, `*`, `0`; the sum over links asks for an
additive monoid, the two comparisons with Mathlib's matrix product for a semiring), every
`sqrt`/`conj`/sign function `F`, every history (no bound on its length), every
number of users and every antenna layout.  `reach F isExt ops` is the state a
fresh object reaches by the history `ops`.

* `spec…` are the views *as the property defines them*: computed from the raw
  matrix, the CURRENT layout, the CURRENT path loss and the CURRENT filters —
  never from a cache.
* `Valid` = every operation's arguments have the documented shapes at the
  moment it is applied (`OpOK`: path loss `K × K` (+ `K × extK`), at least one
  interference source for the ExtInt class; layout lists of another length than
  `K` are rejected by the code itself).  Shape hypotheses are needed only where
  blocks are *indexed* (`hkl_is_block_of_bigH`, `hkl_is_scaled_raw_block`, `hk_is_rowblock_of_bigH`,
  `extint_user_views_agree`, `received_is_sum_over_links`, `hkl_out_of_range`; `shapes_invariant` says they
  persist); cache coherence and the transmission clause hold for every history whatsoever.
-/
namespace PyPhysim.C08
open PyPhysim.Proto

variable {α : Type} [Add α] [Mul α] [Zero α]

/-- integers with `sqrt := id`, `conj := id`: the scalar structure of the concrete examples and of
    the negative witnesses (staleness does not depend on what `sqrt` is) -/
def fInt : Fns Int := ⟨id, id, fun x => decide (0 ≤ x)⟩

/-- Clause "after any sequence of … every view agrees" (cache part): after every
    finite history, on both classes, each lazily computed attribute
    (`_big_H_with_pathloss`, `_H_with_pathloss`, `_pathloss_big_matrix`, `_big_W`)
    is empty or equals its recomputation from the current raw matrix, layout,
    path loss and filters. -/
theorem coherent_history (F : Fns α) (isExt : Bool) (ops : List (Op α)) :
    Coherent F (reach F isExt ops) :=
  run_coherent F ops _ (coherent_init F isExt)

/-- One more operation — any operation with any arguments — keeps it so. -/
theorem coherent_step (F : Fns α) (st : State α) (op : Op α) (h : Coherent F st) :
    Coherent F (step Cfg.fixed F st op).1 :=
  step_coherent F st op h

/-- An accepted `set_pathloss(p[, pe])` makes `p` (with the interference columns
    `pe` appended on the ExtInt class) the current path loss, `set_pathloss(None)`
    removes it; the channel, the layout and the filters are untouched. -/
theorem set_pathloss_sets_current (F : Fns α) (st : State α) (p pe : Mat α)
    (hok : setPLCheck Cfg.fixed st (some p) pe = none) :
    let st' := (step Cfg.fixed F st (.setPL (some p) pe)).1
    st'.pl = some (if st.isExt then List.zipWith (· ++ ·) p pe else p)
    ∧ (step Cfg.fixed F st (.setPL none pe)).1.pl = none
    ∧ st'.raw = st.raw ∧ st'.nr = st.nr ∧ st'.nt = st.nt ∧ st'.k = st.k ∧ st'.w = st.w := by
  have hnone : setPLCheck Cfg.fixed st none pe = none := rfl
  simp [step, hok, hnone, doSetPL_eq]

/-- An accepted `randomize` / `init_from_channel_matrix` makes the drawn / given
    matrix the current raw channel and the given layout (completed by the
    interference "users" on the ExtInt class) the current layout; filters and
    noise variance are kept; the stored per-link path loss is kept iff it still
    has one entry per link (`K × _K`), otherwise dropped. -/
theorem reinit_sets_current (F : Fns α) (st : State α) (M : Mat α) (nr nt : List Nat) (K : Nat)
    (ntE : List Nat) (hok : randCheck Cfg.fixed st.isExt nr nt K ntE = none) :
    let L := fullLayout st.isExt nr nt K ntE
    let st' := (step Cfg.fixed F st (.randomize M nr nt K ntE)).1
    (initCheck M L.1 L.2.1 L.2.2.1 = true →
      step Cfg.fixed F st (.init M nr nt K ntE) = step Cfg.fixed F st (.randomize M nr nt K ntE))
    ∧ st'.raw = M ∧ st'.nr = L.1 ∧ st'.nt = L.2.1 ∧ st'.k = L.2.2.1 ∧ st'.extK = L.2.2.2
    ∧ st'.w = st.w ∧ st'.noiseVar = st.noiseVar
    ∧ st'.pl = (match st.pl with
        | none => none
        | some p => if plFits p (if st.isExt then L.2.2.1 - L.2.2.2 else L.2.2.1) L.2.2.1 then some p
                    else none) := by
  intro L st'
  refine ⟨fun h => init_eq_randomize F st M nr nt K ntE h, ?_⟩
  have : st' = install Cfg.fixed { st with extK := L.2.2.2 } M L.1 L.2.1 L.2.2.1 := by
    simp only [st', step_randomize, hok, reinit, L]
  rw [this, install_eq]
  refine ⟨rfl, rfl, rfl, rfl, rfl, rfl, rfl, ?_⟩
  cases st.pl <;> rfl

/-- `set_post_filter(w)` and `noise_var = v` store their argument and touch nothing else. -/
theorem filter_and_noise_set_current (F : Fns α) (st : State α) (w : Option (List (Mat α)))
    (v : α) (hv : F.nonneg v = true) :
    (step Cfg.fixed F st (.setW w)).1.w = w
    ∧ specBigW (step Cfg.fixed F st (.setW w)).1 = w.map blockDiag
    ∧ specBigH F (step Cfg.fixed F st (.setW w)).1 = specBigH F st
    ∧ (step Cfg.fixed F st (.setNoise (some v))).1.noiseVar = some v
    ∧ (step Cfg.fixed F st (.setNoise none)).1.noiseVar = none
    ∧ specBigH F (step Cfg.fixed F st (.setNoise (some v))).1 = specBigH F st := by
  -- an accepted `noise_var` is one record update, as `set_post_filter` is by definition
  have hs : step Cfg.fixed F st (.setNoise (some v)) = ({ st with noiseVar := some v }, .unit) :=
    (doSetNoise_eq F st (some v)).trans (if_pos hv)
  rw [hs]
  exact ⟨rfl, rfl, rfl, rfl, rfl, rfl⟩

/-- Clause "equals the raw channel scaled by the square root of the CURRENT
    path loss" for `big_H`, `H`, `get_Hkl`, `get_Hk`: after every history, every
    read returns the view recomputed from the current raw matrix and the current
    path loss (never a value cached before a later update). -/
theorem reads_return_current_views (F : Fns α) (isExt : Bool) (ops : List (Op α)) (k l : Nat) :
    let st := reach F isExt ops
    (step Cfg.fixed F st .readBigH).2 = .mat (specBigH F st)
    ∧ (step Cfg.fixed F st .readH).2 = .mom (specH F st)
    ∧ (step Cfg.fixed F st (.readHkl k l)).2 = getD2 (specH F st) k l
    ∧ (step Cfg.fixed F st (.readHk k)).2 = getD1 (rowSplit (specBigH F st) st.nrU) k := by
  intro st
  have h := coherent_history F isExt ops
  exact ⟨out_readBigH F st h, out_readH F st h, out_readHkl F st k l h, out_readHk F st k h⟩

/-- Same clause for the views that exist only on the external-interference
    class: `big_H_no_ext_int`, `get_Hk_without_ext_int`, `H_no_ext_int` are the
    user columns of the current `big_H` / `H`. -/
theorem extint_reads_return_current_views (F : Fns α) (ops : List (Op α)) (k : Nat) :
    let st := reach F true ops
    (step Cfg.fixed F st .readBigHNoExt).2 = .mat (takeCols (specBigH F st) st.ntU.sum)
    ∧ (step Cfg.fixed F st (.readHkNoExt k)).2
        = getD1 (rowSplit (takeCols (specBigH F st) st.ntU.sum) st.nrU) k
    ∧ (step Cfg.fixed F st .readHNoExt).2 = .mom ((specH F st).map fun r => r.take st.userK) := by
  intro st
  have h := coherent_history F true ops
  have he : st.isExt = true := reach_isExt F true ops
  exact ⟨out_readBigHNoExt F st h he, out_readHkNoExt F st k h he, out_readHNoExt F st h he⟩

/-- R11 — the non-mutating API does not mutate.  Reading any view or observer, any other public method
    that is not a setter (`Op.query`: `calc_Q`, `calc_SINR`, …, copying or pickling the object), or sending
    data through the channel, changes no view:
    afterwards `big_H`, `H` and the block-diagonal filter are what they were. -/
theorem reads_do_not_change_views (F : Fns α) (st : State α) (op : Op α) (hr : op.isRead = true) :
    specBigH F (step Cfg.fixed F st op).1 = specBigH F st
    ∧ specH F (step Cfg.fixed F st op).1 = specH F st
    ∧ specBigW (step Cfg.fixed F st op).1 = specBigW st :=
  sameInputs_spec F (read_sameInputs F st op hr)

/-- The remaining public observers (R7): `K` / `Nr` / `Nt` / `extIntNt`, `pathloss`,
    `big_W`, `noise_var`, `last_noise` return the current configuration (never a
    cached copy of an older one), and `corrupt_concatenated_data(X)` returns
    `W^H (big_H X + noise)` with the current `big_H` and filters. -/
theorem observers_return_current (F : Fns α) (isExt : Bool) (ops : List (Op α)) (X : Mat α)
    (noise : Option (Mat α)) :
    let st := reach F isExt ops
    (step Cfg.fixed F st .readLayout).2
        = .layout st.userK st.nrU st.ntU (if st.isExt then st.nt.drop (st.nt.length - st.extK) else [])
    ∧ (step Cfg.fixed F st .readPL).2 = .optMat st.pl
    ∧ (step Cfg.fixed F st .readBigWView).2 = .optMat (specBigW st)
    ∧ (step Cfg.fixed F st .readNoiseVar).2 = .optScalar st.noiseVar
    ∧ (step Cfg.fixed F st .readLastNoise).2 = .optMat st.lastNoise
    ∧ ((st.noiseVar.isSome → noise.isSome) →
        (step Cfg.fixed F st (.corruptCat X noise)).2
            = .rx [specReceivedCat F st X noise] (specLastNoise st noise)
        ∧ (step Cfg.fixed F st (.corruptCat X noise)).1.lastNoise = specLastNoise st noise) := by
  intro st
  have h := coherent_history F isExt ops
  refine ⟨rfl, rfl, ?_, rfl, rfl, ?_⟩
  · show Out.optMat (readBigW st).2 = _
    rw [(readBigW_spec F st h).1]
  · exact doCorruptCat_spec F st X noise h

/-- The documented argument shapes are themselves an invariant of well-shaped
    histories (so the hypotheses of the theorems below that assume `Valid` never
    become unsatisfiable along a history): layout lists have `_K` entries and the
    stored path loss is `K × _K`.  In particular re-initialising with another
    number of users drops a path loss that no longer fits instead of keeping
    it. -/
theorem shapes_invariant (F : Fns α) (isExt : Bool) (ops : List (Op α)) (hv : Valid F isExt ops) :
    WellShaped (reach F isExt ops) :=
  run_wellShaped F ops _ (wellShaped_init isExt) hv

/-- Clause "the block for each (receiver, transmitter) pair equals the
    corresponding sub-block of the global matrix": after every history with
    well-shaped arguments, `get_Hkl(k,l)` (= `H[k,l]`) is exactly the sub-block
    `[cumNr[k]:cumNr[k+1], cumNt[l]:cumNt[l+1]]` of what `big_H` returns — for
    every receiver `k` and every transmitter `l`, external interference sources
    included. -/
theorem hkl_is_block_of_bigH (F : Fns α) (isExt : Bool) (ops : List (Op α)) (hv : Valid F isExt ops)
    {k l : Nat} :
    let st := reach F isExt ops
    k < st.userK → l < st.k →
    ∃ M, (step Cfg.fixed F st .readBigH).2 = .mat M
       ∧ (step Cfg.fixed F st (.readHkl k l)).2 = .mat (block M st.nr st.nt k l) := by
  intro st hk hl
  have h := coherent_history F isExt ops
  refine ⟨specBigH F st, out_readBigH F st h, ?_⟩
  rw [out_readHkl F st k l h]
  exact views_agree F st (shapes_invariant F isExt ops hv) hk hl

/-- Clause "… and equals the raw channel scaled by the square root of the
    CURRENT path loss": `get_Hkl(k,l)` is the raw (k,l) block when no path loss
    is set, and the raw block times `sqrt(p[k][l])` of the path loss `p` that is
    stored NOW otherwise. -/
theorem hkl_is_scaled_raw_block (F : Fns α) (isExt : Bool) (ops : List (Op α)) (hv : Valid F isExt ops)
    {k l : Nat} :
    let st := reach F isExt ops
    k < st.userK → l < st.k →
    (st.pl = none →
      (step Cfg.fixed F st (.readHkl k l)).2 = .mat (block st.raw st.nr st.nt k l))
    ∧ (∀ p, st.pl = some p → ∃ prow q, p[k]? = some prow ∧ prow[l]? = some q ∧
      (step Cfg.fixed F st (.readHkl k l)).2
        = .mat (scaleBy F.sqrt (block st.raw st.nr st.nt k l) q)) := by
  intro st hk hl
  have h := coherent_history F isExt ops
  have hw := shapes_invariant F isExt ops hv
  rw [out_readHkl F st k l h]
  exact ⟨fun hp => specH_get_none F st hw hk hl hp, fun p hp => specH_get_some F st hw hk hl hp⟩

/-- `get_Hk(k)` is the k-th block of rows of `big_H` (so `get_Hkl(k,l)` is its
    l-th block of columns). -/
theorem hk_is_rowblock_of_bigH (F : Fns α) (isExt : Bool) (ops : List (Op α)) (hv : Valid F isExt ops)
    {k : Nat} :
    let st := reach F isExt ops
    k < st.userK →
    ∃ M, (step Cfg.fixed F st .readBigH).2 = .mat M
       ∧ (step Cfg.fixed F st (.readHk k)).2 = .mat (rowBlock M st.nr k)
       ∧ ∀ l, l < st.k →
           (step Cfg.fixed F st (.readHkl k l)).2 = .mat (colBlock (rowBlock M st.nr k) st.nt l) := by
  intro st hk
  have h := coherent_history F isExt ops
  have hw := shapes_invariant F isExt ops hv
  refine ⟨specBigH F st, out_readBigH F st h, ?_, ?_⟩
  · rw [out_readHk F st k h]; exact hk_rowBlock F st hw hk
  · intro l hl
    rw [out_readHkl F st k l h]
    exact views_agree F st hw hk hl

/-- The user blocks of the ExtInt-only views agree with the others: block (k,l)
    of `H_no_ext_int` is `get_Hkl(k,l)`, and the (k,l) sub-block of
    `big_H_no_ext_int` is the (k,l) sub-block of `big_H` (hence, by
    `hkl_is_block_of_bigH`, again `get_Hkl(k,l)`), for all users `k, l`. -/
theorem extint_user_views_agree (F : Fns α) (ops : List (Op α)) (hv : Valid F true ops) {k l : Nat} :
    let st := reach F true ops
    k < st.userK → l < st.userK →
    ∃ M N H, (step Cfg.fixed F st .readBigH).2 = .mat M
      ∧ (step Cfg.fixed F st .readBigHNoExt).2 = .mat N
      ∧ (step Cfg.fixed F st .readHNoExt).2 = .mom H
      ∧ block N st.nr st.nt k l = block M st.nr st.nt k l
      ∧ getD2 H k l = (step Cfg.fixed F st (.readHkl k l)).2
      ∧ getD2 H k l = .mat (block M st.nr st.nt k l) := by
  intro st hk hl
  have h := coherent_history F true ops
  have hw := shapes_invariant F true ops hv
  have he : st.isExt = true := reach_isExt F true ops
  have hl' : l < st.k := Nat.lt_of_lt_of_le hl (userK_le st)
  refine ⟨specBigH F st, _, _, out_readBigH F st h, out_readBigHNoExt F st h he, out_readHNoExt F st h he,
    block_takeCols _ st hw hl, ?_, ?_⟩
  · rw [getD2_map_take _ hl, out_readHkl F st k l h]
  · rw [getD2_map_take _ hl]; exact views_agree F st hw hk hl'

/-- Clause "data sent through the channel is received as that current global
    matrix times the stacked transmit data, plus exactly the noise reported as
    last noise, filtered by the current post-filters, and split per receiver by
    its antenna count": after every history, `corrupt_data(x[, xe])` returns
    `specReceived` — `W^H (big_H · vstack(x ++ xe) + noise)` with the CURRENT
    `big_H` and the block-diagonal matrix of the CURRENT filters, cut at the
    cumulative receive antenna counts — and `last_noise` is afterwards exactly
    the noise that was added (`None` iff no noise variance is set).  `noise` is
    the array drawn by the random generator (a parameter of the model; the only
    contract is that one is drawn when a noise variance is set). -/
theorem corrupt_spec (F : Fns α) (isExt : Bool) (ops : List (Op α))
    (x xe : List (Mat α)) (noise : Option (Mat α)) :
    let st := reach F isExt ops
    (st.noiseVar.isSome → noise.isSome) →
    (step Cfg.fixed F st (.corrupt x xe noise)).2
        = .rx (specReceived F st x xe noise) (specLastNoise st noise)
    ∧ (step Cfg.fixed F st (.corrupt x xe noise)).1.lastNoise = specLastNoise st noise := by
  intro st hn
  exact doCorrupt_spec F st x xe noise (coherent_history F isExt ops) hn

/-- First-principles form of "received as the current global matrix times the
    stacked transmit data" (scalars with the additive monoid laws): after every
    well-shaped history whose last channel matrix is rectangular, receiver `k`'s
    rows of `big_H · vstack(xs)` (what `corrupt_data` returns for `k` before
    noise and filter, `xs` = user data followed by the interference data) are,
    row by row, the SUM OVER THE TRANSMITTERS `l` of (that row of the block
    `get_Hkl(k,l)` = `seg Nt ρ l` of the row `ρ` of `get_Hk(k)`) times `xs[l]` —
    every link contributes through its own block, scaled by its own current
    path loss (`hkl_is_scaled_raw_block`). -/
theorem received_is_sum_over_links {R : Type} [AddMonoid R] [Mul R] (F : Fns R) (isExt : Bool)
    (ops : List (Op R)) (hv : Valid F isExt ops) (xs : List (Mat R)) {c : Nat} (k : Nat) :
    let st := reach F isExt ops
    (∀ r ∈ st.raw, r.length = st.nt.sum) →
    xs.length = st.nt.length → xs ≠ [] →
    (∀ (l : Nat) (x : Mat R), xs[l]? = some x → st.nt[l]? = some x.length ∧ x ≠ [] ∧ IsMat x c) →
    seg st.nr (matMul (specBigH F st) xs.flatten) k
      = (rowBlock (specBigH F st) st.nr k).map fun ρ =>
          vsum (List.zipWith rowMul ((List.range st.nt.length).map fun l => seg st.nt ρ l) xs) := by
  intro st hraw hlen hne hx
  exact received_rows_sum_over_links _ st.nr st.nt
    (specBigH_row_length F st (shapes_invariant F isExt ops hv) hraw) xs hlen hne hx k

/-- the two sides of `received_is_sum_over_links` on a concrete 2-user channel with path loss -/
example :
    let st := reach fInt false [.init [[1, 2, 3], [4, 5, 6], [7, 8, 9]] [1, 2] [2, 1] 2 [],
                                 .setPL (some [[1, 2], [3, 1]]) []]
    let xs : List (Mat Int) := [[[1, 0], [0, 1]], [[2, 2]]]
    seg st.nr (matMul (specBigH fInt st) xs.flatten) 1 = [[24, 27], [39, 42]]
    ∧ ((rowBlock (specBigH fInt st) st.nr 1).map fun ρ =>
        vsum (List.zipWith rowMul ((List.range st.nt.length).map fun l => seg st.nt ρ l) xs))
      = [[24, 27], [39, 42]] := by
  decide +kernel

/-- What `corrupt_data(x[, xe])` hands to `corrupt_concatenated_data` is the stack of ALL blocks, each
    kept whole: cut at the blocks' own row counts, the l-th piece of the stack is exactly the l-th
    block (of the user data followed by the interference data on the ExtInt class) — every entry of
    every block, whatever the other blocks contain.  (On the code: whatever their element types.) -/
theorem stacked_data_keeps_every_block (F : Fns α) (st : State α) (x xe : List (Mat α)) {l : Nat}
    {b : Mat α} (hb : (if st.isExt then x ++ xe else x)[l]? = some b) :
    ∃ X, (step Cfg.fixed F st (.stackData x xe)) = (st, .mat X)
      ∧ seg ((if st.isExt then x ++ xe else x).map List.length) X l = b :=
  ⟨_, rfl, seg_flatten_blocks _ hb⟩

/-- The two entry points agree: after every history, `corrupt_data(x[, xe])` returns the split by the
    receive antenna counts of what `corrupt_concatenated_data` returns for the stacked data (same noise
    drawn), and leaves the same `last_noise`. -/
theorem corrupt_is_split_of_corruptCat (F : Fns α) (isExt : Bool) (ops : List (Op α))
    (x xe : List (Mat α)) (noise : Option (Mat α)) :
    let st := reach F isExt ops
    (st.noiseVar.isSome → noise.isSome) →
    ∃ X Y ln, (step Cfg.fixed F st (.stackData x xe)).2 = .mat X
      ∧ (step Cfg.fixed F st (.corruptCat X noise)).2 = .rx [Y] ln
      ∧ (step Cfg.fixed F st (.corrupt x xe noise)).2
          = .rx ((List.range st.userK).map fun k => seg st.nr Y k) ln := by
  intro st hn
  have h := coherent_history F isExt ops
  refine ⟨_, _, _, rfl, (doCorruptCat_spec F st _ noise h hn).1, ?_⟩
  exact (doCorrupt_spec F st x xe noise h hn).1

/-- `matMul` (the model of `np.dot`, used for `big_H · data`) is the matrix
    product: on the row lists of Mathlib matrices over any semiring it returns
    the row lists of `A * B`. -/
theorem matMul_is_matrix_product {R : Type} [Semiring R] {m n p : Nat}
    (A : Matrix (Fin m) (Fin (n + 1)) R) (B : Matrix (Fin (n + 1)) (Fin p) R) :
    matMul (toLists A) (toLists B) = toLists (A * B) := by
  refine (List.map_ofFn ..).trans (congrArg List.ofFn (funext fun i => ?_))
  unfold Function.comp rowMul
  rw [cols_toLists, ← List.ofFn_const]
  refine (foldl_zip_ofFn List.ofFn vecAdd vecAdd_ofFn
    (fun a b => b.map fun y => a * y) (fun k => A i k) (fun k => List.ofFn (B k))
    (fun k j => A i k * B k j) (fun k => List.map_ofFn ..) (fun _ => 0)).trans ?_
  -- entry `j` of row `i` of `A * B` is this sum by definition
  simp only [zero_add]
  rfl

/-- `conjTMul` (the model of `np.dot(big_W.conjugate().T, ·)`) is the product with
    the conjugate transpose, and `matAdd` (the model of `output += noise`) is the
    matrix sum. -/
theorem conjTMul_is_conjTranspose_product {R : Type} [Semiring R] (conj : R → R) {n q p : Nat}
    (W : Matrix (Fin (n + 1)) (Fin q) R) (Y Z : Matrix (Fin (n + 1)) (Fin p) R) :
    conjTMul conj (toLists W) (toLists Y) = toLists ((W.map conj).transpose * Y)
    ∧ matAdd (toLists Y) (toLists Z) = toLists (Y + Z) := by
  refine ⟨?_, matAdd_ofFn Y Z⟩
  unfold conjTMul
  rw [cols_toLists, cols_toLists, ← List.ofFn_const, ← List.ofFn_const]
  refine (foldl_zip_ofFn (fun U : Fin q × Fin p → R => List.ofFn fun j => List.ofFn fun k => U (j, k)) matAdd
    (fun a b => matAdd_ofFn (fun j k => a (j, k)) fun j k => b (j, k))
    (fun w y => w.map fun a => y.map fun b => conj a * b) (fun i => List.ofFn (W i)) (fun i => List.ofFn (Y i))
    (fun i jk => conj (W i jk.1) * Y i jk.2) (fun i => by simp only [List.map_ofFn]; rfl) (fun _ => 0)).trans ?_
  simp only [zero_add]
  rfl

omit [Add α] [Mul α] in
/-- `blockDiag` (the model of `scipy.linalg.block_diag`, the cached `big_W`) is
    block diagonal: cut at the filters' own row and column counts, its (k,l)
    block is the k-th filter when `k = l` and zero otherwise. -/
theorem blockDiag_is_block_diagonal (ws : List (Mat α)) (hrect : ∀ w ∈ ws, ∀ r ∈ w, r.length = cols w)
    {k l : Nat} {w : Mat α} {cl : Nat} (hk : ws[k]? = some w) (hl : (ws.map cols)[l]? = some cl) :
    block (blockDiag ws) (ws.map List.length) (ws.map cols) k l
      = if k = l then w else List.replicate w.length (List.replicate cl 0) := by
  have hck : (ws.map cols)[k]? = some (cols w) := by rw [List.getElem?_map, hk]; rfl
  have hz : ws.zipIdx[k]? = some (w, k) := by rw [List.getElem?_zipIdx, hk, Option.map_some, Nat.zero_add]
  unfold block rowBlock colBlock blockDiag
  -- the `k`-th chunk of rows of `block_diag` is the padded `w`; each of its rows is cut by `seg_padded`
  rw [seg_flatMap_of_lengths ws.zipIdx _ (fun i y hy => ?hns) hz]
  case hns =>
    rw [List.getElem?_zipIdx] at hy
    obtain ⟨v, hv, rfl⟩ := Option.map_eq_some_iff.1 hy
    rw [List.getElem?_map, hv, List.length_map]
    rfl
  simp only [List.map_map, Function.comp_def]
  rw [List.map_congr_left fun r hr => seg_padded r hck hl (hrect w (List.mem_of_getElem? hk) r hr)]
  split
  · exact List.map_id' w
  · exact List.map_const' ..

/-- A negative noise variance is rejected (`AssertionError`) and nothing changes. -/
theorem negative_noise_var_rejected (F : Fns α) (st : State α) (v : α) (h : F.nonneg v = false) :
    step Cfg.fixed F st (.setNoise (some v)) = (st, .err .AssertionError) :=
  if_neg (ne_true_of_eq_false h)

/-- R4 — a call that raises leaves the object as it was.  Whatever the operation and
    its arguments: if it returns an error (`ValueError` of `init_from_channel_matrix` /
    `randomize` / `set_pathloss`, `IndexError` of a too small path loss or of an index
    out of range, `AssertionError` of a negative noise variance, `AttributeError` of an
    ExtInt-only view on the plain class) then the raw channel, the layout, `K`,
    `extIntK`, the path loss, the filters, the noise variance and `last_noise` are
    unchanged — hence every view is — and the caches stay coherent. -/
theorem rejected_call_changes_nothing (F : Fns α) (st : State α) (op : Op α) (e : PyErr)
    (h : (step Cfg.fixed F st op).2 = .err e) :
    SameInputs (step Cfg.fixed F st op).1 st
    ∧ (step Cfg.fixed F st op).1.lastNoise = st.lastNoise
    ∧ specBigH F (step Cfg.fixed F st op).1 = specBigH F st
    ∧ specH F (step Cfg.fixed F st op).1 = specH F st
    ∧ specBigW (step Cfg.fixed F st op).1 = specBigW st := by
  have hs := step_err_sameOutside F st op e h
  have h1 := (hs.mono fun f hf => List.mem_append_left [.lastNoise] hf).sameInputs
  exact ⟨h1, (hs.2 .lastNoise (by decide)).symm, sameInputs_spec F h1⟩

/-- `init_from_channel_matrix` with a matrix whose shape is not `(sum Nr, sum Nt)` or
    with layout lists whose length is not `K` raises `ValueError` and (both classes)
    changes nothing at all — in particular not the stored antenna counts or `extIntK`;
    likewise `randomize` with layout lists whose length is not `K`. -/
theorem bad_init_rejected (F : Fns α) (st : State α) (M : Mat α) (nr nt : List Nat) (K : Nat)
    (ntE : List Nat) :
    let L := fullLayout st.isExt nr nt K ntE
    (initCheck M L.1 L.2.1 L.2.2.1 = false →
      step Cfg.fixed F st (.init M nr nt K ntE) = (st, .err .ValueError))
    ∧ ((L.1.length ≠ L.2.2.1 ∨ L.2.1.length ≠ L.2.2.1) →
      step Cfg.fixed F st (.randomize M nr nt K ntE) = (st, .err .ValueError)) := by
  intro L
  constructor
  · intro hbad
    rw [step_init, hbad]
    rfl
  · intro hbad
    have : randCheck Cfg.fixed st.isExt nr nt K ntE = some .ValueError :=
      if_pos (Bool.and_eq_true_iff.2 ⟨rfl, Bool.or_eq_true_iff.2 (hbad.imp bne_iff_ne.2 bne_iff_ne.2)⟩)
    rw [step_randomize, this]

/-- `set_pathloss` with a matrix smaller than `K × _K` raises `IndexError`, with an
    interference path loss whose number of rows differs raises `ValueError`; nothing
    changes. -/
theorem bad_pathloss_rejected (F : Fns α) (st : State α) (p pe : Mat α) (e : PyErr)
    (hbad : setPLCheck Cfg.fixed st (some p) pe = some e) :
    step Cfg.fixed F st (.setPL (some p) pe) = (st, .err e) := by
  simp [step, hbad]

/-- Reading a block outside the layout raises `IndexError`. -/
theorem hkl_out_of_range (F : Fns α) (isExt : Bool) (ops : List (Op α)) (hv : Valid F isExt ops)
    (k l : Nat) :
    let st := reach F isExt ops
    st.userK ≤ k → (step Cfg.fixed F st (.readHkl k l)).2 = .err .IndexError := by
  intro st hk
  rw [out_readHkl F st k l (coherent_history F isExt ops)]
  exact getD2_out_of_range F st (shapes_invariant F isExt ops hv) hk

/-- finding (4): `MultiUserChannelMatrixExtInt.set_pathloss` did not reset
    `_big_H_with_pathloss` -/
def witnessExtSetPL : List (Op Int) :=
  [.init [[1, 1]] [1] [1] 1 [1], .setPL (some [[2]]) [[3]], .readBigH, .setPL (some [[5]]) [[7]], .readBigH]

/-- On the design-round code the second `big_H` read of `witnessExtSetPL`
    returns the matrix scaled by the FIRST path loss, not the current one. -/
theorem extint_stale_bigH_orig :
    (run Cfg.orig fInt (State.init Int true) witnessExtSetPL).2.getLast? = some (.mat [[2, 3]])
    ∧ specBigH fInt (run Cfg.orig fInt (State.init Int true) witnessExtSetPL).1 = [[5, 7]] := by
  decide +kernel

/-- finding (5): `randomize` / `init_from_channel_matrix` kept the path loss
    expanded for the PREVIOUS antenna layout -/
def witnessRelayout : List (Op Int) :=
  [.init [[1, 1, 1], [1, 1, 1], [1, 1, 1]] [2, 1] [2, 1] 2 [], .setPL (some [[2, 3], [5, 7]]) [],
   .init [[1, 1, 1], [1, 1, 1], [1, 1, 1]] [1, 2] [1, 2] 2 [], .readBigH, .readHkl 0 1]

/-- On the design-round code, after `witnessRelayout`, `big_H` is scaled with
    the old block structure while `get_Hkl(0,1)` uses the new one: the two views
    disagree (and `big_H` is not the current spec). -/
theorem layout_change_stale_orig :
    (run Cfg.orig fInt (State.init Int false) witnessRelayout).2.drop 3
        = [.mat [[2, 2, 3], [2, 2, 3], [5, 5, 7]], .mat [[3, 3]]]
    ∧ specBigH fInt (run Cfg.orig fInt (State.init Int false) witnessRelayout).1
        = [[2, 3, 3], [5, 7, 7], [5, 7, 7]]
    ∧ block [[2, 2, 3], [2, 2, 3], [5, 5, 7]] [1, 2] [1, 2] 0 1 ≠ ([[3, 3]] : Mat Int) := by
  decide +kernel

/-- finding (6): `H_no_ext_int` went through the base-class getter, whose
    product of a `(K+e)×(K+e)` object array with the `K×(K+e)` path loss does
    not broadcast for `K ≥ 2` -/
def witnessHNoExt : List (Op Int) :=
  [.init [[1, 1, 1], [1, 1, 1]] [1, 1] [1, 1] 2 [1], .setPL (some [[1, 4], [4, 1]]) [[9], [9]], .readHNoExt]

/-- On the design-round code `H_no_ext_int` raises as soon as a path loss is set. -/
theorem hnoext_raises_orig :
    (run Cfg.orig fInt (State.init Int true) witnessHNoExt).2.getLast? = some (.err .ValueError) := by
  decide +kernel

/-! ## non-vacuity: the same histories on the repaired code, and they are `Valid`; then one transmission -/

example : Valid fInt true witnessExtSetPL ∧
    (run Cfg.fixed fInt (State.init Int true) witnessExtSetPL).2.getLast? = some (.mat [[5, 7]]) :=
  ⟨valid_of_validb _ _ _ (by decide +kernel), by decide +kernel⟩

example : Valid fInt false witnessRelayout ∧
    (run Cfg.fixed fInt (State.init Int false) witnessRelayout).2.drop 3
      = [.mat [[2, 3, 3], [5, 7, 7], [5, 7, 7]], .mat [[3, 3]]] :=
  ⟨valid_of_validb _ _ _ (by decide +kernel), by decide +kernel⟩

example : Valid fInt true witnessHNoExt ∧
    (run Cfg.fixed fInt (State.init Int true) witnessHNoExt).2.getLast?
      = some (.mom [[[[1]], [[4]]], [[[4]], [[1]]]]) :=
  ⟨valid_of_validb _ _ _ (by decide +kernel), by decide +kernel⟩

/-- a transmission with noise and a post filter on the repaired model
    (hypothesis of `corrupt_spec` satisfiable, result non-trivial) -/
example :
    (run Cfg.fixed fInt (State.init Int false)
      [.init [[1, 2], [3, 4]] [1, 1] [1, 1] 2 [], .setPL (some [[1, 2], [3, 1]]) [], .setNoise (some 1),
       .setW (some [[[2]], [[1]]]), .corrupt [[[1]], [[1]]] [] (some [[10], [20]])]).2.getLast?
      = some (.rx [[[30]], [[33]]] (some [[10], [20]])) := by
  decide +kernel

/-! ## second tie to the source: the cache-invalidation structure, by regeneration

`Generated/C08Effects.lean` is re-emitted from `pyphysim/channels/multiuser.py` on every check
run (`harness/gen/c08.py`): for each of the two classes and each public method / property
getter / property setter — overrides resolved per class, private helpers and base-class calls
inlined — the attributes it resets on every normal path, assigns, writes only on some paths, may
fill lazily and reads; the attributes a fresh object has; what every lazy fill reads.  The
theorems below compare those tables with the model and prove the invalidation discipline on
them, so that a dropped / conditional reset, a getter that stops recomputing, or a new cached
attribute breaks a proof obligation (independently of the seeded correspondence). -/
section effects
open PyPhysim.CacheEffects PyPhysim.Generated

/-- The effect table `effect` IS what the model does: for every state, every operation and all
    arguments, `step` (i) changes no field outside the table (nor the class flag), (ii) leaves a
    field listed under `fills` as it was or takes it from `None` to a value, and (iii) leaves
    `None` in every field listed under `clears` whenever the call is accepted. -/
theorem model_step_has_table_effect (F : Fns α) (st : State α) (op : Op α) :
    let e := effect st.isExt op.kind
    let st' := (step Cfg.fixed F st op).1
    st'.isExt = st.isExt
    ∧ (∀ f, f ∉ e.touched → f.agree st st')
    ∧ (∀ f ∈ e.fills, f.agree st st' ∨ (f.isNone st ∧ ¬ f.isNone st'))
    ∧ ((∀ err, (step Cfg.fixed F st op).2 ≠ .err err) → ∀ f ∈ e.clears, f.isNone st') :=
  ⟨(step_sameOutside F st op).1.symm, (step_sameOutside F st op).2,
   fun f hf => step_fillOnly F st op f hf, fun hok f hf => step_clears F st op f hf hok⟩

/-- … and the table is not an over-approximation: on concrete two-user objects of either class
    (kernel-evaluated, integers) every field the table lists for an operation is really changed
    by that operation. -/
theorem model_effect_table_is_tight : tight false = true ∧ tight true = true := by
  decide +kernel

/-- The dependency table `specDeps` IS what the coherence invariant encodes: `Coherent` is the
    conjunction of one clause per derived field, and the clause of a derived field reads that
    field and the fields `specDeps` lists for it, nothing else. -/
theorem coherence_reads_only_spec_dependencies (F : Fns α) (a b : State α) :
    (Coherent F a ↔ ∀ f ∈ derivedFlds, clause F f a)
    ∧ ∀ f, f.agree a b → (∀ g ∈ specDeps f, g.agree a b) → (clause F f a ↔ clause F f b) :=
  ⟨coherent_iff_clauses F a, fun f hf hd => clause_congr F f a b hf hd⟩

/-- Bridge (i): every generated row of both classes equals (as sets of attributes) the effect of
    the model operation behind that entry point — same resets, same assignments, same
    conditional writes, same lazy fills; entry points without a model operation (`calc_Q`,
    `calc_SINR`, seeding, …) write nothing; every modelled entry point has a row. -/
theorem generated_effects_match_model :
    (C08Effects.rows.all rowMatches && entryPointsPresent C08Effects.rows) = true :=
  (Bool.and_eq_true_iff.1 (Bool.and_eq_true_iff.1 (Bool.and_eq_true_iff.1 generated_tables_check).1).1).1

omit [Add α] [Mul α] [Zero α] in
/-- The attributes of a fresh object are exactly the ones the model has a field for (plus the two
    random generators), `None` exactly where `State.init` has `none`; no entry point touches an
    attribute that `__init__` does not create.  A new private attribute breaks this. -/
theorem generated_attributes_known :
    (initMatches C08Effects.initAttrs && mentionsOnlyInit C08Effects.initAttrs C08Effects.rows) = true
    ∧ ∀ (e : Bool) (f : Fld), f.isNone (State.init α e) ↔ f ∈ initNone :=
  ⟨(Bool.and_eq_true_iff.1 (Bool.and_eq_true_iff.1 (Bool.and_eq_true_iff.1 generated_tables_check).1).1).2,
   init_isNone_iff⟩

/-- The lazily filled attributes found in the source are the model's caches, and the attributes
    each fill (transitively, through the eagerly derived ones) reads are exactly the fields
    `specDeps` says the cached value is computed from. -/
theorem generated_fill_reads_match_model : fillsMatch C08Effects.fillReads = true :=
  (Bool.and_eq_true_iff.1 (Bool.and_eq_true_iff.1 generated_tables_check).1).2

/-- Bridge (ii), the sufficiency condition, on the GENERATED tables: every entry point of either
    class that writes an attribute resets or rewrites — on every normal path — every derived
    attribute (lazy cache or eagerly recomputed) whose dependency closure, taken from the generated
    fill read-sets, contains it. -/
theorem generated_effects_sufficient :
    sufficient (depsOf C08Effects.fillReads) C08Effects.rows = true :=
  (Bool.and_eq_true_iff.1 generated_tables_check).2

/-- What bridge (ii) means, for ANY object with the generated structure (no reference to the hand
    model): let every derived attribute have a coherence relation that reads only that attribute
    and its dependency closure (`Local`), in any value type.  If a call of an entry point changes
    only what its generated row lists as written, and what it stores in a derived attribute is
    `None` or coherent (`Obeys`), then it takes coherent objects to coherent objects. -/
theorem generated_tables_preserve_coherence {V : Type} (none : V)
    (rel : String → String → Obj V → Prop)
    (hloc : ∀ cls, Local (depsOf C08Effects.fillReads cls) (rel cls))
    (r : Row) (hr : r ∈ C08Effects.rows) (σ τ : Obj V)
    (hob : Obeys none (depsOf C08Effects.fillReads r.cls) (rel r.cls) r σ τ)
    (hcoh : Coh none (depsOf C08Effects.fillReads r.cls) (fun _ => false) (rel r.cls) σ) :
    Coh none (depsOf C08Effects.fillReads r.cls) (fun _ => false) (rel r.cls) τ :=
  sufficientBut_preserves_coherence none (depsOf C08Effects.fillReads) (fun _ _ => false) C08Effects.rows
    (by rw [← sufficient_eq_sufficientBut]; exact generated_effects_sufficient) rel hloc r hr σ τ hob hcoh

/-- the hypotheses of `generated_tables_preserve_coherence` are satisfiable in a non-trivial way:
    values are numbers (`0` = `None`), on the plain class `_big_W` is coherent when it is `_W + 1`;
    `set_post_filter` (its generated row) stores a new `_W` and resets `_big_W` -/
example :
    let rel : String → String → Obj Nat → Prop :=
      fun cls c σ => cls = plainCls → c = "_big_W" → σ "_big_W" = σ "_W" + 1
    let σ : Obj Nat := fun a => if a = "_W" then 1 else if a = "_big_W" then 2 else 7
    let τ : Obj Nat := fun a => if a = "_W" then 5 else if a = "_big_W" then 0 else 7
    let r : Row := { cls := plainCls, name := "set_post_filter", clears := ["_big_W"], assigns := ["_W"],
                     mayWrite := [], fills := [], reads := ["_W"] }
    (∀ cls, Local (depsOf C08Effects.fillReads cls) (rel cls)) ∧ r ∈ C08Effects.rows
    ∧ Obeys 0 (depsOf C08Effects.fillReads r.cls) (rel r.cls) r σ τ
    ∧ Coh 0 (depsOf C08Effects.fillReads r.cls) (fun _ => false) (rel r.cls) σ := by
  intro rel σ τ r
  refine ⟨?_, by decide +kernel, ⟨?_, ?_, ?_⟩, ?_⟩
  · intro cls c a b hab
    refine imp_congr_right fun hcls => imp_congr_right fun hc => ?_
    subst hcls hc
    rw [hab "_big_W" (.inl rfl), hab "_W" (.inr (by decide +kernel))]
  · intro a ha
    simp only [Row.written, r, List.append_nil, List.cons_append, List.nil_append, List.mem_cons,
      List.not_mem_nil, or_false, not_or] at ha
    simp [σ, τ, ha.1, ha.2]
  · intro c _ hm
    simp only [Row.mustWritten, r, List.cons_append, List.nil_append, List.mem_cons, List.not_mem_nil,
      or_false] at hm
    rcases hm with rfl | rfl
    · left; decide +kernel
    · right; intro _ h; exact absurd h (by decide +kernel)
  · intro c _ hm
    simp only [Row.written, r, List.append_nil, List.cons_append, List.nil_append, List.mem_cons,
      List.not_mem_nil, or_false] at hm
    rcases hm with rfl | rfl
    · right; left; decide +kernel
    · right; right; intro _ h; exact absurd h (by decide +kernel)
  · intro c _ _
    right
    intro _ hc
    subst hc
    decide +kernel

/-- the condition is not vacuous: `set_pathloss` without the reset of `_big_H_with_pathloss`
    (the design-round defect of the ExtInt class) violates it, and so does a cache `_foo` of
    `big_H` that `set_pathloss` does not know -/
example :
    sufficient (depsOf C08Effects.fillReads)
      [{ cls := extCls, name := "set_pathloss", clears := ["_H_with_pathloss"],
         assigns := ["_pathloss_big_matrix", "_pathloss_matrix"], mayWrite := [], fills := [], reads := [] }] = false
    ∧ sufficient (depsOf (("MultiUserChannelMatrix", "_foo", ["_big_H_with_pathloss", "_pathloss_matrix"])
        :: C08Effects.fillReads))
      [{ cls := plainCls, name := "set_pathloss", clears := ["_H_with_pathloss", "_big_H_with_pathloss"],
         assigns := ["_pathloss_big_matrix", "_pathloss_matrix"], mayWrite := [], fills := [], reads := [] }] = false := by
  decide +kernel

end effects

/-! ## R15 — distinct values that are merely close

No comparison of the model has a tolerance, no setter has an "unchanged → skip" path, no view is
looked up by a rounded key: the model is a function of the *exact* values.  The theorems say what
an `np.isclose` shortcut, an absolute threshold or a rounded cache key in the source would break
(the correspondence and the oracles run the real classes on pairs of values that differ by one
part in 2^26, by 2^-65 in absolute terms, or that are all below 1e-8). -/

/-- **A setter takes effect for every new value.**  Whatever was set before — however close to the
    new value — the second of two accepted calls of `set_pathloss`, `noise_var =`, `set_post_filter`
    or `init_from_channel_matrix` (same antenna layout) decides alone: the object is exactly the one
    the second call alone would have produced from the original state.  There is no "the value did
    not change (much), keep what we have". -/
theorem setter_takes_effect_for_every_new_value (F : Fns α) (st : State α) :
    (∀ (p q : Option (Mat α)) (pe qe : Mat α), setPLCheck Cfg.fixed st p pe = none →
        setPLCheck Cfg.fixed st q qe = none →
        step Cfg.fixed F (step Cfg.fixed F st (.setPL p pe)).1 (.setPL q qe) = step Cfg.fixed F st (.setPL q qe))
    ∧ (∀ (v w : Option α), (∀ x, w = some x → F.nonneg x = true) →
        (step Cfg.fixed F (step Cfg.fixed F st (.setNoise v)).1 (.setNoise w)).1
          = (step Cfg.fixed F st (.setNoise w)).1)
    ∧ (∀ (v w : Option (List (Mat α))),
        step Cfg.fixed F (step Cfg.fixed F st (.setW v)).1 (.setW w) = step Cfg.fixed F st (.setW w))
    ∧ (∀ (M M' : Mat α) (nr nt : List Nat) (K : Nat) (ntE : List Nat),
        initCheck M (fullLayout st.isExt nr nt K ntE).1 (fullLayout st.isExt nr nt K ntE).2.1
          (fullLayout st.isExt nr nt K ntE).2.2.1 = true →
        initCheck M' (fullLayout st.isExt nr nt K ntE).1 (fullLayout st.isExt nr nt K ntE).2.1
          (fullLayout st.isExt nr nt K ntE).2.2.1 = true →
        step Cfg.fixed F (step Cfg.fixed F st (.init M nr nt K ntE)).1 (.init M' nr nt K ntE)
          = step Cfg.fixed F st (.init M' nr nt K ntE)) := by
  refine ⟨fun p q pe qe h1 h2 => ?_, fun v w hw => ?_, fun v w => ?_, fun M M' nr nt K ntE h h' => ?_⟩
  · -- the check reads only what `set_pathloss` leaves alone, and the second update overwrites the first
    have hc : setPLCheck Cfg.fixed (doSetPL Cfg.fixed st p pe) q qe = setPLCheck Cfg.fixed st q qe := by
      rw [doSetPL_eq]; rfl
    have hd : doSetPL Cfg.fixed (doSetPL Cfg.fixed st p pe) q qe = doSetPL Cfg.fixed st q qe := by
      rw [doSetPL_eq st p pe, doSetPL_eq, doSetPL_eq]
    simp only [step, h1, h2, hc, hd]
  · have hw' : w.all F.nonneg = true := by
      cases w with
      | none => rfl
      | some x => exact hw x rfl
    -- the first call leaves `st`, with `v` stored or not; the second overwrites the field either way
    rw [step_fst, step_fst, step_fst]
    show next F (if v.all F.nonneg = true then _ else st) _ = _
    cases v.all F.nonneg <;> exact (if_pos hw').trans (if_pos hw').symm
  · rfl
  · have hi : (reinit st M nr nt K ntE).isExt = st.isExt := (reinit_same st M nr nt K ntE).1.symm
    rw [step_init F st M, if_pos h, step_init, hi, if_pos h', step_init, if_pos h', reinit_reinit]

/-- **What is read back is the exact value** (`lookup_exact`): after an accepted `set_pathloss(p[, pe])`
    the `pathloss` property returns exactly `p` (`hstack([p, pe])` on the ExtInt class), after
    `noise_var = v` the `noise_var` property returns exactly `v`, after `init_from_channel_matrix(M, …)`
    without a path loss `big_H` returns exactly `M` — so two *different* arguments, however close,
    give different observable results. -/
theorem lookup_exact (F : Fns α) (st : State α) :
    (∀ (p pe : Mat α), setPLCheck Cfg.fixed st (some p) pe = none →
        (step Cfg.fixed F (step Cfg.fixed F st (.setPL (some p) pe)).1 .readPL).2
          = .optMat (some (if st.isExt then List.zipWith (· ++ ·) p pe else p)))
    ∧ (∀ v : α, F.nonneg v = true →
        (step Cfg.fixed F (step Cfg.fixed F st (.setNoise (some v))).1 .readNoiseVar).2 = .optScalar (some v))
    ∧ (∀ (M : Mat α) (nr nt : List Nat) (K : Nat) (ntE : List Nat), st.pl = none →
        initCheck M (fullLayout st.isExt nr nt K ntE).1 (fullLayout st.isExt nr nt K ntE).2.1
          (fullLayout st.isExt nr nt K ntE).2.2.1 = true →
        (step Cfg.fixed F (step Cfg.fixed F st (.init M nr nt K ntE)).1 .readBigH).2 = .mat M)
    ∧ (∀ a b : Mat α, a ≠ b → (Out.optMat (some a) : Out α) ≠ .optMat (some b))
    ∧ (∀ a b : α, a ≠ b → (Out.optScalar (some a) : Out α) ≠ .optScalar (some b))
    ∧ (∀ a b : Mat α, a ≠ b → (Out.mat a : Out α) ≠ .mat b) := by
  refine ⟨fun p pe hok => ?_, fun v hv => ?_, fun M nr nt K ntE hpl hok => ?_,
    fun a b hab h => hab (Option.some.inj (Out.optMat.inj h)),
    fun a b hab h => hab (Option.some.inj (Out.optScalar.inj h)), fun a b hab h => hab (Out.mat.inj h)⟩
  · exact congrArg Out.optMat (set_pathloss_sets_current F st p pe hok).1
  · exact congrArg Out.optScalar (filter_and_noise_set_current F st none v hv).2.2.2.1
  · -- the accepted call stores `M` and keeps "no path loss", so `big_H` is the raw matrix
    rw [step_init, if_pos hok]
    unfold reinit
    rw [install_eq, hpl]
    rfl

/-- **No magnitude threshold on the noise variance.**  Once `noise_var = v` was accepted — for every
    `v ≥ 0`, `0.0`, `1e-15`, … — a transmission adds the noise that was drawn and reports exactly it as
    `last_noise`; only `noise_var = None` switches the noise off. -/
theorem every_accepted_noise_variance_adds_noise (F : Fns α) (isExt : Bool) (ops : List (Op α)) (v : α)
    (hv : F.nonneg v = true) (X n : Mat α) :
    let st := (step Cfg.fixed F (reach F isExt ops) (.setNoise (some v))).1
    (step Cfg.fixed F st (.corruptCat X (some n))).2 = .rx [specReceivedCat F st X (some n)] (some n)
    ∧ (step Cfg.fixed F st (.corruptCat X (some n))).1.lastNoise = some n := by
  intro st
  have hc : Coherent F st := step_coherent F _ _ (coherent_history F isExt ops)
  have hnv : st.noiseVar = some v := (filter_and_noise_set_current F _ none v hv).2.2.2.1
  have h := doCorruptCat_spec F st X (some n) hc (fun _ => rfl)
  rwa [specLastNoise, hnv] at h

/-! ## R16 — argument identity and buffer reuse

`Model/C08Buf.lean`: a caller that owns its arrays (`Heap`), refills them in place between calls
(`BOp.refill`) and hands them — one array possibly for several parameters — to the channel object
(`BOp.call mk`, the arguments being read from the arrays at call time). -/

/-- **Results depend only on the contents at call time.**  A caller program with refilled / shared
    arrays gives exactly the outputs (and leaves exactly the object) of the value history in which every
    call receives the contents its arrays had when it was made; in particular two programs whose arrays
    hold equal contents at every call — the same array object refilled, or a different array object each
    time — are indistinguishable. -/
theorem results_depend_on_contents_at_call_time (cfg : Cfg) (F : Fns α) (prog prog' : List (Buf.BOp α))
    (h h' : Buf.Heap α) (st : State α) :
    Buf.bufRun cfg F (h, st) prog
      = ((Buf.heapAfter h prog, (run cfg F st (Buf.resolve h prog)).1), (run cfg F st (Buf.resolve h prog)).2)
    ∧ (Buf.resolve h prog = Buf.resolve h' prog' →
        (Buf.bufRun cfg F (h, st) prog).2 = (Buf.bufRun cfg F (h', st) prog').2
        ∧ (Buf.bufRun cfg F (h, st) prog).1.2 = (Buf.bufRun cfg F (h', st) prog').1.2) := by
  refine ⟨Buf.bufRun_eq_run_resolve cfg F prog h st, fun he => ?_⟩
  rw [Buf.bufRun_eq_run_resolve, Buf.bufRun_eq_run_resolve, he]
  exact ⟨rfl, rfl⟩

/-- **Earlier results are not changed by later refills, and a refill alone does nothing to the object.**
    Whatever the caller does afterwards (`more`: refills, further calls with the same arrays), the outputs
    of the calls already made are the first outputs of the longer program; overwriting an array without a
    call leaves the channel object as it was. -/
theorem later_refills_do_not_change_earlier_results (cfg : Cfg) (F : Fns α) (prog more : List (Buf.BOp α))
    (hs : Buf.Heap α × State α) (s : Nat) (M : Mat α) :
    (∃ later, (Buf.bufRun cfg F hs (prog ++ more)).2 = (Buf.bufRun cfg F hs prog).2 ++ later)
    ∧ (Buf.bufStep cfg F hs (.refill s M)).1.2 = hs.2
    ∧ (Buf.bufStep cfg F hs (.refill s M)).2 = none := by
  refine ⟨⟨_, by rw [Buf.bufRun_append]⟩, rfl, rfl⟩

/-- non-vacuity / what an identity-keyed memo would get wrong: ONE array, handed to `set_pathloss`, refilled
    in place with close-but-different contents and handed over again — `pathloss` reports the new contents;
    and the same array for two parameters (`set_pathloss(P, P)` on the ExtInt class) is `hstack([P, P])` -/
example :
    (Buf.bufRun Cfg.fixed fInt ((fun _ => []), State.init Int false)
      [.call fun _ => .init [[1, 2], [3, 4]] [1, 1] [1, 1] 2 [],
       .refill 0 [[4, 9], [16, 25]], .call fun h => .setPL (some (h 0)) [], .call fun _ => .readPL,
       .refill 0 [[4, 9], [16, 26]], .call fun h => .setPL (some (h 0)) [], .call fun _ => .readPL,
       .refill 0 [[0, 0], [0, 0]], .call fun _ => .readPL]).2
      = [.unit, .unit, .optMat (some [[4, 9], [16, 25]]), .unit, .optMat (some [[4, 9], [16, 26]]),
         .optMat (some [[4, 9], [16, 26]])]
    ∧ (Buf.bufRun Cfg.fixed fInt ((fun _ => []), State.init Int true)
      [.call fun _ => .init [[1, 2, 5, 7], [3, 4, 6, 8]] [1, 1] [1, 1] 2 [1, 1],
       .refill 0 [[4, 1], [1, 9]], .call fun h => .setPL (some (h 0)) (h 0), .call fun _ => .readPL]).2
      = [.unit, .unit, .optMat (some [[4, 1, 4, 1], [1, 9, 1, 9]])] := by
  decide +kernel

end PyPhysim.C08
