import PyPhysim.Proofs.C20Alg
import PyPhysim.Proofs.C20Chordal
import PyPhysim.Proofs.C20Complex
import PyPhysim.Proofs.C20SM
import PyPhysim.Proofs.C20Select
import PyPhysim.Proofs.C20EigQR
import PyPhysim.Proofs.C20GmdStep
import PyPhysim.Proofs.C20GmdInvTop
import PyPhysim.Generated.C20Conversion
import PyPhysim.Proofs.C20Robust

/-!
# C20 — subspace and linear-algebra kernels satisfy their defining identities

Property theorems, the statements some of them prove (as `def`s), a negative witness and worked
examples.  All statements are about the executable model
`PyPhysim.LinAlg` (`Model/C20.lean`), instantiated at an arbitrary commutative
star ring `K` (`ℂ` with conjugation, `ℝ` with the trivial star) or at `ℂ`/`ℝ`
where order or analysis is needed (Sherman–Morrison: any field; the selectors: any
preordered values; R16: any array contents) — the correspondence check of
`harness/props/c20.py` ties the same definitions, compiled at binary64, to the
code.

`G` is the value returned by `np.linalg.inv(A_H.dot(A))`; its contract is
`G · (Aᴴ A) = 1` (checked numerically on every case).  Such a `G` exists iff
`A` has full column rank (`inv_contract_iff_full_column_rank`).

The section `gmd` is about another executable model, `gmd` of `Model/C20Gmd.lean` (arrays and
`Except PyErr`, statement by statement the code of `util.misc.gmd`); its proof is
`Proofs/C20GmdStep.lean` and `Proofs/C20GmdInv*.lean`.
-/
namespace PyPhysim.C20
open PyPhysim.LinAlg PyPhysim.Proto

section projection
variable {K : Type} [CommRing K] [StarRing K] {m k c : Nat}

/-- the projection matrix is Hermitian -/
theorem proj_hermitian (A : Mat K m k) (G : Mat K k k) (hG : matMul G (gram A) = eye) :
    cT (projWith G A) = projWith G A :=
  Pf.projWith_herm hG

/-- … and idempotent -/
theorem proj_idempotent (A : Mat K m k) (G : Mat K k k) (hG : matMul G (gram A) = eye) :
    matMul (projWith G A) (projWith G A) = projWith G A := by
  -- `P P = (A G) (Aᴴ P) = (A G) Aᴴ`
  conv_lhs => rw [projWith_def, matMul_assoc, ← projWith_def, Pf.cT_mul_projWith hG]
  exact (projWith_def G A).symm

/-- … leaves the matrix unchanged (`P A = A`) -/
theorem proj_fixes_A (A : Mat K m k) (G : Mat K k k) (hG : matMul G (gram A) = eye) :
    matMul (projWith G A) A = A :=
  Pf.projWith_fixes hG

/-- the residual `x − P x` is orthogonal to every column of `A` (so `P` is *the*
    orthogonal projection onto the column space: `P x = A (G Aᴴ x)` lies in it) -/
theorem proj_residual_orthogonal (A : Mat K m k) (G : Mat K k k) (hG : matMul G (gram A) = eye) :
    matMul (cT A) (oprojWith G A) = fun _ _ => 0 := by
  rw [oprojWith_def, matMul_sub, Pf.cT_mul_projWith hG, matMul_eye, sub_self]
  rfl

/-- the orthogonal projection is complementary: `P + P⊥ = 1`, `P P⊥ = P⊥ P = 0`,
    `P⊥` is itself a Hermitian idempotent and annihilates `A` -/
theorem proj_complement (A : Mat K m k) (G : Mat K k k) (hG : matMul G (gram A) = eye) :
    madd (projWith G A) (oprojWith G A) = eye ∧
    matMul (projWith G A) (oprojWith G A) = (fun _ _ => 0) ∧
    matMul (oprojWith G A) (projWith G A) = (fun _ _ => 0) ∧
    matMul (oprojWith G A) (oprojWith G A) = oprojWith G A ∧
    cT (oprojWith G A) = oprojWith G A ∧
    matMul (oprojWith G A) A = (fun _ _ => 0) := by
  obtain ⟨h1, h2, h3⟩ := Pf.idem_complement (proj_idempotent A G hG) (oprojWith_def G A)
  refine ⟨add_sub_cancel _ _, h1, h2, h3, ?_, ?_⟩
  · rw [oprojWith_def, cT_sub, cT_eye, Pf.projWith_herm hG]
  · rw [oprojWith_def, sub_matMul, eye_matMul, Pf.projWith_fixes hG, sub_self]
    rfl

/-- `project` and `oProject` split every matrix: `P M + P⊥ M = M` -/
theorem project_add_oProject (A : Mat K m k) (G : Mat K k k) (M : Mat K m c) :
    madd (project (projWith G A) M) (project (oprojWith G A) M) = M := by
  rw [project, project, oprojWith_def, sub_matMul, eye_matMul]
  exact add_sub_cancel _ _

/-- reflecting twice is the identity -/
theorem reflect_involutive (A : Mat K m k) (G : Mat K k k) (hG : matMul G (gram A) = eye) (M : Mat K m c) :
    reflect (projWith G A) (reflect (projWith G A) M) = M := by
  -- `1 − 2P = P⊥ − P`, and `P⊥`, `P` are idempotents annihilating each other
  obtain ⟨h1, h2, h3⟩ := Pf.idem_complement (proj_idempotent A G hG) (oprojWith_def G A)
  rw [reflect, reflect, eye_sub_two_smul, ← oprojWith_def G A, ← matMul_assoc,
    Pf.sub_idem_sq (proj_idempotent A G hG) h3 h1 h2, oprojWith_def, sub_add_cancel, eye_matMul]

/-- change of basis: `B = A T` with `T` invertible spans the same subspace and
    has the same projection matrix -/
theorem proj_basis_invariant (A : Mat K m k) (T Ti GA GB : Mat K k k)
    (hT : matMul T Ti = eye) (hGA : matMul GA (gram A) = eye)
    (hGB : matMul GB (gram (matMul A T)) = eye) :
    projWith GB (matMul A T) = projWith GA A :=
  Pf.projWith_eq_of_same_span Ti T hGA hGB (by rw [matMul_assoc, hT, matMul_eye]) rfl

/-- common unitary rotation: `P_{UA} = U P_A Uᴴ` -/
theorem proj_unitary_covariant (A : Mat K m k) (U : Mat K m m) (GA GU : Mat K k k)
    (hU : matMul (cT U) U = eye) (hGA : matMul GA (gram A) = eye)
    (hGU : matMul GU (gram (matMul U A)) = eye) :
    projWith GU (matMul U A) = matMul (matMul U (projWith GA A)) (cT U) := by
  -- `U P_A Uᴴ` is Hermitian, fixes `U A` and is `(U A) (GA Aᴴ Uᴴ)`
  refine (Pf.projWith_unique hGU (matMul (matMul GA (cT A)) (cT U)) ?_ ?_ ?_).symm
  · rw [cT_matMul, cT_matMul, cT_cT, Pf.projWith_herm hGA, matMul_assoc]
  · rw [matMul_assoc, ← matMul_assoc (cT U), hU, eye_matMul, matMul_assoc, Pf.projWith_fixes hGA]
  · rw [projWith_def]
    simp only [matMul_assoc]

/-- R6 (scale): the projection matrix does not depend on the scale of the basis — for every
    invertible scalar `s` (every non-zero real / complex factor, `1e-15` as well as `1e15`)
    `P_{sA} = P_A` -/
theorem proj_scale_invariant (A : Mat K m k) (G G' : Mat K k k) (s si : K) (hs : s * si = 1)
    (hG : matMul G (gram A) = eye) (hG' : matMul G' (gram (smul s A)) = eye) :
    projWith G' (smul s A) = projWith G A := by
  -- the two bases are multiples of each other: `A = (sA) (s⁻¹·1)` and `sA = A (s·1)`
  refine Pf.projWith_eq_of_same_span (smul si eye) (smul s eye) hG hG' ?_ ?_
  · rw [matMul_smul, matMul_eye, smul_eq, smul_eq, smul_smul, mul_comm, hs, one_smul]
  · rw [matMul_smul, matMul_eye]

/-- R5 (boundary): a square invertible basis spans the whole space: `P = 1`, `P⊥ = 0` -/
theorem proj_of_square_invertible (A Ai G : Mat K m m) (hA : matMul A Ai = eye)
    (hG : matMul G (gram A) = eye) :
    projWith G A = eye ∧ oprojWith G A = (fun _ _ => 0) := by
  have hP := (Pf.projWith_unique hG Ai cT_eye (eye_matMul A) hA.symm).symm
  rw [oprojWith_def, hP]
  exact ⟨rfl, sub_self _⟩

/-- R5 (boundary): the empty basis (`k = 0` columns) projects onto `{0}`: `P = 0`, `P⊥ = 1` -/
theorem proj_of_empty_basis (A : Mat K m 0) (G : Mat K 0 0) :
    projWith G A = (fun _ _ => 0) ∧ oprojWith G A = eye :=
  -- a sum over `Fin 0` is `0` by computation
  ⟨rfl, funext fun i => funext fun j => sub_zero (eye i j)⟩

/-- R12 (order of listing): the subspace does not depend on the order in which the basis
    vectors are listed — permuting the columns of `A` by any permutation `σ` leaves the
    projection matrix unchanged -/
theorem proj_column_order_invariant (A : Mat K m k) (G G' : Mat K k k) (σ : Equiv.Perm (Fin k))
    (hG : matMul G (gram A) = eye) (hG' : matMul G' (gram (fun i j => A i (σ j))) = eye) :
    projWith G' (fun i j => A i (σ j)) = projWith G A := by
  -- `P_A` fixes the permuted columns, and `A Y = Σ_l A_{·,σ l} Y_{σ l,·}`
  refine (Pf.projWith_unique hG' (fun l => matMul G (cT A) (σ l)) (Pf.projWith_herm hG) ?_ ?_).symm
  · exact funext fun i => funext fun j => congrFun (congrFun (Pf.projWith_fixes hG) i) (σ j)
  · rw [projWith_def, matMul_assoc]
    funext i j
    simp only [matMul, sumFin_eq]
    exact (Equiv.sum_comp σ fun l => A i l * _).symm

/-- R8 (equivalent entry points): `Projection.project` / `oProject` / `reflect` are the static
    projection matrices applied to `M`: `reflect M = M − 2 P M = P⊥ M − P M` -/
theorem projection_methods_are_static_results (A : Mat K m k) (G : Mat K k k) (M : Mat K m c) :
    project (projWith G A) M = matMul (projWith G A) M ∧
    project (oprojWith G A) M = msub M (matMul (projWith G A) M) ∧
    reflect (projWith G A) M = msub (project (oprojWith G A) M) (project (projWith G A) M) := by
  refine ⟨rfl, ?_, ?_⟩
  · rw [project, oprojWith_def, sub_matMul, eye_matMul]
    rfl
  · rw [reflect, eye_sub_two_smul, sub_matMul]
    rfl

end projection

section chordal
variable {K : Type} [CommRing K] [StarRing K] [RSqrt K] [Div K] {m p q : Nat}

/-- the chordal distance is symmetric (both projector-based routines) -/
theorem chordal2_symmetric (GA : Mat K p p) (GB : Mat K q q) (A : Mat K m p) (B : Mat K m q) :
    chordal2 GA GB A B = chordal2 GB GA B A :=
  Pf.chordOfProj_comm _ _

theorem chordal_symmetric (Q1 : Mat K m p) (Q2 : Mat K m q) : chordal Q1 Q2 = chordal Q2 Q1 :=
  Pf.chordOfProj_comm _ _

/-- invariant to a change of basis of either subspace -/
theorem chordal2_basis_invariant (A : Mat K m p) (B : Mat K m q)
    (TA TAi GA GA' : Mat K p p) (TB TBi GB GB' : Mat K q q)
    (hTA : matMul TA TAi = eye) (hTB : matMul TB TBi = eye)
    (hGA : matMul GA (gram A) = eye) (hGB : matMul GB (gram B) = eye)
    (hGA' : matMul GA' (gram (matMul A TA)) = eye) (hGB' : matMul GB' (gram (matMul B TB)) = eye) :
    chordal2 GA' GB' (matMul A TA) (matMul B TB) = chordal2 GA GB A B := by
  rw [chordal2, proj_basis_invariant A TA TAi GA GA' hTA hGA hGA',
    proj_basis_invariant B TB TBi GB GB' hTB hGB hGB', chordal2]

/-- invariant to a common unitary rotation -/
theorem chordal2_unitary_invariant (A : Mat K m p) (B : Mat K m q) (U : Mat K m m)
    (GA GA' : Mat K p p) (GB GB' : Mat K q q) (hU : matMul (cT U) U = eye)
    (hGA : matMul GA (gram A) = eye) (hGB : matMul GB (gram B) = eye)
    (hGA' : matMul GA' (gram (matMul U A)) = eye) (hGB' : matMul GB' (gram (matMul U B)) = eye) :
    chordal2 GA' GB' (matMul U A) (matMul U B) = chordal2 GA GB A B := by
  rw [chordal2, proj_unitary_covariant A U GA GA' hU hGA hGA', proj_unitary_covariant B U GB GB' hU hGB hGB',
    Pf.chordOfProj_unitary U _ _ hU, chordal2]

/-- the two projector-based routines agree: under the QR contract
    (`QᴴQ = 1`, `A = Q R`, `R` invertible) `Q Qᴴ` is the projection matrix of `A`,
    hence `calc_chordal_distance = calc_chordal_distance_2` -/
theorem chordal_eq_chordal2 (A Q1 : Mat K m p) (B Q2 : Mat K m q)
    (R1 R1i GA : Mat K p p) (R2 R2i GB : Mat K q q)
    (hQ1 : matMul (cT Q1) Q1 = eye) (hA : A = matMul Q1 R1) (hR1 : matMul R1 R1i = eye)
    (hQ2 : matMul (cT Q2) Q2 = eye) (hB : B = matMul Q2 R2) (hR2 : matMul R2 R2i = eye)
    (hGA : matMul GA (gram A) = eye) (hGB : matMul GB (gram B) = eye) :
    chordal Q1 Q2 = chordal2 GA GB A B := by
  rw [chordal, chordal2, Pf.projWith_of_qr A Q1 R1 R1i GA hQ1 hA hR1 hGA,
    Pf.projWith_of_qr B Q2 R2 R2i GB hQ2 hB hR2 hGB]

/-- R6 (scale): the chordal distance does not depend on the scales of the two bases
    (each may be multiplied by its own invertible factor) -/
theorem chordal2_scale_invariant (A : Mat K m p) (B : Mat K m q) (GA GA' : Mat K p p) (GB GB' : Mat K q q)
    (s si t ti : K) (hs : s * si = 1) (ht : t * ti = 1)
    (hGA : matMul GA (gram A) = eye) (hGB : matMul GB (gram B) = eye)
    (hGA' : matMul GA' (gram (smul s A)) = eye) (hGB' : matMul GB' (gram (smul t B)) = eye) :
    chordal2 GA' GB' (smul s A) (smul t B) = chordal2 GA GB A B := by
  rw [chordal2, proj_scale_invariant A GA GA' s si hs hGA hGA', proj_scale_invariant B GB GB' t ti ht hGB hGB',
    chordal2]

end chordal

section complex
open Matrix
variable {m p q r k n : Nat}

/-- "full column rank" is exactly the `inv` contract: a left inverse `G` of `Aᴴ A`
    exists iff `x ↦ A x` is injective (complex matrices) -/
theorem inv_contract_iff_full_column_rank (A : Mat ℂ m k) :
    (∃ G : Mat ℂ k k, matMul G (gram A) = eye) ↔ Function.Injective (toM A).mulVec :=
  ⟨fun ⟨_, hG⟩ => Pf.injective_of_gram_inv hG, Pf.gram_inv_of_injective A⟩

/-- a projector-based chordal distance is zero exactly when the two projection
    matrices coincide -/
theorem chordOfProj_eq_zero_iff (P1 P2 : Mat ℂ m m) : chordOfProj P1 P2 = 0 ↔ P1 = P2 := by
  rw [Pf.chordOfProj_complex, Complex.ofReal_eq_zero, frobSq_eq, toM_msub,
    Real.sqrt_eq_zero (div_nonneg (Pf.re_fro_nonneg _) zero_le_two), div_eq_zero_iff,
    or_iff_left two_ne_zero, Pf.re_fro_eq_zero_iff, sub_eq_zero]
  exact Matrix.of.injective.eq_iff

/-- the distance vanishes exactly for equal subspaces, (⇐): `B = A T` with `T`
    invertible gives distance `0` … -/
theorem chordal2_zero_of_same_span (A : Mat ℂ m p) (T Ti GA GB : Mat ℂ p p)
    (hT : matMul T Ti = eye) (hGA : matMul GA (gram A) = eye)
    (hGB : matMul GB (gram (matMul A T)) = eye) :
    chordal2 GA GB A (matMul A T) = 0 := by
  rw [chordal2, chordOfProj_eq_zero_iff, proj_basis_invariant A T Ti GA GB hT hGA hGB]

/-- … (⇒): distance `0` forces the same projection matrix, and then each basis is
    the other one times a coefficient matrix (equal column spaces) -/
theorem same_span_of_chordal2_zero (A : Mat ℂ m p) (B : Mat ℂ m q) (GA : Mat ℂ p p) (GB : Mat ℂ q q)
    (hGA : matMul GA (gram A) = eye) (hGB : matMul GB (gram B) = eye)
    (h0 : chordal2 GA GB A B = 0) :
    projWith GA A = projWith GB B ∧
    B = matMul A (matMul (matMul GA (cT A)) B) ∧
    A = matMul B (matMul (matMul GB (cT B)) A) := by
  have hP : projWith GA A = projWith GB B := (chordOfProj_eq_zero_iff _ _).mp h0
  refine ⟨hP, ?_, ?_⟩
  · rw [← matMul_assoc, ← matMul_assoc, ← projWith_def, hP, proj_fixes_A B GB hGB]
  · rw [← matMul_assoc, ← matMul_assoc, ← projWith_def, ← hP, proj_fixes_A A GA hGA]

/-- value of `calc_chordal_distance` from the singular values `s` of `Q1ᴴ Q2`
    (thin SVD contract `Q1ᴴQ2 = U diag(s) Vᴴ`, `UᴴU = 1`, `VᴴV = 1`), any dimensions:
    `d² = (p+q)/2 − Σ sᵢ²` -/
theorem chordal_from_singular_values (Q1 : Mat ℂ m p) (Q2 : Mat ℂ m q) (U : Mat ℂ p r) (V : Mat ℂ q r)
    (s : Fin r → ℝ) (hQ1 : matMul (cT Q1) Q1 = eye) (hQ2 : matMul (cT Q2) Q2 = eye)
    (hU : matMul (cT U) U = eye) (hV : matMul (cT V) V = eye)
    (hsvd : pangleArg Q1 Q2 = matMul (matMul U (diagM (fun i => ((s i : ℝ) : ℂ)))) (cT V)) :
    chordal Q1 Q2 = ((Real.sqrt (((p : ℝ) + (q : ℝ)) / 2 - ∑ i, s i * s i) : ℝ) : ℂ) := by
  rw [chordal, Pf.chordOfProj_complex, Pf.frobSq_proj_sub hQ1 hQ2,
    Pf.frobSq_of_svd (M := matMul (cT Q1) Q2) (fun i => Complex.conj_ofReal _) hU hV hsvd]
  rw [two_mul, Complex.sub_re, Complex.add_re, Complex.add_re, Complex.natCast_re, Complex.natCast_re,
    Complex.re_sum, sub_div, add_self_div_two]
  simp only [Complex.re_ofReal_mul, Complex.ofReal_re]

/-- value of the principal-angle form from the same singular values
    (`0 ≤ sᵢ ≤ 1`): `d² = r − Σ sᵢ²` -/
theorem chordal_from_angles_value (s : Fin r → ℝ) (h0 : ∀ i, 0 ≤ s i) (h1 : ∀ i, s i ≤ 1) :
    chordalFromAngles (principalAngles (List.ofFn s)) = Real.sqrt ((r : ℝ) - ∑ i, s i * s i) := by
  unfold chordalFromAngles
  rw [Pf.sumSinSq_angles s h0 h1]
  rfl

/-- the singular values handed back by the SVD kernel for `Q1ᴴ Q2` are cosines: under
    the contract they are automatically `≤ 1` (so the clipping `S[S > 1] = 1` only
    absorbs rounding) -/
theorem principal_cosines_le_one (Q1 : Mat ℂ m p) (Q2 : Mat ℂ m q) (U : Mat ℂ p r) (V : Mat ℂ q r)
    (s : Fin r → ℝ) (hQ1 : matMul (cT Q1) Q1 = eye) (hQ2 : matMul (cT Q2) Q2 = eye)
    (hU : matMul (cT U) U = eye) (hV : matMul (cT V) V = eye)
    (hsvd : pangleArg Q1 Q2 = matMul (matMul U (diagM (fun i => ((s i : ℝ) : ℂ)))) (cT V))
    (_h0 : ∀ i, 0 ≤ s i) : ∀ i, s i ≤ 1 :=
  fun i => (le_abs_self _).trans <| abs_le_one_iff_mul_self_le_one.mpr <|
    Pf.cosines_sq_le_one hQ1 hQ2 hU hV hsvd i

/-- the three chordal-distance routines agree for subspaces of equal dimension:
    principal-angle form = `calc_chordal_distance` (and `= calc_chordal_distance_2`
    by `chordal_eq_chordal2`), for every SVD kernel result satisfying the contract
    `Q1ᴴQ2 = U diag(s) Vᴴ`, `U`, `V` unitary, `s ≥ 0` -/
theorem chordal_eq_angles (Q1 Q2 : Mat ℂ m p) (U V : Mat ℂ p p)
    (s : Fin p → ℝ) (hQ1 : matMul (cT Q1) Q1 = eye) (hQ2 : matMul (cT Q2) Q2 = eye)
    (hU : matMul (cT U) U = eye) (hV : matMul (cT V) V = eye)
    (hsvd : pangleArg Q1 Q2 = matMul (matMul U (diagM (fun i => ((s i : ℝ) : ℂ)))) (cT V))
    (h0 : ∀ i, 0 ≤ s i) :
    chordal Q1 Q2 = ((chordalFromAngles (principalAngles (List.ofFn s)) : ℝ) : ℂ) := by
  have h1 := principal_cosines_le_one Q1 Q2 U V s hQ1 hQ2 hU hV hsvd h0
  rw [chordal_from_singular_values Q1 Q2 U V s hQ1 hQ2 hU hV hsvd, chordal_from_angles_value s h0 h1,
    add_self_div_two]

/-- the whitening matrix turns the covariance into the identity: `Wᴴ C W = 1`
    whenever the orthonormalised eigenvector matrix `Q` and the eigenvalues `L`
    satisfy `QᴴQ = 1`, `C Q = Q diag(L)`, `L` real and positive -/
theorem whitening_identity (C Q : Mat ℂ n n) (L : Fin n → ℂ)
    (hQ : matMul (cT Q) Q = eye) (hC : matMul C Q = matMul Q (diagM L))
    (hL : ∀ i, (L i).im = 0 ∧ 0 < (L i).re) :
    matMul (matMul (cT (whiten L Q)) C) (whiten L Q) = eye :=
  Pf.whiten_of_diag hQ hC (fun _ => Pf.star_inv_sqrt _) fun i => Pf.inv_sqrt_mul_self (hL i)

/-- the contract used by `whitening_identity` follows from the contracts of the two
    kernel calls of `calc_whitening_matrix` (`eig` followed by `np.linalg.qr`, finding
    `C20:calc_whitening_matrix:repeated-eigenvalue`) for EVERY Hermitian covariance, repeated
    eigenvalues included: `eig` gives `C V = V diag(L)`, `qr` gives `V = Q R` with `Q`
    unitary and `R` upper triangular and invertible; then `C Q = Q diag(L)` -/
theorem eig_then_qr_contract (C V Q R Ri : Mat ℂ n n) (L : Fin n → ℂ)
    (hCh : cT C = C) (hCV : matMul C V = matMul V (diagM L)) (hV : V = matMul Q R)
    (hQ : matMul (cT Q) Q = eye) (hR : ∀ i j : Fin n, j < i → R i j = 0) (hRi : matMul R Ri = eye) :
    matMul C Q = matMul Q (diagM L) :=
  Pf.eig_qr_contract hCh hCV hV hQ hR hRi

/-- hence: for every Hermitian `C` whose `eig`/`qr` results satisfy their contracts with
    real positive eigenvalues, `calc_whitening_matrix` whitens: `Wᴴ C W = 1` -/
theorem whitening_identity_of_kernels (C V Q R Ri : Mat ℂ n n) (L : Fin n → ℂ)
    (hCh : cT C = C) (hCV : matMul C V = matMul V (diagM L)) (hV : V = matMul Q R)
    (hQ : matMul (cT Q) Q = eye) (hR : ∀ i j : Fin n, j < i → R i j = 0) (hRi : matMul R Ri = eye)
    (hL : ∀ i, (L i).im = 0 ∧ 0 < (L i).re) :
    matMul (matMul (cT (whiten L Q)) C) (whiten L Q) = eye :=
  whitening_identity C Q L hQ (eig_then_qr_contract C V Q R Ri L hCh hCV hV hQ hR hRi) hL

end complex

section sherman_morrison
variable {K : Type} [Field K] {n : Nat}

/-- one Sherman–Morrison step: a left inverse of `A` is turned into a left inverse
    of `A + d·eᵢeᵢᵀ` whenever the pivot `1 + d·invᵢᵢ` is non-zero -/
theorem sherman_morrison_step (A inv : Mat K n n) (i : Fin n) (d : K)
    (h : matMul inv A = eye) (hp : 1 + d * inv i i ≠ 0) :
    matMul (smStep inv i d) (madd A (diagM (fun j => if j = i then d else 0))) = eye :=
  Pf.sm_step A inv i d h hp

/-- the diagonal-update inverse equals the true inverse: for every `A`, every
    left inverse `invA`, every diagonal of length `≤ n` (shorter ones leave the
    remaining entries untouched) whose pivots are non-zero, `update_inv_sum_diag`
    returns without error the two-sided inverse of `A + D` -/
theorem update_inv_sum_diag_correct (A invA : Mat K n n) (diagonal : List K)
    (h : matMul invA A = eye) (hlen : diagonal.length ≤ n)
    (hp : ∀ x ∈ uisdPivots 0 diagonal invA, x ≠ 0) :
    ∃ B, updateInvSumDiag invA diagonal = .ok B ∧ matMul B (madd A (diagFrom 0 diagonal)) = eye ∧
      matMul (madd A (diagFrom 0 diagonal)) B = eye := by
  obtain ⟨B, hB, h1⟩ := Pf.uisdGo_correct diagonal 0 invA A h ((Nat.zero_add _).trans_le hlen) hp
  exact ⟨B, hB, h1, matMul_eq_eye_comm h1⟩

/-- the pivot hypothesis is implied by the natural one: if every partial sum
    `A + diag(d₀ … d_k, 0 …)` has a left inverse, the result is the inverse of `A + D` -/
theorem update_inv_sum_diag_of_invertible_partial_sums (A invA : Mat K n n) (diagonal : List K)
    (h : matMul invA A = eye) (hlen : diagonal.length ≤ n)
    (hpart : ∀ k, k < diagonal.length →
      ∃ B : Mat K n n, matMul B (madd A (diagFrom 0 (diagonal.take (k + 1)))) = eye) :
    ∃ B, updateInvSumDiag invA diagonal = .ok B ∧ matMul B (madd A (diagFrom 0 diagonal)) = eye ∧
      matMul (madd A (diagFrom 0 diagonal)) B = eye :=
  update_inv_sum_diag_correct A invA diagonal h hlen
    (Pf.uisdPivots_of_partial diagonal 0 invA A h ((Nat.zero_add _).trans_le hlen) hpart)

/-- a diagonal longer than the matrix is rejected with numpy's `IndexError` -/
theorem update_inv_sum_diag_index_error (invA : Mat K n n) (diagonal : List K) (hlen : n < diagonal.length) :
    updateInvSumDiag invA diagonal = .error .IndexError :=
  Pf.uisdGo_error diagonal 0 invA (Nat.zero_le n) (hlen.trans_eq (Nat.zero_add _).symm)

end sherman_morrison

section selectors
variable {β : Type} [Preorder β]

/-- `peig`/`leig` reject `n > ncols` with `ValueError` -/
theorem eig_selectors_reject {α : Type} {r c : Nat} (D : Fin c → α) (V : Mat α r c) (perm : List Nat) (n : Nat)
    (h : c < n) :
    peig D V perm n = .error .ValueError ∧ leig D V perm n = .error .ValueError := by
  -- the index selection fails, and `>>=` passes the error on
  rw [peig, leig, peigIdx, leigIdx, if_pos h, if_pos h]
  exact ⟨rfl, rfl⟩

/-- `peig` keeps the indexes of the `n` largest values, largest first: for every
    `argsort` result satisfying its contract the kept index list has length `n`, no
    repetition, non-increasing values, and every index left out has a value `≤`
    every kept one -/
theorem peig_selects_largest (val : Nat → β) {c n : Nat} {perm : List Nat}
    (h : ArgsortContract val c perm) (hn : n ≤ c) :
    ∃ idx, peigIdx c n perm = .ok idx ∧ idx.length = n ∧ idx.Nodup ∧ (∀ i ∈ idx, i < c) ∧
      idx.Pairwise (fun a b => val b ≤ val a) ∧
      (∀ i ∈ idx, ∀ j, j < c → j ∉ idx → val j ≤ val i) := by
  refine ⟨perm.reverse.take n, if_neg (Nat.not_lt.mpr hn), ?_⟩
  have hp : perm.reverse.Perm (List.range c) := (List.reverse_perm perm).trans h.1
  have hR : perm.reverse.Pairwise (fun a b => val b ≤ val a) := List.pairwise_reverse.mpr h.2
  exact Pf.take_spec hp hR hn

/-- `leig` keeps the indexes of the `n` smallest values, smallest first -/
theorem leig_selects_smallest (val : Nat → β) {c n : Nat} {perm : List Nat}
    (h : ArgsortContract val c perm) (hn : n ≤ c) :
    ∃ idx, leigIdx c n perm = .ok idx ∧ idx.length = n ∧ idx.Nodup ∧ (∀ i ∈ idx, i < c) ∧
      idx.Pairwise (fun a b => val a ≤ val b) ∧
      (∀ i ∈ idx, ∀ j, j < c → j ∉ idx → val i ≤ val j) :=
  ⟨perm.take n, if_neg (Nat.not_lt.mpr hn), Pf.take_spec h.1 h.2 hn⟩

/-- what `peig` returns: position by position the column `V[:, idx[t]]` with the
    eigenvalue `D[idx[t]]` for the kept indexes, and every returned pair is an
    eigenpair of `A` when the kernel result satisfies `A V = V diag(D)` -/
theorem peig_returns_eigenpairs {K : Type} [CommRing K] {c n : Nat} (A V : Mat K c c) (D : Fin c → K)
    (val : Nat → β) {perm : List Nat} (hperm : ArgsortContract val c perm) (hn : n ≤ c)
    (hAV : matMul A V = matMul V (diagM D)) :
    ∃ idx pairs, peigIdx c n perm = .ok idx ∧ peig D V perm n = .ok pairs ∧
      List.Forall₂ (fun pr j => ∃ hj : j < c, pr = ((fun i => V i ⟨j, hj⟩), D ⟨j, hj⟩)) pairs idx ∧
      ∀ pr ∈ pairs, mulVec A pr.1 = fun i => pr.2 * pr.1 i := by
  obtain ⟨idx, hidx, _, _, hlt, _, _⟩ := peig_selects_largest val hperm hn
  obtain ⟨pairs, hpairs, hcols, heig⟩ := Pf.selectPairs_eigenpairs A V D hAV idx hlt
  refine ⟨idx, pairs, hidx, ?_, hcols, heig⟩
  rw [peig, hidx]
  exact hpairs

/-- the same for `leig` -/
theorem leig_returns_eigenpairs {K : Type} [CommRing K] {c n : Nat} (A V : Mat K c c) (D : Fin c → K)
    (val : Nat → β) {perm : List Nat} (hperm : ArgsortContract val c perm) (hn : n ≤ c)
    (hAV : matMul A V = matMul V (diagM D)) :
    ∃ idx pairs, leigIdx c n perm = .ok idx ∧ leig D V perm n = .ok pairs ∧
      List.Forall₂ (fun pr j => ∃ hj : j < c, pr = ((fun i => V i ⟨j, hj⟩), D ⟨j, hj⟩)) pairs idx ∧
      ∀ pr ∈ pairs, mulVec A pr.1 = fun i => pr.2 * pr.1 i := by
  obtain ⟨idx, hidx, _, _, hlt, _, _⟩ := leig_selects_smallest val hperm hn
  obtain ⟨pairs, hpairs, hcols, heig⟩ := Pf.selectPairs_eigenpairs A V D hAV idx hlt
  refine ⟨idx, pairs, hidx, ?_, hcols, heig⟩
  rw [leig, hidx]
  exact hpairs

/-- `least_right_singular_vectors`: `V0` and `V1` together are all right singular
    vectors exactly once (in reversed order), `V0` has `min n c` columns, and with
    non-increasing singular values (one per column, zero beyond the rank) every
    column of `V0` has a singular value `≤` every column of `V1` -/
theorem least_rsv_split (sig : Nat → β) (c n : Nat) :
    (lrsvIdx c n).1 ++ (lrsvIdx c n).2 = (List.range c).reverse ∧
    (lrsvIdx c n).1.length = min n c ∧
    ((∀ a b, a ≤ b → b < c → sig b ≤ sig a) →
      ∀ a ∈ (lrsvIdx c n).1, ∀ b ∈ (lrsvIdx c n).2, sig a ≤ sig b) :=
  ⟨Pf.lrsvIdx_append c n, Pf.lrsvIdx_length c n, Pf.lrsvIdx_least sig c n⟩

/-- the third result: never an error (the singular values are padded to one per
    column), and entry `t` is the singular value of column `idx1[t]` of `V1`
    (zero for a column beyond the `min(m, c)` singular values) -/
theorem least_rsv_values {α : Type} [Zero α] (S : List α) (c n : Nat) (hS : S.length ≤ c) :
    ∃ out, lrsvS S c n = .ok out ∧
      out.map some = (lrsvIdx c n).2.map (fun j => some (if h : j < S.length then S[j] else 0)) :=
  ⟨_, Pf.pick_eq_map (padS S c) _ _ fun j hj => Pf.padS_getElem? S c j (Pf.mem_lrsvIdx_lt (.inr hj)),
    List.map_map ..⟩

/-- what the columns are: for a full SVD `A = U Σ Vᴴ` with `Vᴴ` unitary, `A V = U Σ`;
    in particular a right singular vector beyond the `min(m, c)` singular values
    (the extra columns of a wide matrix) lies in the null space -/
theorem right_singular_vectors {K : Type} [CommRing K] [StarRing K] {m c : Nat} (A : Mat K m c) (U : Mat K m m)
    (S : Fin (min m c) → K) (VH : Mat K c c)
    (hA : A = matMul (matMul U (sigmaMat S)) VH) (hV : matMul VH (cT VH) = eye) :
    matMul A (cT VH) = matMul U (sigmaMat S) ∧
    ∀ j : Fin c, min m c ≤ j.val → ∀ i, matMul A (cT VH) i j = 0 := by
  rw [hA, matMul_assoc, hV, matMul_eye]
  -- column `j` of `Σ` is zero: a row `a = j` would give `j < min m c`
  exact ⟨rfl, fun j hj i => matMul_apply_eq_zero fun a => by
    rw [sigmaMat, dif_neg fun e => Nat.not_lt.mpr hj (Nat.lt_min.mpr ⟨e.symm.trans_lt a.isLt, j.isLt⟩), mul_zero]⟩

/-- `get_principal_component_matrix(A, k)` is the first `k` columns of the
    truncated SVD `U Σ_k Vᴴ` (`Σ_k` keeps the `k` largest singular values) -/
theorem gpcm_is_truncated_svd {K : Type} [CommRing K] {m c : Nat} (U : Mat K m m) (S : Fin (min m c) → K)
    (VH : Mat K c c) (k : Nat) (hk : k ≤ c) (i : Fin m) (j : Fin k) :
    gpcm U S VH k hk i j
      = matMul U (matMul (sigmaMat (m := m) (fun b => if b.val < k then S b else 0)) VH) i
          ⟨j.val, Nat.lt_of_lt_of_le j.isLt hk⟩ := by
  simp only [gpcm, matMul, sumFin_eq]
  refine Finset.sum_congr rfl (fun a _ => ?_)
  rw [Pf.gpcm_inner_eq_trunc S VH k hk a j]

/-- keeping every component gives the matrix back (SVD contract `A = U Σ Vᴴ`) -/
theorem gpcm_all_components {K : Type} [CommRing K] {m c : Nat} (A : Mat K m c) (U : Mat K m m)
    (S : Fin (min m c) → K) (VH : Mat K c c) (hA : A = matMul U (matMul (sigmaMat S) VH)) :
    gpcm U S VH c (Nat.le_refl c) = A := by
  -- `b < c` for every `b : Fin (min m c)`, so `Σ_c` keeps all of `S`
  have hS : (fun b : Fin (min m c) => if b.val < c then S b else 0) = S :=
    funext fun b => if_pos (Nat.lt_of_lt_of_le b.isLt (Nat.min_le_right m c))
  funext i j
  rw [gpcm_is_truncated_svd, hS, hA]

/-- the dead dimensions are removed: the result has no component along the left
    singular vectors `u_r`, `r ≥ k` -/
theorem gpcm_dead_dimensions {K : Type} [CommRing K] [StarRing K] {m c : Nat} (U : Mat K m m)
    (S : Fin (min m c) → K) (VH : Mat K c c) (k : Nat) (hk : k ≤ c) (hU : matMul (cT U) U = eye)
    (r : Fin m) (j : Fin k) (hr : k ≤ r.val) :
    matMul (cT U) (gpcm U S VH k hk) r j = 0 := by
  rw [gpcm, ← matMul_assoc, hU, eye_matMul]
  -- every term of the inner sum carries the condition `r < k`
  exact matMul_apply_eq_zero fun b => by
    rw [if_neg fun h => Nat.not_lt.mpr hr h.2, zero_mul]

/-- R8 (equivalent entry points): `peig(A, n)` is `leig(A, ncols)` reversed and cut to `n`
    (same kernel results), for every `argsort` result of the right length -/
theorem peig_is_leig_reversed (c n : Nat) (perm : List Nat) (hlen : perm.length = c) (hn : n ≤ c) :
    leigIdx c c perm = .ok perm ∧ peigIdx c n perm = .ok (perm.reverse.take n) := by
  refine ⟨?_, ?_⟩
  · rw [leigIdx, if_neg (Nat.lt_irrefl c), ← hlen, List.take_length]
  · exact if_neg (Nat.not_lt.mpr hn)

end selectors

section conversions

/-- TIE TO SOURCE: the definitions re-emitted from the current
    `pyphysim/util/conversion.py` (`Generated/C20Conversion.lean`) are, for every scalar
    type, the model functions the conversion theorems below are about -/
theorem generated_conversions_normal_form {ρ : Type} [Add ρ] [Sub ρ] [Mul ρ] [Div ρ] [OfNat ρ 10]
    [OfNat ρ 1000] [Transc ρ] :
    (∀ x : ρ, Generated.C20.dB2Linear x = dB2Linear x) ∧
    (∀ x : ρ, Generated.C20.linear2dB x = linear2dB x) ∧
    (∀ x : ρ, Generated.C20.dBm2Linear x = dBm2Linear x) ∧
    (∀ x : ρ, Generated.C20.linear2dBm x = linear2dBm x) ∧
    (∀ x b : ρ, Generated.C20.SNR_dB_to_EbN0_dB x b = snrToEbN0 x b) ∧
    (∀ x b : ρ, Generated.C20.EbN0_dB_to_SNR_dB x b = ebN0ToSnr x b) :=
  ⟨fun _ => rfl, fun _ => rfl, fun _ => rfl, fun _ => rfl, fun _ _ => rfl, fun _ _ => rfl⟩

/-- dB → linear → dB is the identity on every real; linear → dB → linear on
    every positive real -/
theorem db_linear_inverse :
    (∀ y : ℝ, linear2dB (dB2Linear y) = y) ∧ (∀ x : ℝ, 0 < x → dB2Linear (linear2dB x) = x) := by
  have h10 : (10 : ℝ) ≠ 0 := by norm_num
  constructor
  · intro y
    show 10 * Real.logb 10 ((10 : ℝ) ^ (y / 10)) = y
    rw [Pf.log10_pow10, mul_div_cancel₀ y h10]
  · intro x hx
    show (10 : ℝ) ^ (10 * Real.logb 10 x / 10) = x
    rw [mul_div_cancel_left₀ _ h10, Pf.pow10_log10 x hx]

/-- the same for dBm -/
theorem dbm_linear_inverse :
    (∀ y : ℝ, linear2dBm (dBm2Linear y) = y) ∧ (∀ x : ℝ, 0 < x → dBm2Linear (linear2dBm x) = x) := by
  have h1000 : (1000 : ℝ) ≠ 0 := by norm_num
  constructor
  · intro y
    show linear2dB (dB2Linear y / 1000 * 1000) = y
    rw [div_mul_cancel₀ _ h1000, db_linear_inverse.1]
  · intro x hx
    show dB2Linear (linear2dB (x * 1000)) / 1000 = x
    rw [db_linear_inverse.2 _ (mul_pos hx (by norm_num)), mul_div_cancel_right₀ _ h1000]

/-- dBm is dB shifted by 30 (a factor 1000) -/
theorem dbm_is_db_plus_30 (x : ℝ) (hx : 0 < x) : linear2dBm x = linear2dB x + 30 := by
  show 10 * Real.logb 10 (x * 1000) = 10 * Real.logb 10 x + 30
  rw [Real.logb_mul hx.ne' (by norm_num)]
  have : Real.logb 10 1000 = 3 := by
    rw [show (1000 : ℝ) = (10 : ℝ) ^ (3 : ℝ) by norm_num]
    exact Pf.log10_pow10 3
  rw [this]; ring

/-- SNR ↔ Eb/N0 conversions are mutually inverse (every real, every `bits`), and
    Eb/N0 is the SNR per bit: `EbN0 = SNR / bits` in linear scale -/
theorem ebn0_snr_inverse (v b : ℝ) :
    ebN0ToSnr (snrToEbN0 v b) b = v ∧ snrToEbN0 (ebN0ToSnr v b) b = v :=
  ⟨sub_add_cancel _ _, add_sub_cancel_right _ _⟩

/-- Eb/N0 is the SNR per bit: `EbN0 = SNR / bits` in linear scale (positive `SNR`, `bits`) -/
theorem ebn0_is_snr_per_bit (snr b : ℝ) (hs : 0 < snr) (hb : 0 < b) :
    snrToEbN0 (linear2dB snr) b = linear2dB (snr / b) := by
  show 10 * Real.logb 10 snr - 10 * Real.logb 10 b = 10 * Real.logb 10 (snr / b)
  rw [Real.logb_div hs.ne' hb.ne', mul_sub]

/-- R8 (equivalent entry points): the dBm functions are the dB functions with a factor 1000,
    and the Eb/N0 conversions are the SNR shifted by `linear2dB(bits)` — by definition -/
theorem conversion_entry_points_agree (x y b : ℝ) :
    linear2dBm x = linear2dB (x * 1000) ∧ dBm2Linear y = dB2Linear y / 1000 ∧
    snrToEbN0 y b = y - linear2dB b ∧ ebN0ToSnr y b = y + linear2dB b :=
  ⟨rfl, rfl, rfl, rfl⟩

end conversions

section gmd

/-- FULL STATEMENT of the geometric-mean-decomposition clause (real case), about the
    executable model `gmd` of `Model/C20Gmd.lean` (arrays, `Except PyErr`, statement by statement
    the code of `util.misc.gmd`): for every full SVD with positive non-increasing singular values
    and `σ̄` their geometric mean, the sweep raises nothing (every array access is in range) and
    returns `Q, R, P` with `Q R Pᵀ = U Σ Vᵀ`, orthonormal `Q`, `P`, upper-triangular `R` with
    constant diagonal `σ̄`.  PROVED: `gmd_correct`. -/
def GmdStatement : Prop :=
  ∀ (m n : Nat) (U : Mat ℝ m m) (V : Mat ℝ n n) (S : Fin (min m n) → ℝ) (sb : ℝ),
    0 < min m n → matMul (cT U) U = eye → matMul (cT V) V = eye →
    (∀ i, 0 < S i) → (∀ i j, i ≤ j → S j ≤ S i) → 0 < sb → sb ^ (min m n) = ∏ i, S i →
    ∃ Q R P mg, gmd m n (min m n) sb (colsOf U) (Array.ofFn S) (colsOf V) = .ok (Q, R, P, mg) ∧
      (let Qm : Mat ℝ m m := fun i j => entryCols Q i.val j.val
       let Rm : Mat ℝ m n := fun i j => entryRows R i.val j.val
       let Pm : Mat ℝ n n := fun i j => entryCols P i.val j.val
       matMul (matMul Qm Rm) (cT Pm) = matMul (matMul U (sigmaMat S)) (cT V) ∧
       matMul (cT Qm) Qm = eye ∧ matMul (cT Pm) Pm = eye ∧
       (∀ i j, j.val < i.val → Rm i j = 0) ∧
       (∀ i j, i.val = j.val → i.val < min m n → Rm i j = sb))

/-- THE GEOMETRIC MEAN DECOMPOSITION IS CORRECT (real case; all sizes `m × n`, any number of
    singular values).  Proof (`Proofs/C20GmdInv*.lean`): loop invariant after `k` iterations —
    `Q`, `P` have orthonormal columns and `A·P = Q·R_k`, where `R_k` is the stored `R` in its
    first `k` columns, `(z[0:k], d[k])` in column `k`, `d[b]` on the diagonal for `k < b < p`
    (`MInv`); the unused singular values are the ranks `large … small`, `perm`/`invperm` are
    mutually inverse between these ranks and the positions `k < q < p` of `d`, and
    `d[k] · ∏ S[large..small] = σ̄^(p−k)` (`BInv`).  The product invariant forces a partner on the
    other side of `σ̄` (`pick_small_cs`, `pick_large_cs`; the `flag` branch is taken only when
    `d[k] = σ̄`, `pick_small_flag_only_at_mean`, never when `d[k] < σ̄`, `pick_large_flag_never`),
    so the rotation parameters satisfy `c² + s² = 1`, `c² δ1² + s² δ2² = σ̄²`, from which the
    step algebra follows (`MInv.rot`, `BInv.step`).  The
    invariant holds initially by the SVD contract (`init_inv`), is preserved (`Inv.step`), implies
    that every index read is in range (`Inv.bounds`), and at `k = p − 1` gives the decomposition
    column by column, the triangular shape and the diagonal of the final `R` (`Inv.final`), which
    `gmd_sound_p` turns, with the orthonormality `Orth` of the columns of `Q` and `P`, into the
    five conclusions.  The array / `Except` model refines the abstract step
    (`gmdStep_refines`, `sweep_ok`, `finish_ok`).  The whole proof is carried out once for a field
    of scalars containing the reals (`GmdInv.RealLike`); this is the instance `K = ℝ`.
    Complex matrices: `gmd_correct_complex`; any tolerance: `gmd_correct_truncated`. -/
theorem gmd_correct : GmdStatement :=
  fun m n U V S sb hp hU hV hS hmono hsb hprod =>
    GmdInv.gmd_sound GmdInv.realLike_real m n U V S sb hp hU hV hS hmono hsb hprod

/-- FULL STATEMENT of the geometric-mean-decomposition clause for COMPLEX matrices: the same
    executable model `gmd`, instantiated at `ℂ` exactly as the compiled driver instantiates it at
    its binary64 complex type (`RSqrt ℂ` = real square root of the real part, `≤` = comparison of
    the real parts, `GmdInv.leRe`; the singular values and `σ̄` enter as real numbers embedded in
    `ℂ`, as in the code, whose `d`, `z`, `R` are real arrays).  For every full SVD `A = U Σ Vᴴ` with
    unitary `U`, `V`, positive non-increasing singular values and `σ̄` their geometric mean the
    sweep raises nothing and returns `Q, R, P` with `Q R Pᴴ = U Σ Vᴴ`, `Qᴴ Q = 1`, `Pᴴ P = 1`,
    upper-triangular `R` with constant diagonal `σ̄`.  PROVED: `gmd_correct_complex`. -/
def GmdStatementComplex : Prop :=
  ∀ (m n : Nat) (U : Mat ℂ m m) (V : Mat ℂ n n) (S : Fin (min m n) → ℝ) (sb : ℝ),
    0 < min m n → matMul (cT U) U = eye → matMul (cT V) V = eye →
    (∀ i, 0 < S i) → (∀ i j, i ≤ j → S j ≤ S i) → 0 < sb → sb ^ (min m n) = ∏ i, S i →
    ∃ Q R P mg, @gmd ℂ _ _ _ _ _ _ _ _ GmdInv.leRe GmdInv.decLeRe m n (min m n) (sb : ℂ) (colsOf U)
        (Array.ofFn (fun i => ((S i : ℝ) : ℂ))) (colsOf V) = .ok (Q, R, P, mg) ∧
      (let Qm : Mat ℂ m m := fun i j => entryCols Q i.val j.val
       let Rm : Mat ℂ m n := fun i j => entryRows R i.val j.val
       let Pm : Mat ℂ n n := fun i j => entryCols P i.val j.val
       matMul (matMul Qm Rm) (cT Pm) = matMul (matMul U (sigmaMat (fun i => ((S i : ℝ) : ℂ)))) (cT V) ∧
       matMul (cT Qm) Qm = eye ∧ matMul (cT Pm) Pm = eye ∧
       (∀ i j, j.val < i.val → Rm i j = 0) ∧
       (∀ i j, i.val = j.val → i.val < min m n → Rm i j = (sb : ℂ)))

/-- THE GEOMETRIC MEAN DECOMPOSITION IS CORRECT FOR COMPLEX MATRICES.  The proof of
    `gmd_correct` is carried out once, for every field `K` with conjugation that contains the
    reals such that conjugation, `sqrt` and `≤` restricted to the reals are the real ones
    (`GmdInv.RealLike`); `ℝ` and `ℂ` are the two instances (`realLike_real`, `realLike_complex`).
    Orthonormality is with respect to the Hermitian inner product; the rotations `G1`, `G2` are
    real, so they commute with conjugation (`Orth.givens`). -/
theorem gmd_correct_complex : GmdStatementComplex :=
  fun m n U V S sb hp hU hV hS hmono hsb hprod =>
    @GmdInv.gmd_sound ℂ _ _ _ GmdInv.leRe GmdInv.decLeRe Complex.ofRealHom GmdInv.realLike_complex
      m n U V S sb hp hU hV hS hmono hsb hprod

/-- EVERY TOLERANCE (`tol > 0` drops the singular values below it: `p = #{S ≥ tol} ≤ min m n` are
    in use).  If the first `p` singular values are positive and non-increasing and `σ̄^p` is their
    product, the sweep on `p` values raises nothing and returns `Q, R, P` with
    `Q R Pᵀ = U Σ_p Vᵀ` — the rank-`p` truncation of `A`: the singular values beyond the first `p`
    replaced by zero (whatever they are: they are never read) —, orthonormal `Q`, `P`,
    upper-triangular `R` with `σ̄` on the first `p` diagonal entries.  `gmd_correct` is the case
    `p = min m n`. -/
theorem gmd_correct_truncated (m n : Nat) (U : Mat ℝ m m) (V : Mat ℝ n n) (S : Fin (min m n) → ℝ)
    (sb : ℝ) (p : Nat) (hp : 0 < p) (hpmn : p ≤ min m n)
    (hU : matMul (cT U) U = eye) (hV : matMul (cT V) V = eye)
    (hS : ∀ i : Fin (min m n), i.val < p → 0 < S i)
    (hmono : ∀ i j : Fin (min m n), i ≤ j → j.val < p → S j ≤ S i) (hsb : 0 < sb)
    (hprod : sb ^ p = ∏ i : Fin (min m n), if i.val < p then S i else 1) :
    ∃ Q R P mg, gmd m n p sb (colsOf U) (Array.ofFn S) (colsOf V) = .ok (Q, R, P, mg) ∧
      (let Qm : Mat ℝ m m := fun i j => entryCols Q i.val j.val
       let Rm : Mat ℝ m n := fun i j => entryRows R i.val j.val
       let Pm : Mat ℝ n n := fun i j => entryCols P i.val j.val
       matMul (matMul Qm Rm) (cT Pm)
         = matMul (matMul U (sigmaMat (fun i => if i.val < p then S i else 0))) (cT V) ∧
       matMul (cT Qm) Qm = eye ∧ matMul (cT Pm) Pm = eye ∧
       (∀ i j, j.val < i.val → Rm i j = 0) ∧
       (∀ i j, i.val = j.val → i.val < p → Rm i j = sb)) :=
  GmdInv.gmd_sound_p GmdInv.realLike_real m n U V S sb p hp hpmn hU hV hS hmono hsb
    (hprod.trans (GmdInv.prod_trunc S p hpmn))

/-- the same for complex matrices -/
theorem gmd_correct_truncated_complex (m n : Nat) (U : Mat ℂ m m) (V : Mat ℂ n n)
    (S : Fin (min m n) → ℝ) (sb : ℝ) (p : Nat) (hp : 0 < p) (hpmn : p ≤ min m n)
    (hU : matMul (cT U) U = eye) (hV : matMul (cT V) V = eye)
    (hS : ∀ i : Fin (min m n), i.val < p → 0 < S i)
    (hmono : ∀ i j : Fin (min m n), i ≤ j → j.val < p → S j ≤ S i) (hsb : 0 < sb)
    (hprod : sb ^ p = ∏ i : Fin (min m n), if i.val < p then S i else 1) :
    ∃ Q R P mg, @gmd ℂ _ _ _ _ _ _ _ _ GmdInv.leRe GmdInv.decLeRe m n p (sb : ℂ) (colsOf U)
        (Array.ofFn (fun i => ((S i : ℝ) : ℂ))) (colsOf V) = .ok (Q, R, P, mg) ∧
      (let Qm : Mat ℂ m m := fun i j => entryCols Q i.val j.val
       let Rm : Mat ℂ m n := fun i j => entryRows R i.val j.val
       let Pm : Mat ℂ n n := fun i j => entryCols P i.val j.val
       matMul (matMul Qm Rm) (cT Pm)
         = matMul (matMul U (sigmaMat (fun i => (((if i.val < p then S i else 0 : ℝ)) : ℂ)))) (cT V) ∧
       matMul (cT Qm) Qm = eye ∧ matMul (cT Pm) Pm = eye ∧
       (∀ i j, j.val < i.val → Rm i j = 0) ∧
       (∀ i j, i.val = j.val → i.val < p → Rm i j = (sb : ℂ))) :=
  @GmdInv.gmd_sound_p ℂ _ _ _ GmdInv.leRe GmdInv.decLeRe Complex.ofRealHom GmdInv.realLike_complex
    m n U V S sb p hp hpmn hU hV hS hmono hsb (hprod.trans (GmdInv.prod_trunc S p hpmn))

/-- the value the code passes as `sigma_bar`, `math.exp(np.mean(np.log(S[0:p])))`, read over the
    reals, is positive and its `p`-th power is the product of the singular values in use — the
    hypothesis on `σ̄` of `gmd_correct` / `gmd_correct_truncated` -/
theorem gmd_sigma_bar_is_geometric_mean (p : Nat) (S : Fin p → ℝ) (hp : 0 < p) (hS : ∀ i, 0 < S i) :
    0 < Real.exp ((∑ i, Real.log (S i)) / p) ∧
    Real.exp ((∑ i, Real.log (S i)) / p) ^ p = ∏ i, S i :=
  ⟨Real.exp_pos _, GmdInv.exp_mean_log_pow p S hp hS⟩

/-- the existence of a straddling partner, stated on its own: if the pivot `d[k] ≥ σ̄` and
    `d[k] · ∏ S[lo..hi) = σ̄^(hi−lo+1)` with positive `S`, the smallest remaining value `S sm` is
    either `< σ̄` (a rotation with well-defined parameters) or the pivot already equals `σ̄`
    (`GmdInv.pick_small_flag_only_at_mean`; `flag`: `c = 1, s = 0` is then exact); in both cases
    `c² + s² = 1`, `c² d[k]² + s² (S sm)² = σ̄²` -/
theorem gmd_partner_small (S : Nat → ℝ) (sb dk : ℝ) (lo hi sm : Nat) (hsb : 0 < sb)
    (Spos : ∀ r ∈ Finset.Ico lo hi, 0 < S r) (hmin : ∀ r ∈ Finset.Ico lo hi, S sm ≤ S r)
    (hsm : sm ∈ Finset.Ico lo hi)
    (hprod : dk * ∏ r ∈ Finset.Ico lo hi, S r = sb ^ (hi - lo + 1)) (hge : sb ≤ dk) :
    (gmdCS (decide (sb ≤ S sm)) sb dk (S sm)).1 ^ 2 + (gmdCS (decide (sb ≤ S sm)) sb dk (S sm)).2 ^ 2 = 1 ∧
    (gmdCS (decide (sb ≤ S sm)) sb dk (S sm)).1 ^ 2 * dk ^ 2 +
      (gmdCS (decide (sb ≤ S sm)) sb dk (S sm)).2 ^ 2 * S sm ^ 2 = sb ^ 2 :=
  GmdInv.pick_small_cs S sb dk lo hi sm hsb Spos hmin hsm hprod hge

/-- … and if the pivot `d[k] < σ̄` the largest remaining value is `> σ̄`: the code's `flag` test
    `d[i] <= sigma_bar` never fires in exact arithmetic, the rotation is always performed -/
theorem gmd_partner_large (S : Nat → ℝ) (sb dk : ℝ) (lo hi lg : Nat) (hsb : 0 < sb) (hdk : 0 < dk)
    (Spos : ∀ r ∈ Finset.Ico lo hi, 0 < S r) (hmax : ∀ r ∈ Finset.Ico lo hi, S r ≤ S lg)
    (hlg : lg ∈ Finset.Ico lo hi)
    (hprod : dk * ∏ r ∈ Finset.Ico lo hi, S r = sb ^ (hi - lo + 1)) (hlt : dk < sb) :
    ¬ S lg ≤ sb ∧
    (gmdCS (decide (S lg ≤ sb)) sb dk (S lg)).1 ^ 2 + (gmdCS (decide (S lg ≤ sb)) sb dk (S lg)).2 ^ 2 = 1 ∧
    (gmdCS (decide (S lg ≤ sb)) sb dk (S lg)).1 ^ 2 * dk ^ 2 +
      (gmdCS (decide (S lg ≤ sb)) sb dk (S lg)).2 ^ 2 * S lg ^ 2 = sb ^ 2 :=
  ⟨GmdInv.pick_large_flag_never S sb dk lo hi lg hsb Spos hmax hprod hlt,
   GmdInv.pick_large_cs S sb dk lo hi lg hsb hdk Spos hmax hprod hlt⟩

/-- the 2×2 algebra of one rotating step in the form `G2ᵀ · diag · G1`: the pivot pair
    `δ1, δ2` straddles the geometric mean `σ̄` — the parameters `c, s` the code computes make
    `G1` and `G2` orthogonal and `G2ᵀ · diag(δ1, δ2) · G1 = [[σ̄, x], [0, y]]` with exactly the
    `x` stored in `z[k]` and the `y` stored back in `d[k+1]`. -/
theorem gmd_rotation_step (sb d1 d2 : ℝ) (hsb : 0 < sb)
    (h : (0 ≤ d2 ∧ d2 < sb ∧ sb ≤ d1) ∨ (0 ≤ d1 ∧ d1 < sb ∧ sb ≤ d2)) :
    let cs := gmdCS false sb d1 d2
    let g := gmdG1 cs.1 cs.2
    let h := gmdG2 sb d1 d2 cs.1 cs.2
    (g.1 * g.1 + g.2.2.1 * g.2.2.1 = 1 ∧ g.2.1 * g.2.1 + g.2.2.2 * g.2.2.2 = 1 ∧
      g.1 * g.2.1 + g.2.2.1 * g.2.2.2 = 0) ∧
    (h.1 * h.1 + h.2.2.1 * h.2.2.1 = 1 ∧ h.2.1 * h.2.1 + h.2.2.2 * h.2.2.2 = 1 ∧
      h.1 * h.2.1 + h.2.2.1 * h.2.2.2 = 0) ∧
    (h.1 * d1 * g.1 + h.2.2.1 * d2 * g.2.2.1 = sb ∧
      h.1 * d1 * g.2.1 + h.2.2.1 * d2 * g.2.2.2 = gmdX sb d1 d2 cs.1 cs.2 ∧
      h.2.1 * d1 * g.1 + h.2.2.2 * d2 * g.2.2.1 = 0 ∧
      h.2.1 * d1 * g.2.1 + h.2.2.2 * d2 * g.2.2.2 = gmdY sb d1 d2) := by
  obtain ⟨h1, h2⟩ := Pf.gmdCS_spec sb d1 d2 hsb h
  obtain ⟨hab, tri⟩ := GmdInv.gmd_step_triangular sb d1 d2 _ _ hsb.ne' h1 h2
  intro cs g h
  rw [show h = _ from GmdInv.gmdG2_eq_gmdG1 sb d1 d2 cs.1 cs.2]
  exact ⟨GmdInv.gmdG1_orth _ _ (by rw [← sq, ← sq]; exact h1), GmdInv.gmdG1_orth _ _ hab, tri⟩

/-- non-vacuity of `gmd_rotation_step`: `σ̄ = 2`, `δ1 = 4`, `δ2 = 1` straddle, i.e. satisfy the first
    disjunct `0 ≤ δ2 ∧ δ2 < σ̄ ∧ σ̄ ≤ δ1` of its hypothesis `h` -/
example : (0 : ℝ) ≤ 1 ∧ (1 : ℝ) < 2 ∧ (2 : ℝ) ≤ 4 := by norm_num

/-- a step that skips the rotation (`flag`): `c = 1`, `s = 0`; it is taken only when the
    pivot equals the geometric mean (`GmdInv.pick_small_flag_only_at_mean`,
    `GmdInv.pick_large_flag_never`), and then `G1 = G2 = 1`, `x = 0`, `y = δ2` -/
theorem gmd_flag_step (sb d2 : ℝ) (hsb : sb ≠ 0) :
    gmdCS true sb sb d2 = (1, 0) ∧ gmdG1 (1 : ℝ) 0 = (1, -0, 0, 1) ∧
    gmdG2 sb sb d2 1 0 = (1, 0, 0, 1) ∧ gmdX sb sb d2 1 0 = 0 ∧ gmdY sb sb d2 = d2 := by
  refine ⟨rfl, rfl, ?_, by simp [gmdX], by simp [gmdY, hsb]⟩
  simp [gmdG2, hsb]

/-- non-vacuity of `GmdStatement`: `m = n = 2`, `U = V = 1`, `S = (4, 1)`, `σ̄ = 2` satisfy every
    hypothesis (the sweep then performs one genuine rotation) -/
example : ∃ (U V : Mat ℝ 2 2) (S : Fin (min 2 2) → ℝ) (sb : ℝ),
    0 < min 2 2 ∧ matMul (cT U) U = eye ∧ matMul (cT V) V = eye ∧ (∀ i, 0 < S i) ∧
    (∀ i j, i ≤ j → S j ≤ S i) ∧ 0 < sb ∧ sb ^ (min 2 2) = ∏ i, S i :=
  ⟨eye, eye, GmdInv.exS, 2, GmdInv.ex_hyps⟩

/-- non-vacuity of `GmdStatementComplex`: `U = V = i·1` (unitary, not real), `S = (4, 1)`, `σ̄ = 2` -/
example : ∃ (U V : Mat ℂ 2 2) (S : Fin (min 2 2) → ℝ) (sb : ℝ),
    0 < min 2 2 ∧ matMul (cT U) U = eye ∧ matMul (cT V) V = eye ∧ (∀ i, 0 < S i) ∧
    (∀ i j, i ≤ j → S j ≤ S i) ∧ 0 < sb ∧ sb ^ (min 2 2) = ∏ i, S i :=
  ⟨GmdInv.exU, GmdInv.exU, GmdInv.exS, 2, GmdInv.ex_hyps.1, GmdInv.exU_unitary, GmdInv.exU_unitary,
    GmdInv.ex_hyps.2.2.2⟩

end gmd

section known_finding

/-- the full three-way agreement, for subspaces of any two dimensions -/
def ChordalAgreementAllDimsStatement : Prop :=
  ∀ (m p q r : Nat) (Q1 : Mat ℂ m p) (Q2 : Mat ℂ m q) (U : Mat ℂ p r) (V : Mat ℂ q r) (s : Fin r → ℝ),
    matMul (cT Q1) Q1 = eye → matMul (cT Q2) Q2 = eye → matMul (cT U) U = eye → matMul (cT V) V = eye →
    pangleArg Q1 Q2 = matMul (matMul U (diagM (fun i => ((s i : ℝ) : ℂ)))) (cT V) →
    (∀ i, 0 ≤ s i) → (∀ i, s i ≤ 1) →
    chordal Q1 Q2 = ((chordalFromAngles (principalAngles (List.ofFn s)) : ℝ) : ℂ)

/-- NEGATIVE WITNESS (known finding `C20:chordal-from-principal-angles:dims-differ`):
    the agreement holds for `p = q` (`chordal_eq_angles`) but fails when the
    dimensions differ — for the line `span e₁` and the plane `ℂ²` all kernel
    contracts hold, the projector form gives `√(1/2)` and the principal-angle
    form gives `0` (the line lies in the plane). -/
theorem chordal_angles_disagree_when_dims_differ : ¬ ChordalAgreementAllDimsStatement := by
  intro h
  have h1 := h 2 1 2 1 Wit.Q1 Wit.Q2 Wit.U Wit.Q1 Wit.s Wit.Q1_orthonormal eye_orthonormal eye_orthonormal
    Wit.Q1_orthonormal Wit.svd_contract
    (fun _ => zero_le_one) (fun _ => le_refl 1)
  rw [chordal_from_singular_values Wit.Q1 Wit.Q2 Wit.U Wit.Q1 Wit.s Wit.Q1_orthonormal eye_orthonormal
      eye_orthonormal Wit.Q1_orthonormal Wit.svd_contract,
    show List.ofFn Wit.s = [1] from rfl, Wit.angles_zero, Complex.ofReal_inj, Real.sqrt_eq_zero',
    Fin.sum_univ_one] at h1
  norm_num [Wit.s] at h1

end known_finding

/-! ## R15 — distinct values that are merely close

The model never rounds, thresholds or compares a value "up to a tolerance": every model function is a
function of the exact value.  These statements make that explicit for the places where C20's code
compares, thresholds or converts a value. -/
section r15
variable {m p q r n : Nat}

/-- two projection matrices that differ — by however little — are a non-zero chordal distance apart
    (the distance identifies subspaces only when they are *equal*, never when they are merely close) -/
theorem distinct_projectors_positive_distance (P1 P2 : Mat ℂ m m) (h : P1 ≠ P2) :
    chordOfProj P1 P2 ≠ 0 := fun h0 => h ((chordOfProj_eq_zero_iff P1 P2).mp h0)

/-- `S[S > 1] = 1` clamps nothing below or at one: cosines `≤ 1`, however close to one, reach
    `arccos` unchanged -/
theorem principal_angles_clamp_only_above_one (S : List ℝ) (h : ∀ s ∈ S, s ≤ 1) :
    principalAngles S = S.map Real.arccos := by
  unfold principalAngles
  refine List.map_congr_left (fun s hs => ?_)
  have : ¬ (1 < s) := not_lt.mpr (h s hs)
  simp only [this, if_false]
  rfl

/-- the principal-angle distance is zero only when EVERY cosine is exactly one: a cosine of
    `1 - 1e-9` (an angle of 4.5e-5) or of the double just below one contributes -/
theorem angle_distance_zero_only_for_unit_cosines (s : Fin r → ℝ) (h0 : ∀ i, 0 ≤ s i) (h1 : ∀ i, s i ≤ 1) :
    chordalFromAngles (principalAngles (List.ofFn s)) = 0 ↔ ∀ i, s i = 1 := by
  rw [chordal_from_angles_value s h0 h1, Real.sqrt_eq_zero']
  exact Pf.sum_one_sub_sq_nonpos_iff s h0 h1

/-- non-vacuity: the cosines `1` and `1 - 2⁻⁵³` (adjacent doubles) are in range and not all one -/
example : ∃ s : Fin 2 → ℝ, (∀ i, 0 ≤ s i) ∧ (∀ i, s i ≤ 1) ∧ ¬ ∀ i, s i = 1 := by
  refine ⟨fun i => if i = 0 then 1 else 1 - 1 / 9007199254740992, fun i => ?_, fun i => ?_,
    fun h => absurd (sub_eq_self.mp (h 1)) (by norm_num)⟩
  · dsimp only
    split_ifs <;> norm_num
  · dsimp only
    split_ifs <;> norm_num

/-- `peig` / `leig` resolve every strict difference, however small: if index `b` carries a strictly
    larger value than a kept index `a` then `b` is kept by `peig` too (and dually for `leig`) -/
theorem selectors_resolve_every_strict_difference {β : Type} [Preorder β] (val : Nat → β) {c k : Nat}
    {perm : List Nat} (h : ArgsortContract val c perm) (hk : k ≤ c) (a b : Nat) (hb : b < c)
    (hlt : val a < val b) :
    (∀ idx, peigIdx c k perm = .ok idx → a ∈ idx → b ∈ idx) ∧
    (∀ idx, leigIdx c k perm = .ok idx → b ∈ idx → a ∈ idx ∨ ¬ a < c) := by
  constructor
  · intro idx hidx ha
    obtain ⟨_, h1, _, _, _, _, h6⟩ := peig_selects_largest val h hk
    obtain rfl := Except.ok.inj (hidx.symm.trans h1)
    exact by_contra fun hnb => (lt_of_lt_of_le hlt (h6 a ha b hb hnb)).false
  · intro idx hidx hbm
    obtain ⟨_, h1, _, _, _, _, h6⟩ := leig_selects_smallest val h hk
    obtain rfl := Except.ok.inj (hidx.symm.trans h1)
    exact or_iff_not_imp_right.mpr fun hac =>
      by_contra fun hna => (lt_of_lt_of_le hlt (h6 b hbm a (not_not.mp hac) hna)).false

/-- `update_inv_sum_diag`: a diagonal entry takes effect for EVERY non-zero value, however small
    (there is no "numerically zero, skip" in the model), … -/
theorem diagonal_update_takes_effect_for_every_nonzero_value {K : Type} [Field K] (inv : Mat K n n)
    (i : Fin n) (d : K) (hd : d ≠ 0) (hi : inv i i ≠ 0) (hp : 1 + d * inv i i ≠ 0) :
    smStep inv i d ≠ inv := fun h => by
  -- `inv` is the update with the value `0`, and the update is injective in the value
  exact hd (Pf.smStep_injective_in_d inv i d 0 hi hp (by rw [zero_mul, add_zero]; exact one_ne_zero)
    (h.trans (Pf.smStep_zero inv i).symm))

/-- … and two different values, however close, give different inverses -/
theorem diagonal_update_distinct_for_distinct_values {K : Type} [Field K] (inv : Mat K n n)
    (i : Fin n) (d d' : K) (hne : d ≠ d') (hi : inv i i ≠ 0) (hp : 1 + d * inv i i ≠ 0)
    (hp' : 1 + d' * inv i i ≠ 0) : smStep inv i d ≠ smStep inv i d' :=
  fun h => hne (Pf.smStep_injective_in_d inv i d d' hi hp hp' h)

/-- non-vacuity: `inv = [1]`, values `1e-12` and `2e-12` -/
example : ((eye : Mat ℚ 1 1) 0 0 ≠ 0) ∧ (1 + (1 / 10 ^ 12 : ℚ) * (eye : Mat ℚ 1 1) 0 0 ≠ 0) ∧
    (1 + (2 / 10 ^ 12 : ℚ) * (eye : Mat ℚ 1 1) 0 0 ≠ 0) ∧ ((1 / 10 ^ 12 : ℚ) ≠ 2 / 10 ^ 12) := by
  norm_num [eye]

/-- the conversions are injective: two different linear values (positive), two different dB values,
    however close (1 and 1 + 1e-12, 2.4e9 and 2.4e9 + 2e4, adjacent doubles), never convert to the same
    result — a fast path / lookup must key on the exact value -/
theorem conversion_distinct_values_distinct_results :
    (∀ x y : ℝ, 0 < x → 0 < y → x ≠ y → linear2dB x ≠ linear2dB y ∧ linear2dBm x ≠ linear2dBm y) ∧
    (∀ a b : ℝ, a ≠ b → dB2Linear a ≠ dB2Linear b ∧ dBm2Linear a ≠ dBm2Linear b) ∧
    (∀ v w b : ℝ, v ≠ w → snrToEbN0 v b ≠ snrToEbN0 w b ∧ ebN0ToSnr v b ≠ ebN0ToSnr w b) := by
  refine ⟨fun x y hx hy hne => ⟨fun h => hne ?_, fun h => hne ?_⟩,
    fun a b hne => ⟨fun h => hne ?_, fun h => hne ?_⟩,
    fun v w b hne => ⟨fun h => hne ?_, fun h => hne ?_⟩⟩
  · rw [← db_linear_inverse.2 x hx, ← db_linear_inverse.2 y hy, h]
  · rw [← dbm_linear_inverse.2 x hx, ← dbm_linear_inverse.2 y hy, h]
  · rw [← db_linear_inverse.1 a, ← db_linear_inverse.1 b, h]
  · rw [← dbm_linear_inverse.1 a, ← dbm_linear_inverse.1 b, h]
  · rw [← (ebn0_snr_inverse v b).1, ← (ebn0_snr_inverse w b).1, h]
  · rw [← (ebn0_snr_inverse v b).2, ← (ebn0_snr_inverse w b).2, h]

end r15

/-! ## R16 — argument identity and buffer reuse

`Heap` / `Op` / `run` (Model/C20Robust.lean): the caller owns numbered arrays, refills them in place and
calls the routines on them; the routine called is ANY pure function of the contents (the model
functions of `Model/C20.lean` with the kernel results as parameters — the driver op `hist` instantiates it). -/
section r16
open PyPhysim.C20R
variable {β γ : Type}

/-- calls never write to the caller's arrays: after any history they hold what the refills put there -/
theorem calls_leave_buffers_unchanged (h : Heap β) (ops : List (Op β γ)) :
    (run h ops).1 = (run h (refillsOnly ops)).1 := by
  induction ops generalizing h with
  | nil => rfl
  | cons op ops ih =>
    -- a refill is kept by the filter and written on both sides; a call is dropped and `write` is the identity on it
    cases op <;> exact ih _

/-- the `k`-th operation of a history returns what a fresh call returns on the contents the caller's own
    refills have produced by then — nothing of earlier calls is remembered -/
theorem call_reads_contents_at_call_time (h : Heap β) (pre post : List (Op β γ)) (op : Op β γ) :
    (run h (pre ++ op :: post)).2[pre.length]? = some (result (run h (refillsOnly pre)).1 op) := by
  rw [run_append, ← calls_leave_buffers_unchanged]
  simp only [run]
  rw [List.getElem?_append_right (by rw [run_length]), run_length, Nat.sub_self, List.getElem?_cons_zero]

/-- results handed out earlier are not changed by later refills and calls -/
theorem earlier_results_unchanged_by_later_calls (h : Heap β) (a b : List (Op β γ)) :
    (run h (a ++ b)).2.take a.length = (run h a).2 := by
  rw [run_append]
  simp [run_length]

/-- a result depends on the *contents* of the argument arrays only, not on which array (object) carries
    them: an equal-content copy gives the same result -/
theorem result_depends_on_contents_only (h h' : Heap β) (i i' j j' k k' : Nat) (hi : h i = h' i')
    (hj : h j = h' j') (hk : h k = h' k') (f1 : β → γ) (f2 : β → β → γ) (f3 : β → β → β → γ) :
    result h (.call1 f1 i) = result h' (.call1 f1 i') ∧
    result h (.call2 f2 i j) = result h' (.call2 f2 i' j') ∧
    result h (.call3 f3 i j k) = result h' (.call3 f3 i' j' k') := by
  simp only [result, hi, hj, hk, and_self]

/-- non-vacuity / worked history: refill, call, refill the SAME array, call again, the same array in
    both roles -/
example : (run (fun _ => (0 : Nat))
    [.refill 0 5, .call1 (· + 1) 0, .refill 0 7, .call1 (· + 1) 0, .refill 1 2, .call2 (· * ·) 0 1,
     .call2 (· * ·) 0 0]).2 = [none, some 6, none, some 8, none, some 14, some 49] := by
  decide

variable {m k c : Nat}

/-- the same array object in both roles: the distance of a subspace from itself is exactly zero
    (`calc_chordal_distance_2(A, A)`, `calc_chordal_distance(A, A)`), whatever the kernels return -/
theorem same_object_in_both_roles (A : Mat ℂ m k) (G : Mat ℂ k k) (Q : Mat ℂ m k) :
    chordal2 G G A A = 0 ∧ chordal Q Q = 0 :=
  ⟨(chordOfProj_eq_zero_iff _ _).mpr rfl, (chordOfProj_eq_zero_iff _ _).mpr rfl⟩

/-- the very array a `Projection` was built from, handed to its own methods: `project` returns it,
    `oProject` annihilates it, `reflect` negates it -/
theorem projection_of_own_basis {K : Type} [CommRing K] [StarRing K] (A : Mat K m k) (G : Mat K k k)
    (hG : matMul G (gram A) = eye) :
    project (projWith G A) A = A ∧ project (oprojWith G A) A = (fun _ _ => 0) ∧
    reflect (projWith G A) A = (fun i j => - A i j) := by
  have h0 := (proj_complement A G hG).2.2.2.2.2
  refine ⟨proj_fixes_A A G hG, h0, ?_⟩
  rw [(projection_methods_are_static_results A G A).2.2, project, project, h0, proj_fixes_A A G hG]
  exact funext fun i => funext fun j => zero_sub _

end r16

section nonvacuity
open Matrix

/-- non-vacuity of the `inv` contract: `A = [1; 1]`, `G = [1/2]` -/
example : matMul (fun _ _ => (1 / 2 : ℂ) : Mat ℂ 1 1) (gram (fun _ _ => (1 : ℂ) : Mat ℂ 2 1)) = eye := by
  funext i j; fin_cases i; fin_cases j
  simp [matMul, gram, cT, sumFin, eye, Conj.conj]
  norm_num

/-- non-vacuity of the `argsort` contract: values `3, 1, 2` are sorted by `[1, 2, 0]` -/
example : ArgsortContract (fun i => ([3, 1, 2] : List Nat).getD i 0) 3 [1, 2, 0] := by
  refine ⟨by decide, by decide⟩

/-- non-vacuity of the whitening contract: `C = [4]`, `Q = [1]`, `L = [4]` -/
example : matMul (cT (eye : Mat ℂ 1 1)) eye = eye ∧
    matMul (fun _ _ => (4 : ℂ) : Mat ℂ 1 1) eye = matMul eye (diagM (fun _ => (4 : ℂ))) ∧
    (∀ _ : Fin 1, (4 : ℂ).im = 0 ∧ 0 < (4 : ℂ).re) := by
  refine ⟨eye_orthonormal, ?_, fun _ => by norm_num⟩
  rw [matMul_eye, eye_matMul]
  exact funext fun i => funext fun j => (if_pos (Subsingleton.elim i j)).symm

/-- non-vacuity of the pivot hypothesis: `invA = [1]`, `diagonal = [1]` has pivot `2` -/
example : ∀ x ∈ uisdPivots 0 [(1 : ℚ)] (eye : Mat ℚ 1 1), x ≠ 0 := by
  intro x hx
  simp [uisdPivots, eye] at hx
  subst hx; norm_num

/-- the generic theorems apply to real matrices (`ℝ` with the trivial conjugation) … -/
example (A : Mat ℝ 4 2) (G : Mat ℝ 2 2) (hG : matMul G (gram A) = eye) :
    matMul (projWith G A) (projWith G A) = projWith G A := proj_idempotent A G hG
/-- … and to complex ones -/
example (A : Mat ℂ 4 2) (G : Mat ℂ 2 2) (hG : matMul G (gram A) = eye) (M : Mat ℂ 4 3) :
    reflect (projWith G A) (reflect (projWith G A) M) = M := reflect_involutive A G hG M

end nonvacuity

end PyPhysim.C20
