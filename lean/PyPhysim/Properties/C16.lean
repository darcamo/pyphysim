import PyPhysim.Proofs.C16
import PyPhysim.Proofs.C16Dmin
import PyPhysim.Proofs.C16ExactQam
import PyPhysim.Proofs.C16ExactPsk
import PyPhysim.Generated.C16Formulas

/-!
# C16 — theoretical error-rate curves

Three parts: range, order and limits of the curves; their `Q` arguments as `d_min/(2σ)` of the emitted
constellations; and, with the Gaussian tail `Qg` itself for `Q`, the curves as the error rates of the modelled
detector under AWGN (exact for BPSK and square QAM, two-sided bounds for PSK).  In the first part `Q` is any
function with the order/limit properties of
the Gaussian tail (`IsQ`: antitone, `Q 0 = 1/2`, non-negative, `→ 0`); the code's
`qfunc = 0.5·erfc(x/√2)` is checked against `math.erfc` by the harness.  The
formulas are the model `PyPhysim.Model.C16`, tied to `fundamental.py` by the
correspondence of `harness/props/c16.py` (coefficient and `Q`-argument of every
formula, every modulator/order, SNR −30…60 dB).
-/
namespace PyPhysim.C16
open PyPhysim.C01 Filter Topology

variable {Q : ℝ → ℝ}

/-! ### tie to the source: the formulas re-translated from `fundamental.py` on every run
(`PyPhysim.Generated.C16`) are the model's formulas, as functions on ℝ.  A changed
coefficient, argument or exponent in the source breaks this theorem. -/

/-- PSK / BPSK / QAM SER and BER, PER and spectral efficiency as written in the current
    source equal the model formulas all other theorems are about. -/
theorem generated_formulas_match_model (Q : ℝ → ℝ) (M k L : Nat) (s ber K : ℝ) :
    Generated.C16.pskSER Q M s = pskSER Q M s ∧
    Generated.C16.pskBER Q M k s = pskBER Q M k s ∧
    Generated.C16.bpskSER Q s = bpskSER Q s ∧
    Generated.C16.bpskBER Q s = bpskSER Q s ∧
    Generated.C16.qamSER Q M s = qamSER Q M s ∧
    Generated.C16.qamBER Q M k s = qamBER Q M k s ∧
    Generated.C16.per ber L = per ber L ∧
    Generated.C16.spectralEff K ber = spectralEff K ber := by
  have sqrt_two_mul := Real.sqrt_mul (Nat.cast_nonneg 2 : (0 : ℝ) ≤ ((2 : Nat) : ℝ))
  refine ⟨?pskSER, ?pskBER, ?bpskSER, ?bpskBER, ?qamSER, ?qamBER, ?per, ?se⟩
  case' pskSER =>
    simp only [Generated.C16.pskSER, Generated.C16.dB2Linear, pskSER, pskArg, db2lin, Trig.sqrt, sqrt_two_mul]
  case' pskBER =>
    simp only [Generated.C16.pskBER, Generated.C16.pskSER, Generated.C16.dB2Linear, pskBER, pskSER, pskArg, db2lin,
      Trig.sqrt, sqrt_two_mul]
  case' bpskSER =>
    simp only [Generated.C16.bpskSER, Generated.C16.dB2Linear, bpskSER, bpskArg, db2lin, Trig.sqrt, sqrt_two_mul]
  case' bpskBER =>
    simp only [Generated.C16.bpskBER, Generated.C16.bpskSER, Generated.C16.dB2Linear, bpskSER, bpskArg, db2lin,
      Trig.sqrt, sqrt_two_mul]
  case' qamSER =>
    simp only [Generated.C16.qamSER, Generated.C16.qamPsc, Generated.C16.dB2Linear, qamSER, qamPsc, qamCoef, qamArg,
      db2lin]
  case' qamBER =>
    simp only [Generated.C16.qamBER, Generated.C16.qamPsc, Generated.C16.dB2Linear, qamBER, qamPsc, qamCoef, qamArg,
      db2lin]
  case' per => simp only [Generated.C16.per, per]
  case' se => simp only [Generated.C16.spectralEff, spectralEff]
  -- nothing is left on the present source; a source that arranges the same operations differently
  -- leaves a ring identity (`case'` lets such a goal stay open; `sqrt_two_mul` splits `√(2·γ)` into
  -- `√2·√γ` on both sides, so that taking the two roots separately is such an arrangement)
  all_goals ring_nf

/-- PSK SER is a probability, for every `M ≥ 1` and every SNR. -/
theorem psk_ser_unit (hQ : IsQ Q) (M : Nat) (hM : 1 ≤ M) (s : ℝ) :
    0 ≤ pskSER Q M s ∧ pskSER Q M s ≤ 1 := by
  have hb := Q_bounds hQ _ (argShape_nonneg 2 _ (sin_pi_div_nonneg M hM) s)
  rw [pskSER_eq, pskArg_eq]
  exact ⟨mul_nonneg zero_le_two hb.1, (le_div_iff₀' (zero_lt_two' ℝ)).mp hb.2⟩

/-- PSK SER never increases with SNR. -/
theorem psk_ser_antitone (hQ : IsQ Q) (M : Nat) (hM : 1 ≤ M) : Antitone (pskSER Q M) := by
  rw [pskSER_fun]
  exact (Q_arg_antitone hQ zero_le_two (sin_pi_div_nonneg M hM)).const_mul zero_le_two

/-- PSK SER tends to 0 as SNR grows (`M ≥ 2`). -/
theorem psk_ser_tendsto (hQ : IsQ Q) (M : Nat) (hM : 2 ≤ M) : Tendsto (pskSER Q M) atTop (𝓝 0) := by
  have := (Q_arg_tendsto hQ two_pos (sin_pi_div_pos M hM)).const_mul 2
  rwa [mul_zero, ← pskSER_fun] at this

/-- PSK: `BER ≤ SER = k·BER` for `k = log2 M ≥ 1` bits per symbol. -/
theorem psk_ber_ser (hQ : IsQ Q) (M k : Nat) (hM : 1 ≤ M) (hk : 1 ≤ k) (s : ℝ) :
    pskBER Q M k s ≤ pskSER Q M s ∧ pskSER Q M s = k * pskBER Q M k s := by
  rw [pskBER_eq]
  exact ⟨div_le_self (psk_ser_unit hQ M hM s).1 (Nat.one_le_cast.mpr hk),
    (mul_div_cancel₀ _ (Nat.cast_ne_zero.mpr (Nat.ne_zero_of_lt hk) : (k:ℝ) ≠ 0)).symm⟩

/-- BPSK SER (= BER) is a probability, antitone in SNR, and tends to 0. -/
theorem bpsk_ser (hQ : IsQ Q) :
    (∀ s, 0 ≤ bpskSER Q s ∧ bpskSER Q s ≤ 1) ∧ Antitone (bpskSER Q) ∧
      Tendsto (bpskSER Q) atTop (𝓝 0) := by
  rw [bpskSER_fun]
  refine ⟨fun s => ?_, Q_arg_antitone hQ zero_le_two zero_le_one, Q_arg_tendsto hQ two_pos one_pos⟩
  have hb := Q_bounds hQ _ (argShape_nonneg 2 1 zero_le_one s)
  exact ⟨hb.1, hb.2.trans (by norm_num)⟩

/-- per-carrier error rate `Psc ∈ [0, 1 − 1/√M] ⊂ [0,1)` -/
theorem qam_psc_bounds (hQ : IsQ Q) (M : Nat) (hM : 2 ≤ M) (s : ℝ) :
    0 ≤ qamPsc Q M s ∧ qamPsc Q M s < 1 :=
  qamPsc_bounds hQ M hM s

/-- QAM SER and BER are probabilities (`k ≥ 2` bits per symbol). -/
theorem qam_unit (hQ : IsQ Q) (M k : Nat) (hM : 2 ≤ M) (hk : 2 ≤ k) (s : ℝ) :
    (0 ≤ qamSER Q M s ∧ qamSER Q M s ≤ 1) ∧ (0 ≤ qamBER Q M k s ∧ qamBER Q M k s ≤ 1) := by
  obtain ⟨h0, h1⟩ := qam_psc_bounds hQ M hM s
  have hs := one_sub_pow_unit h0 h1.le 2
  rw [qamSER_eq, qamBER_eq]
  exact ⟨hs, div_nonneg (mul_nonneg zero_le_two h0) k.cast_nonneg,
    (ber_ser_of_psc h0 h1.le (by exact_mod_cast hk)).1.trans hs.2⟩

/-- QAM: `BER ≤ SER ≤ k·BER`. -/
theorem qam_ber_ser (hQ : IsQ Q) (M k : Nat) (hM : 2 ≤ M) (hk : 2 ≤ k) (s : ℝ) :
    qamBER Q M k s ≤ qamSER Q M s ∧ qamSER Q M s ≤ k * qamBER Q M k s := by
  obtain ⟨h0, h1⟩ := qam_psc_bounds hQ M hM s
  rw [qamSER_eq, qamBER_eq]
  exact ber_ser_of_psc h0 h1.le (by exact_mod_cast hk)

/-- QAM SER and BER never increase with SNR. -/
theorem qam_antitone (hQ : IsQ Q) (M k : Nat) (hM : 2 ≤ M) :
    Antitone (qamSER Q M) ∧ Antitone (qamBER Q M k) := by
  have hp := qamPsc_antitone hQ M hM
  constructor
  · intro s t h
    rw [qamSER_eq, qamSER_eq]
    exact one_sub_pow_mono (hp h) (qam_psc_bounds hQ M hM s).2.le 2
  · intro s t h
    rw [qamBER_eq, qamBER_eq]
    exact div_le_div_of_nonneg_right (mul_le_mul_of_nonneg_left (hp h) zero_le_two) k.cast_nonneg

/-- QAM SER and BER tend to 0 as SNR grows. -/
theorem qam_tendsto (hQ : IsQ Q) (M k : Nat) (hM : 2 ≤ M) :
    Tendsto (qamSER Q M) atTop (𝓝 0) ∧ Tendsto (qamBER Q M k) atTop (𝓝 0) := by
  have hp := qamPsc_tendsto hQ M hM
  constructor
  · rw [funext (qamSER_eq Q M)]
    exact one_sub_pow_tendsto hp 2
  · rw [funext (qamBER_eq Q M k)]
    have := (hp.const_mul 2).div_const (k:ℝ)
    rwa [mul_zero, zero_div] at this

/-- `PER = 1 − (1 − BER)^L` is a probability whenever BER is, and is monotone in BER
    (so it is antitone in SNR and tends to 0 with BER). -/
theorem per_unit_mono (L : Nat) :
    (∀ b : ℝ, 0 ≤ b → b ≤ 1 → 0 ≤ per b L ∧ per b L ≤ 1) ∧
    (∀ a b : ℝ, 0 ≤ a → a ≤ b → b ≤ 1 → per a L ≤ per b L) ∧ per (0:ℝ) L = 0 := by
  refine ⟨fun b h0 h1 => ?_, fun a b _ hab h1 => ?_, ?_⟩
  · rw [per_eq]
    exact one_sub_pow_unit h0 h1 L
  · rw [per_eq, per_eq]
    exact one_sub_pow_mono hab h1 L
  · rw [per_eq]
    exact one_sub_pow_zero L

/-- `PER` is exactly `1 − (1 − BER)^L`, spectral efficiency exactly `K·(1 − PER)`. -/
theorem per_se_def (ber K : ℝ) (L : Nat) :
    per ber L = 1 - (1 - ber) ^ L ∧ spectralEff K (per ber L) = K * (1 - (1 - (1 - ber) ^ L)) := by
  rw [per_eq, spectralEff, Nat.cast_one]
  exact ⟨rfl, rfl⟩

/-! ### the formulas are the ones implied by the emitted constellation

`σ² = 1/(2γ)` is the noise variance per real dimension at unit mean symbol
energy (`sigma`).  The constellations are those of the C01 model (tied to the
code there): a change of scaling or of a formula breaks one of these identities. -/

/-- BPSK: points `±1`, `d_min = 2`, argument of `Q` is `d_min/(2σ)`. -/
theorem bpsk_arg_is_dmin (s : ℝ) : bpskArg s = 2 / (2 * sigma s) := by
  rw [bpskArg_eq, ← two_mul_div_two_sigma, mul_one]

/-- PSK: neighbouring points are `2·sin(π/M)` apart, no pair is closer, and the
    argument of `Q` is that `d_min/(2σ)` (two nearest neighbours ⇒ coefficient 2). -/
theorem psk_arg_is_dmin (M : Nat) (hM : 2 ≤ M) (φ s : ℝ) :
    (∀ k, dist2 (pskNaturalPoint M (k+1) φ) (pskNaturalPoint (α := ℝ) M k φ) = (2 * Real.sin (Real.pi / M)) ^ 2) ∧
    (∀ k₁ k₂, k₁ < M → k₂ < M → k₁ ≠ k₂ →
      (2 * Real.sin (Real.pi / M)) ^ 2 ≤ dist2 (pskNaturalPoint M k₁ φ) (pskNaturalPoint (α := ℝ) M k₂ φ)) ∧
    pskArg M s = (2 * Real.sin (Real.pi / M)) / (2 * sigma s) :=
  ⟨fun k => psk_adjacent_dist2 M k φ, fun k₁ k₂ h₁ h₂ hne => psk_min_dist2 M k₁ k₂ h₁ h₂ hne φ, pskArg_dmin M s⟩

/-- QAM (`M = L²`): distinct grid cells are at least one step (2 units) apart, horizontal
    neighbours exactly one step; after the code's scaling by `e = sqrt((M−1)·2/3)` that is
    `d_min = 2/e`, and the argument of `Q` is `d_min/(2σ)`. -/
theorem qam_arg_is_dmin (L : Nat) (hL : 2 ≤ L) (s : ℝ) :
    (∀ a b, a ≠ b → 4 ≤ dist2 (qamGridPoint L a) (qamGridPoint L b)) ∧
    (∀ a, a % L + 1 < L → dist2 (qamGridPoint L (a + 1)) (qamGridPoint L a) = 4) ∧
    qamArg (L * L) s =
      (2 / Real.sqrt ((((L * L - 1 : Nat) : ℝ) * ((2 : Nat) : ℝ)) / ((3 : Nat) : ℝ))) / (2 * sigma s) :=
  ⟨fun a b h => qam_grid_min_dist2 L a b h, fun a h => qam_grid_adjacent_dist2 L a h, qamArg_dmin L hL s⟩

/-- QAM coefficient `2(1 − 1/√M)` is the mean number of nearest neighbours per axis of an
    `L`-level row: `(2·(L−2) + 1·2)/L`. -/
theorem qam_coef_is_neighbour_count (L : Nat) (hL : 2 ≤ L) :
    qamCoef (α := ℝ) (L * L) = (2 * ((L:ℝ) - 2) + 1 * 2) / L := by
  have := Nat.cast_ne_zero (R := ℝ).mpr (Nat.ne_zero_of_lt hL)
  rw [qamCoef_sq, one_sub_div this, ← mul_div_assoc]
  congr 1
  ring

/-- non-vacuity: `IsQ` is satisfiable (by the Gaussian tail itself, `gaussian_tail_is_Q` below), so the
    theorems are not empty -/
example : ∃ Q : ℝ → ℝ, IsQ Q := ⟨Qg, isQ_gaussian⟩

/-! ### the formulas ARE the AWGN error rates of the modelled detector (Gaussian integrals, not assumed)

`Qg x = P(N > x)`, `N ~ 𝒩(0,1)` (Mathlib's `gaussianReal`); the noise is independent `𝒩(0, σ²)` on
the two real dimensions with `σ² = 1/(2γ)` (`sigma`), the detector is `Model/C01`'s `bpskDemod` /
`demod`, the constellation is the emitted one (`pskNatural`, `qamNatural`).  Relabelling (the Gray
permutation of C15) permutes the symbols and leaves these per-symbol / averaged rates unchanged. -/

/-- The abstract hypotheses `IsQ` hold for the actual Gaussian tail: every theorem above applies to the
    real `Q` function. -/
theorem gaussian_tail_is_Q : IsQ Qg := isQ_gaussian

/-- **BPSK: the formula is exact.**  Whichever bit is sent (`0 ↦ +1`, `1 ↦ −1`), the sign detector errs
    with probability `Q(√(2γ)) = calcTheoreticalSER`. -/
theorem bpsk_ser_is_exact (s : ℝ) :
    (noise (sigma s)).real {n : ℝ | bpskDemod ((1:ℝ) + n) ≠ 0} = bpskSER Qg s ∧
    (noise (sigma s)).real {n : ℝ | bpskDemod ((-1:ℝ) + n) ≠ 1} = bpskSER Qg s :=
  ⟨by rw [bpsk_err_bit0, gauss_Iio (sigma_pos s), neg_neg, bpskSER, bpskArg_eq_inv_sigma],
    by rw [bpsk_err_bit1, gauss_Ici (sigma_pos s), bpskSER, bpskArg_eq_inv_sigma]⟩

/-- **Square QAM: the formula is exact**, for every `L ≥ 2` (`M = L²`) and every SNR: one minus the
    average probability of a correct nearest-point decision over the `M` emitted points equals
    `1 − (1 − 2(1 − 1/√M)·Q(√(3γ/(M−1))))²`.  (`qam_points_are_grid` says the points summed over are exactly
    the emitted table.) -/
theorem qam_ser_exact (L : Nat) (hL : 2 ≤ L) (s : ℝ) :
    1 - (∑ i ∈ Finset.range L, ∑ j ∈ Finset.range L,
          (noise2 (sigma s)).real
            (correctNoise (qamNatural (α := ℝ) L) (gpt (1 / qamE L) L j i) (i * L + j))) / ((L:ℝ) * L)
      = qamSER Qg (L * L) s := by
  rw [avg_correct (sigma_pos s) (qam_half_spacing_pos hL) (one_le_two.trans hL) _ (fun _ => mem_qamNatural)
      (qam_natural_nodup L hL) _ fun i hi j hj => qamNatural_getElem? L hj hi,
    qamSER_eq, qamPsc, qamArg_eq_div_sigma L hL, qamCoef_sq]

/-- the point used for index `i·L + j` in `qam_ser_exact` is the table entry at that index -/
theorem qam_points_are_grid (L : Nat) {j i : Nat} (hj : j < L) (hi : i < L) :
    (qamNatural (α := ℝ) L)[i * L + j]? = some (gpt (1 / qamE L) L j i) :=
  qamNatural_getElem? L hj hi

/-- per-point version: the point in column `j`, row `i` is detected correctly with probability
    `(1 − c_j Q)(1 − c_i Q)`, `c = 1` on an edge, `2` inside — the neighbour structure of the grid -/
theorem qam_point_correct_prob (L : Nat) (hL : 2 ≤ L) (s : ℝ) {j i : Nat} (hj : j < L) (hi : i < L) :
    (noise2 (sigma s)).real (correctNoise (qamNatural (α := ℝ) L) (gpt (1 / qamE L) L j i) (i * L + j)) =
      (1 - (cnt L j : ℝ) * Qg (1 / qamE L / sigma s)) * (1 - (cnt L i : ℝ) * Qg (1 / qamE L / sigma s)) :=
  prob_correct_any_labelling (sigma_pos s) (qam_half_spacing_pos hL) hj hi _ (fun _ => mem_qamNatural)
    (qam_natural_nodup L hL) _ (qamNatural_getElem? L hj hi)

/-- **PSK: the two-nearest-neighbour formula lies between the exact error rate and twice it**, for every
    `M ≥ 2`, every phase offset, every symbol `k`, every SNR and EVERY labelling `c` of the points (any table
    with the same points in any order — the natural order, the Gray order of the constructor, the order
    `setPhaseOffset` leaves behind): with `Pe = 1 − P(correct | k)` the exact symbol error probability of the
    nearest-point detector, `Pe ≤ calcTheoreticalSER ≤ 2·Pe`. -/
theorem psk_ser_between_exact_and_twice (M : Nat) (hM : 2 ≤ M) (k : Nat) (hk : k < M) (φ s : ℝ)
    (c : List (ℝ × ℝ)) (hmem : ∀ q, q ∈ c ↔ q ∈ pskNatural (α := ℝ) M φ) (hnd : c.Nodup) (l : Nat)
    (hl : c[l]? = some (pskNaturalPoint M k φ)) :
    let Pe := 1 - (noise2 (sigma s)).real (correctNoise c (pskNaturalPoint M k φ) l)
    Pe ≤ pskSER Qg M s ∧ pskSER Qg M s ≤ 2 * Pe := by
  intro Pe
  obtain ⟨hge, hle⟩ := psk_correct_bounds M hM k hk φ s c hmem hnd l hl
  rw [pskSER_eq]
  exact ⟨sub_le_comm.mp hge, mul_le_mul_of_nonneg_left (le_sub_comm.mp hle) zero_le_two⟩

/-- non-vacuity / the natural table is such a labelling -/
theorem psk_natural_is_a_labelling (M k : Nat) (hk : k < M) (φ : ℝ) :
    (∀ q, q ∈ pskNatural (α := ℝ) M φ ↔ q ∈ pskNatural (α := ℝ) M φ) ∧ (pskNatural (α := ℝ) M φ).Nodup ∧
    (pskNatural (α := ℝ) M φ)[k]? = some (pskNaturalPoint M k φ) :=
  ⟨fun _ => Iff.rfl, psk_natural_nodup M φ, pskNatural_getElem? M k hk φ⟩

/-- QAM, any labelling: a table with the grid's points in any order (e.g. the Gray relabelling) detects the
    point of column `j`, row `i`, carried at label `l`, correctly with probability `(1 − c_j Q)(1 − c_i Q)`;
    hence the average over all labels — the SER — is the same for every labelling. -/
theorem qam_point_correct_prob_any_labelling (L : Nat) (hL : 2 ≤ L) (s : ℝ) {j i : Nat} (hj : j < L) (hi : i < L)
    (c : List (ℝ × ℝ)) (hmem : ∀ q, q ∈ c ↔ q ∈ qamNatural (α := ℝ) L) (hnd : c.Nodup) (l : Nat)
    (hl : c[l]? = some (gpt (1 / qamE L) L j i)) :
    (noise2 (sigma s)).real (correctNoise c (gpt (1 / qamE L) L j i) l) =
      (1 - (cnt L j : ℝ) * Qg (1 / qamE L / sigma s)) * (1 - (cnt L i : ℝ) * Qg (1 / qamE L / sigma s)) :=
  prob_correct_any_labelling (sigma_pos s) (qam_half_spacing_pos hL) hj hi c
    (fun q => (hmem q).trans mem_qamNatural) hnd l hl

/-- pairwise error probability behind all three: under isotropic Gaussian noise the sample is (strictly
    or weakly) closer to another point `q` than to the transmitted `p` with probability `Q(|q − p|/2σ)` -/
theorem pairwise_error_probability {σ : ℝ} (hσ : 0 < σ) (p q : ℝ × ℝ) (hne : 0 < dist2 q p) :
    (noise2 σ).real {n | dist2 (p.1 + n.1, p.2 + n.2) q < dist2 (p.1 + n.1, p.2 + n.2) p} =
        Qg (Real.sqrt (dist2 q p) / (2 * σ)) ∧
    (noise2 σ).real {n | dist2 (p.1 + n.1, p.2 + n.2) q ≤ dist2 (p.1 + n.1, p.2 + n.2) p} =
        Qg (Real.sqrt (dist2 q p) / (2 * σ)) :=
  have h := halfplane_prob hσ (Real.sqrt_pos.mpr hne) p q (Real.mul_self_sqrt hne.le).symm
  ⟨h.1, h.2.1⟩

end PyPhysim.C16
