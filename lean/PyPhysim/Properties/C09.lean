import PyPhysim.Proofs.C09Metric
import PyPhysim.Proofs.C09Ext
import PyPhysim.Proofs.C09Example
import PyPhysim.Proofs.C09Rank

/-!
# C09 — block diagonalisation nulls inter-user interference within the power budget

Property theorems and worked examples.  All statements are about the executable model
`PyPhysim.BD` (`Model/C09.lean`) instantiated at `ρ = ℝ`, `α = ℂ` (or at an
arbitrary commutative ring where no order / conjugation is involved); the
correspondence check of `harness/props/c09.py` ties the same definitions,
compiled at binary64, to the code.

`K` users, `N` receive and `N` transmit antennas per user (`K·N` in total on each
side).  External kernels are parameters with the contract stated in the
hypotheses (checked numerically by the harness on every case it runs):

* `VH1 k`, `(S2 k, VH2 k)` — `np.linalg.svd` results inside
  `_calc_BD_matrix_no_power_scaling`; contract `Pf.BDContract`: both `V_H` unitary
  and `H̃_k · Ṽ0_k = 0` (the latter follows from the factorisation `H̃ = U Σ V_H`
  alone, theorem `svd_null_space`);
* `p` — powers returned by `waterfilling.doWF`; contract `p ≥ 0`, some `p_j > 0`
  (both implied by C12's `Σp = K·iPu`, `p ≥ 0` when `iPu > 0`);
* `W` — `np.linalg.pinv`; contract: the Penrose conditions `A W A = A`,
  `(W A)ᴴ = W A` (resp. `W A = 1` where the argument has full column rank);
* `Ww k` — `calc_whitening_matrix(R_k)`; contract: invertible (nothing else is used);
* `G` — `np.linalg.inv(Pᴴ P)`, `vals` — the metric function: no contract needed;
* the reduction matrix `P` of `_calc_stream_reduction_matrix`: contract
  `Re_k · P = σ² · P` ("enough streams are sacrificed": `P` lies in the noise
  eigenspace, equivalently `E_kᴴ P = 0`, theorem `noise_eigenspace_iff`).  For the
  matrix the code computes (the `n` least right singular vectors of `Re_k`) this
  contract is a THEOREM (`least_singular_vectors_in_noise_space`) as soon as
  `n ≤ N − rank E_k` and `np.linalg.svd` keeps its promise (`Re_k = U·diag(S)·V_H`,
  `U`, `V_H` unitary, `S ≥ 0` in decreasing order); `ext_noise_eigenspace` and
  `enough_streams_sacrificed` give the rank-counting argument itself.

`Hinv` with `Hinv · H = 1` expresses that the channel has full rank.
-/
namespace PyPhysim.C09
open PyPhysim.BD PyPhysim.Proto

section nulling
variable {R : Type} [CommRing R] {K N T n s : Nat}

/-- bookkeeping of `_get_tilde_channel`: the null-space contract `H̃_k · V = 0` on the
    stacked channel of the other users holds iff every other user's channel
    annihilates `V` -/
theorem tilde_null_iff (H : Mat R (K * N) T) (k : Fin K) (V : Mat R T n) :
    matMul (tildeChannel H k) V = (fun _ _ => 0) ↔
      ∀ j, j ≠ k → matMul (rowBlock H j) V = fun _ _ => 0 :=
  ⟨fun h j hj => Pf.rowBlock_null_of_tilde H k V h j hj, Pf.tilde_null_of_rowBlocks H k V⟩

/-- clause "no user receives another user's streams", per user and for ANY
    post-factor `X` (power loading, stream reduction, normalisation): a precoder
    `V0 · X` built on a null-space basis of the other users' channel is invisible to
    every other user -/
theorem bd_block_diagonal (H : Mat R (K * N) T) (k : Fin K) (V0 : Mat R T n) (X : Mat R n s)
    (hnull : matMul (tildeChannel H k) V0 = fun _ _ => 0) (j : Fin K) (hjk : j ≠ k) :
    matMul (rowBlock H j) (matMul V0 X) = fun _ _ => 0 :=
  Pf.null_mul _ _ _ (Pf.rowBlock_null_of_tilde H k V0 hnull j hjk)

end nulling

section plain
variable {K N : Nat} (hK : 0 < K) (H : Mat ℂ (K * N) (K * N)) (VH1 : Fin K → Mat ℂ (K * N) (K * N))
  (VH2 : Fin K → Mat ℂ N N) (S2 : Fin K → Fin N → ℝ)

/-- the null-space part of the contract is a consequence of the SVD factorisation:
    if `H̃_k = U Σ V_H` with `V_H` unitary then the `N` last right singular vectors
    (`tilde_V0`) are annihilated by `H̃_k` — for every `U`, every singular values -/
theorem svd_null_space (k : Fin K) (U : Mat ℂ (tildeIdx (N := N) k).length (tildeIdx (N := N) k).length)
    (S : Fin (tildeIdx (N := N) k).length → ℝ)
    (hsvd : tildeChannel H k = matMul (matMul U (Pf.sigmaRect S)) (VH1 k))
    (hU : matMul (VH1 k) (cT (VH1 k)) = eye) :
    matMul (tildeChannel H k) (calcBD hK H VH1 VH2 S2 k).V0 = fun _ _ => 0 :=
  Pf.svd_null _ U S (VH1 k) _ (Pf.tildeIdx_room k) hsvd hU

/-- the whole contract from what `np.linalg.svd` promises: factorisation of every
    tilde channel and unitary `V_H` factors -/
theorem bd_contract_of_svd
    (hsvd : ∀ k, ∃ (U : Mat ℂ (tildeIdx (N := N) k).length (tildeIdx (N := N) k).length)
      (S : Fin (tildeIdx (N := N) k).length → ℝ),
      tildeChannel H k = matMul (matMul U (Pf.sigmaRect S)) (VH1 k))
    (hU1 : ∀ k, matMul (VH1 k) (cT (VH1 k)) = eye) (hU2 : ∀ k, matMul (VH2 k) (cT (VH2 k)) = eye) :
    Pf.BDContract hK H VH1 VH2 S2 :=
  ⟨hU1, hU2, fun k => by
    obtain ⟨U, S, h⟩ := hsvd k
    exact svd_null_space hK H VH1 VH2 S2 k U S h (hU1 k)⟩

/-- what the stream-reduction paths of `EnhancedBD` take from
    `_calc_BD_matrix_no_power_scaling`: the block `Ms_bad_k` of user `k` is invisible to
    every other user and has orthonormal columns (the hypotheses `hnull`, `hM` of
    `enhanced_reduced_nulls` / `enhanced_power_exact`) -/
theorem calc_bd_precoder_facts (c : Pf.BDContract hK H VH1 VH2 S2) (k : Fin K) :
    colBlock (msBad (calcBD hK H VH1 VH2 S2)) k = (calcBD hK H VH1 VH2 S2 k).Ms ∧
    (∀ j, j ≠ k → matMul (rowBlock H j) (calcBD hK H VH1 VH2 S2 k).Ms = fun _ _ => 0) ∧
    matMul (cT (calcBD hK H VH1 VH2 S2 k).Ms) (calcBD hK H VH1 VH2 S2 k).Ms = eye :=
  ⟨Pf.colBlock_msBad hK H VH1 VH2 S2 k, fun j hjk => Pf.calcBD_null c j k hjk,
    Pf.calcBD_orthonormal c k⟩

/-- `block_diagonalize` (water-filling + normalisation): the effective channel
    `newH = H · Ms_good` is block diagonal, for every power vector `p` -/
theorem block_diagonalize_nulls (c : Pf.BDContract hK H VH1 VH2 S2) (iPu : ℝ) (p : Fin (K * N) → ℝ) :
    (blockDiagonalize hK iPu H VH1 VH2 S2 p).1 = matMul H (blockDiagonalize hK iPu H VH1 VH2 S2 p).2 ∧
    IsBlockDiagonal (blockDiagonalize hK iPu H VH1 VH2 S2 p).1 :=
  ⟨rfl, Pf.loaded_blockDiagonal c _ (Pf.normalizedWF_eq_diag iPu _ p)⟩

/-- `block_diagonalize_no_waterfilling`: the effective channel is block diagonal -/
theorem block_diagonalize_no_wf_nulls (c : Pf.BDContract hK H VH1 VH2 S2) (iPu : ℝ) :
    (blockDiagonalizeNoWF hK iPu H VH1 VH2 S2).1 = matMul H (blockDiagonalizeNoWF hK iPu H VH1 VH2 S2).2 ∧
    IsBlockDiagonal (blockDiagonalizeNoWF hK iPu H VH1 VH2 S2).1 :=
  ⟨rfl, Pf.loaded_blockDiagonal c _ (Pf.noWF_eq_diag iPu _)⟩

/-- clause "the power of every transmitter's precoder block never exceeds the per-user
    power and reaches it for at least one transmitter" (`block_diagonalize`) -/
theorem wf_power_bounded (c : Pf.BDContract hK H VH1 VH2 S2) (iPu : ℝ) (hP : 0 ≤ iPu)
    (p : Fin (K * N) → ℝ) (hp : ∀ j, 0 ≤ p j) (hp1 : ∃ j, 0 < p j) :
    (∀ k, frobSq (colBlock (blockDiagonalize hK iPu H VH1 VH2 S2 p).2 k) ≤ iPu) ∧
      ∃ k, frobSq (colBlock (blockDiagonalize hK iPu H VH1 VH2 S2 p).2 k) = iPu :=
  Pf.normalizedWF_power iPu hP _ p hp hp1 (Pf.msBad_unit_cols c)

/-- clause "… all of them without water-filling": every transmitter's block has
    power exactly `iPu` -/
theorem no_wf_power_exact (c : Pf.BDContract hK H VH1 VH2 S2) (iPu : ℝ) (hP : 0 ≤ iPu) (hN : 0 < N) (k : Fin K) :
    frobSq (colBlock (blockDiagonalizeNoWF hK iPu H VH1 VH2 S2).2 k) = iPu :=
  Pf.noWF_power iPu hP _ k (Pf.msBad_block_pos c hN k)

/-- clause "the receive filter inverts the effective channel on every stream that was
    given power": with `W = pinv(newH)`, `W · newH` is the 0/1 diagonal matrix of the
    streams with non-zero water-filling power -/
theorem rx_inverts_powered_streams (c : Pf.BDContract hK H VH1 VH2 S2) (Hinv : Mat ℂ (K * N) (K * N))
    (hH : matMul Hinv H = eye) (iPu : ℝ) (hP : 0 < iPu) (p : Fin (K * N) → ℝ) (hp : ∀ j, 0 ≤ p j)
    (hp1 : ∃ j, 0 < p j) (W : Mat ℂ (K * N) (K * N))
    (h1 : matMul (matMul (blockDiagonalize hK iPu H VH1 VH2 S2 p).1 W) (blockDiagonalize hK iPu H VH1 VH2 S2 p).1
      = (blockDiagonalize hK iPu H VH1 VH2 S2 p).1)
    (h3 : cT (matMul W (blockDiagonalize hK iPu H VH1 VH2 S2 p).1) = matMul W (blockDiagonalize hK iPu H VH1 VH2 S2 p).1) :
    matMul W (blockDiagonalize hK iPu H VH1 VH2 S2 p).1 = diagM (fun j => if p j = 0 then 0 else 1) := by
  -- `Ms_good = Ms_bad · diag(d)` with `d_j = √p_j · √iPu / max`, and `d_j = 0` iff `p_j = 0`
  have hmx := (Pf.maxLoop_blockNorms _ (Pf.globalWF_block_pos _ p hp hp1 (Pf.msBad_unit_cols c))).1
  refine (Pf.loaded_rx_mask c Hinv hH _ (Pf.normalizedWF_eq_diag iPu _ p) W h1 h3).trans
    (congrArg diagM (funext fun j => if_congr ?_ rfl rfl))
  rw [div_eq_zero_iff, or_iff_left hmx.ne', mul_eq_zero, or_iff_left (Real.sqrt_ne_zero'.mpr hP), Real.sqrt_eq_zero (hp j)]

/-- without water-filling every stream has power: `W · newH = 1` -/
theorem no_wf_rx_inverts (c : Pf.BDContract hK H VH1 VH2 S2) (Hinv : Mat ℂ (K * N) (K * N))
    (hH : matMul Hinv H = eye) (iPu : ℝ) (hP : 0 < iPu) (hN : 0 < N) (W : Mat ℂ (K * N) (K * N))
    (h1 : matMul (matMul (blockDiagonalizeNoWF hK iPu H VH1 VH2 S2).1 W) (blockDiagonalizeNoWF hK iPu H VH1 VH2 S2).1
      = (blockDiagonalizeNoWF hK iPu H VH1 VH2 S2).1)
    (h3 : cT (matMul W (blockDiagonalizeNoWF hK iPu H VH1 VH2 S2).1) = matMul W (blockDiagonalizeNoWF hK iPu H VH1 VH2 S2).1) :
    matMul W (blockDiagonalizeNoWF hK iPu H VH1 VH2 S2).1 = eye := by
  -- `Ms_good = Ms_bad · diag(d)` with `d_j = √iPu / ‖block of j‖_F ≠ 0`
  refine (Pf.loaded_rx_mask c Hinv hH _ (Pf.noWF_eq_diag iPu _) W h1 h3).trans (funext fun i => funext fun j => ?_)
  have hf := (Pf.frobNorm_pos_iff _).mpr (Pf.msBad_block_pos c hN (userOf i))
  rw [diagM, if_neg (div_ne_zero (Real.sqrt_ne_zero'.mpr hP) hf.ne')]
  rfl

/-- the left inverse `G` of `H · Ms_bad` that the proofs of the two theorems above use is not an
    extra assumption: a channel of full rank gives an effective channel of full rank -/
theorem effective_channel_full_rank (c : Pf.BDContract hK H VH1 VH2 S2) (Hinv : Mat ℂ (K * N) (K * N))
    (hH : matMul Hinv H = eye) :
    ∃ G : Mat ℂ (K * N) (K * N), matMul G (matMul H (msBad (calcBD hK H VH1 VH2 S2))) = eye :=
  Pf.effective_left_inverse H Hinv _ hH (Pf.calcBD_orthonormal c) (Pf.calcBD_null c)

/-- scale covariance: a common gain / path loss `c ≠ 0` on the whole channel (`H ↦ c·H`).
    The SVD factors `V_H` of `H` satisfy the kernel contract for `c·H` as well (whatever the
    singular values `S2'` reported for the scaled channel), and with them — and the same
    water-filling powers `p` — both methods return exactly the same precoder, while the
    effective channel is `c` times the old one.  So every clause proved above (nulling,
    power, receive filter) is independent of the channel's overall scale; an absolute
    threshold anywhere in the rank / null-space computation would break this. -/
theorem scale_covariance (S2' : Fin K → Fin N → ℝ) (c : ℂ) (hc : c ≠ 0) (iPu : ℝ) (p : Fin (K * N) → ℝ) :
    (Pf.BDContract hK (scaleMat c H) VH1 VH2 S2' ↔ Pf.BDContract hK H VH1 VH2 S2) ∧
    (blockDiagonalizeNoWF hK iPu (scaleMat c H) VH1 VH2 S2').2 = (blockDiagonalizeNoWF hK iPu H VH1 VH2 S2).2 ∧
    (blockDiagonalizeNoWF hK iPu (scaleMat c H) VH1 VH2 S2').1 = scaleMat c (blockDiagonalizeNoWF hK iPu H VH1 VH2 S2).1 ∧
    (blockDiagonalize hK iPu (scaleMat c H) VH1 VH2 S2' p).2 = (blockDiagonalize hK iPu H VH1 VH2 S2 p).2 ∧
    (blockDiagonalize hK iPu (scaleMat c H) VH1 VH2 S2' p).1 = scaleMat c (blockDiagonalize hK iPu H VH1 VH2 S2 p).1 := by
  -- a gain moves out of every product with the channel, and `c·A = 0` iff `A = 0`
  have hnull : ∀ (k : Fin K) (V : Mat ℂ (K * N) N),
      matMul (tildeChannel (scaleMat c H) k) V = (fun _ _ => 0) ↔ matMul (tildeChannel H k) V = fun _ _ => 0 :=
    fun k V => by rw [Pf.tildeChannel_scale, Pf.scaleMat_matMul, Pf.scaleMat_eq_zero_iff c hc]
  -- `(calcBD … k).V0` and `Ms_bad` are read off `VH1`, `VH2` alone: the same matrices for both channels and both `S2`
  refine ⟨⟨fun h => ⟨h.unitary1, h.unitary2, fun k => (hnull k _).mp (h.null k)⟩,
    fun h => ⟨h.unitary1, h.unitary2, fun k => (hnull k _).mpr (h.null k)⟩⟩, ?_⟩
  simp only [blockDiagonalize, blockDiagonalizeNoWF, newH, Pf.msBad_scale hK H VH1 VH2 S2 S2' c, Pf.scaleMat_matMul,
    and_self]

/-- non-vacuity: the kernel contract and the full-rank hypothesis are satisfied by a
    concrete complex 2-user channel (`H = [[3, 4i], [4i, 3]]`, its exact SVD factors),
    together with a water-filling result that switches one stream off -/
example : ∃ (H : Mat ℂ (2 * 1) (2 * 1)) (VH1 : Fin 2 → Mat ℂ (2 * 1) (2 * 1)) (VH2 : Fin 2 → Mat ℂ 1 1)
    (S2 : Fin 2 → Fin 1 → ℝ) (p : Fin (2 * 1) → ℝ),
    Pf.BDContract (by norm_num) H VH1 VH2 S2 ∧ (∃ Hinv, matMul Hinv H = eye) ∧
      (∀ j, 0 ≤ p j) ∧ (∃ j, 0 < p j) ∧ ∃ j, p j = 0 :=
  ⟨Pf.Ex.H, Pf.Ex.VH1, Pf.Ex.VH2, Pf.Ex.S2, fun j => if j.val = 0 then 2 else 0, Pf.Ex.contract, Pf.Ex.fullRank,
    fun j => by show (0 : ℝ) ≤ if j.val = 0 then 2 else 0; split <;> norm_num,
    ⟨⟨0, by norm_num⟩, by norm_num⟩, ⟨⟨1, by norm_num⟩, by norm_num⟩⟩

end plain

section whitening
variable {K N : Nat} (hK : 0 < K) (H : Mat ℂ (K * N) (K * N)) (Ww Wi : Fin K → Mat ℂ N N)
  (VH1 : Fin K → Mat ℂ (K * N) (K * N)) (VH2 : Fin K → Mat ℂ N N) (S2 : Fin K → Fin N → ℝ)

/-- clause `whitened_still_null` of the plan (DESIGN.md §5, C09): the precoders computed on the whitened channel keep the
    inter-user interference null on the ACTUAL channel -/
theorem whitening_nulls (c : Pf.BDContract hK (whiteningChannel Ww H) VH1 VH2 S2)
    (hW : ∀ k, matMul (Ww k) (Wi k) = eye) (iPu : ℝ) (W : Mat ℂ (K * N) (K * N)) (j k : Fin K) (hjk : j ≠ k) :
    matMul (rowBlock H j) (whiteningBD hK iPu H Ww VH1 VH2 S2 W k).Ms = fun _ _ => 0 :=
  Pf.rowBlock_colBlock_of_blockDiagonal H _ (Pf.whitening_blockDiagonal c hW iPu) j k hjk

/-- every user gets exactly its power -/
theorem whitening_power_exact (c : Pf.BDContract hK (whiteningChannel Ww H) VH1 VH2 S2) (iPu : ℝ) (hP : 0 ≤ iPu)
    (hN : 0 < N) (W : Mat ℂ (K * N) (K * N)) (k : Fin K) :
    frobSq (whiteningBD hK iPu H Ww VH1 VH2 S2 W k).Ms = iPu :=
  no_wf_power_exact hK _ VH1 VH2 S2 c iPu hP hN k

/-- the receive filter of user `k` (pseudo-inverse of the whitened effective channel
    times the whitening filter) inverts `H_k · Ms_k` -/
theorem whitening_rx_inverts (c : Pf.BDContract hK (whiteningChannel Ww H) VH1 VH2 S2)
    (hW : ∀ k, matMul (Ww k) (Wi k) = eye) (iPu : ℝ) (W : Mat ℂ (K * N) (K * N))
    (hpinv : matMul W (blockDiagonalizeNoWF hK iPu (whiteningChannel Ww H) VH1 VH2 S2).1 = eye) (k : Fin K) :
    matMul (whiteningBD hK iPu H Ww VH1 VH2 S2 W k).W
      (matMul (rowBlock H k) (whiteningBD hK iPu H Ww VH1 VH2 S2 W k).Ms) = eye :=
  Pf.whiteningRx_inverts (whiteningFilters Ww) H _ W hpinv
    (Pf.whitening_blockDiagonal c hW iPu) k

/-- reported stream count = width of the precoder = height of the filter = `N` -/
theorem whitening_stream_counts (iPu : ℝ) (W : Mat ℂ (K * N) (K * N)) (k : Fin K) :
    (whiteningBD hK iPu H Ww VH1 VH2 S2 W k).ns = (whiteningBD hK iPu H Ww VH1 VH2 S2 W k).cols ∧
      (whiteningBD hK iPu H Ww VH1 VH2 S2 W k).ns = N := ⟨rfl, rfl⟩

end whitening

section enhanced
variable {K N : Nat} (hK : 0 < K) (H : Mat ℂ (K * N) (K * N))
  (VH1 : Fin K → Mat ℂ (K * N) (K * N)) (VH2 : Fin K → Mat ℂ N N) (S2 : Fin K → Fin N → ℝ)

/-- metric `None`: interference null, exact power, `W_k = pinv(newH_kk)` inverts
    `H_k · Ms_k`, all `N` streams reported -/
theorem enhanced_none (c : Pf.BDContract hK H VH1 VH2 S2) (iPu : ℝ) (hP : 0 ≤ iPu) (hN : 0 < N) (k : Fin K)
    (Wp : Mat ℂ N N) (hpinv : matMul Wp (diagBlock (blockDiagonalizeNoWF hK iPu H VH1 VH2 S2).1 k) = eye) :
    (∀ j, j ≠ k → matMul (rowBlock H j) (enhancedNone hK iPu H VH1 VH2 S2 Wp k).Ms = fun _ _ => 0) ∧
    frobSq (enhancedNone hK iPu H VH1 VH2 S2 Wp k).Ms = iPu ∧
    matMul (enhancedNone hK iPu H VH1 VH2 S2 Wp k).W
      (matMul (rowBlock H k) (enhancedNone hK iPu H VH1 VH2 S2 Wp k).Ms) = eye ∧
    (enhancedNone hK iPu H VH1 VH2 S2 Wp k).ns = (enhancedNone hK iPu H VH1 VH2 S2 Wp k).cols :=
  ⟨fun j hjk => Pf.rowBlock_colBlock_of_blockDiagonal H _
      (Pf.loaded_blockDiagonal c _ (Pf.noWF_eq_diag iPu _)) j k hjk,
   no_wf_power_exact hK H VH1 VH2 S2 c iPu hP hN k, hpinv, rfl⟩

variable {T n r : Nat}

/-- stream reduction keeps the inter-user interference null — for ANY reduction matrix
    (naive, fixed, metric driven), any `inv` / `pinv` results -/
theorem enhanced_reduced_nulls (iPu : ℝ) (Hk Hj : Mat ℂ N T) (Msk : Mat ℂ T N) (Pk : Mat ℂ N n) (G : Mat ℂ n n)
    (Wp : Mat ℂ n N) (hnull : matMul Hj Msk = fun _ _ => 0) :
    matMul Hj (enhancedReduced iPu Hk Msk n Pk G Wp).Ms = fun _ _ => 0 := by
  rw [Pf.enhancedReduced_Ms, Pf.reduce_MsPk_factor]
  exact Pf.null_mul _ _ _ hnull

/-- `enhanced_power_exact`: after the stream reduction the user transmits exactly `iPu` -/
theorem enhanced_power_exact (iPu : ℝ) (hP : 0 < iPu) (Hk : Mat ℂ N T) (Msk : Mat ℂ T N) (Pk : Mat ℂ N n)
    (G : Mat ℂ n n) (Wp : Mat ℂ n N) (hn : 0 < n) (hM : matMul (cT Msk) Msk = eye) (hPk : matMul (cT Pk) Pk = eye) :
    frobSq (enhancedReduced iPu Hk Msk n Pk G Wp).Ms = iPu :=
  Pf.reduce_power iPu hP.le Hk Msk Pk G (Pf.frobSq_pos_of_orthonormal _ (Pf.orthonormal_mul Msk Pk hM hPk) hn)

/-- the reduction matrices the code uses have orthonormal columns: `np.eye(N)[:, :n]`
    and the `n` least right singular vectors of `Re_k` (`V_H` unitary) -/
theorem reduction_matrices_orthonormal (VHre : Mat ℂ N N) (hU : matMul VHre (cT VHre) = eye) (hn : n ≤ N) :
    matMul (cT (eyeCols : Mat ℂ N n)) eyeCols = eye ∧
      matMul (cT (reductionMatrix VHre n hn)) (reductionMatrix VHre n hn) = eye :=
  ⟨Pf.eyeCols_orthonormal hn, Pf.leastCols_orthonormal VHre hn hU⟩

/-- the receive filter `pinv(P̄ · Heq_red) · P̄` inverts the reduced effective channel
    `H_k · MsPk` -/
theorem enhanced_rx_inverts (iPu : ℝ) (Hk : Mat ℂ N T) (Msk : Mat ℂ T N) (Pk : Mat ℂ N n) (G : Mat ℂ n n)
    (Wp : Mat ℂ n N) (hpinv : matMul Wp (reduce iPu Hk Msk Pk G).pinvArg = eye) :
    matMul (enhancedReduced iPu Hk Msk n Pk G Wp).W (matMul Hk (enhancedReduced iPu Hk Msk n Pk G Wp).Ms) = eye := by
  -- `H_k · MsPk` is `Heq_red`, and `pinvArg = P̄ · Heq_red`
  exact (congrArg (matMul _) (Pf.reduce_heqRed iPu Hk Msk Pk G).symm).trans ((matMul_assoc Wp _ _).trans hpinv)

/-- "enough streams are sacrificed" — `Re_k P = σ² P` — says exactly that the reduction
    matrix is orthogonal to the external interference -/
theorem noise_eigenspace_iff (pe nv : ℝ) (hpe : pe ≠ 0) (E : Mat ℂ N r) (P : Mat ℂ N n) :
    matMul (covExtInt pe nv E) P = (fun i j => Cx.ofReal nv * P i j) ↔ matMul (cT E) P = fun _ _ => 0 := by
  rw [Pf.covExtInt_matMul_eq_iff, or_iff_right hpe]

/-- the noise-eigenspace contract from what `np.linalg.svd` promises for
    `Re_k = pe·E Eᴴ + σ²·1` (`pe ≥ 0`, `σ² > 0`): if `Re_k = U·diag(S)·V_H` with `U`, `V_H` unitary
    and the `n` smallest singular values equal the noise variance (which is the case when
    `n ≤ N − rank E`: theorem `least_singular_vectors_in_noise_space` below), then the matrix of the
    `n` least right singular vectors returned by `_calc_stream_reduction_matrix` satisfies
    `Re_k P = σ² P` -/
theorem reduction_in_noise_eigenspace (pe nv : ℝ) (hpe : 0 ≤ pe) (hnv : 0 < nv) (E : Mat ℂ N r)
    (U VHre : Mat ℂ N N) (S : Fin N → ℝ) (hn : n ≤ N)
    (hsvd : covExtInt pe nv E = matMul (matMul U (diagM (fun i => Cx.ofReal (S i)))) VHre)
    (hU : matMul (cT U) U = eye) (hV : matMul VHre (cT VHre) = eye)
    (hS : ∀ j : Fin n, S (revIdx hn j) = nv) :
    matMul (covExtInt pe nv E) (reductionMatrix VHre n hn) =
      fun i j => Cx.ofReal nv * reductionMatrix VHre n hn i j := by
  -- `Re_k` is positive semidefinite, so its right singular vectors are eigenvectors for their singular values
  funext i j
  have h := (Pf.isSVD_toM_iff.mpr ⟨hsvd, hU, hV⟩).mul_right_vector
    (Pf.posSemidef_add_smul_one (Pf.posSemidef_extInt pe hpe _) hnv.le) (hnv.le.trans_eq (hS j).symm) i
  rw [← Pf.toM_covExtInt, Matrix.mul_apply, hS j, mul_comm] at h
  rw [matMul_apply]
  exact h

/-- non-vacuity of "enough streams are sacrificed": with `N = 2` antennas and a rank-one
    interference `E = (2i, 0)ᵀ`, the reduction matrix `P = (0, 1)ᵀ` lies in the noise
    eigenspace for every interference power and noise variance -/
example (pe nv : ℝ) (hpe : pe ≠ 0) :
    matMul (covExtInt pe nv Pf.Ex.E) Pf.Ex.P = fun i j => Cx.ofReal nv * Pf.Ex.P i j :=
  (noise_eigenspace_iff pe nv hpe _ _).mpr Pf.Ex.P_orthogonal_to_E

/-- `ext_int_removed`: when the reduction matrix lies in the noise eigenspace of
    `Re_k = pe·E Eᴴ + σ²·1`, the receive filter annihilates the interference channel and
    the covariance at its output is the noise alone: `W Re_k Wᴴ = σ² W Wᴴ` -/
theorem ext_int_removed (iPu pe nv : ℝ) (hpe : pe ≠ 0) (E : Mat ℂ N r) (Hk : Mat ℂ N T) (Msk : Mat ℂ T N)
    (Pk : Mat ℂ N n) (G : Mat ℂ n n) (Wp : Mat ℂ n N)
    (hP : matMul (covExtInt pe nv E) Pk = fun i j => Cx.ofReal nv * Pk i j) :
    matMul (enhancedReduced iPu Hk Msk n Pk G Wp).W E = (fun _ _ => 0) ∧
    matMul (enhancedReduced iPu Hk Msk n Pk G Wp).W
        (matMul (covExtInt pe nv E) (cT (enhancedReduced iPu Hk Msk n Pk G Wp).W)) =
      fun i j => Cx.ofReal nv * matMul (enhancedReduced iPu Hk Msk n Pk G Wp).W
        (cT (enhancedReduced iPu Hk Msk n Pk G Wp).W) i j := by
  rw [Pf.enhancedReduced_W]
  exact ⟨Pf.filter_kills_ext E Pk _ ((noise_eigenspace_iff pe nv hpe E Pk).mp hP),
    Pf.filter_cov_noise_only nv _ Pk _ hP⟩

/-- clause `stream_counts_match` of the plan (DESIGN.md §5, C09), naive / fixed: reported count = precoder width = filter height -/
theorem stream_counts_match_fixed (iPu : ℝ) (Hk : Mat ℂ N T) (Msk : Mat ℂ T N) (Pk : Mat ℂ N n) (G : Mat ℂ n n)
    (Wp : Mat ℂ n N) :
    (enhancedReduced iPu Hk Msk n Pk G Wp).ns = (enhancedReduced iPu Hk Msk n Pk G Wp).cols ∧
      (enhancedReduced iPu Hk Msk n Pk G Wp).ns = n := ⟨rfl, rfl⟩

/-- metric-driven search (capacity, effective throughput, any metric function): the
    method returns — without error — exactly the stream-reduction result of the FIRST
    index with maximal metric value; the reported stream count is its precoder width
    and lies in `1 … N`.  Hence `enhanced_reduced_nulls`, `enhanced_power_exact`,
    `enhanced_rx_inverts`, `ext_int_removed` apply to what it returns. -/
theorem stream_counts_match_decide (hN : 0 < N) (iPu : ℝ) (Hk : Mat ℂ N T) (Msk : Mat ℂ T N) (VHre : Mat ℂ N N)
    (G : (i : Fin N) → Mat ℂ (i.val + 1) (i.val + 1)) (Wp : (i : Fin N) → Mat ℂ (i.val + 1) N) (vals : Fin N → ℝ) :
    ∃ (i : Fin N) (o : ExtOut ℂ T N),
      enhancedDecide iPu Hk Msk VHre G Wp vals = .ok o ∧
      (∀ j, vals j ≤ vals i) ∧ (∀ j : Fin N, j.val < i.val → vals j < vals i) ∧
      o.ns = o.cols ∧ 1 ≤ o.ns ∧ o.ns ≤ N ∧
      o.cols = (enhancedReduced iPu Hk Msk (i.val + 1) (decidePk VHre i) (G i) (Wp i)).cols ∧
      HEq o.Ms (enhancedReduced iPu Hk Msk (i.val + 1) (decidePk VHre i) (G i) (Wp i)).Ms ∧
      HEq o.W (enhancedReduced iPu Hk Msk (i.val + 1) (decidePk VHre i) (G i) (Wp i)).W := by
  -- `np.argmax` of the metric values: the index is valid, holds a maximum `v`, and is the first such
  obtain ⟨hlt, v, hv, hmax, hfirst⟩ := Pf.argmaxFirst_spec (List.ofFn vals) (by rwa [List.length_ofFn])
  have hb : argmaxFirst (List.ofFn vals) < N := by rwa [List.length_ofFn] at hlt
  have hvi : vals ⟨_, hb⟩ = v := by
    obtain ⟨_, e⟩ := List.getElem?_eq_some_iff.mp hv
    rwa [List.getElem_ofFn] at e
  refine ⟨⟨_, hb⟩, _, dif_pos hb, fun j => ?_, fun j hj => ?_, rfl, Nat.le_add_left 1 _, hb, rfl,
    HEq.rfl, HEq.rfl⟩
  · rw [hvi]
    exact hmax _ (by rw [List.mem_ofFn]; exact ⟨j, rfl⟩)
  · rw [hvi]
    exact hfirst j.val hj (vals j) (by rw [List.getElem?_ofFn, dif_pos j.isLt])

end enhanced

section rank
open Matrix
variable {N n r s T : Nat}

/-- `ext_noise_eigenspace`: for `Re = pe·E Eᴴ + σ²·1` (`N` antennas, `E` the `N × r` channel of
    the external interference)
    * every vector orthogonal to the interference (`Eᴴ v = 0`) is an eigenvector for `σ²` — for
      every `pe`, in particular for `pe ≥ 0`;
    * these vectors form a space of dimension exactly `N − rank E` (rank–nullity);
    * for `pe ≠ 0` (in particular `pe > 0`) there are no other eigenvectors for `σ²`
      (`vᴴ E Eᴴ v = ‖Eᴴ v‖² = 0`). -/
theorem ext_noise_eigenspace (pe nv : ℝ) (E : Mat ℂ N r) :
    (∀ v : Fin N → ℂ, (toM E)ᴴ *ᵥ v = 0 → toM (covExtInt pe nv E) *ᵥ v = (nv : ℂ) • v) ∧
    Module.finrank ℂ (LinearMap.ker (toM E)ᴴ.mulVecLin) + (toM E).rank = N ∧
    N - (toM E).rank ≤ Module.finrank ℂ (LinearMap.ker (toM E)ᴴ.mulVecLin) ∧
    (pe ≠ 0 → ∀ v : Fin N → ℂ, toM (covExtInt pe nv E) *ᵥ v = (nv : ℂ) • v → (toM E)ᴴ *ᵥ v = 0) := by
  have hfin := Pf.finrank_ker_conjTranspose (toM E)
  simp only [Pf.toM_covExtInt, Pf.extCov_mulVec_eq_smul_iff]
  exact ⟨fun v hv => Or.inr hv, hfin, Nat.sub_le_iff_le_add.mpr hfin.ge,
    fun hpe v hv => hv.resolve_left (Complex.ofReal_ne_zero.mpr hpe)⟩

/-- `enough_streams_sacrificed`: if `n ≤ N − rank E` there is an `N × n` matrix `P` with orthonormal
    columns inside the noise eigenspace (`Pᴴ P = 1`, `Eᴴ P = 0`, `Re P = σ² P`) — the choice "the `n`
    least right singular vectors of `Re`" CAN be made inside that space —, and for ANY `P` with
    `Re P = σ² P` and any `M` the filter `W = M Pᴴ` has only noise at its output,
    `W Re Wᴴ = σ² W Wᴴ`, and (for `pe ≠ 0`) annihilates the interference channel, `W E = 0`
    (the receive filter of `enhancedReduced` is of this form: `ext_int_removed`). -/
theorem enough_streams_sacrificed (pe nv : ℝ) (E : Mat ℂ N r) (hn : n ≤ N - (toM E).rank) :
    (∃ P : Mat ℂ N n, matMul (cT P) P = eye ∧ matMul (cT E) P = (fun _ _ => 0) ∧
      matMul (covExtInt pe nv E) P = fun i j => Cx.ofReal nv * P i j) ∧
    ∀ (P : Mat ℂ N n) (M : Mat ℂ s n), matMul (covExtInt pe nv E) P = (fun i j => Cx.ofReal nv * P i j) →
      (matMul (matMul M (cT P)) (matMul (covExtInt pe nv E) (cT (matMul M (cT P)))) =
        fun i j => Cx.ofReal nv * matMul (matMul M (cT P)) (cT (matMul M (cT P))) i j) ∧
      (pe ≠ 0 → matMul (matMul M (cT P)) E = fun _ _ => 0) := by
  obtain ⟨P, h1, h2⟩ := Pf.exists_orthonormal_ker E ((Pf.le_sub_rank_iff E).mp hn)
  exact ⟨⟨P, h1, h2, (Pf.covExtInt_matMul_eq_iff pe nv E P).mpr (Or.inr h2)⟩, fun P M hP =>
    ⟨Pf.filter_cov_noise_only nv _ P M hP, fun hpe =>
      Pf.filter_kills_ext E P M ((noise_eigenspace_iff pe nv hpe E P).mp hP)⟩⟩

/-- "enough" is exact: for `pe ≠ 0` a matrix with `n` orthonormal columns inside the noise eigenspace
    exists IF AND ONLY IF `n ≤ N − rank E` — keeping more streams than that necessarily leaves
    external interference at the filter output -/
theorem enough_streams_iff (pe nv : ℝ) (hpe : pe ≠ 0) (E : Mat ℂ N r) :
    (∃ P : Mat ℂ N n, matMul (cT P) P = eye ∧
      matMul (covExtInt pe nv E) P = fun i j => Cx.ofReal nv * P i j) ↔ n ≤ N - (toM E).rank :=
  ⟨fun ⟨P, h1, h2⟩ => (Pf.le_sub_rank_iff E).mpr
      (Pf.rank_room_of_orthonormal_ker E P h1 ((noise_eigenspace_iff pe nv hpe E P).mp h2)),
    fun h => let ⟨P, h1, _, h3⟩ := (enough_streams_sacrificed (s := 0) pe nv E h).1; ⟨P, h1, h3⟩⟩

/-- `least_singular_vectors_in_noise_space`: the contract hypothesis "the `n` smallest singular
    values of `Re_k` equal the noise variance" (`hS` of `reduction_in_noise_eigenspace`) and with it
    the noise-eigenspace contract `Re_k P = σ² P` of the matrix `P` computed by
    `_calc_stream_reduction_matrix` are CONSEQUENCES of `n ≤ N − rank E` and of what
    `np.linalg.svd` promises: `Re_k = U·diag(S)·V_H`, `U` and `V_H` unitary, the singular values
    non-negative and in decreasing order.  (For the positive semidefinite `Re_k` such a factorisation
    is an eigendecomposition, `Pf.IsSVD.mul_right_vector`, so `V_H (Re_k − σ²·1) V_Hᴴ = diag(S − σ²)`:
    no singular value is below `σ²`, and the number of `S i ≠ σ²` is `rank (pe·E Eᴴ) ≤ rank E`,
    `Pf.IsSVD.floor_spectrum`; sorted, the last `N − rank E` equal `σ²`.
    The argument is laid out at the head of `Proofs/C09Rank.lean`.) -/
theorem least_singular_vectors_in_noise_space (pe nv : ℝ) (hpe : 0 ≤ pe) (hnv : 0 < nv) (E : Mat ℂ N r)
    (U VHre : Mat ℂ N N) (S : Fin N → ℝ) (hn : n ≤ N)
    (hsvd : covExtInt pe nv E = matMul (matMul U (diagM (fun i => Cx.ofReal (S i)))) VHre)
    (hU : matMul (cT U) U = eye) (hV : matMul VHre (cT VHre) = eye)
    (hS0 : ∀ i, 0 ≤ S i) (hsort : ∀ i j : Fin N, i ≤ j → S j ≤ S i)
    (hrank : n ≤ N - (toM E).rank) :
    (∀ j : Fin n, S (revIdx hn j) = nv) ∧
    matMul (cT (reductionMatrix VHre n hn)) (reductionMatrix VHre n hn) = eye ∧
    matMul (covExtInt pe nv E) (reductionMatrix VHre n hn) =
      (fun i j => Cx.ofReal nv * reductionMatrix VHre n hn i j) ∧
    (pe ≠ 0 → matMul (cT E) (reductionMatrix VHre n hn) = fun _ _ => 0) := by
  have hS := (Pf.isSVD_toM_iff.mpr ⟨hsvd, hU, hV⟩).least_eq_floor (Pf.posSemidef_extInt pe hpe _) hnv.le hS0 hsort hn
    ((Nat.add_le_add_left (Pf.rank_extInt_le _ _) n).trans ((Pf.le_sub_rank_iff E).mp hrank))
  have hP := reduction_in_noise_eigenspace pe nv hpe hnv E U VHre S hn hsvd hU hV hS
  exact ⟨hS, Pf.leastCols_orthonormal VHre hn hV, hP, fun h0 => (noise_eigenspace_iff pe nv h0 E _).mp hP⟩

/-- end to end for the `fixed` metric of `EnhancedBD`: with `n ≤ N − rank E_k` kept streams and a
    correct SVD of `Re_k`, the receive filter computed from the `n` least right singular vectors
    annihilates the interference channel and leaves the noise alone — no per-case hypothesis on the
    singular values is left -/
theorem enough_streams_ext_int_removed (iPu pe nv : ℝ) (hpe : 0 < pe) (hnv : 0 < nv) (E : Mat ℂ N r)
    (U VHre : Mat ℂ N N) (S : Fin N → ℝ) (hn : n ≤ N)
    (hsvd : covExtInt pe nv E = matMul (matMul U (diagM (fun i => Cx.ofReal (S i)))) VHre)
    (hU : matMul (cT U) U = eye) (hV : matMul VHre (cT VHre) = eye)
    (hS0 : ∀ i, 0 ≤ S i) (hsort : ∀ i j : Fin N, i ≤ j → S j ≤ S i)
    (hrank : n ≤ N - (toM E).rank)
    (Hk : Mat ℂ N T) (Msk : Mat ℂ T N) (G : Mat ℂ n n) (Wp : Mat ℂ n N) :
    matMul (enhancedReduced iPu Hk Msk n (reductionMatrix VHre n hn) G Wp).W E = (fun _ _ => 0) ∧
    matMul (enhancedReduced iPu Hk Msk n (reductionMatrix VHre n hn) G Wp).W
        (matMul (covExtInt pe nv E) (cT (enhancedReduced iPu Hk Msk n (reductionMatrix VHre n hn) G Wp).W)) =
      fun i j => Cx.ofReal nv * matMul (enhancedReduced iPu Hk Msk n (reductionMatrix VHre n hn) G Wp).W
        (cT (enhancedReduced iPu Hk Msk n (reductionMatrix VHre n hn) G Wp).W) i j :=
  ext_int_removed iPu pe nv hpe.ne' E Hk Msk _ G Wp
    (least_singular_vectors_in_noise_space pe nv hpe.le hnv E U VHre S hn hsvd hU hV hS0 hsort hrank).2.2.1

/-- the SVD contract of `least_singular_vectors_in_noise_space` is satisfiable for EVERY interference
    channel, interference power `pe ≥ 0` and noise variance `σ² ≥ 0` (spectral decomposition of the
    positive semidefinite `Re_k`, eigenvalues sorted): the theorem is nowhere vacuous, and a correct
    `np.linalg.svd` can always deliver what the contract asks -/
theorem svd_contract_satisfiable (pe nv : ℝ) (hpe : 0 ≤ pe) (hnv : 0 ≤ nv) (E : Mat ℂ N r) :
    ∃ (U VHre : Mat ℂ N N) (S : Fin N → ℝ),
      covExtInt pe nv E = matMul (matMul U (diagM (fun i => Cx.ofReal (S i)))) VHre ∧
      matMul (cT U) U = eye ∧ matMul VHre (cT VHre) = eye ∧ (∀ i, 0 ≤ S i) ∧
      ∀ i j : Fin N, i ≤ j → S j ≤ S i := by
  obtain ⟨U, S, h, h4, h5⟩ :=
    Pf.exists_sorted_svd (Pf.posSemidef_add_smul_one (Pf.posSemidef_extInt pe hpe (toM E)) hnv)
  obtain ⟨h1, h2, h3⟩ := (Pf.isSVD_toM_iff (U := U) (VH := cT U)).mp h
  exact ⟨U, cT U, S, h1, h2, h3, h4, h5⟩

/-- the ordering clause of the SVD contract is NEEDED (the code takes the LAST `n` rows of `V_H`
    "since the SVD gives the values in descending order"): with the interferer on the last antenna,
    `Re = 1·diag(σ², σ², 4pe + σ²)·1` is a factorisation with unitary factors and non-negative
    values, `n = 2 ≤ 3 − rank E`, and yet the last singular value is not the noise variance -/
theorem sorted_order_needed (pe nv : ℝ) (hpe : 0 < pe) (hnv : 0 < nv) :
    ∃ (E : Mat ℂ 3 1) (U VHre : Mat ℂ 3 3) (S : Fin 3 → ℝ),
      covExtInt pe nv E = matMul (matMul U (diagM (fun i => Cx.ofReal (S i)))) VHre ∧
      matMul (cT U) U = eye ∧ matMul VHre (cT VHre) = eye ∧ (∀ i, 0 ≤ S i) ∧ 2 ≤ 3 - (toM E).rank ∧
      ¬ ∀ j : Fin 2, S (revIdx (by norm_num : 2 ≤ 3) j) = nv :=
  ⟨Pf.Ex3.E', eye, eye, Pf.Ex3.S' pe nv, Pf.Ex3.svd_single pe nv 2, Pf.Ex3.unitary.1, Pf.Ex3.unitary.2,
    fun _ => Pf.Ex3.ite_floor_nonneg _ hpe.le hnv.le, Pf.Ex3.two_le_three_sub_rank_col _,
    fun h => Pf.Ex3.S'_last pe nv hpe (h 0)⟩

/-- non-vacuity (`N = 3` antennas, one interferer `E = (2i, 0, 0)ᵀ`, `n = 2` streams kept): every
    hypothesis of `least_singular_vectors_in_noise_space` / `enough_streams_ext_int_removed` is
    satisfied, for every `pe ≥ 0` and `σ² > 0`, by `Re = 1·diag(4pe + σ², σ², σ²)·1` -/
example (pe nv : ℝ) (hpe : 0 ≤ pe) (hnv : 0 < nv) :
    ∃ (E : Mat ℂ 3 1) (U VHre : Mat ℂ 3 3) (S : Fin 3 → ℝ),
      covExtInt pe nv E = matMul (matMul U (diagM (fun i => Cx.ofReal (S i)))) VHre ∧
      matMul (cT U) U = eye ∧ matMul VHre (cT VHre) = eye ∧ (∀ i, 0 ≤ S i) ∧
      (∀ i j : Fin 3, i ≤ j → S j ≤ S i) ∧ 2 ≤ 3 - (toM E).rank :=
  ⟨Pf.Ex3.E, eye, eye, Pf.Ex3.S pe nv, Pf.Ex3.svd pe nv, Pf.Ex3.unitary.1, Pf.Ex3.unitary.2,
    Pf.Ex3.S_nonneg pe nv hpe hnv.le, Pf.Ex3.S_sorted pe nv hpe, Pf.Ex3.two_streams⟩

/-- … and of `enough_streams_sacrificed`: one interferer on three antennas leaves room for `n ≤ 2` streams -/
example : (1 ≤ 3 - (toM Pf.Ex3.E).rank) ∧ (2 ≤ 3 - (toM Pf.Ex3.E).rank) :=
  ⟨le_trans (by norm_num) Pf.Ex3.two_streams, Pf.Ex3.two_streams⟩

end rank

section robustness

/-- R1 / R2 / R3 (model side): the methods are functions of the logical VALUES of their
    arguments only — two channels / kernel results with the same entries give the same precoder
    and effective channel (no dependence on element type, memory layout or object identity), and
    the result is a fresh value that shares nothing with the arguments -/
theorem value_semantics {K N : Nat} (hK : 0 < K) (iPu iPu' : ℝ) (H H' : Mat ℂ (K * N) (K * N))
    (VH1 VH1' : Fin K → Mat ℂ (K * N) (K * N)) (VH2 VH2' : Fin K → Mat ℂ N N) (S2 S2' : Fin K → Fin N → ℝ)
    (p p' : Fin (K * N) → ℝ)
    (hH : ∀ i j, H i j = H' i j) (h1 : ∀ k i j, VH1 k i j = VH1' k i j) (h2 : ∀ k i j, VH2 k i j = VH2' k i j)
    (hS : ∀ k i, S2 k i = S2' k i) (hp : ∀ j, p j = p' j) (hP : iPu = iPu') :
    blockDiagonalize hK iPu H VH1 VH2 S2 p = blockDiagonalize hK iPu' H' VH1' VH2' S2' p' ∧
    blockDiagonalizeNoWF hK iPu H VH1 VH2 S2 = blockDiagonalizeNoWF hK iPu' H' VH1' VH2' S2' := by
  have e1 : H = H' := funext fun i => funext fun j => hH i j
  have e2 : VH1 = VH1' := funext fun k => funext fun i => funext fun j => h1 k i j
  have e3 : VH2 = VH2' := funext fun k => funext fun i => funext fun j => h2 k i j
  have e4 : S2 = S2' := funext fun k => funext fun i => hS k i
  have e5 : p = p' := funext hp
  subst e1 e2 e3 e4 e5 hP
  exact ⟨rfl, rfl⟩

/-- R4: a rejected `set_ext_int_handling_metric` call (missing `num_streams`, missing
    modulator / packet length, unknown metric name) leaves the object exactly as it was -/
theorem set_metric_rejected_unchanged (s : MetricState) (r : MetricReq) (a : ExtraArgs)
    (h : (setMetric s r a).2 ≠ none) : (setMetric s r a).1 = s :=
  Pf.setMetric_rejected s r a h

/-- R7: whether a request is accepted does not depend on the history of the object, and an
    accepted request determines the new configuration completely — the object then behaves like
    a freshly built one given the same request -/
theorem set_metric_like_fresh (s s' : MetricState) (r : MetricReq) (a : ExtraArgs) :
    (setMetric s r a).2 = (setMetric s' r a).2 ∧
      ((setMetric s r a).2 = none → (setMetric s r a).1 = (setMetric s' r a).1) :=
  ⟨Pf.setMetric_error_indep s s' r a, Pf.setMetric_accepted_indep s s' r a⟩

/-- R4 / R7: the rejected calls can be deleted from any history of setter calls, and the
    configuration after a history is the one a fresh object gets from the last accepted request -/
theorem metric_history (s : MetricState) (ops tail : List (MetricReq × ExtraArgs)) (r : MetricReq) (a : ExtraArgs)
    (hacc : Pf.accepted (r, a) = true) (htail : ∀ x ∈ tail, Pf.accepted x = false) :
    runMetricHistory s (ops ++ (r, a) :: tail) = runMetricHistory s ((ops ++ (r, a) :: tail).filter Pf.accepted) ∧
    runMetricHistory s (ops ++ (r, a) :: tail) = (setMetric default r a).1 :=
  ⟨Pf.runMetricHistory_filter s _, Pf.runMetricHistory_last s ops r a tail hacc htail⟩

/-- R3: only the keys the metric needs are copied out of the caller's dictionary -/
theorem set_metric_copies_needed_keys (s : MetricState) (a : ExtraArgs) (n : Nat) (ha : a.numStreams = some n) :
    (setMetric s .naive a).1.args = { numStreams := some n } ∧
      (setMetric s .fixed a).1.args = { numStreams := some n } := by
  simp only [setMetric, ha, and_self]

/-- R9 / R14: the row bookkeeping of `_get_sub_channel` / `_get_tilde_channel` for ANY number of
    users and antennas (in particular beyond 256 users): a row of the channel is selected iff its
    user is among the requested ones — users are identified by the VALUE of their index —, the
    tilde channel of user `k` consists of exactly the rows of the other users, `(K-1)·N` of them -/
theorem rows_selected_by_user_value {K N : Nat} (users : List (Fin K)) (k : Fin K) (x : Fin (K * N)) :
    (x ∈ subIdx users ↔ userOf x ∈ users) ∧ (x ∈ tildeIdx (N := N) k ↔ userOf x ≠ k) ∧
    tildeIdx (N := N) k = subIdx (otherUsers k) ∧ (subIdx (N := N) users).length = users.length * N ∧
    (tildeIdx (N := N) k).length = (K - 1) * N :=
  ⟨Pf.mem_subIdx users x, Pf.mem_tildeIdx k x, rfl, Pf.length_subIdx users, Pf.length_tildeIdx k⟩

end robustness

end PyPhysim.C09
