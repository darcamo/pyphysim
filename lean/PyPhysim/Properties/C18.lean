import Mathlib.Data.List.Perm.Basic
import PyPhysim.Proofs.C18Seq
import PyPhysim.Proofs.C18Users
import PyPhysim.Proofs.C18Cell
import PyPhysim.Proofs.C18Ls
import PyPhysim.Proofs.C18Prime
import PyPhysim.Proofs.C18Gen
import PyPhysim.Generated.PrimeTable
import PyPhysim.Generated.C18RootTables

/-!
# C18 — reference sequences are CAZAC; pilot-based channel estimation is exact

Models: `PyPhysim/Model/C18Buf.lean` (R16: one argument array refilled between calls), `Model/C18Py.lean`
(the Python list / slice operations of the regenerated formulas) and `PyPhysim/Model/C18.lean` (hand model of
`zadoffchu.py`, `root_sequence.py`, `srs.py`, `dmrs.py`,
`reference_signals/channel_estimation.py`, `channel_estimation/estimators.py`,
tied by the correspondence of `harness/props/c18.py`);
`PyPhysim.Generated.smallPrimeList`, `rootTable1/2` are **regenerated from the
current source** on every run.

Scalars: all numeric theorems are stated over `ℂ` with `cis q = exp(2πi·q)` and
complex conjugation (`PyPhysim.C18P.instCisOpsComplex`); the cores they rest on
(`Proofs/C18Est`, `C18Seq`, `C18Users`) are proved for every field satisfying
`CisLaws`.  `np.fft.fft/ifft` are their defining sums (`fftPad`, `ifftN`);
`np.linalg.norm` / `np.linalg.inv` enter as parameters (`nu`, `inv`) with the stated contract.
The statements write `starRingEnd ℂ` where the cores write `CisOps.conj`: at `ℂ` the two are the same by `rfl`.
-/
namespace PyPhysim.C18
open PyPhysim.Cazac PyPhysim.Proto PyPhysim.C18P
open PyPhysim.Generated (smallPrimeList rootTable1 rootTable2)

/-- The entries `≤ 1200` of the table in the *current source* are exactly the
    primes `≤ 1200`, in ascending order (whole-table kernel computation). -/
theorem prime_table_sieve :
    smallPrimeList.filter (fun p => decide (p ≤ 1200)) = primesUpTo 1200 := by
  decide +kernel

/-- Clause "its base length is the largest prime not exceeding the requested
    size": for **every** size `2 … 1200` (so 12, 24 and 25…1200) the lookup
    succeeds and returns a prime `p ≤ s` such that no prime lies in `(p, s]`. -/
theorem prime_lookup_correct (s : ℕ) (h2 : 2 ≤ s) (hs : s ≤ 1200) :
    ∃ p, primeLookup smallPrimeList s = .ok p ∧ Nat.Prime p ∧ p ≤ s ∧
      ∀ q, Nat.Prime q → q ≤ s → q ≤ p :=
  lookup_spec smallPrimeList 1200 (by decide) prime_table_sieve s h2 hs

/-- Sizes below 2 have no prime: the code raises `IndexError` (guard of the clause above). -/
theorem prime_lookup_rejects (s : ℕ) (hs : s < 2) :
    primeLookup smallPrimeList s = .error .IndexError := by
  -- no entry is `≤ s`: it would be one of the primes `≤ 1200`, and no prime is below 2
  rw [primeLookup, List.filter_eq_nil_iff.mpr fun x hx hxs => ?_]
  · rfl
  have hxs' : x ≤ s := of_decide_eq_true hxs
  have hmem : x ∈ primesUpTo 1200 := prime_table_sieve ▸
    List.mem_filter.mpr ⟨hx, decide_eq_true (Nat.le_trans hxs' (Nat.le_trans (Nat.le_of_lt hs) (by decide)))⟩
  exact absurd ((mem_primesUpTo 1200 x (by decide)).mp hmem).2.two_le (Nat.not_le.mpr (Nat.lt_of_le_of_lt hxs' hs))

/-- `RootSequence(u, size=s)` for every size `25 … 1200` and every root index:
    `Nzc` is the largest prime `p ≤ s`; for `u < p` the object has `Nzc = p`,
    `size = s` and its sequence is the Zadoff–Chu sequence of length `p`
    **repeated cyclically** (`seq[i] = zc[i mod p]`). -/
theorem root_sequence_zc (s u : ℕ) (h25 : 25 ≤ s) (hs : s ≤ 1200) :
    ∃ p, Nat.Prime p ∧ p ≤ s ∧ (∀ q, Nat.Prime q → q ≤ s → q ≤ p) ∧
      (u < p → ∃ r, rootSequence smallPrimeList rootTable1 rootTable2 u (some s) none = .ok r ∧
        r.nzc = p ∧ r.size = s ∧ (∀ i, i < s → r.seqArray[i]? = some (zcPhase p u (i % p))) ∧
        r.base = zcPhases p u) := by
  obtain ⟨p, hp, hprime, hps, hmax⟩ := prime_lookup_correct s (Nat.le_trans (by decide) h25) hs
  exact ⟨p, hprime, hps, hmax, fun hu =>
    rootSequence_zc smallPrimeList rootTable1 rootTable2 u s p h25 hp hps hu⟩

/-- …and a root index that is not below the base length is rejected
    (`assert u < Nzc` in `calcBaseZC`): the guard of the clause above. -/
theorem root_sequence_index_guard (s u : ℕ) (h25 : 25 ≤ s) (hs : s ≤ 1200) :
    ∃ p, primeLookup smallPrimeList s = .ok p ∧
      (¬ u < p → rootSequence smallPrimeList rootTable1 rootTable2 u (some s) none
        = .error .AssertionError) := by
  obtain ⟨p, hp, _, hps, _⟩ := prime_lookup_correct s (Nat.le_trans (by decide) h25) hs
  refine ⟨p, hp, fun hu => ?_⟩
  rw [rootSequence_size _ _ u hp, rootSequenceCore, if_neg (Nat.not_lt.mpr hps),
    if_pos (show s > 24 from h25), if_neg hu]

/-- Before the repair the table of the source stopped at 1009: on that
    truncated table the selection is wrong (1009 for size 1200, although 1193
    is prime) — why `prime_lookup_correct` is a theorem about the *current* table. -/
theorem truncated_table_wrong :
    primeLookup (smallPrimeList.filter (fun p => decide (p ≤ 1009))) 1200 = .ok 1009 ∧
      Nat.Prime 1193 ∧ 1009 < 1193 ∧ 1193 ≤ 1200 :=
  ⟨by decide +kernel, (isPrimeB_iff 1193 (by decide)).mp (by decide +kernel), by decide, by decide⟩

/-- Sizes 12 and 24 use the QPSK phase tables of the source (30 rows each);
    the object has exactly the requested size and no extension. -/
theorem root_sequence_tables (u : ℕ) (hu : u < 30) :
    (∃ row, rootTable1[u]? = some row ∧ row.length = 12 ∧
      rootSequence smallPrimeList rootTable1 rootTable2 u (some 12) none = .ok ⟨u, tablePhases row, none⟩) ∧
    (∃ row, rootTable2[u]? = some row ∧ row.length = 24 ∧
      rootSequence smallPrimeList rootTable1 rootTable2 u (some 24) none = .ok ⟨u, tablePhases row, none⟩) := by
  -- both tables have 30 rows
  have h1 : u < rootTable1.length := hu
  have h2 : u < rootTable2.length := hu
  have hl1 : ∀ row ∈ rootTable1, row.length = 12 := by decide +kernel
  have hl2 : ∀ row ∈ rootTable2, row.length = 24 := by decide +kernel
  -- whichever prime the table selects, it does not exceed the size: the table branches are reached
  obtain ⟨p1, hp1, _, hps1, _⟩ := prime_lookup_correct 12 (by decide) (by decide)
  obtain ⟨p2, hp2, _, hps2, _⟩ := prime_lookup_correct 24 (by decide) (by decide)
  refine ⟨⟨_, List.getElem?_eq_getElem h1, hl1 _ (List.getElem_mem h1), ?_⟩,
    ⟨_, List.getElem?_eq_getElem h2, hl2 _ (List.getElem_mem h2), ?_⟩⟩
  · rw [rootSequence_size _ _ u hp1, rootSequenceCore, if_neg (Nat.not_lt.mpr hps1), if_neg (by decide), if_pos rfl,
      List.getElem?_eq_getElem h1]
  · rw [rootSequence_size _ _ u hp2, rootSequenceCore, if_neg (Nat.not_lt.mpr hps2), if_neg (by decide),
      if_neg (by decide), if_pos rfl, List.getElem?_eq_getElem h2]

/-- Clause "extension repeats it cyclically": `get_extended_ZF(root, size)`
    (both branches of the code) has length `size` and element `i` is
    `root[i mod len]`, for every non-empty root and every `size ≥ len`. -/
theorem extension_cyclic {β : Type} (root : List β) (size : ℕ) (hn : 0 < root.length)
    (hs : root.length ≤ size) :
    ∃ l, extendedZF root size = .ok l ∧ l.length = size ∧
      ∀ i, i < size → l[i]? = root[i % root.length]? :=
  extendedZF_spec root size hn hs

/-- Clause "constant unit amplitude": every element of every sequence given by
    phases (Zadoff–Chu, its extension, the tables, any cyclic shift) has modulus 1. -/
theorem unit_amplitude (ph : List ℚ) : ∀ v ∈ (seqValues ph : List ℂ), ‖v‖ = 1 := fun v hv =>
  norm_one_of_mul_conj v (seqValues_unit cisLaws_complex ph v hv)

/-- The Zadoff–Chu sequence of odd length `N` is `N`-periodic in its index
    (what makes the cyclic lag well defined). -/
theorem zc_periodic (N u m : ℕ) (hodd : N % 2 = 1) :
    (CisOps.cis (zcPhase N u (m % N)) : ℂ) = CisOps.cis (zcPhase N u m) :=
  zc_mod cisLaws_complex N u hodd m

/-- Clause "zero cyclic autocorrelation at all non-zero lags": for odd `N`,
    `gcd(u, N) = 1` and every lag `τ` that is not a multiple of `N`,
    `Σ_n a[(n+τ) mod N]·conj(a[n]) = 0` for `a = calcBaseZC(N, u)`. -/
theorem zc_zero_autocorrelation (N u τ : ℕ) (hodd : N % 2 = 1) (hcop : Nat.Coprime u N)
    (hτ : ¬ N ∣ τ) :
    ∑ n ∈ Finset.range N, (seqValues (zcPhases N u) : List ℂ).getD ((n + τ) % N) 0
        * (starRingEnd ℂ) ((seqValues (zcPhases N u) : List ℂ).getD n 0) = 0 := by
  refine Eq.trans (Finset.sum_congr rfl fun n hn => ?_) (zc_autocorr cisLaws_complex N u τ hodd hcop hτ)
  have hn' := Finset.mem_range.mp hn
  rw [zcSeq_getD N u (Nat.mod_lt _ (Nat.zero_lt_of_lt hn')), zcSeq_getD N u hn']
  rfl

/-- …in particular for every odd prime length and every root index `0 < u < N`
    (the sequences `RootSequence` builds for sizes `25…1200`), at every lag `0 < τ < N`. -/
theorem zc_zero_autocorrelation_prime (N u τ : ℕ) (hp : Nat.Prime N) (h2 : N ≠ 2)
    (hu0 : 0 < u) (hu : u < N) (hτ0 : 0 < τ) (hτ : τ < N) :
    ∑ n ∈ Finset.range N, (seqValues (zcPhases N u) : List ℂ).getD ((n + τ) % N) 0
        * (starRingEnd ℂ) ((seqValues (zcPhases N u) : List ℂ).getD n 0) = 0 :=
  zc_zero_autocorrelation N u τ (Nat.odd_iff.mp (hp.odd_of_ne_two h2))
    (Nat.coprime_of_lt_prime (Nat.ne_of_gt hu0) hu hp).symm (Nat.not_dvd_of_pos_of_lt hτ0 hτ)

/-- The guard `gcd(u, N) = 1` is needed: root index 0 passes the code's
    `assert u < Nzc` but yields the all-ones sequence, whose autocorrelation is
    `N` at every lag (outside the property: LTE root indexes are `1 … N-1`). -/
theorem zc_root_zero_not_cazac (N τ : ℕ) (hN : 0 < N) :
    ∑ n ∈ Finset.range N, (seqValues (zcPhases N 0) : List ℂ).getD ((n + τ) % N) 0
        * (starRingEnd ℂ) ((seqValues (zcPhases N 0) : List ℂ).getD n 0) = (N : ℂ) := by
  -- root index 0 gives phase 0 at every index: each summand is `cis 0 · conj (cis 0)`
  have hz : ∀ k, zcPhase N 0 k = 0 := fun k => by
    rw [zcPhase, Nat.zero_mul, Nat.zero_mul, Nat.cast_zero, zero_div, neg_zero]
  refine Eq.trans (Finset.sum_congr rfl fun n hn => ?_)
    (by rw [Finset.sum_const, Finset.card_range, Nat.smul_one_eq_cast])
  rw [zcSeq_getD N 0 (Nat.mod_lt _ hN), zcSeq_getD N 0 (Finset.mem_range.mp hn), hz, hz]
  exact cisLaws_complex.cis_mul_conj 0

/-- Clause "flat spectrum": every DFT coefficient of the Zadoff–Chu sequence
    has squared modulus `N`. -/
theorem zc_flat_spectrum (N u : ℕ) (hodd : N % 2 = 1) (hcop : Nat.Coprime u N) :
    ∀ v ∈ fftPad (seqValues (zcPhases N u) : List ℂ) N, ‖v‖ ^ 2 = (N : ℝ) := fun v hv =>
  norm_sq_of_mul_conj v N
    ((zc_flat_list cisLaws_complex N u hodd hcop v hv).trans (Complex.ofReal_natCast N).symm)

/-- All CAZAC clauses for the objects the code builds: for every size `25…1200`
    and every root index `0 < u < Nzc`, `RootSequence(u, size)` succeeds, its base
    sequence is the Zadoff–Chu sequence of prime length `Nzc`, every element of
    the (extended) sequence has unit modulus, the base sequence has zero cyclic
    autocorrelation at every lag `0 < τ < Nzc` and a flat spectrum. -/
theorem root_sequence_cazac (s u : ℕ) (h25 : 25 ≤ s) (hs : s ≤ 1200) (hu0 : 0 < u) :
    ∃ p, Nat.Prime p ∧ (u < p →
      ∃ r, rootSequence smallPrimeList rootTable1 rootTable2 u (some s) none = .ok r ∧ r.nzc = p ∧
        (∀ v ∈ (seqValues r.seqArray : List ℂ), ‖v‖ = 1) ∧
        (∀ τ, 0 < τ → τ < p →
          ∑ n ∈ Finset.range p, (seqValues r.base : List ℂ).getD ((n + τ) % p) 0
            * (starRingEnd ℂ) ((seqValues r.base : List ℂ).getD n 0) = 0) ∧
        (∀ v ∈ fftPad (seqValues r.base : List ℂ) p, ‖v‖ ^ 2 = (p : ℝ))) := by
  obtain ⟨p, hprime, hps, hmax, hroot⟩ := root_sequence_zc s u h25 hs
  -- 3 is a prime below the size, so the selected prime is odd
  have h2 : p ≠ 2 := Nat.ne_of_gt (hmax 3 Nat.prime_three (Nat.le_trans (by decide) h25))
  refine ⟨p, hprime, fun hu => ?_⟩
  obtain ⟨r, hr, hnzc, _, _, hbase⟩ := hroot hu
  refine ⟨r, hr, hnzc, unit_amplitude _, fun τ hτ0 hτ => ?_, ?_⟩
  · rw [hbase]
    exact zc_zero_autocorrelation_prime p u τ hprime h2 hu0 hu hτ0 hτ
  · rw [hbase]
    exact zc_flat_spectrum p u (Nat.odd_iff.mp (hprime.odd_of_ne_two h2))
      (Nat.coprime_of_lt_prime (Nat.ne_of_gt hu0) hu hprime).symm

/-- Clause "user sequences with different cyclic shifts are orthogonal whenever
    the length is a multiple of the number of shifts": any root sequence given
    by phases, `D ∣ length`, shifts `c₁ ≠ c₂` accepted by the code (`< D`). -/
theorem shifts_orthogonal (ph p1 p2 : List ℚ) (c1 c2 D t : ℕ) (hD : 0 < D) (hN : ph.length = D * t)
    (h1 : shiftedPhases ph c1 D = .ok p1) (h2 : shiftedPhases ph c2 D = .ok p2) (hne : c1 ≠ c2) :
    ∑ n ∈ Finset.range ph.length,
      (seqValues p1 : List ℂ).getD n 0 * (starRingEnd ℂ) ((seqValues p2 : List ℂ).getD n 0) = 0 :=
  shifts_orthogonal_list cisLaws_complex ph p1 p2 c1 c2 D t hD hN h1 h2 hne

/-- The shift is rejected (`AssertionError`) exactly when it is not below the
    number of shifts — the guard of the clauses about shifts. -/
theorem shift_guard (ph : List ℚ) (c D : ℕ) :
    (c < D → ∃ p, shiftedPhases ph c D = .ok p ∧ p.length = ph.length) ∧
    (¬ c < D → shiftedPhases ph c D = .error .AssertionError) :=
  ⟨fun h => ⟨_, shiftedPhases_ok ph c D h, by rw [List.length_map, List.length_zipIdx]⟩, fun h => if_neg h⟩

/-- Clause "the CAZAC-based estimators return the channel frequency response
    exactly" — plain (`m = 1`) and comb (`m ≥ 2`) variants, normalised or not.
    `ph`: phases of the user's sequence; `nu`: value of `np.linalg.norm`
    (contract: real and `nu² = N`, used only when `normalize`); `h`: channel
    taps with `len h ≤ K+1` (fits the kept taps) and `≤ N`; the observation is
    the true response `fftPad h (m·N)` sampled on every `m`-th subcarrier times
    the sequence.  Result: exactly `fftPad h (m·N)`. -/
theorem cazac_estimate_exact (ph : List ℚ) (nrm : Bool) (nu : ℂ) (h : List ℂ) (m K : ℕ)
    (hm : 0 < m) (hN : 0 < ph.length)
    (hnu : nrm = true → (starRingEnd ℂ) nu = nu ∧ nu * nu = (ph.length : ℂ))
    (hfit : h.length ≤ K + 1) (hlen : h.length ≤ ph.length) :
    ∃ row, ueSequence (seqValues ph : List ℂ) none nrm nu = .ok ⟨nrm, [row], none⟩ ∧
      estimate1 row nrm m (observe (fftPad h (m * ph.length)) m row) K
        = .ok (fftPad h (m * ph.length)) :=
  ⟨_, ueSequence_plain _ nrm nu, ue_estimate_exact cisLaws_complex ph nrm nu h m K rfl hm hN hnu hfit hlen⟩

/-- Clause "unaffected by simultaneously transmitting users on other cyclic
    shifts whose responses fit their shift window" (one other user): root
    phases `ph` of length `N = D·t`, reference on shift `c0`, other user on
    shift `cu ≠ c0`, kept taps `K+1 ≤ t` and the other user's delay spread
    `≤ t`: its contribution to the estimate is identically zero. -/
theorem other_shift_rejected (ph p0 pu : List ℚ) (c0 cu D t : ℕ) (nrm : Bool) (nu : ℂ) (h : List ℂ)
    (m K : ℕ) (hm : 0 < m) (hD : 0 < D) (ht : 0 < t) (hN : ph.length = D * t)
    (h0 : shiftedPhases ph c0 D = .ok p0) (hu : shiftedPhases ph cu D = .ok pu) (hne : c0 ≠ cu)
    (hnu : nrm = true → (starRingEnd ℂ) nu = nu ∧ nu * nu = (ph.length : ℂ))
    (hK : K + 1 ≤ t) (hL : h.length ≤ t) :
    estimate1 (rowOf (seqValues p0 : List ℂ) nrm nu) nrm m
        (observe (fftPad h (m * ph.length)) m (rowOf (seqValues pu : List ℂ) nrm nu)) K
      = .ok (zerosL (m * ph.length)) := by
  obtain ⟨hc0, hp0, _⟩ := shiftedPhases_eq_ok h0
  obtain ⟨hcu, hpu, _⟩ := shiftedPhases_eq_ok hu
  -- the scalar and the linear phase by which the two rows differ are those of `row_prod` and `shift_phase`
  refine estimate_reject_core cisLaws_complex _ _ h _ nrm m K _
    ((rowOf_seq_length p0 nrm nu).trans hp0) ((rowOf_seq_length pu nrm nu).trans hpu) hm
    (hN ▸ Nat.mul_pos hD ht) ?_
    (fun n hn => (row_prod cisLaws_complex p0 pu nrm nu hp0 hpu hnu hn).trans
      (congrArg (_ * CisOps.cis ·) (shift_phase t hN h0 hu hn))) fun k l hk _ hl hd => ?_
  · rw [hN]
    exact Nat.le_trans hL (Nat.le_trans (Nat.le_mul_of_pos_left _ hD) (Nat.le_mul_of_pos_left _ hm))
  · rw [hN] at hd
    exact absurd hd (window_lte D t k l (Nat.lt_of_lt_of_le (Nat.lt_succ_of_le hk) hK)
      (Nat.lt_of_lt_of_le hl hL) hne hc0 hcu)

/-- General form of the rejection (no LTE numerology): a user whose sequence
    differs from the reference by a scalar and a linear phase of `d` bins
    contributes nothing provided none of its non-zero taps `l` satisfies
    `l ≡ k + d (mod N)` for a kept tap `k ≤ K`. -/
theorem other_user_rejected_window (r r' h : List ℂ) (c : ℂ) (nrm : Bool) (m K : ℕ) (d : ℤ)
    (hm : 0 < m) (hN : 0 < r.length) (hlen : r'.length = r.length) (hL : h.length ≤ m * r.length)
    (hprod : ∀ n, n < r.length → (starRingEnd ℂ) (r.getD n 0) * r'.getD n 0
        = c * CisOps.cis ((n : ℚ) * ((d : ℚ) / (r.length : ℚ))))
    (hwin : ∀ k l, k ≤ K → k < r.length → l < h.length →
      (r.length : ℤ) ∣ ((k : ℤ) + d - (l : ℤ)) → h.getD l 0 = 0) :
    estimate1 r nrm m (observe (fftPad h (m * r.length)) m r') K = .ok (zerosL (m * r.length)) :=
  estimate_reject_core cisLaws_complex r r' h c nrm m K d rfl hlen hm hN hL hprod hwin

/-- The estimator is additive in the observation (what lets exactness for one user and the
    rejection of the others combine in `cazac_estimate_exact_multiuser`). -/
theorem estimate_additive (r Y1 Y2 E1 E2 : List ℂ) (nrm : Bool) (m K : ℕ)
    (hm : 0 < m) (hN : 0 < r.length) (hY1 : Y1.length = r.length) (hY2 : Y2.length = r.length)
    (h1 : estimate1 r nrm m Y1 K = .ok E1) (h2 : estimate1 r nrm m Y2 K = .ok E2) :
    estimate1 r nrm m (addL Y1 Y2) K = .ok (addL E1 E2) :=
  estimate1_add r Y1 Y2 E1 E2 nrm m K rfl hm hN hY1 hY2 h1 h2

/-- **Multi-user exactness**: the user of interest on shift `c0` plus any
    number of users on other shifts `cu ≠ c0` (each with its own channel of
    delay spread `≤ t = N/D`), kept taps `len h0 ≤ K+1 ≤ t`: the estimate from
    the superposed observation is exactly the channel of the user of interest. -/
theorem cazac_estimate_exact_multiuser (ph p0 : List ℚ) (c0 D t : ℕ) (nrm : Bool) (nu : ℂ)
    (h0 : List ℂ) (m K : ℕ) (others : List (ℕ × List ℚ × List ℂ))
    (hm : 0 < m) (hD : 0 < D) (ht : 0 < t) (hN : ph.length = D * t)
    (hs0 : shiftedPhases ph c0 D = .ok p0)
    (hnu : nrm = true → (starRingEnd ℂ) nu = nu ∧ nu * nu = (ph.length : ℂ))
    (hfit : h0.length ≤ K + 1) (hK : K + 1 ≤ t)
    (hothers : ∀ o ∈ others, o.1 ≠ c0 ∧ shiftedPhases ph o.1 D = .ok o.2.1 ∧ o.2.2.length ≤ t) :
    estimate1 (rowOf (seqValues p0 : List ℂ) nrm nu) nrm m
        ((others.map (fun o => observe (fftPad o.2.2 (m * ph.length)) m
            (rowOf (seqValues o.2.1 : List ℂ) nrm nu))).foldl addL
          (observe (fftPad h0 (m * ph.length)) m (rowOf (seqValues p0 : List ℂ) nrm nu))) K
      = .ok (fftPad h0 (m * ph.length)) := by
  have hNpos : 0 < ph.length := hN ▸ Nat.mul_pos hD ht
  have hp0 : p0.length = ph.length := (shiftedPhases_eq_ok hs0).2.1
  have hr : (rowOf (seqValues p0 : List ℂ) nrm nu).length = ph.length := (rowOf_seq_length p0 nrm nu).trans hp0
  have hown := ue_estimate_exact cisLaws_complex p0 nrm nu h0 m K hp0 hm hNpos hnu hfit
    (by rw [hN]; exact Nat.le_trans (Nat.le_trans hfit hK) (Nat.le_mul_of_pos_left _ hD))
  refine estimate_superposition (estimate1 (rowOf (seqValues p0) nrm nu) nrm m · K) (fun Y => Y.length = ph.length) addL _
    (fun Y0 Y1 E0 E1 hY0 hY1 h0 h1 => ⟨by rw [addL_length, hY0, hY1, Nat.min_self],
      estimate1_add _ Y0 Y1 E0 E1 nrm m K hr hm hNpos hY0 hY1 h0 h1⟩)
    _ (fftPad_length _ _) _ _ ((observe_length _ _ _).trans hr) hown fun Y hY => ?_
  obtain ⟨o, ho, rfl⟩ := List.mem_map.mp hY
  obtain ⟨hne, hso, hlo⟩ := hothers o ho
  exact ⟨by rw [observe_length, rowOf_seq_length, (shiftedPhases_eq_ok hso).2.1],
    other_shift_rejected ph p0 o.2.1 c0 o.1 D t nrm nu o.2.2 m K hm hD ht hN hs0 hso (fun h => hne h.symm) hnu hK hlo⟩

/-- Clause "one or several antennas": with a 2-D observation (one row per
    receive antenna, each antenna its own channel `h_a` that fits the kept
    taps) every row of the result is that antenna's exact response. -/
theorem cazac_estimate_exact_antennas (ph : List ℚ) (nrm : Bool) (nu : ℂ) (hs : List (List ℂ)) (m K : ℕ)
    (hm : 0 < m) (hN : 0 < ph.length)
    (hnu : nrm = true → (starRingEnd ℂ) nu = nu ∧ nu * nu = (ph.length : ℂ))
    (hfit : ∀ h ∈ hs, h.length ≤ K + 1 ∧ h.length ≤ ph.length) :
    estimateRows (rowOf (seqValues ph : List ℂ) nrm nu) nrm m
        (hs.map (fun h => observe (fftPad h (m * ph.length)) m (rowOf (seqValues ph : List ℂ) nrm nu))) K
      = .ok (hs.map (fun h => fftPad h (m * ph.length))) :=
  mapM_map_ok _ _ _ hs (fun h hh =>
    ue_estimate_exact cisLaws_complex ph nrm nu h m K rfl hm hN hnu (hfit h hh).1 (hfit h hh).2)

/-- Clause "cover-code variants": a user with a cover code of `±1` entries
    (`c·c = 1`) sending in `Nc` slots over the same channel is estimated
    exactly by the OCC estimator (`extra_dimension=True`, one antenna). -/
theorem occ_estimate_exact (ph : List ℚ) (c0 : ℂ) (cs : List ℂ) (nrm : Bool) (nu : ℂ) (h : List ℂ) (K : ℕ)
    (hN : 0 < ph.length) (hcov : ∀ c ∈ c0 :: cs, c * c = 1)
    (hnu : nrm = true → (starRingEnd ℂ) nu = nu ∧ nu * nu = (ph.length : ℂ))
    (hfit : h.length ≤ K + 1) (hlen : h.length ≤ ph.length) :
    ∃ ue, ueSequence (seqValues ph : List ℂ) (some (c0 :: cs)) nrm nu = .ok ue ∧
      estimateOcc1 ue (ue.rows.map (fun row => observe (fftPad h ph.length) 1 row)) K
        = .ok (fftPad h ph.length) :=
  ⟨_, ueSequence_cover _ _ nrm nu (List.cons_ne_nil _ _),
    C18P.occ_estimate_exact cisLaws_complex ph c0 cs nrm nu h K rfl hN hcov hnu hfit hlen⟩

/-- …and with several antennas (3-D observation). -/
theorem occ_estimate_exact_antennas (ph : List ℚ) (c0 : ℂ) (cs : List ℂ) (nrm : Bool) (nu : ℂ)
    (hs : List (List ℂ)) (K : ℕ)
    (hN : 0 < ph.length) (hcov : ∀ c ∈ c0 :: cs, c * c = 1)
    (hnu : nrm = true → (starRingEnd ℂ) nu = nu ∧ nu * nu = (ph.length : ℂ))
    (hfit : ∀ h ∈ hs, h.length ≤ K + 1 ∧ h.length ≤ ph.length) :
    estimateOccRows ⟨nrm, rowsOf (seqValues ph : List ℂ) (c0 :: cs) nrm nu, some (c0 :: cs)⟩
        (hs.map (fun h => (rowsOf (seqValues ph : List ℂ) (c0 :: cs) nrm nu).map
          (fun row => observe (fftPad h ph.length) 1 row))) K
      = .ok (hs.map (fun h => fftPad h ph.length)) :=
  mapM_map_ok _ _ _ hs (fun h hh =>
    C18P.occ_estimate_exact cisLaws_complex ph c0 cs nrm nu h K rfl hN hcov hnu (hfit h hh).1 (hfit h hh).2)

/-- Cover-code estimator, one other user: suppressed by its cyclic shift
    (delay spread within one shift window, any cover code) **or** by a cover
    code orthogonal to the reference user's (any shift, any channel). -/
theorem occ_other_user_rejected (ph p0 pu : List ℚ) (c0 cu D t : ℕ) (k0 : ℂ) (ks ccu : List ℂ)
    (nrm : Bool) (nu : ℂ) (h : List ℂ) (K : ℕ) (hD : 0 < D) (ht : 0 < t) (hN : ph.length = D * t)
    (h0 : shiftedPhases ph c0 D = .ok p0) (hu : shiftedPhases ph cu D = .ok pu)
    (hk0 : k0 * k0 = 1) (hlen : ccu.length = (k0 :: ks).length)
    (hnu : nrm = true → (starRingEnd ℂ) nu = nu ∧ nu * nu = (ph.length : ℂ))
    (hK : K + 1 ≤ t)
    (hrej : (c0 ≠ cu ∧ h.length ≤ t) ∨
      (∑ c ∈ Finset.range (k0 :: ks).length, ccu.getD c 0 * (k0 :: ks).getD c 0 = 0
        ∧ h.length ≤ ph.length)) :
    estimateOcc1 ⟨nrm, rowsOf (seqValues p0 : List ℂ) (k0 :: ks) nrm nu, some (k0 :: ks)⟩
        ((rowsOf (seqValues pu : List ℂ) ccu nrm nu).map (fun row => observe (fftPad h ph.length) 1 row)) K
      = .ok (zerosL ph.length) := by
  have hNpos : 0 < ph.length := hN ▸ Nat.mul_pos hD ht
  have hp0 : p0.length = ph.length := (shiftedPhases_eq_ok h0).2.1
  have hpu : pu.length = ph.length := (shiftedPhases_eq_ok hu).2.1
  have hx : (seqValues p0 : List ℂ).length = ph.length := (seqValues_length p0).trans hp0
  have hxu : (seqValues pu : List ℂ).length = ph.length := (seqValues_length pu).trans hpu
  -- the estimate is `γ` times the plain estimate on the other user's own sequence
  have hocc := fun H E => estimateOcc1_rowsOf (H := H) (E := E) k0 ks ccu nrm nu K hk0 hlen hx hxu hNpos
  rcases hrej with ⟨hne, hL⟩ | ⟨horth, _⟩
  · -- rejected by the cyclic shift, whatever the cover codes
    have hrej := other_shift_rejected ph p0 pu c0 cu D t nrm nu h 1 K Nat.one_pos hD ht hN h0 hu hne hnu hK hL
    rw [Nat.one_mul] at hrej
    rw [hocc _ _ hrej, zerosL_map_mul]
  · -- rejected by the orthogonal cover code: the averaged observation vanishes
    obtain ⟨E, hE, hEl⟩ := estimate1_ok _ (observe (fftPad h ph.length) 1 _) nrm 1 K ((rowOf_length _ nrm nu).trans hx)
      ((observe_length _ _ _).trans ((rowOf_length _ nrm nu).trans hxu)) Nat.one_pos hNpos
    rw [hocc _ _ hE, horth, zero_div, map_zero_mul,
      hEl, Nat.one_mul]

/-- **Multi-user exactness of the cover-code estimator**: the user of interest
    (shift `c0`, `±1` cover code, taps `≤ K+1 ≤ t = N/D`) plus any number of
    other users, each on another shift with delay spread `≤ t` or with an
    orthogonal cover code: the estimate is exactly the channel of the user of interest. -/
theorem occ_estimate_exact_multiuser (ph p0 : List ℚ) (c0 D t : ℕ) (k0 : ℂ) (ks : List ℂ) (nrm : Bool)
    (nu : ℂ) (h0 : List ℂ) (K : ℕ) (others : List (ℕ × List ℚ × List ℂ × List ℂ))
    (hD : 0 < D) (ht : 0 < t) (hN : ph.length = D * t) (hs0 : shiftedPhases ph c0 D = .ok p0)
    (hcov : ∀ c ∈ k0 :: ks, c * c = 1)
    (hnu : nrm = true → (starRingEnd ℂ) nu = nu ∧ nu * nu = (ph.length : ℂ))
    (hfit : h0.length ≤ K + 1) (hK : K + 1 ≤ t)
    (hothers : ∀ o ∈ others, shiftedPhases ph o.1 D = .ok o.2.1 ∧ o.2.2.1.length = (k0 :: ks).length ∧
      ((c0 ≠ o.1 ∧ o.2.2.2.length ≤ t) ∨
        (∑ c ∈ Finset.range (k0 :: ks).length, o.2.2.1.getD c 0 * (k0 :: ks).getD c 0 = 0
          ∧ o.2.2.2.length ≤ ph.length))) :
    estimateOcc1 ⟨nrm, rowsOf (seqValues p0 : List ℂ) (k0 :: ks) nrm nu, some (k0 :: ks)⟩
        ((others.map (fun o => (rowsOf (seqValues o.2.1 : List ℂ) o.2.2.1 nrm nu).map
            (fun row => observe (fftPad o.2.2.2 ph.length) 1 row))).foldl addRows
          ((rowsOf (seqValues p0 : List ℂ) (k0 :: ks) nrm nu).map
            (fun row => observe (fftPad h0 ph.length) 1 row))) K
      = .ok (fftPad h0 ph.length) := by
  have hNpos : 0 < ph.length := hN ▸ Nat.mul_pos hD ht
  have hp0 : p0.length = ph.length := (shiftedPhases_eq_ok hs0).2.1
  have hk0 : k0 * k0 = 1 := hcov k0 List.mem_cons_self
  have hown := C18P.occ_estimate_exact cisLaws_complex p0 k0 ks nrm nu h0 K hp0 hNpos hcov hnu hfit
    (by rw [hN]; exact Nat.le_trans (Nat.le_trans hfit hK) (Nat.le_mul_of_pos_left _ hD))
  refine estimate_superposition (estimateOcc1 ⟨nrm, rowsOf (seqValues p0) (k0 :: ks) nrm nu, some (k0 :: ks)⟩ · K)
    (fun Y => IsBlock Y (k0 :: ks).length ph.length) addRows ph.length
    (fun Y0 Y1 E0 E1 hb0 hb1 h0 h1 => ⟨addRows_isBlock hb0 hb1,
      estimateOcc1_add _ _ _ Y0 Y1 E0 E1 K (occReference_rowsOf _ k0 ks nrm nu hk0) (List.cons_ne_nil _ _)
        ((rowOf_seq_length p0 nrm nu).trans hp0) hNpos hb0 hb1 h0 h1⟩)
    _ (fftPad_length _ _) _ _ (rowsOf_obs_isBlock _ _ _ nrm nu rfl ((seqValues_length p0).trans hp0)) hown
    fun Y hY => ?_
  obtain ⟨o, ho, rfl⟩ := List.mem_map.mp hY
  obtain ⟨hso, hlo, hrej⟩ := hothers o ho
  exact ⟨rowsOf_obs_isBlock _ _ _ nrm nu hlo ((seqValues_length _).trans (shiftedPhases_eq_ok hso).2.1),
    occ_other_user_rejected ph p0 o.2.1 c0 o.1 D t k0 ks o.2.2.1 nrm nu o.2.2.2 K
      hD ht hN hs0 hso hk0 hlo hnu hK hrej⟩

/-- `extra_dimension=False`: the code reshapes the flattened observation into
    the `Nc × Ne` block; reshaping the row-major flattening of a block gives the
    block back, so this layout reduces to the theorems above. -/
theorem occ_flat_layout {β : Type} (rows : List (List β)) (ne : ℕ) (hnc : 0 < rows.length)
    (h : ∀ r ∈ rows, r.length = ne) : reshapeRows rows.length rows.flatten = .ok rows := by
  unfold reshapeRows
  rw [if_neg hnc.ne', length_flatten_uniform ne rows h, if_neg (not_not.mpr (Nat.mul_mod_right _ _)),
    Nat.mul_div_cancel_left ne hnc]
  refine congrArg Except.ok (List.ext_getElem (by rw [List.length_map, List.length_range]) fun c h1 h2 => ?_)
  rw [List.getElem_map, List.getElem_range]
  exact flatten_drop_take rows ne h c h2

/-- Clause "the least-squares pilot estimator returns the channel exactly":
    `Y = H·S`; `inv` stands for `np.linalg.inv` and is only required to return
    a right inverse of the Gram matrix `S·Sᴴ`. -/
theorem ls_exact {nr nt np : ℕ} (inv : Mat ℂ nt nt → Mat ℂ nt nt) (H : Mat ℂ nr nt) (S : Mat ℂ nt np)
    (hinv : Matrix.of (matMul S (conjT S)) * Matrix.of (inv (matMul S (conjT S))) = 1) :
    lsEstimate inv (matMul H S) S = H :=
  ls_exact_core inv H S hinv

/-- …for **every pilot matrix of full row rank** (linearly independent rows),
    when `inv` satisfies the contract of a matrix inverse on invertible input. -/
theorem ls_exact_full_rank {nr nt np : ℕ} (inv : Mat ℂ nt nt → Mat ℂ nt nt) (H : Mat ℂ nr nt)
    (S : Mat ℂ nt np)
    (hcontract : ∀ A : Mat ℂ nt nt, IsUnit (Matrix.of A) → Matrix.of A * Matrix.of (inv A) = 1)
    (hrank : LinearIndependent ℂ (Matrix.of S).row) :
    lsEstimate inv (matMul H S) S = H :=
  ls_exact_core inv H S (hcontract _ (gram_isUnit S hrank))

/-! ## Shared objects, rejected calls, scale (robustness classes R3 / R4 / R6 / R7) -/

/-- R3/R7: after **any** history of user constructions on one shared root
    object the root object is what it was before the first construction. -/
theorem cell_root_unchanged (norm : List ℂ → ℂ) (c : Cell ℂ) (sps : List (UeSpec ℂ)) :
    (Cell.run norm c sps).1.root = c.root := by
  rw [cell_run_eq]

/-- R3/R7: …the users built earlier are unchanged (they form a prefix) and
    every user equals the one a construction on the untouched root yields,
    whatever was built before it (shift 0, normalisation on/off mixed, …). -/
theorem cell_users_fresh (norm : List ℂ → ℂ) (c : Cell ℂ) (sps : List (UeSpec ℂ)) :
    (Cell.run norm c sps).1.users = c.users ++ sps.filterMap (freshUser norm c.root) := by
  rw [cell_run_eq]

/-- R4: a rejected construction (`AssertionError` for a shift `≥ D`) leaves the
    cell exactly as it was. -/
theorem cell_rejected_noop (norm : List ℂ → ℂ) (c : Cell ℂ) (sp : UeSpec ℂ) (e : PyErr)
    (h : buildUe norm c.root sp = .error e) : c.addUser norm sp = (c, some e) := by
  unfold Cell.addUser
  rw [h]

/-- R4 (histories): the statuses of a history are those of the single
    constructions on the untouched root. -/
theorem cell_statuses (norm : List ℂ → ℂ) (c : Cell ℂ) (sps : List (UeSpec ℂ)) :
    (Cell.run norm c sps).2 = sps.map (rejection norm c.root) := by
  rw [cell_run_eq]

/-- R6: the estimator is homogeneous — scaling the whole observation by any
    complex factor (1e-12 … 1e12) scales the estimate by the same factor; no
    absolute threshold is involved. -/
theorem estimate_homogeneous (r Y E : List ℂ) (g : ℂ) (nrm : Bool) (m K : ℕ) (hm : 0 < m)
    (hN : 0 < r.length) (hY : Y.length = r.length) (h : estimate1 r nrm m Y K = .ok E) :
    estimate1 r nrm m (Y.map (fun v => g * v)) K = .ok (E.map (fun v => g * v)) :=
  estimate1_smul r Y E g nrm m K hm hN hY h

/-! ## Argument forms, read-only calls, order, copies (robustness classes R8 / R11 / R12 / R13) -/

/-- R8: `RootSequence(u, Nzc=z)` is `RootSequence(u, size=z, Nzc=z)`. -/
theorem root_sequence_nzc_only (u z : ℕ) :
    rootSequence smallPrimeList rootTable1 rootTable2 u none (some z)
      = rootSequence smallPrimeList rootTable1 rootTable2 u (some z) (some z) :=
  rfl

/-- R8: leaving `Nzc` at its default is giving the prime the table selects explicitly
    (every size `2 … 1200`). -/
theorem root_sequence_default_nzc (u s : ℕ) (h2 : 2 ≤ s) (hs : s ≤ 1200) :
    ∃ p, primeLookup smallPrimeList s = .ok p ∧
      rootSequence smallPrimeList rootTable1 rootTable2 u (some s) none
        = rootSequence smallPrimeList rootTable1 rootTable2 u (some s) (some p) := by
  obtain ⟨p, hp, _⟩ := prime_lookup_correct s h2 hs
  exact ⟨p, hp, rootSequence_size _ _ u hp⟩

/-- R8: an estimator whose reference is flagged normalised returns `N ·` what the
    estimator built from the same raw array (never flagged) returns — errors included. -/
theorem estimator_normalised_flag (r Y : List ℂ) (m K : ℕ) :
    estimate1 r true m Y K
      = (estimate1 r false m Y K).map (fun H => H.map (fun v => v * ((r.length : ℕ) : ℂ))) := by
  -- the scaling goes through the two tests; each branch then agrees by definition
  simp only [estimate1, if_true, Bool.false_eq_true, if_false, apply_ite (Except.map _)]
  rfl

/-- R11: read-only calls (`Nzc`, `size`, `index`, `seq_array()`, indexing, `conj()`,
    `+`, `*`, `repr`, `normalized`, `shape`, `cover_code`, …) anywhere in a history are
    transparent: the cell is the one obtained without them. -/
theorem cell_queries_transparent (norm : List ℂ → ℂ) (c : Cell ℂ) (ops : List (CellOp ℂ)) :
    (Cell.runOps norm c ops).1 = (Cell.runOps norm c (ops.filter notQuery)).1 := by
  induction ops generalizing c with
  | nil => rfl
  | cons op rest ih =>
    cases hq : notQuery op
    · -- a read-only call: the step leaves the cell as it is
      rw [List.filter_cons_of_neg (ne_true_of_eq_false hq)]
      cases op with
      | query => exact ih c
      | build sp => cases hq
      | copy j => cases hq
    · rw [List.filter_cons_of_pos hq]
      exact ih (c.step norm op).1

/-- R11/R13: through constructions, read-only calls and copies the shared root never
    changes and the users built earlier stay (as a prefix). -/
theorem cell_ops_stable (norm : List ℂ → ℂ) (c : Cell ℂ) (ops : List (CellOp ℂ)) :
    (Cell.runOps norm c ops).1.root = c.root ∧
      ∃ l, (Cell.runOps norm c ops).1.users = c.users ++ l := by
  induction ops generalizing c with
  | nil => exact ⟨rfl, [], (List.append_nil _).symm⟩
  | cons op rest ih =>
    obtain ⟨l1, h1⟩ := step_stable norm c op
    obtain ⟨hroot, l2, h2⟩ := ih (c.step norm op).1
    exact ⟨hroot.trans (by rw [h1]), l1 ++ l2, h2.trans (by rw [h1, List.append_assoc])⟩

/-- R13: a copy (`copy.copy`, `copy.deepcopy`, pickle round trip) of a user is that
    user; copying a user that does not exist changes nothing. -/
theorem cell_copy (norm : List ℂ → ℂ) (c : Cell ℂ) (j : ℕ) :
    (c.step norm (.copy j)).1.users = c.users ++ (c.users[j]?).toList := by
  rw [step_copy]

/-- R12: the set of users of a cell does not depend on the order in which they
    were built. -/
theorem cell_users_order_independent (norm : List ℂ → ℂ) (c : Cell ℂ) (sps sps' : List (UeSpec ℂ))
    (h : sps.Perm sps') :
    (Cell.run norm c sps).1.users.Perm (Cell.run norm c sps').1.users := by
  rw [cell_users_fresh, cell_users_fresh]
  exact List.Perm.append_left _ (h.filterMap _)

/-! ## Distinct values that are merely close (robustness class R15)

The model is a function of the **exact** values: no comparison with a tolerance,
no rounded key, no absolute threshold.  Stated where the model compares / looks up
(prime table) and, for the numeric part, as separation: inputs that differ — by
however little — give different results. -/

/-- R15, prime selection: two sizes get the same base length **iff** no prime lies
    between them — adjacent sizes `p - 1`, `p` around a prime are never identified,
    sizes between two consecutive primes always are. -/
theorem prime_lookup_exact (s s' : ℕ) (h2 : 2 ≤ s) (hss : s ≤ s') (hs : s' ≤ 1200) :
    primeLookup smallPrimeList s = primeLookup smallPrimeList s' ↔
      ∀ q, Nat.Prime q → s < q → ¬ q ≤ s' := by
  obtain ⟨p, hp, hpp, hps, hpmax⟩ := prime_lookup_correct s h2 (hss.trans hs)
  obtain ⟨p', hp', hpp', hps', hpmax'⟩ := prime_lookup_correct s' (h2.trans hss) hs
  rw [hp, hp']
  constructor
  · intro h q hq hsq hqs'
    have hpe : p = p' := Except.ok.inj h
    exact Nat.lt_irrefl s (Nat.lt_of_lt_of_le hsq ((hpmax' q hq hqs').trans (hpe ▸ hps)))
  · intro h
    -- `p'` cannot lie in `(s, s']`, so it is a prime `≤ s`; `p` is a prime `≤ s'`
    have h1 : p' ≤ s := Nat.le_of_not_lt fun hc => h p' hpp' hc hps'
    rw [Nat.le_antisymm (hpmax' p hpp (Nat.le_trans hps hss)) (hpmax p' hpp' h1)]

/-- R15, prime selection at a prime: the size `p` itself selects `p`, the size just
    below selects a smaller prime. -/
theorem prime_lookup_at_prime (p : ℕ) (hp : Nat.Prime p) (hs : p ≤ 1200) :
    primeLookup smallPrimeList p = .ok p ∧
      (3 ≤ p → ∃ q, primeLookup smallPrimeList (p - 1) = .ok q ∧ q < p) := by
  obtain ⟨q, hq, _, hqp, hmax⟩ := prime_lookup_correct p hp.two_le hs
  have hqe : q = p := Nat.le_antisymm hqp (hmax p hp (Nat.le_refl p))
  refine ⟨by rw [hq, hqe], fun h3 => ?_⟩
  obtain ⟨q', hq', _, hq's, _⟩ := prime_lookup_correct (p - 1) (Nat.le_sub_one_of_lt h3) ((Nat.sub_le p 1).trans hs)
  exact ⟨q', hq', Nat.lt_of_le_sub_one hp.pos hq's⟩

/-- R15, estimators: two channels that fit the kept taps and differ in **one tap by any
    amount** (1e-6 relative, one unit in the last place, 1e-15 absolute …) are given
    different estimates by the same estimator object — nothing is identified, cached by
    rounded value or thresholded to zero. -/
theorem cazac_estimate_separates (ph : List ℚ) (nrm : Bool) (nu : ℂ) (h1 h2 : List ℂ) (m K : ℕ)
    (hm : 0 < m) (hN : 0 < ph.length)
    (hnu : nrm = true → (starRingEnd ℂ) nu = nu ∧ nu * nu = (ph.length : ℂ))
    (hfit1 : h1.length ≤ K + 1) (hlen1 : h1.length ≤ ph.length)
    (hfit2 : h2.length ≤ K + 1) (hlen2 : h2.length ≤ ph.length)
    (k : ℕ) (hne : h1.getD k 0 ≠ h2.getD k 0) :
    estimate1 (rowOf (seqValues ph : List ℂ) nrm nu) nrm m
        (observe (fftPad h1 (m * ph.length)) m (rowOf (seqValues ph : List ℂ) nrm nu)) K
      ≠ estimate1 (rowOf (seqValues ph : List ℂ) nrm nu) nrm m
        (observe (fftPad h2 (m * ph.length)) m (rowOf (seqValues ph : List ℂ) nrm nu)) K := by
  rw [ue_estimate_exact cisLaws_complex ph nrm nu h1 m K rfl hm hN hnu hfit1 hlen1,
    ue_estimate_exact cisLaws_complex ph nrm nu h2 m K rfl hm hN hnu hfit2 hlen2]
  -- equal responses have equal taps: read them back through any sequence of unit modulus, here the raw one
  exact fun heq => hne (taps_of_response_eq cisLaws_complex (seqValues ph) h1 h2 1 m (seqValues_length ph) hm
    (fun n hn => by rw [seqValues_getD ph hn, cisLaws_complex.cis_mul_conj]) one_ne_zero hlen1 hlen2
    (Except.ok.inj heq) k)

/-- R15, least squares: channel matrices that differ in any entry by any amount get
    different estimates (pilot matrix of full row rank: nearly parallel pilot rows and
    a Gram matrix that is *nearly* a multiple of the identity included). -/
theorem ls_separates {nr nt np : ℕ} (inv : Mat ℂ nt nt → Mat ℂ nt nt) (H1 H2 : Mat ℂ nr nt)
    (S : Mat ℂ nt np)
    (hcontract : ∀ A : Mat ℂ nt nt, IsUnit (Matrix.of A) → Matrix.of A * Matrix.of (inv A) = 1)
    (hrank : LinearIndependent ℂ (Matrix.of S).row) (hne : H1 ≠ H2) :
    lsEstimate inv (matMul H1 S) S ≠ lsEstimate inv (matMul H2 S) S := by
  rw [ls_exact_full_rank inv H1 S hcontract hrank, ls_exact_full_rank inv H2 S hcontract hrank]
  exact hne

/-! ## One argument array refilled in place; one array in two roles (robustness class R16) -/

/-- R16: a caller keeps ONE array, refills it in place and calls the same object /
    function again (any history of refills and calls, any callee `f` of the model:
    `estimate1 r nrm m`, `estimateRows`, `estimateOcc1 ue`, `lsEstimate`, `extendedZF`,
    `shiftedPhases` …).  The results are, call by call, those of fresh calls on copies of
    the contents at call time. -/
theorem buffer_history_eq_fresh_calls {β κ ρ : Type} (f : β → κ → ρ) (b : β) (ops : List (BufOp β κ)) :
    (BufState.run f ⟨b, []⟩ ops).outs = (callSnapshots b ops).map (fun p => f p.1 p.2) := by
  rw [run_outs f ops b []]
  rfl

/-- R16: results that were returned are not changed by later refills and calls. -/
theorem buffer_earlier_results_kept {β κ ρ : Type} (f : β → κ → ρ) (s : BufState β ρ)
    (ops more : List (BufOp β κ)) :
    ∃ l, (BufState.run f s (ops ++ more)).outs = (BufState.run f s ops).outs ++ l := by
  rw [run_append]
  exact ⟨_, run_outs f more _ _⟩

/-- R16: handing over an equal-content array (a refill with the contents the buffer
    already has) changes nothing. -/
theorem buffer_equal_content_refill {β κ ρ : Type} (f : β → κ → ρ) (s : BufState β ρ)
    (ops : List (BufOp β κ)) :
    BufState.run f s (.refill s.buf :: ops) = BufState.run f s ops :=
  rfl

/-- R16, one array object in two roles: an estimator built from a raw reference array of
    unit modulus that is handed **the same array** as observation returns the flat
    response of the one-tap channel `[1]` (all ones), whatever `K` and the comb factor. -/
theorem estimate_same_array_two_roles (r : List ℂ) (m K : ℕ) (hm : 0 < m) (hN : 0 < r.length)
    (hr : ∀ n, n < r.length → r.getD n 0 * (starRingEnd ℂ) (r.getD n 0) = 1) :
    estimate1 r false m r K = .ok (fftPad [(1 : ℂ)] (m * r.length)) ∧
      ∀ f, f < m * r.length → (fftPad [(1 : ℂ)] (m * r.length)).getD f 0 = 1 := by
  have h := estimate_exact_core cisLaws_complex r [(1 : ℂ)] 1 false m K rfl hm hN hr (one_mul 1)
    (Nat.le_add_left 1 K) hN
  rw [observe_flat cisLaws_complex r m hm] at h
  exact ⟨h, fun f hf => fftPad_one_getD cisLaws_complex _ f hf⟩

/-- R16, one array object in two roles: `compute_ls_estimation(A, A)` is the identity for
    every `A` of full row rank. -/
theorem ls_same_array {n k : ℕ} (inv : Mat ℂ n n → Mat ℂ n n) (S : Mat ℂ n k)
    (hcontract : ∀ A : Mat ℂ n n, IsUnit (Matrix.of A) → Matrix.of A * Matrix.of (inv A) = 1)
    (hrank : LinearIndependent ℂ (Matrix.of S).row) :
    lsEstimate inv S S = idMat ℂ n := by
  have h := ls_exact_full_rank inv (idMat ℂ n) S hcontract hrank
  rwa [matMul_id] at h

/-! ## The formulas regenerated from the current source equal the model's

`PyPhysim.Generated.C18` (`Generated/C18Formulas.lean`) is re-emitted from the
AST of `zadoffchu.py`, `srs.py`, `dmrs.py`, `root_sequence.py`,
`reference_signals/channel_estimation.py` on every run, as written (operand
order and association kept).  The theorems below say that, over `ℝ` / `ℤ`, what
the source says now is what the hand model says, for all arguments: a changed
coefficient, sign, denominator, index or size expression in the source breaks
one of these proof obligations (or leaves the translated fragment). -/

/-- `calcBaseZC`: the phase (radians) of element `n` in the source,
    `-π·u·n·(n+1+2q)/Nzc` at `q = 0` in whatever spelling, is `2π` times the
    model's phase (turns) for all `Nzc, u, n`; hence `exp(i·phase)` is the model's
    element, and the number of elements is the model's. -/
theorem generated_zc_phase (N u n : ℕ) :
    Generated.C18.zcPhase Real.pi (N : ℝ) (u : ℝ) 0 (n : ℝ) = 2 * Real.pi * ((zcPhase N u n : ℚ) : ℝ) ∧
    Complex.exp (Complex.I * ((Generated.C18.zcPhase Real.pi (N : ℝ) (u : ℝ) 0 (n : ℝ) : ℝ) : ℂ))
      = (CisOps.cis (zcPhase N u n) : ℂ) ∧
    Generated.C18.zcLength (N : ℝ) = ((zcPhases N u).length : ℝ) := by
  -- the element and the length follow from the phase
  refine (and_iff_left_of_imp fun h => ⟨Gen.expi_eq_cis _ _ h, by rw [zcPhases_length]; rfl⟩).mpr ?_
  -- the model's phase is a quotient of naturals: read in `ℝ` it is the quotient of the reals
  rw [Generated.C18.zcPhase, zcPhase, Rat.cast_neg, Rat.cast_div, Rat.cast_natCast, Rat.cast_natCast]
  push_cast
  ring

/-- `get_shifted_root_seq`: the phase ramp of the source, `2π·n_cs·n/denominator`,
    is `2π` times the phase the model adds to element `n` (`shiftedPhases`), for
    all `n_cs, denominator, n`; `get_srs_seq` / `get_dmrs_seq` pass the
    denominators 8 / 12. -/
theorem generated_shift_phase (ncs D n : ℕ) :
    Generated.C18.shiftPhase Real.pi (ncs : ℝ) (D : ℝ) (n : ℝ)
      = 2 * Real.pi * ((((ncs * n : ℕ) : ℚ) / ((D : ℕ) : ℚ) : ℚ) : ℝ) ∧
    Generated.C18.srsDenominator = 8 ∧ Generated.C18.dmrsDenominator = 12 := by
  refine ⟨?_, rfl, rfl⟩
  rw [Generated.C18.shiftPhase, Rat.cast_div, Rat.cast_natCast, Rat.cast_natCast, Nat.cast_mul]
  ring

/-- `get_extended_ZF` as written in the source (both branches of the size
    test, Python slice and `//` semantics, `ZeroDivisionError` for an empty root)
    is the model's `extendedZF` for every root array and size; hence for
    `0 < Nzc ≤ size` the result has `size` elements and element `i` is
    `root[i mod Nzc]`. -/
theorem generated_extension {β : Type} (root : List β) (size : ℕ) :
    Generated.C18.extendedZF root (size : ℤ) = extendedZF root size ∧
    (0 < root.length → root.length ≤ size →
      ∃ l, Generated.C18.extendedZF root (size : ℤ) = .ok l ∧ l.length = size ∧
        ∀ i, i < size → l[i]? = root[i % root.length]?) := by
  -- the specification carries over from the model
  refine (and_iff_left_of_imp fun heq hn hs => heq ▸ extendedZF_spec root size hn hs).mpr ?_
  unfold Generated.C18.extendedZF extendedZF
  simp only [Gen.fdiv_natCast, Gen.listRepeat_natCast, List.flatten_append, List.flatten_cons,
    List.flatten_nil, List.append_nil, List.flatten_replicate_singleton, gt_iff_lt, Int.lt_sub_right_iff_add_lt,
    ← Nat.cast_add, Nat.cast_lt, two_mul, Int.natCast_eq_zero]
  -- the same tests in the same order on both sides
  by_cases hb : root.length + root.length < size
  · rw [if_pos hb, if_pos hb]
    by_cases hz : root.length = 0
    · rw [if_pos hz, if_pos hz]
    · -- `size - n·(size // n)` is a natural number
      rw [if_neg hz, if_neg hz, ← Nat.cast_mul, ← Nat.cast_sub (Nat.mul_div_le size root.length),
        Gen.sliceTo_natCast]
  · rw [if_neg hb, if_neg hb]
    by_cases hle : root.length ≤ size
    · rw [if_pos hle, ← Nat.cast_sub hle, Gen.sliceTo_natCast]
    · -- `root[0:size-n]` with a negative stop keeps `n + (size - n)` elements
      rw [if_neg hle, Gen.sliceTo_neg root (Nat.lt_of_not_le hle), Nat.add_sub_cancel_left]

/-- `RootSequence.__init__` once `size` and `Nzc` are ints: the decision of the
    source (`size < Nzc` rejected; `size > 2·n_sc_PRB` Zadoff–Chu, extended iff
    `size > Nzc`; `n_sc_PRB` / `2·n_sc_PRB` the two tables; anything else
    rejected) is the decision of the model, and the table phase `π/4·t` of the
    source is `2π` times the model's `t/8`. -/
theorem generated_size_rule (t1 t2 : List (List Int)) (u size nzc : ℕ) (φ : ℤ) :
    rootSequenceCore t1 t2 u size nzc =
      (match Generated.C18.sizeRule (size : ℤ) (nzc : ℤ) with
      | .error e => .error e
      | .ok (.zc ext) =>
        if u < nzc then
          if ext then
            match extendedZF (zcPhases nzc u) size with
            | .ok e => .ok ⟨u, zcPhases nzc u, some e⟩
            | .error e => .error e
          else .ok ⟨u, zcPhases nzc u, none⟩
        else .error .AssertionError
      | .ok .table1 =>
        match t1[u]? with
        | some row => .ok ⟨u, tablePhases row, none⟩
        | none => .error .KeyError
      | .ok .table2 =>
        match t2[u]? with
        | some row => .ok ⟨u, tablePhases row, none⟩
        | none => .error .KeyError) ∧
    Generated.C18.tablePhase Real.pi (φ : ℝ) = 2 * Real.pi * ((((φ : ℤ) : ℚ) / ((8 : ℕ) : ℚ) : ℚ) : ℝ) := by
  constructor
  · -- the same tests in the same order on both sides
    rw [Gen.sizeRule_eq, rootSequenceCore]
    by_cases h1 : size < nzc
    · rw [if_pos h1, if_pos h1]
    rw [if_neg h1, if_neg h1]
    by_cases h2 : size > 24
    · rw [if_pos h2, if_pos h2]
      by_cases hc : size > nzc
      · rw [decide_eq_true hc, if_pos hc]
        rfl
      · rw [decide_eq_false hc, if_neg hc]
        rfl
    rw [if_neg h2, if_neg h2]
    by_cases h4 : size = 12
    · rw [if_pos h4, if_pos h4]
      rfl
    rw [if_neg h4, if_neg h4]
    by_cases h5 : size = 24
    · rw [if_pos h5, if_pos h5]
      rfl
    rw [if_neg h5, if_neg h5]
  · rw [Generated.C18.tablePhase, Rat.cast_div, Rat.cast_intCast, Rat.cast_natCast]
    ring

/-- `CazacBasedChannelEstimator.estimate_channel_freq_domain`: with the IFFT
    size, the number of kept taps (`num_taps_to_keep + 1`), the FFT size
    (`size_multiplier · Nsc`) and the normalisation (each element times `Nsc`
    iff the reference was normalised) **of the source**, the pipeline is the
    model's `estimate1`, for every scalar type and all arguments. -/
theorem generated_estimator_sizes (r : List ℂ) (b : Bool) (m : ℕ) (Y : List ℂ) (K : ℕ) :
    estimate1 r b m Y K =
      if Y.length ≠ r.length then .error .ValueError
      else if m * r.length = 0 then .error .ValueError
      else .ok ((fftPad ((ifftN (List.zipWith (fun a c => CisOps.conj a * c) r Y)
          (Generated.C18.ifftSize (m : ℤ) (r.length : ℤ) (K : ℤ)).toNat).take
            (Generated.C18.keptTaps (m : ℤ) (r.length : ℤ) (K : ℤ)).toNat)
          (Generated.C18.fftSize (m : ℤ) (r.length : ℤ) (K : ℤ)).toNat).map
            (Generated.C18.normScale b ((r.length : ℕ) : ℂ))) :=
  Gen.estimate1_generated r b m Y K

/-- All of the above in one statement (the name the manifest refers to). -/
theorem generated_formulas_match_model :
    (∀ N u n : ℕ, Generated.C18.zcPhase Real.pi (N : ℝ) (u : ℝ) 0 (n : ℝ)
        = 2 * Real.pi * ((zcPhase N u n : ℚ) : ℝ)) ∧
    (∀ ncs D n : ℕ, Generated.C18.shiftPhase Real.pi (ncs : ℝ) (D : ℝ) (n : ℝ)
        = 2 * Real.pi * ((((ncs * n : ℕ) : ℚ) / ((D : ℕ) : ℚ) : ℚ) : ℝ)) ∧
    (Generated.C18.srsDenominator = 8 ∧ Generated.C18.dmrsDenominator = 12) ∧
    (∀ (root : List ℂ) (size : ℕ), Generated.C18.extendedZF root (size : ℤ) = extendedZF root size) ∧
    (∀ size nzc : ℕ, Generated.C18.sizeRule (size : ℤ) (nzc : ℤ) =
      if size < nzc then .error .AttributeError
      else if size > 24 then .ok (.zc (decide (size > nzc)))
      else if size = 12 then .ok .table1 else if size = 24 then .ok .table2 else .error .AttributeError) ∧
    (∀ m N K : ℕ, (Generated.C18.ifftSize (m : ℤ) (N : ℤ) (K : ℤ)).toNat = N ∧
      (Generated.C18.keptTaps (m : ℤ) (N : ℤ) (K : ℤ)).toNat = K + 1 ∧
      (Generated.C18.fftSize (m : ℤ) (N : ℤ) (K : ℤ)).toNat = m * N) ∧
    (∀ (b : Bool) (N H : ℂ), Generated.C18.normScale b N H = if b then H * N else H) :=
  ⟨fun N u n => (generated_zc_phase N u n).1, fun ncs D n => (generated_shift_phase ncs D n).1, ⟨rfl, rfl⟩,
    fun root size => (generated_extension root size).1, Gen.sizeRule_eq, Gen.sizes_eq, Gen.normScale_eq⟩

/-- the generated definitions are not degenerate: the second Zadoff–Chu phase of
    `Nzc = 5, u = 2` is `-4π/5`, the cyclic extension of `[a, b, c]` to 8 elements is
    `a b c a b c a b`, size 36 with `Nzc = 31` takes the extended Zadoff–Chu branch -/
example : Generated.C18.zcPhase Real.pi (5 : ℝ) 2 0 1 = -(4 * Real.pi / 5) ∧
    Generated.C18.extendedZF [1, 2, 3] 8 = .ok [1, 2, 3, 1, 2, 3, 1, 2] ∧
    Generated.C18.sizeRule 36 31 = .ok (.zc true) := by
  refine ⟨?_, rfl, rfl⟩
  rw [Generated.C18.zcPhase]
  ring

/-- hypotheses of the CAZAC clauses are satisfiable (N = 5, u = 2, τ = 3) -/
example : (5 % 2 = 1) ∧ Nat.Coprime 2 5 ∧ ¬ 5 ∣ 3 := by decide

/-- the estimator hypotheses are satisfiable, including the normalised case
    (`N = 4`, `nu = 2`: real, `nu² = 4`) -/
example : ∃ (ph : List ℚ) (nu : ℂ) (h : List ℂ) (K : ℕ), 0 < ph.length ∧
    ((starRingEnd ℂ) nu = nu ∧ nu * nu = (ph.length : ℂ)) ∧ h.length ≤ K + 1 ∧ h.length ≤ ph.length ∧ h ≠ [] :=
  ⟨[0, 1/4, 1/2, 3/4], 2, [1, Complex.I], 1, by decide,
    ⟨Complex.conj_ofNat 2, (by norm_num : (2 : ℂ) * 2 = ((4 : ℕ) : ℂ))⟩,
    Nat.le_refl 2, by decide, List.cons_ne_nil _ _⟩

/-- shift hypotheses are satisfiable (`D = 8 ∣ 24`, two different accepted shifts) -/
example : ∃ p1 p2, shiftedPhases (zcPhases 24 1) 1 8 = .ok p1 ∧ shiftedPhases (zcPhases 24 1) 4 8 = .ok p2 ∧
    (zcPhases 24 1).length = 8 * 3 :=
  ⟨_, _, shiftedPhases_ok _ 1 8 (by decide), shiftedPhases_ok _ 4 8 (by decide), zcPhases_length 24 1⟩

/-- a full-row-rank pilot matrix exists (the 2×2 identity) -/
example : LinearIndependent ℂ (1 : Matrix (Fin 2) (Fin 2) ℂ).row :=
  Matrix.linearIndependent_rows_iff_isUnit.mpr isUnit_one

/-- R15: two channels that are close but distinct exist (taps `1` and `1 + 10⁻⁶`) -/
example : ([(1 : ℂ)] : List ℂ).getD 0 0 ≠ ([(1 : ℂ) + 1 / 1000000] : List ℂ).getD 0 0 := by
  rw [List.getD_cons_zero, List.getD_cons_zero]
  norm_num

/-- R15: 1193 and 1200 select the same prime (no prime in between), 1192 and 1193 do not -/
example : primeLookup smallPrimeList 1193 = primeLookup smallPrimeList 1200 ∧
    primeLookup smallPrimeList 1192 ≠ primeLookup smallPrimeList 1193 := by decide +kernel

/-- R16: a unit-modulus array that can be reference and observation at once (`[1, i]`) -/
example : ∀ n, n < ([1, Complex.I] : List ℂ).length →
    ([1, Complex.I] : List ℂ).getD n 0 * (starRingEnd ℂ) (([1, Complex.I] : List ℂ).getD n 0) = 1 := by
  intro n hn
  rcases n with _ | _ | n
  · rw [List.getD_cons_zero, RingHom.map_one, mul_one]
  · rw [List.getD_cons_succ, List.getD_cons_zero, Complex.conj_I, mul_neg, Complex.I_mul_I, neg_neg]
  · exact absurd hn (Nat.not_lt.mpr (Nat.le_add_left 2 n))

/-- R16: a history with two refills and three calls, and its snapshots -/
example : callSnapshots (β := ℕ) (κ := ℕ) 1 [.call 7, .refill 2, .call 7, .call 8]
    = [(1, 7), (2, 7), (2, 8)] := rfl

end PyPhysim.C18
