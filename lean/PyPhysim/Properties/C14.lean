import PyPhysim.Proofs.C14Robust
import PyPhysim.Proofs.C14Gen

/-!
# C14 — Jakes fading samples do not depend on how generation was chunked

`State`/`Op`/`step`/`trace` (bookkeeping over `Nat`)
and `jakes`/`sampleTime`/`Block.value` (polymorphic numeric part, here at `ℝ`)
are the hand model of `JakesSampleGenerator` after the repair of finding
`C14:float-stepped-arange` (index based time vector); the model is tied to the
code by the correspondence of `harness/props/c14.py` (exact counts, shapes,
sample numbers and phase epochs of every request of seeded histories; time
vectors and values against the same definitions run at `Float`) AND by the
regenerated source: `Generated/C14Jakes.lean` is re-emitted on every run from
the AST of `generate_more_samples`, `skip_samples_for_next_generation`,
`_generate_time_samples` and `generate_jakes_samples` (symbolic execution with canonical linear integer
forms; real-expression fragment), and the bridge theorems
`generated_bookkeeping_matches_model`, `generated_jakes_formula_matches_model`,
`generated_request_evaluates_model_samples` equate it with the hand model for
ALL counters, request sizes and parameters.

The last three theorems are about the model of the stepping the code used
BEFORE the repair (`np.arange(ct, n*Ts+ct, Ts*1.0000000001)`): negative
witnesses that document the fixed finding.
-/
namespace PyPhysim.C14
open PyPhysim.Proto

/-- Clause "every request returns exactly the requested number of samples with
    the configured shape": whatever the state (however long the generator has
    been running), `generate_more_samples(n)` produces an array of shape
    `shape + (n,)` (`(n,)` for shape `None`; `n = 1` for the default argument)
    holding the samples number `k … k+n-1`, stores it as `get_samples()`, and
    advances the counter by exactly `n`. -/
theorem request_returns_requested (s : State) (n : Option Nat) :
    produced s (.gen n) = some (genBlock s n) ∧
    (step s (.gen n)).last = some (genBlock s n) ∧
    (genBlock s n).count = reqCount n ∧
    (genBlock s n).dims = outDims s.shape (reqCount n) ∧
    (genBlock s n).first = s.k ∧
    (step s (.gen n)).k = s.k + reqCount n ∧
    (step s (.gen n)).shape = s.shape ∧ (step s (.gen n)).epoch = s.epoch :=
  ⟨rfl, rfl, rfl, rfl, rfl, rfl, rfl, rfl⟩

/-- The shape of a produced array always has the requested count as its last
    axis and the configured shape in front (`None`, `int`, tuple arguments). -/
theorem produced_dims (a : ShapeArg) (n : Nat) :
    outDims a.norm n = match a with
      | .none => [n]
      | .int m => [m, n]
      | .tuple d => d ++ [n] := by
  cases a <;> rfl

/-- The constructor leaves one sample (number 0) in `get_samples()` and the
    counter at 1. -/
theorem construct_state (a : ShapeArg) :
    construct a = { k := 1, shape := a.norm, epoch := 0,
                    last := some { dims := outDims a.norm 1, first := 0, count := 1, epoch := 0 } } := rfl

/-- After any history the counter is the start value plus the total number of
    samples generated or skipped; the phases were redrawn once per shape
    assignment; nothing else moves the counter. -/
theorem history_counter (s : State) (ops : List Op) :
    (run s ops).k = s.k + total ops ∧ (run s ops).epoch = s.epoch + redraws ops ∧
    (run s ops).shape = shapeAfter s.shape ops :=
  run_fields s ops

/-- MAIN CLAUSE (chunking invariance).  For every start state `s`, every
    history `pre` of generate / skip / shape requests, every following request
    `generate_more_samples(n)` and whatever comes after: the array it produces
    has `n` samples of the configured shape, and its entry `(idx, j)` is the
    Jakes sum of the rays of entry `idx` (phase draw `epoch s + redraws pre`)
    evaluated at the time `(k₀ + total pre + j) · Ts`, where `total pre` is the
    number of samples requested before — however that number was split into
    requests and skips. -/
theorem chunking_invariant (Fd Ts : ℝ) (phases : Nat → List Nat → List (ℝ × ℝ))
    (s : State) (pre post : List Op) (n : Option Nat) :
    ∃ b : Block, (trace s (pre ++ .gen n :: post))[pre.length]? = some (some b) ∧
      b.count = reqCount n ∧
      b.dims = outDims (shapeAfter s.shape pre) (reqCount n) ∧
      b.first = s.k + total pre ∧
      b.epoch = s.epoch + redraws pre ∧
      ∀ (idx : List Nat) (j : Nat),
        b.value Fd Ts phases idx j =
          jakes Fd (phases (s.epoch + redraws pre) idx) (((s.k + total pre + j : Nat) : ℝ) * Ts) := by
  refine ⟨_, (trace_at s pre post _).trans (congrArg some (produced_run s pre _)), ?_⟩
  exact ⟨rfl, rfl, rfl, rfl, fun _ _ => rfl⟩

/-- non-vacuity / concrete instance of `chunking_invariant`: shape `(2,3)`,
    history `generate(5); skip(7); shape = 4; generate()` after the constructor —
    the last request returns sample number 13 with the second phase draw. -/
example : trace (construct (.tuple [2, 3])) [.gen (some 5), .skip 7, .setShape (.int 4), .gen none] =
    [some { dims := [2, 3, 5], first := 1, count := 5, epoch := 0 }, none, none,
     some { dims := [4, 1], first := 13, count := 1, epoch := 1 }] := by decide

/-- The same for a generator as the constructor leaves it (the constructor has
    already produced sample number 0): the request issued after the history
    `pre` returns the process samples number `1 + total pre + j`, `j < n`. -/
theorem constructed_generator_samples (Fd Ts : ℝ) (phases : Nat → List Nat → List (ℝ × ℝ))
    (a : ShapeArg) (pre post : List Op) (n : Option Nat) :
    ∃ b : Block, (trace (construct a) (pre ++ .gen n :: post))[pre.length]? = some (some b) ∧
      b.count = reqCount n ∧
      b.dims = outDims (shapeAfter a.norm pre) (reqCount n) ∧
      ∀ (idx : List Nat) (j : Nat),
        b.value Fd Ts phases idx j =
          jakes Fd (phases (redraws pre) idx) (((1 + total pre + j : Nat) : ℝ) * Ts) := by
  obtain ⟨b, h1, h2, h3, _, _, h6⟩ := chunking_invariant Fd Ts phases (construct a) pre post n
  refine ⟨b, h1, h2, h3, fun idx j => ?_⟩
  rw [h6 idx j, construct_state, Nat.zero_add]

/-- "In one request or in any sequence of smaller requests": the samples
    returned by consecutive requests of sizes `ns`, concatenated along the time
    axis, are the samples one request of size `ns.sum` returns — for any
    per-sample value `f` (in particular `fun k => jakes Fd rays (k·Ts)`). -/
theorem chunks_concat_eq_single {β : Type} (f : Nat → β) (s : State) (ns : List Nat) :
    (blocks s (ns.map fun n => Op.gen (some n))).flatMap (Block.samples f) =
      Block.samples f (genBlock s (some ns.sum)) := by
  rw [samples_eq]
  induction ns generalizing s with
  | nil => rfl
  | cons n ns ih =>
    rw [List.map_cons, blocks_cons, produced, Option.toList_some, List.singleton_append, List.flatMap_cons, ih,
      samples_eq, List.sum_cons, ← List.map_append]
    exact congrArg (List.map f) List.range'_append_1

/-- The same statement for the model run in binary64 (what the driver executes
    and the correspondence compares with the code): since sample times are
    computed from the integer sample number, chunking cannot change a single bit
    of the model's output, rounding included. -/
theorem chunks_concat_eq_single_binary64 (Fd Ts : Float) (rays : List (Float × Float))
    (s : State) (ns : List Nat) :
    (blocks s (ns.map fun n => Op.gen (some n))).flatMap (Block.samples (processSample Fd Ts rays)) =
      Block.samples (processSample Fd Ts rays) (genBlock s (some ns.sum)) :=
  chunks_concat_eq_single _ s ns

/-- "With skipped stretches in between": skipping `n` samples is generating `n`
    samples and discarding them — same counter, same shape and phases, and every
    later request produces the same block; `get_samples()` keeps the old array. -/
theorem skip_is_discarded_generation (s : State) (n : Nat) (ops : List Op) :
    (step s (.skip n)).k = (step s (.gen (some n))).k ∧
    (step s (.skip n)).last = s.last ∧
    trace (step s (.skip n)) ops = trace (step s (.gen (some n))) ops :=
  ⟨rfl, rfl, trace_congr (step s (.skip n)) (step s (.gen (some n))) rfl rfl rfl ops⟩

/-- Changing the shape redraws the phases (new epoch) but neither moves the
    counter nor touches `get_samples()`. -/
theorem set_shape_keeps_counter (s : State) (a : ShapeArg) :
    (step s (.setShape a)).k = s.k ∧ (step s (.setShape a)).epoch = s.epoch + 1 ∧
    (step s (.setShape a)).shape = a.norm ∧ (step s (.setShape a)).last = s.last :=
  ⟨rfl, rfl, rfl, rfl⟩

/-- R4 (rejected calls): a call that raises — negative or non-integer request
    size, missing skip argument, invalid shape — leaves the whole state (counter,
    shape, phase epoch, `get_samples()`) exactly as it was. -/
theorem rejected_request_keeps_state (s : State) (r : RawOp) (e : PyErr)
    (h : (stepR s r).2 = some e) : (stepR s r).1 = s := by
  cases hc : r.check with
  | ok op => rw [stepR_ok s r op hc] at h; cases h
  | error e' => rw [stepR_error s r e' hc]

/-- non-vacuity of `rejected_request_keeps_state`: requests that are rejected exist
    (negative size → `ValueError`, non-integer size → `TypeError`, shape with a
    negative dimension → `ValueError`), and an integer-valued size is accepted. -/
example : (stepR (construct .none) (.gen (.int (-3)))).2 = some .ValueError ∧
    (stepR (construct .none) (.skip .notInt)).2 = some .TypeError ∧
    (stepR (construct .none) (.setShape (.seq [2, -1]))).2 = some .ValueError ∧
    (stepR (construct .none) (.gen (.int 40000))).1.k = 40001 := by decide

/-- R4, continued: a history with rejected calls in it ends in the same state as
    the history of its accepted calls alone (an object that never saw the
    rejected calls), so every later request returns the same block. -/
theorem rejected_requests_invisible (s : State) (rs : List RawOp) (ops : List Op) :
    runR s rs = run s (accepted rs) ∧
    trace (runR s rs) ops = trace (run s (accepted rs)) ops := by
  rw [runR_eq_run_accepted]; exact ⟨rfl, rfl⟩

/-- R1 (element types): an accepted call acts through the integer VALUE of its
    argument only (`operator.index`): whatever integer type carried the size
    `n ≥ 0`, the step is the step of the Python-int request `n`; sizes `0` and
    `1` and the default argument are ordinary cases. -/
theorem request_value_only (s : State) (n : Nat) :
    stepR s (.gen (.int n)) = (step s (.gen (some n)), none) ∧
    stepR s (.skip (.int n)) = (step s (.skip n), none) ∧
    stepR s (.gen .default) = (step s (.gen (some 1)), none) :=
  ⟨rfl, rfl, rfl⟩

/-- R1, continued: the sample counter is an unbounded integer — it never wraps
    or decreases, whatever the sizes and however long the history. -/
theorem counter_monotone (s : State) (ops : List Op) : s.k ≤ (run s ops).k :=
  (run_fields s ops).1 ▸ Nat.le_add_right ..

/-- R3 (outputs are fresh values): the block a request produced is not changed
    by anything that is requested afterwards. -/
theorem produced_independent_of_future (s : State) (pre post : List Op) (op : Op) :
    (trace s (pre ++ op :: post))[pre.length]? = (trace s (pre ++ [op]))[pre.length]? := by
  rw [trace_at, trace_at]

/-- R7 (long-lived objects): after any history a generator behaves like a fresh
    one with the current shape and phase draw that skipped to the same sample
    number — every later history of requests produces the same blocks. -/
theorem history_equiv_fresh (s : State) (pre ops : List Op) (l : Option Block) :
    trace (run s pre) ops =
      trace (step { k := 0, shape := shapeAfter s.shape pre, epoch := s.epoch + redraws pre, last := l }
              (.skip (s.k + total pre))) ops :=
  trace_congr _ _ ((run_fields s pre).1.trans (Nat.zero_add _).symm) (run_fields s pre).2.2 (run_fields s pre).2.1 ops

/-- R11 (non-mutating API): a query — `get_samples()`, the `shape`/`L`/`Ts`/`Fd`
    properties, `repr`, `==`, `copy`, `deepcopy`, pickling,
    `get_similar_fading_generator()` — changes nothing and produces nothing, and
    a history with any number of queries in it ends in the same state and
    produces the same blocks as the history without them. -/
theorem queries_invisible (s : State) (ops : List Op) :
    step s .query = s ∧ produced s .query = none ∧
    run s (dropQueries ops) = run s ops ∧ blocks s (dropQueries ops) = blocks s ops := by
  refine ⟨rfl, rfl, ?_⟩
  induction ops generalizing s with
  | nil => exact ⟨rfl, rfl⟩
  | cons op ops ih =>
    cases op with
    | query => exact ih s
    | _ =>
      refine ⟨(ih _).1, ?_⟩
      show blocks s (_ :: dropQueries ops) = _
      rw [blocks_cons, blocks_cons, (ih _).2]

/-- R13 (derived objects): a copy taken after the history `pre` (copy, deepcopy,
    pickle round trip: the same state value) answers every later history `child`
    exactly as the original would have answered it at that point — whatever the
    parent is asked afterwards does not appear — and using the copy does not
    change what the parent produces (`parent`). -/
theorem derived_copy_replays_history (s : State) (pre child parent : List Op) :
    trace (run s pre) child = (trace s (pre ++ child)).drop pre.length ∧
    trace (run s pre) parent = (trace s (pre ++ parent)).drop pre.length :=
  ⟨(trace_drop s pre child).symm, (trace_drop s pre parent).symm⟩

/-- R8 (constructor path vs setter path): a generator built with another shape
    and then given the shape `a` through the setter has the same counter and
    configured shape as one built with `a`, so every later request returns a
    block of the same shape holding the same sample numbers (the two differ in
    the phase-draw number only: the setter draws once more). -/
theorem constructor_vs_setter (a a₀ : ShapeArg) (ops : List Op) :
    (step (construct a₀) (.setShape a)).k = (construct a).k ∧
    (step (construct a₀) (.setShape a)).shape = (construct a).shape ∧
    (trace (step (construct a₀) (.setShape a)) ops).map (Option.map Block.geometry) =
      (trace (construct a) ops).map (Option.map Block.geometry) :=
  ⟨rfl, rfl, trace_geometry_congr (step (construct a₀) (.setShape a)) (construct a) rfl rfl ops⟩

/-- R8 (argument forms): the default request, an explicit `None` and an explicit
    `1` are the same request; `int n` and the 1-tuple `(n,)` are the same shape. -/
theorem default_forms_agree (s : State) (n : Nat) :
    step s (.gen none) = step s (.gen (some 1)) ∧
    step s (.setShape (.int n)) = step s (.setShape (.tuple [n])) ∧
    construct (.int n) = construct (.tuple [n]) :=
  ⟨rfl, rfl, rfl⟩

/-- Sample number `k` is taken at `k · Ts`: the process starts at time 0 and
    consecutive samples — inside a request or across a request boundary — are
    exactly `Ts` apart. -/
theorem sample_time_grid (Ts : ℝ) (k : Nat) :
    sampleTime Ts 0 = 0 ∧ sampleTime Ts k = (k : ℝ) * Ts ∧
    sampleTime Ts (k + 1) - sampleTime Ts k = Ts := by
  refine ⟨?_, rfl, ?_⟩
  · rw [sampleTime, Nat.cast_zero, zero_mul]
  · rw [sampleTime, sampleTime, Nat.cast_succ, add_one_mul, add_sub_cancel_left]

/-- Clause "a zero Doppler frequency gives a time-invariant channel": with
    `Fd = 0` every sample of the process has the same value, for every ray set,
    sampling interval and pair of sample numbers. -/
theorem zero_doppler_constant (Ts : ℝ) (rays : List (ℝ × ℝ)) (k k' : Nat) :
    processSample 0 Ts rays k = processSample 0 Ts rays k' := by
  simp only [processSample, jakes, rayPhase_zero]

/-- Clause "sample magnitudes never exceed sqrt(L)": for `L ≥ 1` rays, every
    Doppler frequency, phases and time the Jakes sum is defined and
    `|h| ≤ √L`. -/
theorem magnitude_le_sqrtL (Fd t : ℝ) (rays : List (ℝ × ℝ)) (h : rays ≠ []) :
    ∃ v : ℝ × ℝ, jakes Fd rays t = .ok v ∧
      Real.sqrt (v.1 ^ 2 + v.2 ^ 2) ≤ Real.sqrt (rays.length : ℝ) := by
  refine ⟨_, jakes_ok Fd t rays h, ?_⟩
  -- `|h| = a‖∑ exp(iθ)‖ ≤ aL = √L` with `a = √(1/L)`, the pair (re, im) read as a complex number
  rw [← Complex.norm_eq_sqrt_sq_add_sq ⟨_, _⟩, ← Complex.ofReal_mul' _ ⟨_, _⟩, Complex.norm_mul,
    Complex.norm_of_nonneg (Real.sqrt_nonneg _)]
  refine (mul_le_mul_of_nonneg_left (norm_sum_cos_sin_le _ rays) (Real.sqrt_nonneg _)).trans_eq ?_
  rw [one_div, Real.sqrt_inv, inv_mul_eq_div, Real.div_sqrt]

/-- `L = 0` is rejected (`1.0 / self.L` raises `ZeroDivisionError`). -/
theorem no_rays_error (Fd t : ℝ) : jakes Fd ([] : List (ℝ × ℝ)) t = .error .ZeroDivisionError := rfl

/-- non-vacuity of `magnitude_le_sqrtL`: the bound is attained (all rays in
    phase at `t = 0`), so it cannot be improved. -/
example : jakes (5 : ℝ) [(0, 0), (1, 0)] 0 = .ok (Real.sqrt (1 / 2) * 2, 0) := by
  rw [jakes_ok _ _ _ (List.cons_ne_nil _ _)]
  simp only [rayPhase, mul_zero, zero_add, List.map_cons, List.map_nil, sumList_cons, sumList_nil, Real.cos_zero,
    Real.sin_zero, add_zero, List.length_cons, List.length_nil, Nat.cast_ofNat, one_add_one_eq_two]

/-- R16 (argument identity and buffer reuse): a caller that keeps ONE size
    buffer and ONE shape buffer, refills them in place and passes the same
    objects to every call — the size buffer to `generate_more_samples` and to
    `skip_samples_for_next_generation` alike — leaves the generator in the state
    of the calls with FRESH arguments holding the buffer contents at call time
    (rejected contents included: they raise and change nothing), and every
    later request produces the same blocks.  The state has no component in which
    an argument object could be remembered. -/
theorem buffer_contents_at_call_time (c : Caller) (s : State) (prog : List CallerOp) (ops : List Op) :
    (runC c s prog).2 = runR s (callsSeen c prog) ∧
    (runC c s prog).2 = run s (accepted (callsSeen c prog)) ∧
    trace (runC c s prog).2 ops = trace (run s (accepted (callsSeen c prog))) ops := by
  rw [runC_eq, runR_eq_run_accepted]; exact ⟨rfl, rfl, rfl⟩

/-- non-vacuity / concrete instance: `nbuf[...] = 5; generate(nbuf); nbuf[...] = 7;
    skip(nbuf); nbuf[...] = 99; sbuf[:] = (2, 3); shape = sbuf; sbuf[:] = (9,)`
    is `generate(5); skip(7); shape = (2, 3)`. -/
example : (runC { size := .default, shape := .none } (construct .none)
      [.fillSize (.int 5), .genBuf, .fillSize (.int 7), .skipBuf, .fillSize (.int 99),
       .fillShape (.seq [2, 3]), .setShapeBuf, .fillShape (.seq [9])]).2 =
    run (construct .none) [.gen (some 5), .skip 7, .setShape (.tuple [2, 3])] :=
  (buffer_contents_at_call_time _ _ _ []).2.1

/-- R16, continued: what the caller writes into its buffers AFTER a call (the
    buffer is overwritten right after the call, or refilled for a call that is
    never made) does not reach the generator, and a call passing the buffer is
    the call passing an equal-content fresh object. -/
theorem later_refills_invisible (c : Caller) (s : State) (prog : List CallerOp) (a : SizeArg) (b : RawShape) :
    (runC c s (prog ++ [.fillSize a, .fillShape b])).2 = (runC c s prog).2 ∧
    (stepC c s .genBuf).2 = (stepC c s (.call (.gen c.size))).2 ∧
    (stepC c s .skipBuf).2 = (stepC c s (.call (.skip c.size))).2 ∧
    (stepC c s .setShapeBuf).2 = (stepC c s (.call (.setShape c.shape))).2 := by
  refine ⟨?_, rfl, rfl, rfl⟩
  rw [runC_append]
  rfl

/-- R15 (distinct values that are merely close), general form: for a ray with
    `cos(phi) ≠ 0` two (Doppler, time) pairs give DIFFERENT samples as soon as the
    products `Fd·t` differ at all and by less than one cycle of that ray — so
    there is no tolerance below which two Doppler frequencies, two sampling
    intervals or two sample times are "the same": the model is a function of the
    exact values. -/
theorem close_values_distinct_samples (Fd Fd' Ts Ts' : ℝ) (k k' : Nat) (phi psi : ℝ)
    (h0 : (Fd * ((k : ℝ) * Ts) - Fd' * ((k' : ℝ) * Ts')) * Real.cos phi ≠ 0)
    (h1 : |(Fd * ((k : ℝ) * Ts) - Fd' * ((k' : ℝ) * Ts')) * Real.cos phi| < 1) :
    processSample Fd Ts [(phi, psi)] k ≠ processSample Fd' Ts' [(phi, psi)] k' :=
  single_ray_ne Fd Fd' _ _ phi psi h0 h1

/-- non-vacuity: `Fd = 2.4e9 + 2e4` against `2.4e9` (relative difference 8e-6,
    "equal" for `np.isclose`) at `Ts = 1e-9`, sample 10000: 0.2 cycles apart. -/
example : processSample (2400020000 : ℝ) (1 / 1000000000) [(0, 0)] 10000 ≠
    processSample (2400000000 : ℝ) (1 / 1000000000) [(0, 0)] 10000 := by
  apply close_values_distinct_samples
  · rw [Real.cos_zero, mul_one, ← sub_mul]
    norm_num
  · rw [Real.cos_zero, mul_one, ← sub_mul]
    norm_num [abs_lt]

/-- R15, the zero test of the Doppler clause: only `Fd = 0` is time invariant.
    However small `Fd ≠ 0` is (1e-9, 1e-15 — "zero" for an absolute threshold),
    sample `k` differs from sample `0` once `Fd·cos(phi)·k·Ts` is a non-zero
    fraction of a cycle. -/
theorem tiny_doppler_not_time_invariant (Fd Ts : ℝ) (k : Nat) (phi psi : ℝ)
    (h0 : Fd * ((k : ℝ) * Ts) * Real.cos phi ≠ 0) (h1 : |Fd * ((k : ℝ) * Ts) * Real.cos phi| < 1) :
    processSample Fd Ts [(phi, psi)] k ≠ processSample Fd Ts [(phi, psi)] 0 := by
  -- sample `0` is taken at time `0`, so the difference of the products `Fd·t` is `Fd·k·Ts`
  refine single_ray_ne Fd Fd _ (sampleTime Ts 0) phi psi ?_ ?_ <;>
    rwa [(sample_time_grid Ts 0).1, mul_zero, sub_zero]

/-- non-vacuity: `Fd = 1e-12` Hz, `Ts = 1` s, ten thousand million samples on:
    a hundredth of a cycle. -/
example : processSample (1 / 1000000000000 : ℝ) 1 [(0, 0)] 10000000000 ≠
    processSample (1 / 1000000000000 : ℝ) 1 [(0, 0)] 0 := by
  apply tiny_doppler_not_time_invariant
  · rw [Real.cos_zero, mul_one, mul_one]
    norm_num
  · rw [Real.cos_zero, mul_one, mul_one]
    norm_num [abs_lt]

/-- R15 for the phases: two starting phases `psi ≠ psi'` less than one turn
    apart (1e-9 apart, adjacent doubles, …) give different samples at every
    time. -/
theorem close_phase_distinct_samples (Fd t phi psi psi' : ℝ) (h0 : psi ≠ psi')
    (h1 : |psi - psi'| < 2 * Real.pi) :
    jakes Fd [(phi, psi)] t ≠ jakes Fd [(phi, psi')] t :=
  -- both phases are the same term plus `psi`, `psi'`
  single_ray_ne_of_phase _ _ _ _ _ _ _ (add_sub_add_left_eq_sub _ _ _) (sub_ne_zero.mpr h0) h1

/-- BRIDGE (bookkeeping).  For every state and every request size as passed
    (no argument, an integer-valued object of any sign, a non-integer), the
    bookkeeping symbolically executed from the CURRENT source is the model's
    step:
    * `generate_more_samples`: the counter after the call — ALSO when the call
      raises, so a refused size leaves the counter (validation before the state
      changes) —, the exception raised, and for an accepted request the integer
      index vector `first + step·j, j < count` multiplied into the time vector:
      first = the counter, count = the requested number, step 1, i.e. exactly
      the sample numbers of the model's block;
    * `skip_samples_for_next_generation`: counter after the call and exception;
    * `__init__` starts the counter at 0. -/
theorem generated_bookkeeping_matches_model (s : State) (a : SizeArg) :
    Generated.C14.genStep (s.k : Int) a = modelGenStep s a ∧
    Generated.C14.skipStep (s.k : Int) a = modelSkipStep s a ∧
    (∀ e, (RawOp.gen a).check = .error e →
        (Generated.C14.genStep (s.k : Int) a).1 = s.k ∧ genIndexes (s.k : Int) a = []) ∧
    (∀ e, (RawOp.skip a).check = .error e → (Generated.C14.skipStep (s.k : Int) a).1 = s.k) ∧
    (∀ op, (RawOp.gen a).check = .ok op → ∃ n, op = .gen n ∧
        (Generated.C14.genStep (s.k : Int) a).1 = ((s.k + reqCount n : Nat) : Int) ∧
        genIndexes (s.k : Int) a = ((genBlock s n).samples id).map Int.ofNat) ∧
    Generated.C14.initCounter = 0 := by
  rw [genStep_eq_model, skipStep_eq_model]
  refine ⟨rfl, rfl, fun e h => ⟨?_, genIndexes_refused s a e h⟩, fun e h => ?_, fun op h => ?_, rfl⟩
  · exact congrArg (fun p => (p.1.k : Int)) (stepR_error s _ e h)
  · exact congrArg (fun p => (p.1.k : Int)) (stepR_error s _ e h)
  · obtain ⟨n, rfl, hi⟩ := genIndexes_eq_block s a _ h
    exact ⟨n, rfl, congrArg (fun p => (p.1.k : Int)) (stepR_ok s _ _ h), hi⟩

/-- non-vacuity / concrete instance: at counter 13 a request of 4 samples
    evaluates the sample numbers 13..16 and moves the counter to 17; a request
    of -4 raises `ValueError` and a float raises `TypeError` with the counter
    still 13; a skip of 4 moves it to 17. -/
example : genIndexes 13 (.int 4) = [13, 14, 15, 16] ∧
    Generated.C14.genStep 13 (.int 4) = (17, .ok (13, 4, 1)) ∧
    Generated.C14.genStep 13 (.int (-4)) = (13, .error .ValueError) ∧
    Generated.C14.genStep 13 .notInt = (13, .error .TypeError) ∧
    Generated.C14.genStep 13 .default = (14, .ok (13, 1, 1)) ∧
    Generated.C14.skipStep 13 (.int 4) = (17, none) ∧
    Generated.C14.skipStep 13 (.int (-4)) = (13, some .ValueError) := by decide

/-- BRIDGE (times and formula, over ℝ).  Regenerated from the current source:
    the time of sample index `i` is the product `i · Ts` (the translator accepts
    a time vector only as (integer index vector) · scalar); the phase of a ray
    is `2π·Fd·cos(φ_l)·t + ψ_l`; the amplitude is `sqrt(1/L)`; the sum over the
    rays with `L = 0` raising `ZeroDivisionError` is the model's `jakes`; so the
    regenerated value of sample index `k` is the model's `processSample`.  The
    formula of the free function `generate_jakes_samples` is the same. -/
theorem generated_jakes_formula_matches_model (Fd Ts t : ℝ) (rays : List (ℝ × ℝ)) (ray : ℝ × ℝ)
    (k : Nat) :
    Generated.C14.timeOfIndex Ts k = (k : ℝ) * Ts ∧
    Generated.C14.rayPhase Fd t ray = 2 * Real.pi * Fd * Real.cos ray.1 * t + ray.2 ∧
    Generated.C14.amplitude rays.length = Real.sqrt (1 / (rays.length : ℝ)) ∧
    Generated.C14.jakes Fd rays.length rays t = jakes Fd rays t ∧
    Generated.C14.jakes Fd rays.length rays (Generated.C14.timeOfIndex Ts k) =
      processSample Fd Ts rays k ∧
    Generated.C14.freeJakes Fd rays.length rays t = jakes Fd rays t := by
  refine ⟨timeOfIndex_eq Ts k, rayPhaseGen_eq Fd t ray, ?_, jakesGen_eq Fd rays t, ?_, freeJakes_eq Fd rays t⟩
  · rw [amplitudeGen_eq, Nat.cast_one, transc_sqrt]
  · rw [jakesGen_eq, timeOfIndex_eq]; rfl

/-- BRIDGE (end to end).  Whatever the state, an accepted regenerated request
    evaluates the regenerated formula at the regenerated times of its index
    vector, and that is, entry by entry, the value the model gives to the block
    the request produces: entry `(idx, j)` is the Jakes sum of sample number
    `k + j` — independent of how the samples before were chunked. -/
theorem generated_request_evaluates_model_samples (Fd Ts : ℝ)
    (phases : Nat → List Nat → List (ℝ × ℝ)) (s : State) (a : SizeArg) (n : Option Nat)
    (h : (RawOp.gen a).check = .ok (.gen n)) (idx : List Nat) :
    (genIndexes (s.k : Int) a).map (fun i =>
        Generated.C14.jakes Fd (phases s.epoch idx).length (phases s.epoch idx)
          (Generated.C14.timeOfIndex Ts i.toNat)) =
      (List.range (reqCount n)).map fun j => (genBlock s n).value Fd Ts phases idx j := by
  obtain ⟨n', hn, hi⟩ := genIndexes_eq_block s a _ h
  cases hn
  rw [hi]
  simp only [Block.samples, List.map_map, genBlock]
  apply List.map_congr_left
  intro j _
  simp only [Function.comp, id, Int.toNat_natCast, Int.ofNat_eq_natCast, jakesGen_eq, timeOfIndex_eq,
    Block.value, processSample]

/-- NEGATIVE WITNESS (pre-fix code, binary64, kernel evaluated): at
    `ct = 2048.003`, `Ts = 1e-3` the old `np.arange(ct, 1*Ts+ct, Ts*1.0000000001)`
    has `(stop-start)/step > 1`, i.e. TWO elements for a request of ONE sample
    (the reshape then raised `ValueError`). -/
theorem old_arange_len_exceeds :
    oldArangeRatio wInfl wTs wCt 1 > 1.0 ∧ oldArangeLen wInfl wTs wCt 1 = 2 := by
  decide +kernel

/-- NEGATIVE WITNESS (pre-fix code, exact arithmetic): even without rounding the
    old stepping was chunk dependent — sample number 1 generated by one request
    of two samples sits at `Ts·infl`, generated by two requests of one sample at
    `Ts`. -/
theorem old_stepping_chunk_dependent (Ts infl : ℝ) (hTs : Ts ≠ 0) (hi : infl ≠ 1) :
    oldTime infl Ts 0 1 ≠ oldTime infl Ts (oldNextTime infl Ts 0 1) 0 := by
  simp only [oldTime, oldNextTime, Nat.sub_self, Nat.cast_zero, Nat.cast_one, zero_mul, add_zero,
    zero_add, one_mul]
  exact fun h => (mul_right_eq_self₀.mp h).elim hi hTs

/-- size of that displacement: inside one old request sample `j` was taken
    `j·Ts·(infl-1)` late (`infl - 1 = 1e-10`: the 10th-digit difference between
    chunked and unchunked runs). -/
theorem old_drift (Ts infl ct : ℝ) (j : Nat) :
    oldTime infl Ts ct j - (ct + (j : ℝ) * Ts) = (j : ℝ) * Ts * (infl - 1) := by
  simp only [oldTime]
  ring

end PyPhysim.C14
